import Ledger.Spec.Fold

/-!
The abstract reference ledger, part 2: an *abstract store* — the tables the SQL
maintains, updated by hand-written pure functions that mirror what the statements
of `CommitTransaction` and the triggers of migration 11 do:

* `upsertVolumes`    — `UpdateVolumes`: `INSERT … ON CONFLICT (ledger, accounts_address, asset)
                       DO UPDATE SET input = accounts_volumes.input + excluded.input,
                       output = accounts_volumes.output + excluded.output RETURNING input, output`
* `setEffective`     — trigger `set_effective_volumes` (BEFORE INSERT ON moves FOR EACH ROW)
* `updateEffective`  — trigger `update_effective_volumes` (AFTER INSERT ON moves FOR EACH ROW)
* `insertMoves`      — the multi-row `INSERT INTO moves`: BEFORE-ROW triggers fire row by row
                       and see the rows of the same statement inserted before; AFTER-ROW
                       triggers fire once all rows are in, in row order.
* `upsertAccounts`   — `UpsertAccounts` CTE (`LEAST(first_usage)`, insert-if-absent).

These functions are written by hand, not derived from the rendered SQL; the SQL area proves
that the regenerated statements and trigger bodies, run by LeanPG, compute them:
`Ledger.C01e.commitTransaction_refines` (the statements of `CommitTransaction` against `applyTx`),
`Ledger.C04b.insertMoves_refines` (`insertMoves` with both triggers),
`Ledger.C18f.upsertAccounts_refines` (`upsertAccounts`), each under the hypotheses it lists.
-/
namespace Ledger.Spec
open Ledger.Base Ledger.Core

/-! ### accounts_volumes -/

/-- The upsert on one `VALUES` row: new row value. -/
def upsertRow (av : PCV) (k : Key) (v : Volumes) : Volumes :=
  match av.get? k with
  | some o => o.add v
  | none => v

/-- `UpdateVolumes(vu…)` = (new accounts_volumes table, RETURNING rows keyed like `vu`). -/
def upsertVolumes (av : PCV) (vu : PCV) : PCV × PCV :=
  (vu.foldl (fun m e => m.insertWith Volumes.add e.1 e.2) av, vu.mapVal (fun k v => upsertRow av k v))

/-- Volumes of the touched (account, asset) pairs *before* the upsert; a pair without
    a row counts as zero (the upsert inserts `0 + excluded`). -/
def preVolumes (av : PCV) (vu : PCV) : PCV :=
  vu.mapVal (fun k _ => match av.get? k with | some o => o | none => Volumes.zero)

/-! ### moves -/

structure MoveRow where
  seq : Nat
  txId : Nat
  account : String
  asset : String
  amount : Int
  isSource : Bool
  insertionDate : Int
  effectiveDate : Int
  pcv : Volumes
  pcev : Volumes
  deriving DecidableEq, Repr, Inhabited

def MoveRow.key (m : MoveRow) : Key := (m.account, m.asset)

/-- Projection of a moves row on the columns computed in Go. -/
def MoveRow.toMove (r : MoveRow) : Move :=
  { account := r.account, asset := r.asset, amount := r.amount, isSource := r.isSource, pcv := r.pcv }


/-- What the move adds to the volumes of its account/asset. -/
def MoveRow.delta (m : MoveRow) : Volumes :=
  if m.isSource then ⟨0, m.amount⟩ else ⟨m.amount, 0⟩

/-- `(effective_date, seq)` lexicographic, strict. -/
def MoveRow.before (a b : MoveRow) : Bool :=
  decide (a.effectiveDate < b.effectiveDate) ||
  (decide (a.effectiveDate = b.effectiveDate) && decide (a.seq < b.seq))

/-- `select … from moves where accounts_address = new.accounts_address and asset = new.asset
    and (effective_date < new.effective_date or (effective_date = new.effective_date and
    seq < new.seq)) order by effective_date desc, seq desc limit 1`. -/
def prevMove : List MoveRow → MoveRow → Option MoveRow
  | [], _ => none
  | m :: r, n =>
    if m.key = n.key ∧ m.before n = true then
      match prevMove r n with
      | none => some m
      | some b => some (if m.before b then b else m)
    else prevMove r n

/-- `set_effective_volumes`: previous move's effective volumes + own delta, or own delta. -/
def setEffective (table : List MoveRow) (n : MoveRow) : MoveRow :=
  { n with pcev := match prevMove table n with
                   | some p => p.pcev.add n.delta
                   | none => n.delta }

/-- `update_effective_volumes`: every move of the same account/asset with a strictly
    later effective date gets the new move's delta added. -/
def updateEffective (n : MoveRow) (table : List MoveRow) : List MoveRow :=
  table.map fun m =>
    if m.key = n.key ∧ n.effectiveDate < m.effectiveDate then { m with pcev := m.pcev.add n.delta } else m

/-- Phase 1 of the multi-row insert (BEFORE-ROW triggers + the inserts themselves). -/
def insertPhase1 : List MoveRow → List MoveRow → List MoveRow
  | table, [] => table
  | table, n :: ns => insertPhase1 (table ++ [setEffective table n]) ns

/-- The rows as inserted (what `RETURNING post_commit_effective_volumes` reports). -/
def insertedRows : List MoveRow → List MoveRow → List MoveRow
  | _, [] => []
  | table, n :: ns => setEffective table n :: insertedRows (table ++ [setEffective table n]) ns

/-- Phase 2 (AFTER-ROW triggers, in row order). -/
def insertPhase2 : List MoveRow → List MoveRow → List MoveRow
  | table, [] => table
  | table, r :: rs => insertPhase2 (updateEffective r table) rs

def insertMoves (table news : List MoveRow) : List MoveRow :=
  insertPhase2 (insertPhase1 table news) (insertedRows table news)

/-! ### accounts -/

structure AccountRow where
  firstUsage : Int
  insertionDate : Int
  updatedAt : Int
  metadata : Metadata := []
  deriving DecidableEq, Repr, Inhabited

/-- `a.metadata @> d.metadata` -/
def metaContains (a d : Metadata) : Bool := d.all (fun e => a.get? e.1 == some e.2)

def metaMerge (a d : Metadata) : Metadata := d.foldl (fun acc e => acc.insert e.1 e.2) a

/-- One row of the `UpsertAccounts` batch.  `firstUsage = none` is SQL `NULL`
    (metadata-only upsert): `LEAST` ignores it, the insert uses `now`. -/
def upsertAccount (accounts : Map String AccountRow) (address : String) (firstUsage : Option Int)
    (date : Int) (md : Metadata) : Map String AccountRow :=
  match accounts.get? address with
  | some a =>
    let lower := match firstUsage with | some f => decide (f < a.firstUsage) | none => false
    if lower || !metaContains a.metadata md then
      accounts.insert address
        { a with metadata := metaMerge a.metadata md,
                 firstUsage := (match firstUsage with | some f => if f < a.firstUsage then f else a.firstUsage | none => a.firstUsage),
                 updatedAt := date }
    else accounts
  | none =>
    accounts.insert address
      { firstUsage := firstUsage.getD date, insertionDate := date, updatedAt := date, metadata := md }

/-- `tx.InvolvedAccounts()`: sources and destinations, sorted, deduplicated. -/
def involvedAccounts (ps : List Posting) : List String :=
  (ps.foldl (fun (m : Map String Unit) p => (m.insert p.source ()).insert p.destination ()) []).keys

/-! ### the store -/

structure TxRow where
  tx : TxRec
  /-- `transactions.post_commit_volumes` -/
  pcv : PCV
  deriving Repr, Inhabited

structure Store where
  accountsVolumes : PCV := []
  txs : List TxRow := []
  moves : List MoveRow := []
  accounts : Map String AccountRow := []
  nextTxId : Nat := 1
  nextSeq : Nat := 1
  deriving Repr, Inhabited

/-- What `CommitTransaction` is given, with the store-side defaults (timestamp,
    inserted_at) already resolved. -/
structure TxIn where
  postings : List Posting
  timestamp : Int
  insertedAt : Int
  reference : String := ""
  metadata : Metadata := []
  accountMetadata : Map String Metadata := []
  /-- `upsertTransactionAccounts` runs after the commit (transaction creation and import);
      `false` for the revert path, which only calls `CommitTransaction` -/
  upsertAccounts : Bool := true
  deriving Repr, Inhabited

/-- Number the Go-computed moves (`seq` from the table's sequence) and attach the dates. -/
def toRows (seq0 txId : Nat) (ins eff : Int) : List Move → List MoveRow
  | [] => []
  | m :: ms =>
    { seq := seq0, txId := txId, account := m.account, asset := m.asset, amount := m.amount,
      isSource := m.isSource, insertionDate := ins, effectiveDate := eff, pcv := m.pcv,
      pcev := Volumes.zero } :: toRows (seq0 + 1) txId ins eff ms

def Store.txRecs (st : Store) : List TxRec := st.txs.map (·.tx)

/-- `CommitTransaction` (+ `upsertTransactionAccounts` when `t.upsertAccounts`) on the abstract store (features
    MOVES_HISTORY=ON, MOVES_HISTORY_POST_COMMIT_EFFECTIVE_VOLUMES=SYNC). -/
def applyTx (st : Store) (t : TxIn) : Except Err Store :=
  let vu := volumeUpdates t.postings
  let (av, ret) := upsertVolumes st.accountsVolumes vu
  match movesOf ret t.postings with
  | .error e => .error e
  | .ok ms =>
    let rows := toRows st.nextSeq st.nextTxId t.insertedAt t.timestamp ms
    let accts := involvedAccounts t.postings
    let accounts1 := accts.foldl (fun acc a =>
        upsertAccount acc a (some t.timestamp) t.insertedAt ((t.accountMetadata.get? a).getD [])) st.accounts
    let accounts2 := (t.accountMetadata.filter (fun e => !accts.contains e.1)).foldl (fun acc e =>
        upsertAccount acc e.1 (some t.timestamp) t.insertedAt e.2) accounts1
    .ok { accountsVolumes := av
          txs := st.txs ++ [{ tx := { id := st.nextTxId, postings := t.postings, timestamp := t.timestamp,
                                      insertedAt := t.insertedAt, reference := t.reference,
                                      metadata := t.metadata }, pcv := ret }]
          moves := insertMoves st.moves rows
          accounts := if t.upsertAccounts then accounts2 else st.accounts
          nextTxId := st.nextTxId + 1
          nextSeq := st.nextSeq + ms.length }

/-- The zero rows `GetBalances` creates to lock never-used balances
    (`INSERT … VALUES (…, 0, 0) ON CONFLICT DO NOTHING`); they persist when the
    surrounding write commits. -/
def lockBalances (st : Store) (keys : List Key) : Store :=
  { st with accountsVolumes :=
      keys.foldl (fun m k => m.insertWith (fun old _ => old) k Volumes.zero) st.accountsVolumes }

/-- `UPDATE transactions SET reverted_at = … WHERE id = … AND reverted_at IS NULL`. -/
def markReverted (st : Store) (id : Nat) (at_ : Int) : Store :=
  { st with txs := st.txs.map fun r =>
      if r.tx.id = id ∧ r.tx.revertedAt = none then { r with tx := { r.tx with revertedAt := some at_ } } else r }

/-- Store-level operations. -/
inductive StoreOp where
  | commit (t : TxIn)
  | lock (keys : List Key)
  | markReverted (id : Nat) (at_ : Int)
  /-- `saveAccountMetadata`: `UpsertAccounts` with one row without dates (metadata written on
      an account; creates it — first usage = insertion date = the write's date — when absent) -/
  | saveAccountMeta (address : String) (at_ : Int) (md : Metadata)
  deriving Repr, Inhabited

def applyOp (st : Store) : StoreOp → Except Err Store
  | .commit t => applyTx st t
  | .lock keys => .ok (lockBalances st keys)
  | .markReverted id a => .ok (markReverted st id a)
  | .saveAccountMeta a at_ md => .ok { st with accounts := upsertAccount st.accounts a none at_ md }

def runOpsFrom : Store → List StoreOp → Except Err Store
  | st, [] => .ok st
  | st, o :: os =>
    match applyOp st o with
    | .error e => .error e
    | .ok st' => runOpsFrom st' os

/-- Any sequence of store operations from the empty store. -/
def runOps (ops : List StoreOp) : Except Err Store := runOpsFrom {} ops

/-- Committed transactions from the empty store. -/
def run (h : List TxIn) : Except Err Store := runOps (h.map StoreOp.commit)

def commitsOf : List StoreOp → List TxIn
  | [] => []
  | .commit t :: os => t :: commitsOf os
  | _ :: os => commitsOf os

/-- The committed history a list of `TxIn` denotes (ids 1, 2, … in commit order). -/
def recsFrom (id0 : Nat) : List TxIn → List TxRec
  | [] => []
  | t :: ts => { id := id0, postings := t.postings, timestamp := t.timestamp, insertedAt := t.insertedAt,
                 reference := t.reference, metadata := t.metadata } :: recsFrom (id0 + 1) ts

/-- Effective volumes a transaction read reports: last move per account/asset of the transaction. -/
def txEffectiveVolumes (moves : List MoveRow) (txId : Nat) : Except Err PCV :=
  computePCEV ((moves.filter (·.txId = txId)).map fun r =>
    { account := r.account, asset := r.asset, amount := r.amount, isSource := r.isSource,
      pcv := r.pcv, pcev := some r.pcev })

end Ledger.Spec
