import Ledger.Proofs.MachineDest
import Ledger.Proofs.MachineAllot
import Ledger.Proofs.MachineCheck

/-! A destination without any `kept` clause, accepted by the compiler, sends
    everything: nothing of value is left over. -/
namespace Ledger.Machine

mutual
  def keptFreeDest : Dest → Bool
    | .account _ => true
    | .inorder items rem => keptFreeInOrder items && keptFreeKD rem
    | .allot items => keptFreeAllot items
  def keptFreeKD : KeptOrDest → Bool
    | .kept => false
    | .to d => keptFreeDest d
  def keptFreeInOrder : InOrderDstList → Bool
    | .nil => true
    | .cons _ d r => keptFreeKD d && keptFreeInOrder r
  def keptFreeAllot : AllotDstList → Bool
    | .nil => true
    | .cons _ d r => keptFreeKD d && keptFreeAllot r
end

/-- A kept-free destination the compiler accepted leaves nothing: an account takes the whole
    funding, the `max` items keep nothing, and the shares of an allotment sum to the funding. -/
theorem keptfree_rules {env : Env} (henv : EnvGood env) (ds : Decls) (asset : String) :
    DestRules env asset
      (fun d _ _ rem _ => keptFreeDest d = true → checkDest ds d = .ok () → total rem = 0)
      (fun d _ _ rem _ => keptFreeKD d = true → checkKD ds d = .ok () → total rem = 0)
      (fun items k _ _ k' _ _ => keptFreeInOrder items = true → checkInOrder ds items = .ok () → k' = k)
      (fun items parts f _ rem _ => keptFreeAllot items = true → checkAllotDst ds items = .ok () →
        total rem = total f - (parts.take items.length).sum) where
  account := fun htake _ _ _ => by
    have := take_total htake
    have := take_total_split htake
    omega
  inorder := fun io htake kd hk hc => by
    rw [keptFreeDest, Bool.and_eq_true] at hk
    obtain ⟨hci, hck⟩ := checkDest_inorder_inv hc
    rw [concatParts_total, total_reverse, take_total htake, kd hk.2 hck, io hk.1 hci]; rfl
  allot := fun ha al hk hc => by
    obtain ⟨hca, hcd⟩ := checkDest_allot_inv hc
    rw [al (by rwa [keptFreeDest] at hk) hcd,
      allocate_take_sum henv hca ha _ (AllotDstList.portions_length _)]
    exact Int.sub_self _
  kept := nofun
  toDest := fun h hk hc => h (by rwa [keptFreeKD] at hk) (by rwa [checkKD] at hc)
  inil := fun _ _ => rfl
  icons := fun kd rest hk hc => by
    rw [keptFreeInOrder, Bool.and_eq_true] at hk
    obtain ⟨_, hckd, hcr⟩ := checkInOrder_cons_inv hc
    rw [rest hk.2 hcr, kd hk.1 hckd]; omega
  anil := fun _ _ => by simp [AllotDstList.length]
  acons := fun htake kd rest hk hc => by
    rw [keptFreeAllot, Bool.and_eq_true] at hk
    obtain ⟨hckd, hcr⟩ := checkAllotDst_cons_inv hc
    have h1 := take_total htake
    have h2 := take_total_split htake
    rw [rest hk.2 hcr, concatParts_total, kd hk.1 hckd, AllotDstList.length, List.take_succ_cons,
      List.sum_cons]
    omega

theorem evalDest_keptfree (env : Env) (henv : EnvGood env) (ds : Decls) (asset : String) :
    (d : Dest) → keptFreeDest d = true → checkDest ds d = .ok () →
    ∀ f st rem st', partsNonneg f → evalDest env asset d f st = .ok (rem, st') → total rem = 0 :=
  fun d hk hc _ _ _ _ _ h => evalDest_rules (keptfree_rules henv ds asset) d h hk hc

theorem evalKD_keptfree (env : Env) (henv : EnvGood env) (ds : Decls) (asset : String) :
    (d : KeptOrDest) → keptFreeKD d = true → checkKD ds d = .ok () →
    ∀ f st rem st', partsNonneg f → evalKD env asset d f st = .ok (rem, st') → total rem = 0 :=
  fun d hk hc _ _ _ _ _ h => evalKD_rules (keptfree_rules henv ds asset) d h hk hc

theorem evalInOrder_keptfree (env : Env) (henv : EnvGood env) (ds : Decls) (asset : String) :
    (items : InOrderDstList) → keptFreeInOrder items = true → checkInOrder ds items = .ok () →
    ∀ k f st k' f' st', partsNonneg f → evalInOrder env asset items k f st = .ok (k', f', st') → k' = k :=
  fun items hk hc _ _ _ _ _ _ _ h => evalInOrder_rules (keptfree_rules henv ds asset) items h hk hc

theorem evalAllotDst_keptfree (env : Env) (henv : EnvGood env) (ds : Decls) (asset : String) :
    (items : AllotDstList) → keptFreeAllot items = true → checkAllotDst ds items = .ok () →
    ∀ parts f st rem st', partsNonneg f → evalAllotDst env asset items parts f st = .ok (rem, st') →
    total rem = total f - (parts.take items.length).sum :=
  fun items hk hc _ _ _ _ _ _ h => evalAllotDst_rules (keptfree_rules henv ds asset) items h hk hc

end Ledger.Machine
