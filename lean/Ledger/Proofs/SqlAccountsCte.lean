import Ledger.Proofs.SqlAccountsExpr
import Ledger.Proofs.SqlNested
import Ledger.Proofs.SqlLock
import Ledger.Proofs.SqlText
import Ledger.Proofs.SqlPurePhases
import Ledger.Proofs.SqlUpdate

/-!
# `UpsertAccounts`: typed rows, the typed view of `accounts`, and the CTEs `data_batch` and `existing_accounts`

Rows of `accounts` and of the batch are `AcR` / `DbR`; what a view sees of the table is `acAbs` (`SqlLive.tabs`), and every later
file of the chain reads the table through it (`AcTyped.view`, `mem_acAbs`, `hasAccount`). The definitions the end states are written
with (`exAddrs` here, `acUpdRows`, `acInsRows` later) work on raw values; each comes with the lemma that says what it is on the typed
table (`mem_exAddrs` / `contains_exAddrs`).
-/
open Ledger Ledger.Sql Ledger.Generated Ledger.Core
open Ledger.Generated.WriteSql.P (AccountRow)
namespace Ledger.Sql

/-- a typed row of `accounts` -/
structure AcR where
  ledger : String
  address : String
  aa : JV
  ins : Int
  upd : Int
  md : JV
  fu : Int

def AcR.vals (a : AcR) : List Value := acVals a.ledger a.address a.aa a.ins a.upd a.md a.fu

/-- a typed row of the `data_batch` CTE, all dates given -/
structure DbR where
  address : String
  md : JV
  fu : Int
  ins : Int
  upd : Int
  aa : JV
  dm : JV
  bi : JV

def DbR.vals (d : DbR) : List Value := dbVals d.address d.md (some d.fu) (some d.ins) (some d.upd) d.aa d.dm d.bi

/-- the literals of a VALUES row of `data_batch` denote the typed row `d` -/
structure DbLit (te : TypeEnv) (r : AccountRow) (d : DbR) : Prop where
  address : r.address = d.address
  md : castTo te tyJsonb (.text r.metadata) = .ok (.json d.md)
  fu : castTo te tyTimestamp (.text r.first_usage) = .ok (.ts d.fu)
  ins : castTo te tyTimestamp (.text r.insertion_date) = .ok (.ts d.ins)
  upd : castTo te tyTimestamp (.text r.updated_at) = .ok (.ts d.upd)
  aa : castTo te tyJsonb (.text r.address_array) = .ok (.json d.aa)
  dm : castTo te tyJsonb (.text r.default_metadata) = .ok (.json d.dm)
  bi : castTo te tyJsonb (.text r.batch_index) = .ok (.json d.bi)

/-- the VALUES row of `data_batch` for one account -/
def dbRowExprs (r : AccountRow) : List Expr :=
  [(Expr.cast (Expr.str r.address) (SqlType.mk "" "varchar" "" false)), (Expr.cast (Expr.str r.metadata) (SqlType.mk "" "jsonb" "" false)),
   (Expr.cast (Expr.str r.first_usage) (SqlType.mk "" "timestamp" "" false)), (Expr.cast (Expr.str r.insertion_date) (SqlType.mk "" "timestamp" "" false)),
   (Expr.cast (Expr.str r.updated_at) (SqlType.mk "" "timestamp" "" false)), (Expr.cast (Expr.str r.address_array) (SqlType.mk "" "jsonb" "" false)),
   (Expr.cast (Expr.str r.default_metadata) (SqlType.mk "" "jsonb" "" false)), (Expr.cast (Expr.str r.batch_index) (SqlType.mk "" "jsonb" "" false))]

theorem exec_dbRow (cb : Callbacks) (env : Env) (r : AccountRow) (d : DbR) (s : St) (h : DbLit s.w.types r d) :
    (evalExprs cb s.w.types env (dbRowExprs r)).exec s = (.ok d.vals, s) := by
  refine EvalsAll.of_pvs _ ?_ s
  simp only [dbRowExprs, pvs, pv, consV_ok, bind, Except.bind, castTo_varchar_text,
    show castTo s.w.types (SqlType.mk "" "jsonb" "" false) (Value.text r.metadata) = .ok (.json d.md) from h.md,
    show castTo s.w.types (SqlType.mk "" "timestamp" "" false) (Value.text r.first_usage) = .ok (.ts d.fu) from h.fu,
    show castTo s.w.types (SqlType.mk "" "timestamp" "" false) (Value.text r.insertion_date) = .ok (.ts d.ins) from h.ins,
    show castTo s.w.types (SqlType.mk "" "timestamp" "" false) (Value.text r.updated_at) = .ok (.ts d.upd) from h.upd,
    show castTo s.w.types (SqlType.mk "" "jsonb" "" false) (Value.text r.address_array) = .ok (.json d.aa) from h.aa,
    show castTo s.w.types (SqlType.mk "" "jsonb" "" false) (Value.text r.default_metadata) = .ok (.json d.dm) from h.dm,
    show castTo s.w.types (SqlType.mk "" "jsonb" "" false) (Value.text r.batch_index) = .ok (.json d.bi) from h.bi, h.address]
  rfl

/-- the statement of the `data_batch` CTE -/
def dataBatchStmt (rows : List AccountRow) : Stmt :=
  Stmt.query (Query.mk [] (SetExpr.values (rows.map dbRowExprs)) [] none none LockMode.none)

theorem exec_dataBatch (n : Nat) (env : Env) (pm : List (AccountRow × DbR)) (s : St) (h : ∀ x ∈ pm, DbLit s.w.types x.1 x.2) :
    ∃ cs, (execStmt (n + 4) env (dataBatchStmt (pm.map (·.1)))).exec s =
        (.ok { rel := { cols := cs, rows := pm.map (fun x => x.2.vals) }, affected := pm.length }, s) ∧
      dbCols ++ cs.drop dbCols.length = dbCols := by
  have hvals : (((pm.map (·.1)).map dbRowExprs).mapM (fun r => evalExprs (cbs (n + 1)) s.w.types env r)).exec s =
      (.ok (pm.map (fun x => x.2.vals)), s) := by
    rw [List.map_map, List.mapM_map]
    apply exec_mapM_pure _ (fun x : AccountRow × DbR => x.2.vals)
    intro x hx
    exact exec_dbRow _ env x.1 x.2 s (h x hx)
  refine ⟨(List.range ((pm.map (fun x => x.2.vals)).headD []).length).map (fun i => s!"column{i + 1}"), ?_, ?_⟩
  · rw [dataBatchStmt, execStmt_query, evalQuery, evalCtes_nil]
    simp only [exec_bind, exec_pure, exec_typeEnv]
    rw [evalSetExpr]
    simp only [exec_bind, exec_typeEnv, hvals, exec_pure]
    rw [sortOut_nil]
    simp [exec_bind, evalOpt, applyLimit, List.map_map, Function.comp]
  · cases pm with
    | nil => rfl
    | cons x xs => rfl

def acFull (b : String) : String := b ++ "." ++ "accounts"

/-- `accounts` of bucket `b`, with the per-ledger triggers `trigs` -/
def acT (b : String) (trigs : List TriggerDef) (nr : Nat) : Table :=
  { Schema.tbl_accounts with name := acFull b, triggers := trigs, nextRid := nr }

theorem acT_colNames (b : String) (trigs : List TriggerDef) (nr : Nat) : (acT b trigs nr).colNames = acCols := rfl

theorem AcR.ledger_col (a : AcR) : lookupIn acCols a.vals "ledger" = some (.text a.ledger) := rfl

def AcTyped (rows : List Ver) : Prop := ∀ r ∈ rows, ∃ a : AcR, r.vals = a.vals

/-- the ON condition of `existing_accounts` -/
def existingOn (l : String) : Expr :=
  Expr.binop BinOp.and (Expr.binop BinOp.eq (Expr.col "a" "address") (Expr.col "d" "address"))
    (Expr.binop BinOp.eq (Expr.col "a" "ledger") (Expr.str l))

theorem exec_existingOn (cb : Callbacks) (te : TypeEnv) (env : Env) (l : String) (a : AcR) (d : DbR) (src : Option (String × Nat)) (s : St) :
    (onHolds cb te env ([] ++ [({ alias := "a", cols := acCols, vals := a.vals, src := src } : Scope)] ++ [cteScope "d" dbCols d.vals])
      (some (existingOn l))).exec s = (.ok (decide (a.address = d.address) && decide (a.ledger = l)), s) := by
  have a1 := lookup_a env a.vals d.vals src "address" (.text a.address) rfl
  have a2 := lookup_a env a.vals d.vals src "ledger" (.text a.ledger) rfl
  have d1 := lookup_d env a.vals d.vals src "address" (.text d.address) rfl
  refine (exec_onHolds_pv cb te env _ (existingOn l) (.bool (decide (a.address = d.address) && decide (a.ledger = l))) _ s ?_
    (truth_bool _)).trans (by cases (decide (a.address = d.address) && decide (a.ledger = l)) <;> rfl)
  simp only [upEnv] at a1 a2 d1
  simp only [existingOn, List.nil_append, List.cons_append, cteScope, pv, a1, a2, d1, binV_ok, binV_and, evalBinop_eq_text, ne_eq,
    reduceCtorEq, not_false_eq_true]

def acDec : List Value → Option AcR
  | [.text l, .text addr, .json aa, .ts ins, .ts upd, .json md, .ts fu] =>
    some { ledger := l, address := addr, aa := aa, ins := ins, upd := upd, md := md, fu := fu }
  | _ => none

theorem acDec_vals (a : AcR) : acDec a.vals = some a := by
  cases a; rfl

def dbDec : List Value → Option DbR
  | [.text addr, .json md, .ts fu, .ts ins, .ts upd, .json aa, .json dm, .json bi] =>
    some { address := addr, md := md, fu := fu, ins := ins, upd := upd, aa := aa, dm := dm, bi := bi }
  | _ => none

theorem dbDec_vals (d : DbR) : dbDec d.vals = some d := by
  cases d; rfl

theorem AcR.vals_inj (a a' : AcR) (h : a.vals = a'.vals) : a = a' := by
  have := congrArg acDec h
  simpa [acDec_vals] using this

/-- the typed content of the rows of `accounts` visible in `lv` -/
def acAbs (lv : View) (rows : List Ver) : List AcR :=
  ((rows.filter (fun r => r.visible lv)).map (·.vals)).filterMap acDec

/-- is there an account of ledger `l` with this address among the rows the transaction sees? -/
def hasAccount (l : String) (tbl : List AcR) (addr : String) : Bool :=
  tbl.any (fun a => decide (a.ledger = l) && decide (a.address = addr))

/-! `acAbs` is `tabs acDec`: a typed table is seen as `acAbs` (`TView`), and from here on the rows are read through it. -/

theorem AcTyped.view {rows : List Ver} (h : AcTyped rows) (lv : View) : TView AcR.vals lv rows (acAbs lv rows) :=
  TView.abs acDec_vals fun r hr _ => h r hr

theorem mem_acAbs (lv : View) (rows : List Ver) (h : AcTyped rows) (a : AcR) :
    a ∈ acAbs lv rows ↔ ∃ r ∈ rows, r.visible lv = true ∧ r.vals = a.vals :=
  (h.view lv).mem AcR.vals_inj a

/-- the snapshot of the command and the latest view show the same rows of a table the command has not written yet -/
theorem acAbs_cv (s : St) (hs : TxState s) (rows : List Ver) (hf : Fresh s.xid s.cid rows) :
    acAbs (cv s) rows = acAbs (latestView s.w s.xid) rows := by
  unfold acAbs
  rw [List.filter_congr fun r hr => visible_cv_latest s hs rows hf r hr]

theorem hasAccount_iff {l : String} {tbl : List AcR} {addr : String} :
    hasAccount l tbl addr = true ↔ ∃ a ∈ tbl, a.ledger = l ∧ a.address = addr := by
  simp [hasAccount]

theorem AcTyped.scan {rows : List Ver} (h : AcTyped rows) (t : Table) (v : View) (r : Ver) (hr : r ∈ (t.withRows rows).scan v) :
    r ∈ rows ∧ r.visible v = true ∧ ∃ a : AcR, r.vals = a.vals := by
  rw [scan_eq] at hr
  have := List.mem_filter.mp (List.mem_reverse.mp hr)
  exact ⟨this.1, this.2, h r this.1⟩

/-- does the account row join with the batch row (same address, this ledger)? -/
def joinAD (l : String) (a d : Scope) : Bool :=
  match acDec a.vals, dbDec d.vals with
  | some a, some d => decide (a.address = d.address) && decide (a.ledger = l)
  | _, _ => false

def existingStmt (b l : String) : Stmt :=
  Stmt.query (Query.mk [] (SetExpr.select (Select.mk false [] [SelItem.expr (Expr.col "a" "address") ""]
    [FromItem.join JoinKind.inner (FromItem.table b "accounts" "a") (FromItem.table "" "data_batch" "d") (some (existingOn l))] none [] none))
    [] none none LockMode.none)

/-- the batch as the CTE relation -/
def dbRel (ds : List DbR) : Rel := { cols := dbCols, rows := ds.map (·.vals) }

/-- the relation of `existing_accounts`: a list of addresses -/
def exRel (E : List String) : Rel := { cols := ["address"], rows := E.map (fun a => [Value.text a]) }

/-- the addresses `existing_accounts` returns, typed -/
def exAddrs (b l : String) (trigs : List TriggerDef) (nr : Nat) (rows : List Ver) (v : View) (ds : List DbR) : List String :=
  (joinRows ((((acT b trigs nr).withRows rows).scan v).map (rowScopeOf ((acT b trigs nr).withRows rows) "a"))
      ((dbRel ds).rows.map (cteScope "d" dbCols)) (joinAD l)).map
    (fun L => match L with
      | a :: _ => (match acDec a.vals with | some x => x.address | none => "")
      | [] => "")

theorem exec_existing (n : Nat) (env : Env) (b l : String) (hb : b.isEmpty = false) (trigs : List TriggerDef) (nr : Nat) (rows : List Ver)
    (ds : List DbR) (s : St) (hs : TxState s) (hT : s.w.table? (acFull b) = some ((acT b trigs nr).withRows rows))
    (htyped : AcTyped rows) (hcte : env.ctes.lookup "data_batch" = some (dbRel ds)) :
    (execStmt (n + 8) env (existingStmt b l)).exec s =
      (.ok { rel := exRel (exAddrs b l trigs nr rows (cv s) ds), affected := (exAddrs b l trigs nr rows (cv s) ds).length }, s) := by
  have hq : (qualify b "accounts").exec s = (.ok (acFull b), s) := exec_qualify b "accounts" hb s
  have hfrom := exec_evalFromList_join_cte n env b "accounts" "a" "data_batch" "d" (acFull b) (existingOn l) _ (dbRel ds) s hs hb hq hT hcte
    (joinAD l) (by
      intro a ha d hd
      obtain ⟨r, hr, rfl⟩ := List.mem_map.mp ha
      obtain ⟨v, hv, rfl⟩ := List.mem_map.mp hd
      obtain ⟨d0, _, rfl⟩ := List.mem_map.mp hv
      obtain ⟨_, _, a0, ha0⟩ := htyped.scan _ _ r hr
      have := exec_existingOn (cbs (n + 2)) s.w.types env l a0 d0 (some (((acT b trigs nr).withRows rows).name, r.rid)) s
      simp only [show (("a" : String).isEmpty) = false from by decide, show (("d" : String).isEmpty) = false from by decide,
        Bool.false_eq_true, if_false, rowScopeOf, ha0, withRows_colNames, acT_colNames, dbRel]
      rw [this]
      simp [joinAD, cteScope, acDec_vals, dbDec_vals])
  simp only [show (("a" : String).isEmpty) = false from by decide, show (("d" : String).isEmpty) = false from by decide,
    Bool.false_eq_true, if_false] at hfrom
  have hLs : ∀ L ∈ joinRows ((((acT b trigs nr).withRows rows).scan (cv s)).map (rowScopeOf ((acT b trigs nr).withRows rows) "a"))
      ((dbRel ds).rows.map (cteScope "d" dbCols)) (joinAD l),
      ∃ (r : Ver) (a0 : AcR), r.vals = a0.vals ∧ ∃ dsc, L = [rowScopeOf ((acT b trigs nr).withRows rows) "a" r, dsc] := by
    intro L hL
    simp only [joinRows, List.mem_flatMap, List.mem_map] at hL
    obtain ⟨a, ⟨r, hr, rfl⟩, dsc, _, rfl⟩ := hL
    obtain ⟨_, _, a0, ha0⟩ := htyped.scan _ _ r hr
    exact ⟨r, a0, ha0, dsc, rfl⟩
  have hsel := exec_evalSelect_of (n + 4) env [(Expr.col "a" "address", "")] _ none [] [] [] s _ id (fun _ => true)
    (by rw [List.map_id]; exact hfrom) (by intro c h; cases h) (by intro _ L _; rfl) _ _ _ (.rows rfl) [] rfl _ .none
    (fun L => [.text (match L with
      | a :: _ => (match acDec a.vals with | some x => x.address | none => "")
      | [] => "")])
    (by
      intro L hL
      obtain ⟨r, a0, ha0, dsc, rfl⟩ := hLs L (List.mem_filter.mp hL).1
      have hlk := lookupColumn_alias { env with locals := [rowScopeOf ((acT b trigs nr).withRows rows) "a" r, dsc], group := none, wins := [] }
        "a" "address" (rowScopeOf ((acT b trigs nr).withRows rows) "a" r) (.text a0.address) rfl (by rw [lastComponent_a]; rfl)
        (by rw [rowScopeOf, ha0]; rfl)
      refine (EvalsAll.cons (.col hlk) .nil s).trans ?_
      simp only [rowScopeOf, ha0, acDec_vals])
    _ false (by rw [sortOut_nil]; rfl) _ (.none _ _)
  rw [List.filter_eq_self.mpr fun _ _ => rfl] at hsel
  rw [existingStmt, execStmt_query]
  refine exec_seq (exec_evalQuery_plain (n + 5) env _ [] s s _ _ (show (evalSetExpr (n + 6) env (SetExpr.select _) []).exec s = _ from hsel)) ?_
  simp [exRel, exAddrs, outNames, exprOutName, outRowV, List.map_map, Function.comp, dbRel]

/-- what `existing_accounts` returns, in terms of the typed table: the batch addresses that have an account of the ledger -/
theorem mem_exAddrs (b l : String) (trigs : List TriggerDef) (nr : Nat) (rows : List Ver) (v : View) (ds : List DbR) (htyped : AcTyped rows)
    (addr : String) :
    addr ∈ exAddrs b l trigs nr rows v ds ↔ hasAccount l (acAbs v rows) addr = true ∧ ∃ d ∈ ds, d.address = addr := by
  unfold exAddrs
  simp only [List.mem_map, joinRows, List.mem_flatMap, List.mem_filter]
  constructor
  · rintro ⟨L, ⟨asc, ⟨r, hr, rfl⟩, dsc, ⟨hd, hj⟩, rfl⟩, rfl⟩
    obtain ⟨hrm, hv, a0, ha0⟩ := htyped.scan _ v r hr
    obtain ⟨vv, hvv, rfl⟩ := hd
    obtain ⟨d0, hd0, rfl⟩ := List.mem_map.mp hvv
    simp only [joinAD, rowScopeOf, ha0, cteScope, acDec_vals, dbDec_vals, Bool.and_eq_true, decide_eq_true_eq] at hj
    simp only [rowScopeOf, ha0, acDec_vals]
    exact ⟨hasAccount_iff.mpr ⟨a0, (mem_acAbs v rows htyped a0).mpr ⟨r, hrm, hv, ha0⟩, hj.2, rfl⟩, d0, hd0, hj.1.symm⟩
  · rintro ⟨hh, d0, hd0, hda⟩
    obtain ⟨a0, ha, hl, rfl⟩ := hasAccount_iff.mp hh
    obtain ⟨r, hr, hv, ha0⟩ := (mem_acAbs v rows htyped a0).mp ha
    refine ⟨[rowScopeOf ((acT b trigs nr).withRows rows) "a" r, cteScope "d" dbCols d0.vals], ⟨_, ⟨r, ?_, rfl⟩, _, ⟨⟨d0.vals, List.mem_map_of_mem hd0, rfl⟩, ?_⟩, rfl⟩, ?_⟩
    · rw [scan_eq]
      exact List.mem_reverse.mpr (List.mem_filter.mpr ⟨hr, hv⟩)
    · simp [joinAD, rowScopeOf, ha0, cteScope, acDec_vals, dbDec_vals, hl, hda]
    · simp [rowScopeOf, ha0, acDec_vals]

theorem contains_exAddrs (b l : String) (trigs : List TriggerDef) (nr : Nat) (rows : List Ver) (v : View) (ds : List DbR) (htyped : AcTyped rows)
    (d : DbR) (hd : d ∈ ds) : (exAddrs b l trigs nr rows v ds).contains d.address = hasAccount l (acAbs v rows) d.address := by
  apply Bool.eq_iff_iff.mpr
  rw [List.contains_iff_mem, mem_exAddrs b l trigs nr rows v ds htyped]
  exact ⟨fun h => h.1, fun h => ⟨h, d, hd, rfl⟩⟩

end Ledger.Sql
