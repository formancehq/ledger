import Ledger.Proofs.SqlWindow

/-!
# DISTINCT ON, and the whole SELECT over typed rows

`dStep`: keeping the first row of every key (on the keys it is `firstKeysAux` of `SqlGroup`: `foldl_dStep_keys`); the result is a
sub-list of the input with one row for every key (`DistinctOf`, `DistinctOf.on_exists`). Then, every phase being at hand (`SqlSelect`: FROM, WHERE, items, ORDER BY; `SqlGroup`; `SqlWindow`),
`exec_evalSelect_of`: LeanPG's `evalSelect` against pure list functions on typed rows, for every combination of WHERE, GROUP BY,
one window function, ORDER BY and DISTINCT ON.
-/
namespace Ledger.Sql

theorem anyM_map_ok {α β : Type} (f : α → R Bool) (e : β → α) (g : β → Bool) : ∀ (l : List β), (∀ b ∈ l, f (e b) = .ok (g b)) →
    (l.map e).anyM f = .ok (l.any g) := by
  intro l
  induction l with
  | nil => intro _; rfl
  | cons a l ih =>
    intro h
    simp only [List.map_cons, List.anyM, h a (by simp), bind, Except.bind, List.any_cons]
    cases g a
    · simpa using ih (fun x hx => h x (by simp [hx]))
    · rfl

def dStep {D β : Type} [DecidableEq D] (acc : List (D × β)) (p : D × β) : List (D × β) :=
  if acc.any (fun q => decide (p.1 = q.1)) then acc else acc ++ [p]

theorem foldl_dStep_sublist {D β : Type} [DecidableEq D] : ∀ (l acc P : List (D × β)), acc.Sublist P →
    (l.foldl dStep acc).Sublist (P ++ l) := by
  intro l
  induction l with
  | nil => intro acc P h; simpa using h
  | cons p l ih =>
    intro acc P h
    rw [List.foldl_cons]
    have : (dStep acc p).Sublist (P ++ [p]) := by
      unfold dStep
      split
      · exact h.trans (List.sublist_append_left P [p])
      · exact List.Sublist.append h (List.Sublist.refl [p])
    have := ih _ _ this
    simpa [List.append_assoc] using this

theorem map_fst_dStep {D β : Type} [DecidableEq D] (acc : List (D × β)) (p : D × β) :
    (dStep acc p).map (·.1) = firstKeysAux (acc.map (·.1)) p.1 := by
  have h : acc.any (fun q => decide (p.1 = q.1)) = decide (p.1 ∈ acc.map (·.1)) := by
    rw [Bool.eq_iff_iff, List.any_eq_true, decide_eq_true_iff, List.mem_map]
    exact ⟨fun ⟨q, hq, e⟩ => ⟨q, hq, (of_decide_eq_true e).symm⟩, fun ⟨q, hq, e⟩ => ⟨q, hq, decide_eq_true e.symm⟩⟩
  unfold dStep firstKeysAux
  rw [h]
  by_cases hm : p.1 ∈ acc.map (·.1) <;> simp [hm]

theorem foldl_dStep_keys {D β : Type} [DecidableEq D] : ∀ (l acc : List (D × β)),
    (l.foldl dStep acc).map (·.1) = (l.map (·.1)).foldl firstKeysAux (acc.map (·.1))
  | [], _ => rfl
  | p :: l, acc => by rw [List.foldl_cons, foldl_dStep_keys l, map_fst_dStep, List.map_cons, List.foldl_cons]

def encD {D : Type} (kvD : D → List Value) (p : D × OutRow) : List Value × OutRow := (kvD p.1, p.2)

theorem exec_foldlM_dedup {D : Type} [DecidableEq D] (kvD : D → List Value)
    (F : List (List Value × OutRow) → List Value × OutRow → M (List (List Value × OutRow))) (s : St)
    (hF : ∀ (acc : List (D × OutRow)) (p : D × OutRow), (F (acc.map (encD kvD)) (encD kvD p)).exec s = (.ok ((dStep acc p).map (encD kvD)), s)) :
    ∀ (l acc : List (D × OutRow)), ((l.map (encD kvD)).foldlM F (acc.map (encD kvD))).exec s = (.ok ((l.foldl dStep acc).map (encD kvD)), s) := by
  intro l
  induction l with
  | nil => intro acc; simp
  | cons p l ih =>
    intro acc
    simp only [List.map_cons, exec_foldlM_cons, hF, List.foldl_cons]
    exact ih _

theorem foldl_dStep_map {D γ δ : Type} [DecidableEq D] (h : γ → δ) : ∀ (l acc : List (D × γ)),
    (l.map (fun p => (p.1, h p.2))).foldl dStep (acc.map (fun p => (p.1, h p.2))) = (l.foldl dStep acc).map (fun p => (p.1, h p.2)) := by
  intro l
  induction l with
  | nil => intro acc; rfl
  | cons p l ih =>
    intro acc
    rw [List.map_cons, List.foldl_cons, List.foldl_cons, ← ih]
    congr 1
    unfold dStep
    have e : (acc.map (fun p => (p.1, h p.2))).any (fun q => decide ((p.1, h p.2).1 = q.1)) = acc.any (fun q => decide (p.1 = q.1)) := by
      rw [List.any_map]; rfl
    rw [e]
    cases acc.any (fun q => decide (p.1 = q.1)) <;> simp

/-- the DISTINCT phase on the sorted rows: none, or DISTINCT ON input columns without ORDER BY (sort by the keys, keep the first row
    of every key); indices: the DISTINCT ON list, ORDER BY, the sorted rows, the result -/
inductive DistinctOf (n : Nat) (env : Env) (te : TypeEnv) (s : St) : List Expr → List OrderItem → List OutRow → List OutRow → Prop
  | none (order : List OrderItem) (sorted : List OutRow) : DistinctOf n env te s [] order sorted sorted
  | on {δ D : Type} [DecidableEq D] (dcols : List String) (hd : dcols ≠ []) (ys : List δ) (out : δ → OutRow) (df : δ → D)
      (kvD : D → List Value) (dval : δ → String → Value)
      (hdin : ∀ y ∈ ys, ∀ c ∈ dcols, (lookupUnqualified ((out y).locals ++ env.outer) c).isSome = true)
      (hdval : ∀ y ∈ ys, ∀ c ∈ dcols,
        (evalExpr (cbs n) te { env with locals := (out y).locals, group := (out y).group, wins := (out y).wins } (Expr.col "" c)).exec s =
          (.ok (dval y c), s))
      (hkd : ∀ y, dcols.map (dval y) = kvD (df y))
      (hsameD : ∀ a b, sameGroupKey (kvD a) (kvD b) = .ok (decide (a = b)))
      (zs : List δ)
      (hzs : sortKeyed ((ys.map (fun y => (kvD (df y), out y))).map (fun (p : List Value × OutRow) => (p.1, (p.1, p.2))))
        ((dcols.map (Expr.col "")).map (fun _ => false)) ((dcols.map (Expr.col "")).map (fun _ => NullsOrder.dflt)) =
          .ok (zs.map ((fun (p : List Value × OutRow) => (p.1, (p.1, p.2))) ∘ fun y => (kvD (df y), out y)))) :
      DistinctOf n env te s (dcols.map (Expr.col "")) [] (ys.map out) (((zs.map (fun y => (df y, y))).foldl dStep []).map (fun p => out p.2))

/-- DISTINCT ON input columns without ORDER BY over the rows `out y`: the result is the rows of a list `res` drawn from `ys`, one for
    every key, in the order of the keys -/
theorem DistinctOf.on_exists {δ D : Type} [DecidableEq D] (n : Nat) (env : Env) (te : TypeEnv) (s : St) (dcols : List String)
    (hd : dcols ≠ []) (ys : List δ) (out : δ → OutRow) (df : δ → D) (kvD : D → List Value) (dval : δ → String → Value)
    (hdin : ∀ y ∈ ys, ∀ c ∈ dcols, (lookupUnqualified ((out y).locals ++ env.outer) c).isSome = true)
    (hdval : ∀ y ∈ ys, ∀ c ∈ dcols,
      (evalExpr (cbs n) te { env with locals := (out y).locals, group := (out y).group, wins := (out y).wins } (Expr.col "" c)).exec s =
        (.ok (dval y c), s))
    (hkd : ∀ y, dcols.map (dval y) = kvD (df y))
    (hsameD : ∀ a b, sameGroupKey (kvD a) (kvD b) = .ok (decide (a = b)))
    (cD : List Value → List Value → Ordering) (SD : List Value → Prop)
    (hcmpD : CmpOk (fun (a b : List Value × (List Value × OutRow)) => cmpOrderKeys a.1 b.1 ((dcols.map (Expr.col "")).map (fun _ => false))
        ((dcols.map (Expr.col "")).map (fun _ => NullsOrder.dflt))) (fun a b => cD a.1 b.1) (fun a => SD a.1))
    (hSD : ∀ d, SD (kvD d)) :
    ∃ res : List δ, DistinctOf n env te s (dcols.map (Expr.col "")) [] (ys.map out) (res.map out) ∧
      (∀ y ∈ res, y ∈ ys) ∧ (res.map df).Nodup ∧ (∀ y ∈ ys, df y ∈ res.map df) ∧
      (res.map (fun y => kvD (df y))).Pairwise (fun a b => cD b a ≠ .lt) := by
  obtain ⟨l, hl1, hl2, hl3⟩ := sortKeyed_spec ((dcols.map (Expr.col "")).map (fun _ => false))
    ((dcols.map (Expr.col "")).map (fun _ => NullsOrder.dflt)) cD SD hcmpD
    ((ys.map (fun y => (kvD (df y), out y))).map (fun (p : List Value × OutRow) => (p.1, (p.1, p.2))))
    (by
      intro a ha
      obtain ⟨p, hp, rfl⟩ := List.mem_map.mp ha
      obtain ⟨y, _, rfl⟩ := List.mem_map.mp hp
      exact hSD _)
  -- the sorted rows are the images of a permutation `zs` of `ys`
  rw [List.map_map] at hl2
  obtain ⟨zs, hzs, rfl⟩ := perm_map_exists _ hl2
  have hsub : ((zs.map (fun y => (df y, y))).foldl dStep []).Sublist (zs.map (fun y => (df y, y))) := by
    have := foldl_dStep_sublist (zs.map (fun y => (df y, y))) [] [] (List.Sublist.refl _)
    simpa using this
  have hfst : ∀ p ∈ (zs.map (fun y => (df y, y))).foldl dStep [], p.1 = df p.2 ∧ p.2 ∈ ys := by
    intro p hp
    obtain ⟨y, hy, rfl⟩ := List.mem_map.mp (hsub.subset hp)
    exact ⟨rfl, hzs.mem_iff.mp hy⟩
  have hresk : (((zs.map (fun y => (df y, y))).foldl dStep []).map (·.2)).map df = ((zs.map (fun y => (df y, y))).foldl dStep []).map (·.1) := by
    rw [List.map_map]
    exact List.map_congr_left fun p hp => (hfst p hp).1.symm
  refine ⟨((zs.map (fun y => (df y, y))).foldl dStep []).map (·.2), ?_, ?_, ?_, ?_, ?_⟩
  · rw [List.map_map]
    exact .on dcols hd ys out df kvD dval hdin hdval hkd hsameD zs hl1
  · intro y hy
    obtain ⟨p, hp, rfl⟩ := List.mem_map.mp hy
    exact (hfst p hp).2
  · rw [hresk, foldl_dStep_keys]
    exact nodup_firstKeys _
  · intro y hy
    rw [hresk, foldl_dStep_keys]
    refine (mem_firstKeys _ _).mpr ?_
    rw [List.map_map]
    exact List.mem_map.mpr ⟨y, hzs.mem_iff.mpr hy, rfl⟩
  · have h1 : (zs.map (fun y => (df y, y))).Pairwise (fun p q => cD (kvD q.1) (kvD p.1) ≠ .lt) := by
      rw [List.pairwise_map]
      rw [List.pairwise_map] at hl3
      exact hl3
    have h2 := h1.sublist hsub
    rw [List.map_map, List.pairwise_map]
    apply h2.imp_of_mem
    intro a b ha hb hab
    simp only [Function.comp]
    rw [← (hfst a ha).1, ← (hfst b hb).1]
    exact hab

/-! ### the whole SELECT over typed rows -/

/-- the output row of the unit `u`: its input row `uloc u`, its group `ugrp u`, its window values `wv u`, its items `proj u` -/
def outRowV {υ : Type} (uloc : υ → List Scope) (ugrp : υ → Option (List (List Scope))) (wv : υ → List (Nat × Value))
    (proj : υ → List Value) (u : υ) : OutRow :=
  { vals := proj u, srcs := (uloc u).filterMap (·.src), locals := uloc u, group := ugrp u, wins := wv u }

/-- `SELECT [DISTINCT ON (…)] e₁ [AS a₁], … FROM … [WHERE c] [GROUP BY …] [ORDER BY …]` (no HAVING) over input rows `sc x`: filter,
    make the units (`UnitsOf`), compute the window values (`WinsOf`), project every unit, sort, DISTINCT (`DistinctOf`).

    Every optional phase is a relation whose constructors carry the hypotheses of one way the phase can go, so one walk through
    `evalSelect` serves every combination. After an `if` / `match` the `do` block of `evalSelect` goes on through a join point
    (`let __do_jp x := rest; match … with | … => __do_jp a | … => __do_jp b`), not through a bind: `extract_lets` takes these
    join points as local definitions, the rest of the block is run once from `jpUnits` (`htail`), and each case of `UnitsOf` only
    has to reach `jpUnits (us.map fun u => (uloc u, ugrp u))`. -/
theorem exec_evalSelect_of {β υ : Type} (n : Nat) (env : Env) (es : List (Expr × String)) (from_ : List FromItem) (wher : Option Expr)
    (gb dOn : List Expr) (order : List OrderItem) (s : St) (xs : List β) (sc : β → List Scope) (w : β → Bool)
    (hfrom : (evalFromList n env from_ [[]]).exec s = (.ok (xs.map sc), s))
    (hwhere : ∀ c, wher = some c → ∀ x ∈ xs, (do
        let v ← evalExpr (cbs n) s.w.types { env with locals := sc x } c
        pure ((← liftR v.truth) == some true)).exec s = (.ok (w x), s))
    (hwnone : wher = none → ∀ x ∈ xs, w x = true)
    (us : List υ) (uloc : υ → List Scope) (ugrp : υ → Option (List (List Scope)))
    (hunits : UnitsOf n env s es order sc xs w gb υ us uloc ugrp)
    (wspecs : List WinSpec) (hws : Expr.winsList (es.map (·.1)) ++ Expr.winsList (order.map OrderItem.exprOf) = wspecs)
    (wv : υ → List (Nat × Value)) (hwins : WinsOf n env s us uloc ugrp wspecs wv)
    (proj : υ → List Value)
    (hproj : ∀ u ∈ us,
      (evalExprs (cbs n) s.w.types { env with locals := uloc u, group := ugrp u, wins := wv u } (es.map (·.1))).exec s = (.ok (proj u), s))
    (sorted : List OutRow) (tie : Bool)
    (hsort : (sortOut n env (outNames es) (us.map (outRowV uloc ugrp wv proj)) order).exec s = (.ok (outNames es, sorted), s.tie tie))
    (result : List OutRow) (hdist : DistinctOf n env s.w.types (s.tie tie) dOn order sorted result) :
    (evalSelect (n + 1) env (Select.mk false dOn (es.map (fun p => SelItem.expr p.1 p.2)) from_ wher gb none) order).exec s =
      (.ok (outNames es, result), s.tie tie) := by
  rw [evalSelect]
  apply exec_seq (exec_typeEnv s)
  apply exec_seq hfrom
  refine (exec_selWhere _ _ wher xs sc w s hwhere hwnone).trans ?_
  apply exec_seq (exec_selectItems _ (fun _ _ _ _ => rfl) es s)
  -- the join points of the `do` block by name
  dsimp -zeta -zetaHave only
  extract_lets aggregated winSpecs jpRes jpKeyed ascs nls jpHav jpUnits groupExprs
  -- from the units on, once
  have htail : (jpUnits (us.map fun u => (uloc u, ugrp u))).exec s = (.ok (outNames es, result), s.tie tie) := by
    -- no HAVING
    apply exec_seq (exec_pure _ s)
    -- the window values and the projection: both cases continue with `us.map (outRowV uloc ugrp wv proj)`
    cases hwins
    case' none =>
      apply exec_seq (a := []) (s' := s) (by rw [show winSpecs = [] from hws]; rfl)
      apply exec_seq (a := us.map (outRowV uloc ugrp (fun _ => []) proj)) (s' := s)
        (exec_mapM_numbered _ _ _ _ s fun i u hu => exec_seq (hproj u hu) rfl)
    case' one ws pk ok args hpk hok harg vals val hcw hlook =>
      apply exec_seq (a := [(ws.id, vals)]) (s' := s)
      · rw [show winSpecs = [ws] from hws]
        refine exec_seq (a := [(ws.id, vals)]) (s' := s) ?_ rfl
        apply exec_of_eq (if_neg (by simp))
        refine exec_seq (exec_mapM_indexed_map _ _ (fun i u => (i, pk u, ok u, args u)) us s ?_) ?_
        · intro i u hu
          have hm := (List.of_mem_zip hu).2
          exact exec_seq (hpk u hm) (exec_seq (hok u hm) (exec_seq (harg u hm) rfl))
        · exact exec_seq (a := vals) (s' := s) (by rw [hcw]; rfl) rfl
      apply exec_seq (a := us.map (outRowV uloc ugrp (fun u => [(ws.id, val u)]) proj)) (s' := s)
      · refine (exec_mapM_indexed_map _ _ (fun _ u => outRowV uloc ugrp (fun u => [(ws.id, val u)]) proj u) us s ?_).trans
          (by rw [map_zip_range _ (outRowV uloc ugrp (fun u => [(ws.id, val u)]) proj)])
        intro i u hu
        simp only [List.map_cons, List.map_nil, hlook (i, u) hu, Option.getD_some]
        exact exec_seq (hproj u (List.of_mem_zip hu).2) rfl
    all_goals
      apply exec_seq hsort
      cases hdist with
      | none => rfl
      | @on δ D _ dcols hd ys out df kvD dval hdin hdval hkd hsameD zs hzs =>
        -- DISTINCT ON: key every row, sort by the keys, keep the first row of every key
        have hdne : (dcols.map (Expr.col "")).isEmpty = false := by
          cases dcols with
          | nil => exact absurd rfl hd
          | cons a as => rfl
        apply exec_of_eq (if_pos (by simp [hdne]))
        apply exec_seq (a := ys.map (fun y => (kvD (df y), out y))) (s' := s.tie tie)
        · refine exec_mapM_map _ _ _ ys _ (fun y hy => ?_)
          refine exec_seq (exec_mapM_pure _ (fun e => match e with | Expr.col _ c => dval y c | _ => Value.null) _ _ ?_) ?_
          · intro e he
            obtain ⟨c, hc, rfl⟩ := List.mem_map.mp he
            simp only [hdin y hy c hc, if_true]
            exact hdval y hy c hc
          · rw [List.map_map, ← hkd]; rfl
        apply exec_of_eq (if_pos rfl)
        apply exec_seq (show (liftR (sortValuesBy _ _ _)).exec _ = _ by rw [sortValuesBy_eq _ _ _ _ hzs]; rfl)
        apply exec_seq (exec_pure _ _)
        rw [show (zs.map ((fun (p : List Value × OutRow) => (p.1, (p.1, p.2))) ∘ fun y => (kvD (df y), out y))).map (·.2) =
            (zs.map (fun y => (df y, out y))).map (encD kvD) by
          rw [List.map_map, List.map_map]; rfl]
        apply exec_seq (exec_foldlM_dedup kvD _ _ ?_ _ [])
        · have := foldl_dStep_map out (zs.map (fun y => (df y, y))) []
          simp only [List.map_map, Function.comp_def, List.map_nil] at this
          simp only [List.map_map, this]
          rfl
        · intro acc p
          obtain ⟨d, r⟩ := p
          have hany : List.anyM (fun (x : List Value × OutRow) => sameGroupKey (encD kvD (d, r)).1 x.1) (acc.map (encD kvD)) =
              (Except.ok (acc.any (fun q => decide (d = q.1))) : Except Err Bool) :=
            anyM_map_ok (fun (x : List Value × OutRow) => sameGroupKey (encD kvD (d, r)).1 x.1) (encD kvD) (fun q => decide (d = q.1)) acc
              (fun a _ => hsameD d a.1)
          simp only [exec_bind, hany, exec_liftR_ok]
          unfold dStep
          cases acc.any (fun q => decide (d = q.1)) <;> simp [encD, exec_pure]
  -- the units: every way of making them ends in `jpUnits (us.map fun u => (uloc u, ugrp u))`
  cases hunits with
  | rows hagg =>
    apply exec_of_eq (if_neg (by simp [aggregated, hagg]))
    apply exec_seq (a := (xs.filter w).map (fun x => (sc x, none))) (s' := s) (by rw [List.map_map]; rfl)
    exact htail
  | @groups K _ gcols hg kf kv hgin hkey hsame =>
    have hne : (gcols.map (Expr.col "")).isEmpty = false := by
      cases gcols with
      | nil => exact absurd rfl hg
      | cons a as => rfl
    -- aggregated; the GROUP BY items name input columns, so they stand for themselves
    apply exec_of_eq (if_pos (by simp [aggregated, hne]))
    apply exec_of_eq (if_neg (by
      rw [show groupExprs.isEmpty = _ from List.isEmpty_map]
      exact Bool.eq_false_iff.mp hne))
    apply exec_seq (a := (xs.filter w).map (fun x => (kv (kf x), sc x))) (s' := s)
    · refine exec_mapM_map sc _ _ _ s (fun x hx => ?_)
      have hxm := List.mem_filter.mp hx
      refine exec_seq (a := kv (kf x)) (s' := s) ?_ rfl
      rw [← hkey x hxm.1 hxm.2, show groupExprs = _ from List.map_map ..]
      congr 2
      apply List.map_congr_left
      intro c hc
      cases hxs : xs with
      | nil => rw [hxs] at hxm; cases hxm.1
      | cons x0 rest => exact if_pos (hgin x0 (hxs ▸ List.mem_cons_self) c hc)
    apply exec_seq (show (liftR (groupRowsBy _)).exec s = _ by rw [groupRowsBy_groups kv hsame kf sc]; rfl)
    apply exec_seq (a := (groupsOf kf (xs.filter w)).map (fun G => ((G.map sc).headD [], some (G.map sc)))) (s' := s)
      (by rw [groupsOf, List.map_map, List.map_map]; rfl)
    exact htail

end Ledger.Sql
