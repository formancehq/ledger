import Ledger.Proofs.SqlTable

/-!
# The states a statement passes through, other than by writing a table

Each way the evaluator changes the state outside `putTable` has a name, with its projections (`rfl`, simp), how it commutes with
the others and with `St.withTable`, and the `TxState` it keeps: the queue of AFTER triggers (`addQ`, `clearQ`), the command ids
and search path of a nested command (`enter`, `withCid`, `withSP`), a draw from a sequence (`withSeqs`), the command counter after
`k` nested commands (`bump`). `St.withTable` is in `SqlStore`, with the primitives whose equations it states; `St.tie`, the flag
ORDER BY sets, is in `SqlSelect`.
-/
namespace Ledger.Sql

/-! ### the queue of AFTER triggers -/

def St.addQ (s : St) (q : List PendingTrig) : St := { s with afterQ := s.afterQ ++ q }

@[simp] theorem addQ_w (s : St) (q : List PendingTrig) : (s.addQ q).w = s.w := rfl
@[simp] theorem addQ_xid (s : St) (q : List PendingTrig) : (s.addQ q).xid = s.xid := rfl
@[simp] theorem addQ_cid (s : St) (q : List PendingTrig) : (s.addQ q).cid = s.cid := rfl
@[simp] theorem addQ_nextCid (s : St) (q : List PendingTrig) : (s.addQ q).nextCid = s.nextCid := rfl
@[simp] theorem addQ_snap (s : St) (q : List PendingTrig) : (s.addQ q).snap = s.snap := rfl
@[simp] theorem addQ_nil (s : St) : s.addQ [] = s := by simp [St.addQ]
@[simp] theorem addQ_addQ (s : St) (q1 q2 : List PendingTrig) : (s.addQ q1).addQ q2 = s.addQ (q1 ++ q2) := by
  simp [St.addQ, List.append_assoc]
theorem addQ_withTable (s : St) (q : List PendingTrig) (t : Table) : (s.addQ q).withTable t = (s.withTable t).addQ q := rfl

theorem TxState.addQ {s : St} (h : TxState s) (q : List PendingTrig) : TxState (s.addQ q) :=
  ⟨h.solo, h.xid, h.cid, h.snap, h.noEpq, h.names⟩

def St.clearQ (s : St) : St := { s with afterQ := [] }

@[simp] theorem clearQ_w (s : St) : s.clearQ.w = s.w := rfl
@[simp] theorem clearQ_xid (s : St) : s.clearQ.xid = s.xid := rfl
@[simp] theorem clearQ_cid (s : St) : s.clearQ.cid = s.cid := rfl
@[simp] theorem clearQ_nextCid (s : St) : s.clearQ.nextCid = s.nextCid := rfl
@[simp] theorem clearQ_sp (s : St) : s.clearQ.searchPath = s.searchPath := rfl

theorem clearQ_of_empty (s : St) (h : s.afterQ = []) : s.clearQ = s := by
  cases s
  simp only at h
  subst h
  rfl

theorem TxState.clearQ {s : St} (h : TxState s) : TxState s.clearQ :=
  ⟨h.solo, h.xid, h.cid, h.snap, h.noEpq, h.names⟩

/-! ### a nested command: its command id, the search path of a function -/

/-- the state in which a nested command runs: a fresh command id -/
def St.enter (s : St) : St := { s with cid := s.nextCid, nextCid := s.nextCid + 1 }
def St.withCid (s : St) (c : Nat) : St := { s with cid := c }
def St.withSP (s : St) (sp : String) : St := { s with searchPath := sp }

@[simp] theorem enter_w (s : St) : s.enter.w = s.w := rfl
@[simp] theorem enter_xid (s : St) : s.enter.xid = s.xid := rfl
@[simp] theorem enter_cid (s : St) : s.enter.cid = s.nextCid := rfl
@[simp] theorem enter_nextCid (s : St) : s.enter.nextCid = s.nextCid + 1 := rfl
@[simp] theorem enter_sp (s : St) : s.enter.searchPath = s.searchPath := rfl
@[simp] theorem enter_funcs (s : St) : s.enter.w.funcs = s.w.funcs := rfl
@[simp] theorem withCid_w (s : St) (c : Nat) : (s.withCid c).w = s.w := rfl
@[simp] theorem withCid_xid (s : St) (c : Nat) : (s.withCid c).xid = s.xid := rfl
@[simp] theorem withCid_cid (s : St) (c : Nat) : (s.withCid c).cid = c := rfl
@[simp] theorem withCid_nextCid (s : St) (c : Nat) : (s.withCid c).nextCid = s.nextCid := rfl
@[simp] theorem withSP_w (s : St) (sp : String) : (s.withSP sp).w = s.w := rfl
@[simp] theorem withSP_xid (s : St) (sp : String) : (s.withSP sp).xid = s.xid := rfl
@[simp] theorem withSP_cid (s : St) (sp : String) : (s.withSP sp).cid = s.cid := rfl
@[simp] theorem withSP_nextCid (s : St) (sp : String) : (s.withSP sp).nextCid = s.nextCid := rfl
@[simp] theorem withSP_sp (s : St) (sp : String) : (s.withSP sp).searchPath = sp := rfl

theorem TxState.enter {s : St} (h : TxState s) (hn : s.nextCid < 1000000000) : TxState s.enter :=
  ⟨h.solo, h.xid, hn, h.snap, h.noEpq, h.names⟩
theorem TxState.withCid {s : St} (h : TxState s) (c : Nat) (hc : c < 1000000000) : TxState (s.withCid c) :=
  ⟨h.solo, h.xid, hc, h.snap, h.noEpq, h.names⟩
theorem TxState.withSP {s : St} (h : TxState s) (sp : String) : TxState (s.withSP sp) :=
  ⟨h.solo, h.xid, h.cid, h.snap, h.noEpq, h.names⟩

theorem withSP_withSP_self (s : St) (sp : String) : (s.withSP sp).withSP s.searchPath = s := rfl

/-! ### sequences, and the command counter after nested commands -/

def St.withSeqs (s : St) (q : List Seq) : St := { s with w := { s.w with seqs := q } }

@[simp] theorem withSeqs_xid (s : St) (q : List Seq) : (s.withSeqs q).xid = s.xid := rfl
@[simp] theorem withSeqs_cid (s : St) (q : List Seq) : (s.withSeqs q).cid = s.cid := rfl
@[simp] theorem withSeqs_nextCid (s : St) (q : List Seq) : (s.withSeqs q).nextCid = s.nextCid := rfl
@[simp] theorem withSeqs_sp (s : St) (q : List Seq) : (s.withSeqs q).searchPath = s.searchPath := rfl
@[simp] theorem withSeqs_types (s : St) (q : List Seq) : (s.withSeqs q).w.types = s.w.types := rfl
@[simp] theorem withSeqs_funcs (s : St) (q : List Seq) : (s.withSeqs q).w.funcs = s.w.funcs := rfl
@[simp] theorem withSeqs_tables (s : St) (q : List Seq) : (s.withSeqs q).w.tables = s.w.tables := rfl
@[simp] theorem withSeqs_seqs (s : St) (q : List Seq) : (s.withSeqs q).w.seqs = q := rfl
@[simp] theorem withSeqs_table? (s : St) (q : List Seq) (full : String) : (s.withSeqs q).w.table? full = s.w.table? full := rfl
@[simp] theorem withSeqs_snap (s : St) (q : List Seq) : (s.withSeqs q).snap = s.snap := rfl
@[simp] theorem withSeqs_latestView (s : St) (q : List Seq) (x : Nat) : latestView (s.withSeqs q).w x = latestView s.w x := rfl
@[simp] theorem withSeqs_active (s : St) (q : List Seq) : (s.withSeqs q).w.active = s.w.active := rfl

def St.bump (s : St) (k : Nat) : St := { s with nextCid := s.nextCid + k }

@[simp] theorem bump_w (s : St) (k : Nat) : (s.bump k).w = s.w := rfl
@[simp] theorem bump_xid (s : St) (k : Nat) : (s.bump k).xid = s.xid := rfl
@[simp] theorem bump_cid (s : St) (k : Nat) : (s.bump k).cid = s.cid := rfl
@[simp] theorem bump_nextCid (s : St) (k : Nat) : (s.bump k).nextCid = s.nextCid + k := rfl
@[simp] theorem bump_sp (s : St) (k : Nat) : (s.bump k).searchPath = s.searchPath := rfl
@[simp] theorem bump_snap (s : St) (k : Nat) : (s.bump k).snap = s.snap := rfl
@[simp] theorem bump_funcs (s : St) (k : Nat) : (s.bump k).w.funcs = s.w.funcs := rfl

theorem enter_withCid (s : St) : s.enter.withCid s.cid = s.bump 1 := rfl
theorem bump_bump (s : St) (a b : Nat) : (s.bump a).bump b = s.bump (a + b) := by simp [St.bump, Nat.add_assoc]
theorem withSP_bump_withSP (s : St) (sp : String) (k : Nat) : ((s.withSP sp).bump k).withSP s.searchPath = s.bump k := rfl

theorem withSeqs_comm_table (s : St) (t : Table) (q : List Seq) : (s.withTable t).withSeqs q = (s.withSeqs q).withTable t := rfl
theorem withSeqs_comm_addQ (s : St) (Q : List PendingTrig) (q : List Seq) : (s.addQ Q).withSeqs q = (s.withSeqs q).addQ Q := rfl
theorem withSeqs_comm_bump (s : St) (k : Nat) (q : List Seq) : (s.bump k).withSeqs q = (s.withSeqs q).bump k := rfl
theorem withSeqs_withSeqs (s : St) (q q' : List Seq) : (s.withSeqs q).withSeqs q' = s.withSeqs q' := rfl
theorem bump_comm_table (s : St) (t : Table) (k : Nat) : (s.withTable t).bump k = (s.bump k).withTable t := rfl
theorem bump_comm_addQ (s : St) (Q : List PendingTrig) (k : Nat) : (s.addQ Q).bump k = (s.bump k).addQ Q := rfl

theorem TxState.withSeqs {s : St} (h : TxState s) (q : List Seq) : TxState (s.withSeqs q) :=
  ⟨h.solo, h.xid, h.cid, h.snap, h.noEpq, h.names⟩
theorem TxState.bump {s : St} (h : TxState s) (k : Nat) : TxState (s.bump k) :=
  ⟨h.solo, h.xid, h.cid, h.snap, h.noEpq, h.names⟩

end Ledger.Sql
