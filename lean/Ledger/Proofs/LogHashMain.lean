import Ledger.Proofs.LogHash

/-!
C10 main lemma: under `SafeChars` the digest preimage built by the GENERATED
`set_log_hash` equals the preimage of `Log.ComputeHash`; plus the concrete
witness logs used by the counterexample theorems of Props/C10 and Props/C09.
-/
namespace Ledger.Log
open Ledger.Generated

/-- For a safe key and date and a fresh log, Go prints the SQL's JSON object (with the memento
    as it is) and a newline. -/
theorem goLogJson_safe {log : Log} (m : Bytes) (hik : safeText log.idempotencyKey = true)
    (hsv : log.schemaVersion = []) (hd : safeDate bunTags.dateNullZero log.date = true) (hh : log.hash = none) :
    goLogJson log m =
      sqlJsonText log.payload.type.label m (tsOfDate log.date) log.idempotencyKey ++ b!"\n" := by
  simp only [goLogJson, goString_safe (label_safe _), goString_safe hik, goTimeJson, goTime_safe hd, hh, hsv, goBytes,
    sqlJsonText, sqlJsonHead]
  simp [List.append_assoc]

/-- For a log that yields a row (valid texts, a date in range, a memento), PostgreSQL hashes the
    cast of the JSON text the trigger builds. -/
theorem sqlPreimage_of_row {log : Log} {m : Bytes} (prev : PrevHash) (hik : pgTextOk log.idempotencyKey = true)
    (hsv : pgTextOk log.schemaVersion = true) (hd : safeDate bunTags.dateNullZero log.date = true)
    (hm : mementoBytes log.payload = .ok m) :
    sqlPreimage log prev =
      sqlClean prev (sqlJsonText log.payload.type.label (escEncode m) (tsOfDate log.date) log.idempotencyKey) := by
  obtain ⟨ikv, hikv⟩ := textParam_ok "idempotency_key" bunTags.idempotencyKeyNullZero _ hik
  obtain ⟨sv, hsvv⟩ := textParam_ok "schema_version" bunTags.schemaVersionNullZero _ hsv
  rw [sqlPreimage, sqlPreimageAt_eq]
  simp only [hm, safeDate_not_zero hd, timestampIn_safe hd, hikv, hsvv, Bool.false_eq_true, ↓reduceIte]

theorem preimages_agree_safe (log : Log) (prev : PrevHash)
    (h : SafeChars bunTags.dateNullZero log prev = true) :
    sqlPreimage log prev = goPreimage log prev := by
  simp only [SafeChars, Bool.and_eq_true, decide_eq_true_eq] at h
  obtain ⟨⟨⟨⟨hik, hsv⟩, hd⟩, hh⟩, hp⟩ := h
  cases hm : mementoBytes log.payload with
  | error e => rw [sqlPreimage, sqlPreimageAt_eq, goPreimage, hm]
  | ok m =>
    have hT := byteaIn_sqlJsonText log.payload.type.label m (tsOfDate log.date) log.idempotencyKey
      (noBs_safe (label_safe _)) (noBs_safe hik)
    rw [sqlPreimage_of_row prev (pgTextOk_safe hik) (by rw [hsv]; rfl) hd hm, goPreimage, hm]
    simp only [goLogJson_safe m hik hsv hd hh]
    cases prev with
    | none => simp only [sqlClean, hT, goPrevBytes, List.nil_append]
    | some ph =>
      have hl : ph.length < 57 := by simpa using hp
      simp only [sqlClean, hT, pgBase64_short ph hl, byteaIn_noBs _ (noBs_base64 ph), goPrevBytes, goBytes]
      simp [List.append_assoc]

/-- **A lone backslash in the idempotency key makes the INSERT of the log fail**: the key is valid
    text with a backslash followed by neither a backslash nor an octal digit 0–3 (the first
    backslash of the key: `pre` has none); the log yields a row.  `set_log_hash` casts its JSON text,
    key included as sent, to `bytea`, and the cast is invalid. -/
theorem sqlPreimage_lone_backslash {log : Log} {prev : PrevHash} {pre post : Bytes} {c : UInt8}
    (hkey : log.idempotencyKey = pre ++ 0x5c :: c :: post) (hpre : noBs pre = true)
    (hc : c ≠ 0x5c) (ho : (0x30 ≤ c && c ≤ 0x33) = false) (hik : pgTextOk log.idempotencyKey = true)
    (hsv : pgTextOk log.schemaVersion = true) (hd : safeDate bunTags.dateNullZero log.date = true)
    (hm : (mementoBytes log.payload).toBool = true) (hp : ∀ ph, prev = some ph → ph.length < 57) :
    sqlPreimage log prev = .error .invalidByteaInput := by
  cases hmb : mementoBytes log.payload with
  | error e => rw [hmb] at hm; cases hm
  | ok m =>
    have hT := byteaIn_sqlJsonText_lone_bs log.payload.type.label m (tsOfDate log.date) pre post
      (noBs_safe (label_safe _)) hpre hc ho
    rw [sqlPreimage_of_row prev hik hsv hd hmb, hkey]
    cases prev with
    | none => simp only [sqlClean, hT]
    | some ph => simp only [sqlClean, hT, pgBase64_short ph (hp ph rfl), byteaIn_noBs _ (noBs_base64 ph)]

def wDate : Date := { year := 2024, month := 2, day := 29, hour := 23, minute := 59, second := 59, nano := 123456000, zone := 0 }

def wLog (ik sv : Bytes) : Log :=
  { payload := .deletedMetadata b!"ACCOUNT" (.account b!"world") b!"k", date := wDate,
    idempotencyKey := ik, hash := none, schemaVersion := sv }

def wLogAt (d : Date) : Log := { wLog b!"ik" [] with date := d }

/-- a payload full of characters that are unsafe in an idempotency key -/
def wNastyPayload : Payload :=
  .savedMetadata b!"ACCOUNT" (.account b!"a\"b\\c<d>&é") (some [(b!"k\"\\<\t", b!"v\n\"é\\")])

def wPrev : PrevHash := some [0xde, 0xad, 0xbe, 0xef, 0x00, 0xff, 0x5c, 0x22]

end Ledger.Log
