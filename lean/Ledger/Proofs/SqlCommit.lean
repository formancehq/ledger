import Ledger.Proofs.SqlVolumesSpec
import Ledger.Proofs.SqlMovesSpec
import Ledger.Proofs.SqlTxMeta
import Ledger.Proofs.SqlAccountsHist
import Ledger.Proofs.SqlAccountsRefine

/-!
# `CommitTransaction` as a sequence of statements

UpdateVolumes; InsertTransaction; InsertMoves (; UpsertAccounts) run as successive commands of one transaction (`seqRun`). Each
statement has its own theorem, about a state satisfying the hypotheses on ITS table. What this file adds is the frame. `After b s S n
ts qs`: `S` is the transaction of `s` after commands that used `n` command ids and wrote only the tables `ts` (of bucket `b`) and the
sequences `qs`. `Step`: statements specified as ONE command for every such `S` that has not touched what the command touches, from
hypotheses about its table in `s`. `Step.seq` is the only composition theorem, and asks nothing: that a command on table B finds
what it needs after a command on table A is asked once for a whole chain, where it is run (`Step.run`), as `Nodup` of the list of
the tables it touches. The theorems about the whole sequence (`Props/C01e`, `C01h`, `C18e`, `C18f`, `C18h`) are `.seq` chains of the
six commands below, run from `s`.
-/
open Ledger Ledger.Sql Ledger.Generated Ledger.Core Ledger.Base
namespace Ledger.Sql
open Ledger.Spec
open Ledger.Generated.WriteSql

/-- the statements of one Go store call, run one after the other as the session does: each as a new command of the transaction -/
def seqRun (fuel : Nat) (env : Env) (stmts : List Stmt) : M (List DmlResult) :=
  stmts.mapM (fun st => withNewCid (runStmt fuel env st))

/-- a statement as the next command: `withNewCid` enters the command and restores the command id afterwards. `h3` takes the state
    left in the form the caller states it (where the statement itself advances the command counter by a variable, the two forms agree
    by `Nat.add_assoc`, not by unfolding). -/
theorem exec_seqRun_one (F : Nat) (env : Env) (S : Stmt) (s s2 s3 : St) (r : DmlResult)
    (hrun : (runStmt F env S).exec s.enter = (.ok r, s2)) (h3 : s2.withCid s.cid = s3) :
    (seqRun F env [S]).exec s = (.ok [r], s3) := by
  simp only [seqRun, exec_mapM_cons, exec_withNewCid _ s _ _ hrun, List.mapM_nil, exec_pure, h3]

/-- the same for a store call that is a list of one statement -/
theorem exec_seqRun_mapM (F : Nat) (env : Env) (stmts : List Stmt) (h1 : stmts.length = 1) (s s2 : St) (r : DmlResult)
    (hrun : (stmts.mapM (runStmt F env)).exec s.enter = (.ok [r], s2)) :
    (seqRun F env stmts).exec s = (.ok [r], s2.withCid s.cid) := by
  match stmts, h1 with
  | [S], _ =>
    refine exec_seqRun_one F env S s _ _ r ?_ rfl
    rw [exec_mapM_cons] at hrun
    cases hf : (runStmt F env S).exec s.enter with
    | mk res s1 =>
      rw [hf] at hrun
      cases res with
      | error e => simp at hrun
      | ok v =>
        simp only [List.mapM_nil, exec_pure, Prod.mk.injEq, Except.ok.injEq, List.cons.injEq, and_true] at hrun
        rw [hrun.1, hrun.2]

theorem exec_seqRun_append (F : Nat) (env : Env) (A B : List Stmt) (s s1 s2 : St) (ra rb : List DmlResult)
    (hA : (seqRun F env A).exec s = (.ok ra, s1)) (hB : (seqRun F env B).exec s1 = (.ok rb, s2)) :
    (seqRun F env (A ++ B)).exec s = (.ok (ra ++ rb), s2) := by
  unfold seqRun at *
  rw [List.mapM_append]
  simp only [exec_bind, hA, hB, exec_pure]

/-- The state in which the statements of `CommitTransaction` run: inside a transaction, alone, with the three tables of the bucket in
    their storage invariants (`AvInv`, `TxInv`, `MvInv`), the triggers and functions of the ledger as generated. -/
structure CommitState (s : St) (b l : String)
    (rsA : List Ver) (nrA : Nat)
    (trigsT : List TriggerDef) (nrT : Nat) (rowsT : List Ver) (fullT : String) (sqT : Seq)
    (trigsM : List TriggerDef) (B1 B2 : List TriggerDef) (trB : TriggerDef) (A1 A2 : List TriggerDef) (trA : TriggerDef)
    (item wher dflt_ : Expr) (fB : PlFunc) (setE whereU : Expr) (fA : PlFunc) (nrM : Nat) (rowsM : List Ver) (sqM : Seq) : Prop where
  tx : TxState s
  q0 : s.afterQ = []
  bne : b.isEmpty = false
  cidLt : s.cid < s.nextCid
  avTable : s.w.table? (avFull b) = some (avT b rsA nrA)
  avInv : AvInv (latestView s.w s.xid) rsA nrA
  avFresh : ∀ r ∈ rsA, r.xmin = s.xid → r.cmin < s.nextCid
  txTable : s.w.table? (txFull b) = some ((txT b trigsT nrT).withRows rowsT)
  txInv : TxInv (latestView s.w s.xid) rowsT
  txBefore : ∀ tr ∈ trigsT, tr.timing = .before → tr.event = .insert → tr.when_ = some updatedAtIsNull
  txNoAfter : trigsT.filter (fun tr => tr.timing == .after && tr.event == .insert) = []
  txSeq : s.w.seqs.find? (·.name == fullT) = some sqT
  txIdBound : ∀ r ∈ rowsT, r.visible (latestView s.w s.xid) = true → ∀ x', r.vals = txVals x' → x'.ledger = l → x'.id < sqT.next
  seqNe : fullT ≠ mvSeqFull b
  mvStatic : MvStatic s.w.funcs s.w.types b l trigsM B1 B2 trB A1 A2 trA item wher dflt_ fB
  schA : schemaOf trA.fname = b
  funA : s.w.funcs.lookup trA.fname = some fA
  declsA : fA.decls = []
  bodyA : fA.body = updEffBody setE whereU
  semA : UpdEffSem setE whereU
  noUpdB : trigsM.filter (fun tr => tr.timing == .before && tr.event == .update) = []
  noUpdA : trigsM.filter (fun tr => tr.timing == .after && tr.event == .update) = []
  mvTable : s.w.table? (mvFull b) = some ((mvT b trigsM nrM).withRows rowsM)
  mvSeq : s.w.seqs.find? (·.name == mvSeqFull b) = some sqM
  mvInv : MvInv (latestView s.w s.xid) sqM.next rowsM
  mvFresh : Fresh s.xid s.nextCid rowsM
  mvRidLt : ∀ r ∈ rowsM, r.rid < nrM

structure CommitAccounts (s : St) (b : String) (trigsC : List TriggerDef) (nrC : Nat) (rowsC : List Ver) : Prop where
  table : s.w.table? (acFull b) = some ((acT b trigsC nrC).withRows rowsC)
  fresh : Fresh s.xid s.nextCid rowsC
  inv : AcInv (latestView s.w s.xid) nrC rowsC
  noUpdB : trigsC.filter (fun tr => tr.timing == .before && tr.event == .update) = []
  noUpdA : trigsC.filter (fun tr => tr.timing == .after && tr.event == .update) = []
  noInsB : trigsC.filter (fun tr => tr.timing == .before && tr.event == .insert) = []
  noInsA : trigsC.filter (fun tr => tr.timing == .after && tr.event == .insert) = []

/-- `CommitState` with the metadata-history trigger on `transactions` -/
structure CommitStateH (s : St) (b l : String)
    (rsA : List Ver) (nrA : Nat)
    (trigsT : List TriggerDef) (nrT : Nat) (rowsT : List Ver) (fullT : String) (sqT : Seq)
    (AT1 AT2 : List TriggerDef) (trAT : TriggerDef) (fAT : PlFunc) (nrH : Nat) (rowsH : List Ver) (sqH : Seq)
    (trigsM : List TriggerDef) (B1 B2 : List TriggerDef) (trB : TriggerDef) (A1 A2 : List TriggerDef) (trA : TriggerDef)
    (item wher dflt_ : Expr) (fB : PlFunc) (setE whereU : Expr) (fA : PlFunc) (nrM : Nat) (rowsM : List Ver) (sqM : Seq) : Prop where
  tx : TxState s
  q0 : s.afterQ = []
  bne : b.isEmpty = false
  cidLt : s.cid < s.nextCid
  avTable : s.w.table? (avFull b) = some (avT b rsA nrA)
  avInv : AvInv (latestView s.w s.xid) rsA nrA
  avFresh : ∀ r ∈ rsA, r.xmin = s.xid → r.cmin < s.nextCid
  txTable : s.w.table? (txFull b) = some ((txT b trigsT nrT).withRows rowsT)
  txInv : TxInv (latestView s.w s.xid) rowsT
  txBefore : ∀ tr ∈ trigsT, tr.timing = .before → tr.event = .insert → tr.when_ = some updatedAtIsNull
  txSeq : s.w.seqs.find? (·.name == fullT) = some sqT
  txIdBound : ∀ r ∈ rowsT, r.visible (latestView s.w s.xid) = true → ∀ x', r.vals = txVals x' → x'.ledger = l → x'.id < sqT.next
  seqNe : fullT ≠ mvSeqFull b
  sortedAT : sortTriggers (trigsT.filter (fun x => x.timing == .after && x.event == .insert)) = AT1 ++ trAT :: AT2
  othersAT1 : ∀ x ∈ AT1, OtherLedgerTrig l x
  othersAT2 : ∀ x ∈ AT2, OtherLedgerTrig l x
  evAT : trAT.event = .insert
  whenAT : trAT.when_ = some (ledgerIs l)
  schAT : schemaOf trAT.fname = b
  funAT : s.w.funcs.lookup trAT.fname = some fAT
  declsAT : fAT.decls = []
  bodyAT : fAT.body = [PlStmt.exec tmInsertStmt [], PlStmt.ret (some (Expr.col "" "new"))]
  schH : schemaOf (tmFull b) = b
  histTable : s.w.table? (tmFull b) = some ((tmT b nrH).withRows rowsH)
  histSeq : s.w.seqs.find? (·.name == tmSeqFull b) = some sqH
  histAll : TmAll sqH.next rowsH
  histLo : 0 ≤ sqH.next
  histHi : sqH.next ≤ 9223372036854775807
  seqNeH : fullT ≠ tmSeqFull b
  mvStatic : MvStatic s.w.funcs s.w.types b l trigsM B1 B2 trB A1 A2 trA item wher dflt_ fB
  schA : schemaOf trA.fname = b
  funA : s.w.funcs.lookup trA.fname = some fA
  declsA : fA.decls = []
  bodyA : fA.body = updEffBody setE whereU
  semA : UpdEffSem setE whereU
  noUpdB : trigsM.filter (fun tr => tr.timing == .before && tr.event == .update) = []
  noUpdA : trigsM.filter (fun tr => tr.timing == .after && tr.event == .update) = []
  mvTable : s.w.table? (mvFull b) = some ((mvT b trigsM nrM).withRows rowsM)
  mvSeq : s.w.seqs.find? (·.name == mvSeqFull b) = some sqM
  mvInv : MvInv (latestView s.w s.xid) sqM.next rowsM
  mvFresh : Fresh s.xid s.nextCid rowsM
  mvRidLt : ∀ r ∈ rowsM, r.rid < nrM

/-- the hypotheses on `accounts` / `accounts_metadata` at the start of the store call, ACCOUNT_METADATA_HISTORY on -/
structure CommitAccountsH (s : St) (b l fullT : String) (trigsC : List TriggerDef) (nrC : Nat) (rowsC : List Ver)
    (AU1 AU2 : List TriggerDef) (trU : TriggerDef) (AI1 AI2 : List TriggerDef) (trI : TriggerDef) (fnI fnU : PlFunc)
    (nrHA : Nat) (rowsHA : List Ver) (sqHA : Seq) (tblHA : List AmR) : Prop where
  table : s.w.table? (acFull b) = some ((acT b trigsC nrC).withRows rowsC)
  fresh : Fresh s.xid s.nextCid rowsC
  inv : AcInv (latestView s.w s.xid) nrC rowsC
  noUpdB : trigsC.filter (fun tr => tr.timing == .before && tr.event == .update) = []
  noInsB : trigsC.filter (fun tr => tr.timing == .before && tr.event == .insert) = []
  sortedU : sortTriggers (trigsC.filter (fun x => x.timing == .after && x.event == .update)) = AU1 ++ trU :: AU2
  othersU1 : ∀ x ∈ AU1, OtherLedgerTrigU l x
  othersU2 : ∀ x ∈ AU2, OtherLedgerTrigU l x
  ofU : trU.ofCols = []
  whenU : trU.when_ = some (ledgerIs l)
  sortedI : sortTriggers (trigsC.filter (fun x => x.timing == .after && x.event == .insert)) = AI1 ++ trI :: AI2
  othersI1 : ∀ x ∈ AI1, OtherLedgerTrig l x
  othersI2 : ∀ x ∈ AI2, OtherLedgerTrig l x
  evI : trI.event = .insert
  whenI : trI.when_ = some (ledgerIs l)
  stat : AmStatic s.w.funcs b trI.fname trU.fname fnI fnU
  hist : AmState s b nrHA rowsHA sqHA
  histView : AmView (latestView s.w s.xid) rowsHA tblHA
  histFresh : Fresh s.xid s.nextCid rowsHA
  seqNeT : amSeqFull b ≠ fullT


section
variable {b l : String} {s S : St} {n : Nat} {ts qs : List String}
  {rsA : List Ver} {nrA : Nat} {trigsT : List TriggerDef} {nrT : Nat} {rowsT : List Ver} {fullT : String} {sqT : Seq}
  {AT1 AT2 : List TriggerDef} {trAT : TriggerDef} {fAT : PlFunc} {nrH : Nat} {rowsH : List Ver} {sqH : Seq}
  {trigsM B1 B2 : List TriggerDef} {trB : TriggerDef} {A1 A2 : List TriggerDef} {trA : TriggerDef} {item wher dflt_ : Expr} {fB : PlFunc}
  {setE whereU : Expr} {fA : PlFunc} {nrM : Nat} {rowsM : List Ver} {sqM : Seq} {trigsC : List TriggerDef} {nrC : Nat} {rowsC : List Ver}
  {AU1 AU2 : List TriggerDef} {trU : TriggerDef} {AI1 AI2 : List TriggerDef} {trI : TriggerDef} {fnI fnU : PlFunc}
  {nrHA : Nat} {rowsHA : List Ver} {sqHA : Seq} {tblHA : List AmR}

/-- `S` is the state of the transaction running in `s` after further commands that used `n` command ids and wrote only the tables
    `ts` (names inside bucket `b`) and the sequences `qs`: the same transaction, nothing queued, the same functions, types and view.
    Every state `s.bump k |>.withSeqs q |>.withTable t …` is one. -/
structure After (b : String) (s S : St) (n : Nat) (ts qs : List String) : Prop where
  tx : TxState S
  xid : S.xid = s.xid
  q0 : S.afterQ = []
  funcs : S.w.funcs = s.w.funcs
  types : S.w.types = s.w.types
  view : latestView S.w S.xid = latestView s.w s.xid
  cid : S.nextCid = s.nextCid + n
  table : ∀ x, x ∉ ts → S.w.table? (b ++ "." ++ x) = s.w.table? (b ++ "." ++ x)
  seq : ∀ x, x ∉ qs → S.w.seqs.find? (·.name == x) = s.w.seqs.find? (·.name == x)

namespace After

theorem refl (tx : TxState s) (q0 : s.afterQ = []) : After b s s 0 [] [] :=
  ⟨tx, rfl, q0, rfl, rfl, rfl, rfl, fun _ _ => rfl, fun _ _ => rfl⟩

theorem bump (h : After b s S n ts qs) (k : Nat) : After b s (S.bump k) (n + k) ts qs :=
  { h with tx := h.tx.bump k, cid := by show S.nextCid + k = _; rw [h.cid, Nat.add_assoc] }

theorem withTable (h : After b s S n ts qs) (t : Table) (y : String) (hy : t.name = b ++ "." ++ y) : After b s (S.withTable t) n (y :: ts) qs :=
  { h with
    tx := h.tx.withTable t
    table := fun x hx => (withTable_table?_ne S t _ (hy ▸ bucket_ne b (fun e => hx (e ▸ List.mem_cons_self ..)))).trans
      (h.table x (fun m => hx (List.mem_cons_of_mem _ m))) }

/-- sequences replaced by `q`, which differs from them on the names `ws` at most -/
theorem withSeqs (h : After b s S n ts qs) (q : List Seq) (ws : List String)
    (hq : ∀ x, x ∉ ws → q.find? (·.name == x) = S.w.seqs.find? (·.name == x)) : After b s (S.withSeqs q) n ts (ws ++ qs) :=
  { h with
    tx := h.tx.withSeqs q
    seq := fun x hx => (hq x (fun m => hx (List.mem_append_left _ m))).trans (h.seq x (fun m => hx (List.mem_append_right _ m))) }

theorem seqsSet (h : After b s S n ts qs) (full : String) (v : Int) : After b s (S.withSeqs (seqsSet full v S.w.seqs)) n ts (full :: qs) :=
  h.withSeqs _ [full] (fun x hx => find_seqsSet_ne full x v (fun e => hx (e ▸ List.mem_singleton_self _)) _)

/-- the view of the next command of `S` -/
theorem viewE (h : After b s S n ts qs) : latestView S.enter.w S.enter.xid = latestView s.w s.xid := h.view

end After

/-- `stmts` as a command of the transaction of `s` that touches the tables `tt` and the sequences `tq`: in every state `S` the
    transaction has reached without writing them (`tt` and the tables written so far are pairwise distinct, and the same for the
    sequences), and with `c` command ids to spare, the statements run, use `c` ids, write at most `tt` / `tq`, and `Q S r S'`. -/
def Step (F : Nat) (env : Env) (b : String) (s : St) (stmts : List Stmt) (c : Nat) (tt tq : List String)
    (Q : St → List DmlResult → St → Prop) : Prop :=
  ∀ S n ts qs, After b s S n ts qs → (tt ++ ts).Nodup → (tq ++ qs).Nodup → S.nextCid + c ≤ 1000000000 →
    ∃ r S', (seqRun F env stmts).exec S = (.ok r, S') ∧ After b s S' (n + c) (tt ++ ts) (tq ++ qs) ∧ Q S r S'

/-- One command after the other is a command. No frame condition is asked here: that the second finds its tables as they were in `s`
    is part of `Nodup` of the footprint of the whole, asked once, where the sequence is run (`Step.run`). -/
theorem Step.seq {F : Nat} {env : Env} {A B : List Stmt} {cA cB : Nat} {tA qA tB qB : List String} {QA QB : St → List DmlResult → St → Prop}
    (hA : Step F env b s A cA tA qA QA) (hB : Step F env b s B cB tB qB QB) :
    Step F env b s (A ++ B) (cA + cB) (tB ++ tA) (qB ++ qA) (fun S r S' => ∃ r1 S1 r2, QA S r1 S1 ∧ QB S1 r2 S' ∧ r = r1 ++ r2) := by
  intro S n ts qs h hts hqs hn
  rw [List.append_assoc] at hts hqs
  obtain ⟨r1, S1, hrun1, h1, hQ1⟩ := hA S n ts qs h ((List.sublist_append_right _ _).nodup hts) ((List.sublist_append_right _ _).nodup hqs)
    (Nat.le_trans (Nat.add_le_add_left (Nat.le_add_right cA cB) _) hn)
  obtain ⟨r2, S', hrun2, h2, hQ2⟩ := hB S1 (n + cA) (tA ++ ts) (qA ++ qs) h1 hts hqs
    (by rw [h1.cid, ← Nat.add_assoc, ← h.cid, Nat.add_assoc]; exact hn)
  refine ⟨r1 ++ r2, S', exec_seqRun_append F env A B S S1 S' r1 r2 hrun1 hrun2, ?_, r1, S1, r2, hQ1, hQ2, rfl⟩
  rw [← Nat.add_assoc, List.append_assoc, List.append_assoc]
  exact h2

/-- a command run first: no table and no sequence is touched twice -/
theorem Step.run {F : Nat} {env : Env} {A : List Stmt} {c : Nat} {tt tq : List String} {Q : St → List DmlResult → St → Prop}
    (h : Step F env b s A c tt tq Q) (tx : TxState s) (q0 : s.afterQ = []) (ht : tt.Nodup) (hq : tq.Nodup)
    (hn : s.nextCid + c ≤ 1000000000) : ∃ r S', (seqRun F env A).exec s = (.ok r, S') ∧ After b s S' c tt tq ∧ Q s r S' := by
  have h' := h s 0 [] [] (After.refl tx q0)
  rw [Nat.zero_add, List.append_nil, List.append_nil] at h'
  exact h' ht hq hn

/-! ## The hypotheses of each statement, given in `s`, in the next command of a later state that has not touched its table -/

/-- a command that uses `1 + k` command ids starts below the bound -/
theorem lt_of_add_succ_le {a k N : Nat} (h : a + (1 + k) ≤ N) : a < N :=
  Nat.lt_of_succ_le (Nat.le_trans (Nat.add_le_add_left (Nat.le_add_right 1 k) a) h)

theorem MvStmtState.after (hm : MvStmtState s b l trigsM B1 B2 trB A1 A2 trA item wher dflt_ fB setE whereU fA nrM rowsM sqM)
    (h : After b s S n ts qs) (ht : ("moves" :: ts).Nodup) (hq : (mvSeqFull b :: qs).Nodup) (hn : S.nextCid < 1000000000) :
    MvStmtState S.enter b l trigsM B1 B2 trB A1 A2 trA item wher dflt_ fB setE whereU fA nrM rowsM sqM :=
  { hm with
    tx := h.tx.enter hn
    cidLt := Nat.lt_succ_self _
    q0 := h.q0
    static := h.funcs ▸ h.types ▸ hm.static
    funA := h.funcs ▸ hm.funA
    table := (h.table _ (List.nodup_cons.mp ht).1).trans hm.table
    seq := (h.seq _ (List.nodup_cons.mp hq).1).trans hm.seq
    inv := h.viewE ▸ hm.inv
    fresh := by
      show Fresh S.xid (S.nextCid + 1) rowsM
      rw [h.xid, h.cid]; exact hm.fresh.mono (Nat.le_succ_of_le (Nat.le_add_right _ _)) }

theorem TxInsState.after (hx : TxInsState s b l trigsT nrT rowsT fullT sqT) (h : After b s S n ts qs)
    (ht : ("transactions" :: ts).Nodup) (hq : (fullT :: qs).Nodup) (hn : S.nextCid < 1000000000) :
    TxInsState S.enter b l trigsT nrT rowsT fullT sqT :=
  { hx with
    tx := h.tx.enter hn
    q0 := h.q0
    table := (h.table _ (List.nodup_cons.mp ht).1).trans hx.table
    inv := h.viewE ▸ hx.inv
    seq := (h.seq _ (List.nodup_cons.mp hq).1).trans hx.seq
    idBound := h.viewE ▸ hx.idBound }

theorem TxInsStateH.after (hx : TxInsStateH s b l trigsT nrT rowsT fullT sqT AT1 AT2 trAT fAT nrH rowsH sqH) (h : After b s S n ts qs)
    (ht : ("transactions_metadata" :: "transactions" :: ts).Nodup) (hq : (tmSeqFull b :: fullT :: qs).Nodup)
    (hn : S.nextCid + 3 ≤ 1000000000) : TxInsStateH S.enter b l trigsT nrT rowsT fullT sqT AT1 AT2 trAT fAT nrH rowsH sqH :=
  { hx with
    ins := hx.ins.after h (List.nodup_cons.mp ht).2 (List.nodup_cons.mp hq).2 (lt_of_add_succ_le (k := 2) hn)
    funA := h.funcs ▸ hx.funA
    hist := { hx.hist with
      table := (h.table _ (fun m => (List.nodup_cons.mp ht).1 (.tail _ m))).trans hx.hist.table
      seq := (h.seq _ (fun m => (List.nodup_cons.mp hq).1 (.tail _ m))).trans hx.hist.seq }
    cidLt := hn }

/-- for `accounts`, whose rows `rowsC` were written before the command counter of `s` -/
theorem AcTblState.after (bne : b.isEmpty = false) (hT : s.w.table? (acFull b) = some ((acT b trigsC nrC).withRows rowsC))
    (hfresh : Fresh s.xid s.nextCid rowsC) (hinv : AcInv (latestView s.w s.xid) nrC rowsC)
    (noUpdB : trigsC.filter (fun tr => tr.timing == .before && tr.event == .update) = [])
    (h : After b s S n ts qs) (ht : "accounts" ∉ ts) (hn : S.nextCid < 1000000000) : AcTblState S.enter b trigsC nrC rowsC :=
  { tx := h.tx.enter hn
    bne := bne
    table := (h.table _ ht).trans hT
    fresh := by
      show Fresh S.xid S.nextCid rowsC
      rw [h.xid, h.cid]; exact hfresh.mono (Nat.le_add_right _ _)
    inv := h.viewE ▸ hinv
    noUpdB := noUpdB }

theorem CommitState.mv
    (h : CommitState s b l rsA nrA trigsT nrT rowsT fullT sqT trigsM B1 B2 trB A1 A2 trA item wher dflt_ fB setE whereU fA nrM rowsM sqM) :
    MvStmtState s b l trigsM B1 B2 trB A1 A2 trA item wher dflt_ fB setE whereU fA nrM rowsM sqM :=
  ⟨h.tx, h.cidLt, h.q0, h.bne, h.mvStatic, h.schA, h.funA, h.declsA, h.bodyA, h.semA, h.noUpdB, h.noUpdA, h.mvTable, h.mvSeq, h.mvInv,
    h.mvFresh, h.mvRidLt⟩

theorem CommitState.txIns
    (h : CommitState s b l rsA nrA trigsT nrT rowsT fullT sqT trigsM B1 B2 trB A1 A2 trA item wher dflt_ fB setE whereU fA nrM rowsM sqM) :
    TxInsState s b l trigsT nrT rowsT fullT sqT :=
  ⟨h.tx, h.q0, h.bne, h.txTable, h.txInv, h.txBefore, h.txSeq, h.txIdBound⟩

theorem CommitStateH.mv
    (h : CommitStateH s b l rsA nrA trigsT nrT rowsT fullT sqT AT1 AT2 trAT fAT nrH rowsH sqH trigsM B1 B2 trB A1 A2 trA item wher dflt_ fB setE whereU fA nrM rowsM sqM) :
    MvStmtState s b l trigsM B1 B2 trB A1 A2 trA item wher dflt_ fB setE whereU fA nrM rowsM sqM :=
  ⟨h.tx, h.cidLt, h.q0, h.bne, h.mvStatic, h.schA, h.funA, h.declsA, h.bodyA, h.semA, h.noUpdB, h.noUpdA, h.mvTable, h.mvSeq, h.mvInv,
    h.mvFresh, h.mvRidLt⟩

theorem CommitStateH.txIns
    (h : CommitStateH s b l rsA nrA trigsT nrT rowsT fullT sqT AT1 AT2 trAT fAT nrH rowsH sqH trigsM B1 B2 trB A1 A2 trA item wher dflt_ fB setE whereU fA nrM rowsM sqM)
    (hn : s.nextCid + 2 ≤ 1000000000) : TxInsStateH s b l trigsT nrT rowsT fullT sqT AT1 AT2 trAT fAT nrH rowsH sqH :=
  ⟨⟨h.tx, h.q0, h.bne, h.txTable, h.txInv, h.txBefore, h.txSeq, h.txIdBound⟩, h.sortedAT, h.othersAT1, h.othersAT2, h.evAT, h.whenAT,
    h.schAT, h.funAT, h.declsAT, h.bodyAT, h.schH, ⟨h.histTable, h.histSeq, h.histAll, h.histLo, h.histHi⟩, h.seqNeH, hn⟩

/-! ## The statements of `CommitTransaction` as commands

Each from the theorem of its statement, run in the next command of `S` (`withNewCid` enters the command and restores the command id
afterwards, so the state left is `S` with the command counter advanced and the statement's writes); hypotheses in `s`, what the
statement establishes in the view of `s`. -/

theorem step_updateVolumes (F : Nat) (env : Env) (id : Nat) (bne : b.isEmpty = false)
    (avTable : s.w.table? (avFull b) = some (avT b rsA nrA)) (avInv : AvInv (latestView s.w s.xid) rsA nrA)
    (avFresh : ∀ r ∈ rsA, r.xmin = s.xid → r.cmin < s.nextCid)
    (vrows : List P.VolumeRow) (hvne : vrows ≠ []) (hvnd : (vrows.map avKeyOf).Nodup)
    (av : PCV) (hwf : Map.WF av) (habs : ∀ k, avAbs s b l k = av.get? k) :
    Step (F + 7) env b s (P.updateVolumes b l id vrows) 1 ["accounts_volumes"] []
      (fun S r S' => ∃ (rsA' : List Ver) (nrA' : Nat),
        r = [{ rel := { cols := ["input", "output"],
                        rows := (Spec.upsertVolumes av (vuOf vrows)).2.map (fun e => [.int e.2.input, .int e.2.output]) },
               affected := vrows.length }] ∧
        S' = (S.bump 1).withTable (avT b rsA' nrA') ∧
        AvInv (latestView s.w s.xid) rsA' nrA' ∧
        (∀ k, avView (latestView s.w s.xid) rsA' l k = (Spec.upsertVolumes av (vuOf vrows)).1.get? k) ∧
        (∀ l', l' ≠ l → ∀ k, avView (latestView s.w s.xid) rsA' l' k = avView (latestView s.w s.xid) rsA l' k)) := by
  intro S n ts qs h ht _ hn
  have hT : S.enter.w.table? (avFull b) = some (avT b rsA nrA) := (h.table _ (List.nodup_cons.mp ht).1).trans avTable
  obtain ⟨_, hrun, hav1, hav2, rsA', nrA', rfl, hinv⟩ := updateVolumes_bridge F env b l id bne S.enter rsA nrA
    ⟨hT, h.tx.solo, h.tx.xid, hn, h.viewE ▸ avInv,
      fun r hr h1 h2 => absurd h2 (Nat.ne_of_lt (by
        show r.cmin < S.nextCid
        rw [h.cid]; exact Nat.lt_add_right n (avFresh r hr (h1.trans h.xid))))⟩
    vrows hvne hvnd av hwf (fun k => by rw [avAbs_of_table hT, h.viewE, ← avAbs_of_table avTable]; exact habs k)
  have hT' := withTable_table? S.enter (avT b rsA nrA) (avT b rsA' nrA') hT
  simp only [avAbs_of_table hT', avAbs_of_table hT] at hav1 hav2
  rw [h.viewE] at hinv
  exact ⟨_, _, exec_seqRun_mapM (F + 7) env _ rfl S _ _ hrun, (h.bump 1).withTable _ _ rfl, rsA', nrA', rfl, rfl, hinv,
    fun k => h.viewE ▸ hav1 k, fun l' hl' k => h.viewE ▸ hav2 l' hl' k⟩

theorem step_insertTx (F : Nat) (env : Env) (id : Nat) (L : TxLits) (hst : TxInsState s b l trigsT nrT rowsT fullT sqT)
    (noAfter : trigsT.filter (fun tr => tr.timing == .after && tr.event == .insert) = [])
    (hl : SeqLit (txSeqLit b id) fullT) (x : TxR) (hlit : TxLit s.w.types l L x) (hid : x.id = sqT.next)
    (href : ∀ r ∈ rowsT, r.visible (latestView s.w s.xid) = true → ∀ x', r.vals = txVals x' → txConf2 x x' = false) :
    Step (F + 6) env b s (P.insertTransaction b l id L.postings L.metadata L.timestamp L.reference L.inserted_at L.updated_at
        L.post_commit_volumes L.template L.sources L.destinations L.sources_arrays L.destinations_arrays) 1 ["transactions"] [fullT]
      (fun S r S' =>
        r = [{ rel := { cols := ["id", "timestamp", "inserted_at", "updated_at"],
                        rows := [[.int x.id, .ts x.timestamp, optTs x.insertedAt, .ts x.updatedAt]] }, affected := 1 }] ∧
        S' = ((S.bump 1).withSeqs (seqsSet fullT sqT.next S.w.seqs)).withTable
          ((txT b trigsT (nrT + 1)).withRows (newVer s.xid S.nextCid nrT (txVals x) :: rowsT))) := by
  intro S n ts qs h ht hq hn
  have hrun := exec_runStmt_insertTx_noAfter F env b l id L trigsT nrT rowsT fullT sqT S.enter
    (hst.after h ht hq hn) noAfter hl x (h.types ▸ hlit) hid (h.viewE ▸ href)
  rw [show S.enter.xid = s.xid from h.xid] at hrun
  exact ⟨_, _, exec_seqRun_one (F + 6) env _ S _ _ _ hrun rfl, ((h.bump 1).seqsSet fullT sqT.next).withTable _ _ rfl, rfl, rfl⟩

theorem step_insertTx_hist (F : Nat) (env : Env) (id : Nat) (L : TxLits)
    (hst : TxInsStateH s b l trigsT nrT rowsT fullT sqT AT1 AT2 trAT fAT nrH rowsH sqH)
    (hl : SeqLit (txSeqLit b id) fullT) (x : TxR) (hlit : TxLit s.w.types l L x) (hid : x.id = sqT.next)
    (hi1 : -9223372036854775808 ≤ x.id) (hi2 : x.id ≤ 9223372036854775807)
    (href : ∀ r ∈ rowsT, r.visible (latestView s.w s.xid) = true → ∀ x', r.vals = txVals x' → txConf2 x x' = false) :
    Step (F + 12) env b s (P.insertTransaction b l id L.postings L.metadata L.timestamp L.reference L.inserted_at L.updated_at
        L.post_commit_volumes L.template L.sources L.destinations L.sources_arrays L.destinations_arrays) 3
      ["transactions_metadata", "transactions"] [tmSeqFull b, fullT]
      (fun S r S' =>
        r = [{ rel := { cols := ["id", "timestamp", "inserted_at", "updated_at"],
                        rows := [[.int x.id, .ts x.timestamp, optTs x.insertedAt, .ts x.updatedAt]] }, affected := 1 }] ∧
        S' = (((S.bump 3).withSeqs (seqsSet (tmSeqFull b) sqH.next (seqsSet fullT sqT.next S.w.seqs))).withTable
            ((txT b trigsT (nrT + 1)).withRows (newVer s.xid S.nextCid nrT (txVals x) :: rowsT))).withTable
            ((tmT b (nrH + 1)).withRows (newVer s.xid (S.nextCid + 1) nrH (tmVals (tmOf x sqH.next)) :: rowsH))) := by
  intro S n ts qs h ht hq hn
  have hrun := exec_runStmt_insertTx_hist F env b l id L trigsT nrT rowsT fullT sqT AT1 AT2 trAT fAT nrH rowsH sqH S.enter
    (hst.after h ht hq hn) hl x (h.types ▸ hlit) hid hi1 hi2 (h.viewE ▸ href)
  rw [show S.enter.xid = s.xid from h.xid] at hrun
  refine ⟨_, _, exec_seqRun_one (F + 12) env _ S _ _ _ hrun
    (by simp only [St.enter, St.withSeqs, St.bump, St.withTable, St.withCid, Nat.add_assoc]), ?_, rfl, rfl⟩
  exact ((((h.bump 3).seqsSet fullT sqT.next).seqsSet (tmSeqFull b) sqH.next).withTable _ "transactions" rfl).withTable _
    "transactions_metadata" rfl

theorem step_insertMoves (p : Nat) (env : Env) (id : Nat)
    (hst : MvStmtState s b l trigsM B1 B2 trB A1 A2 trA item wher dflt_ fB setE whereU fA nrM rowsM sqM)
    (pm : List (P.MoveRow × Spec.MoveRow)) (hne : pm ≠ []) (hlits : ∀ y ∈ pm, MvLit s.w.types y.1 y.2)
    (hsf : SeqFrom sqM.next (pm.map (·.2))) (hrange : sqM.next + pm.length ≤ 9223372036854775808)
    (T : List Spec.MoveRow) (hT : T.Perm (ledgerMoves l (mvAbs (latestView s.w s.xid) rowsM))) :
    Step (p + 15) env b s (P.insertMoves b l id (pm.map (·.1))) (1 + 4 * pm.length) ["moves"] [mvSeqFull b]
      (fun S r S' => ∃ (rows' : List Ver) (seqs' : List Seq),
        r = [{ rel := { cols := ["post_commit_volumes", "post_commit_effective_volumes"],
                        rows := (Spec.insertedRows T (pm.map (·.2))).map retOf }, affected := pm.length }] ∧
        S' = ((S.bump (1 + 4 * pm.length)).withSeqs seqs').withTable ((mvT b trigsM (nrM + pm.length)).withRows rows') ∧
        (ledgerMoves l (mvAbs (latestView s.w s.xid) rows')).Perm (Spec.insertMoves T (pm.map (·.2))) ∧
        (∀ l', l' ≠ l → (ledgerMoves l' (mvAbs (latestView s.w s.xid) rows')).Perm (ledgerMoves l' (mvAbs (latestView s.w s.xid) rowsM))) ∧
        MvInv (latestView s.w s.xid) (sqM.next + pm.length) rows' ∧
        seqs'.find? (·.name == mvSeqFull b) = some { sqM with last := sqM.next + pm.length - 1, called := true } ∧
        (∀ other, other ≠ mvSeqFull b → seqs'.find? (·.name == other) = S.w.seqs.find? (·.name == other))) := by
  intro S n ts qs h ht hq hn
  obtain ⟨rows', seqs', hrun, h1, h2, h3, _, _, h4, h5⟩ := insertMoves_refines p env b l trigsM B1 B2 trB A1 A2 trA item wher dflt_ fB setE
    whereU fA nrM rowsM sqM S.enter (hst.after h ht hq (lt_of_add_succ_le hn)) pm hne (h.types ▸ hlits) hsf hrange
    (Nat.add_assoc .. ▸ hn) T (h.viewE ▸ hT)
  rw [h.viewE] at h1 h2 h3
  refine ⟨_, _, exec_seqRun_one (p + 15) env _ S _ _ _ hrun
    (by simp only [St.enter, St.withSeqs, St.bump, St.withTable, St.withCid, Nat.add_assoc]), ?_, rows', seqs', rfl, rfl, h1, h2, h3, h4, h5⟩
  exact ((h.bump _).withSeqs seqs' [mvSeqFull b] (fun x hx => h5 x (fun e => hx (e ▸ List.mem_singleton_self _)))).withTable _ _ rfl

theorem step_upsertAccounts (k : Nat) (env : Env) (henv : env.ctes = []) (l : String) (id : Nat) (bne : b.isEmpty = false)
    (hac : CommitAccounts s b trigsC nrC rowsC)
    (am : List (P.AccountRow × DbR)) (hlits : ∀ y ∈ am, DbLit s.w.types y.1 y.2) (hnd : ((am.map (·.2)).map (·.address)).Nodup) :
    Step (k + 19) env b s (P.upsertAccounts b l id (am.map (·.1))) 1 ["accounts"] []
      (fun S r S' => ∃ (res : DmlResult) (rows' : List Ver) (n' : Nat),
        r = [res] ∧ S' = (S.bump 1).withTable ((acT b trigsC (nrC + n')).withRows rows') ∧
        (acAbs (latestView s.w s.xid) rows').Perm
          (((am.map (·.2)).filter (fun d => !hasAccount l (acAbs (latestView s.w s.xid) rowsC) d.address)).map (insRow l) ++
            (acAbs (latestView s.w s.xid) rowsC).map (updOf l (am.map (·.2)))) ∧
        AcInv (latestView s.w s.xid) (nrC + n') rows') := by
  intro S n ts qs h ht _ hn
  obtain ⟨res, rows', n', hrun, hperm, hinv⟩ := upsertAccounts_sem k env b l id trigsC nrC rowsC S.enter
    ⟨AcTblState.after bne hac.table hac.fresh hac.inv hac.noUpdB h (List.nodup_cons.mp ht).1 hn, h.q0, hac.noUpdA, hac.noInsB, hac.noInsA⟩
    henv am (h.types ▸ hlits) hnd
  rw [h.viewE] at hperm hinv
  exact ⟨_, _, exec_seqRun_mapM (k + 19) env _ rfl S _ _ hrun, (h.bump 1).withTable _ _ rfl, res, rows', n', rfl, rfl, hperm, hinv⟩

/-- UpsertAccounts with both history triggers of `accounts`, in a state `S` as in `Step`. Its end state goes through `amDrainSt`,
    `enter` and `withCid`, and nothing is run after it: stated without the `After` of the state it leaves, so it ends a `.seq`
    chain run by `Step.run`. -/
theorem step_upsertAccounts_hist (k : Nat) (env : Env) (henv : env.ctes = []) (id : Nat) (bne : b.isEmpty = false)
    (hac : CommitAccountsH s b l fullT trigsC nrC rowsC AU1 AU2 trU AI1 AI2 trI fnI fnU nrHA rowsHA sqHA tblHA)
    (am : List (P.AccountRow × DbR)) (hlits : ∀ y ∈ am, DbLit s.w.types y.1 y.2) (hnd : ((am.map (·.2)).map (·.address)).Nodup)
    (items : List AmItem)
    (hitems : items = acUpdItems l (am.map (·.2)) ((rowsC.filter (fun r => r.visible (latestView s.w s.xid))).reverse) ++
      acInsItems l ((am.map (·.2)).filter (fun d => !hasAccount l (acAbs (latestView s.w s.xid) rowsC) d.address)))
    (hrange : sqHA.next + items.length ≤ 9223372036854775807)
    (h : After b s S n ts qs) (ht : "accounts" ∉ ts) (htH : "accounts_metadata" ∉ ts) (hq : amSeqFull b ∉ qs)
    (hn : S.nextCid + (1 + 2 * items.length) ≤ 1000000000) :
    ∃ (res : DmlResult) (rows' : List Ver) (n' : Nat),
      (seqRun (k + 19) env (P.upsertAccounts b l id (am.map (·.1)))).exec S = (.ok [res],
        (amDrainSt b s.xid (S.enter.withTable ((acT b trigsC (nrC + n')).withRows rows')) nrHA sqHA.next rowsHA tblHA items).withCid S.cid) ∧
      (acAbs (latestView s.w s.xid) rows').Perm
        (((am.map (·.2)).filter (fun d => !hasAccount l (acAbs (latestView s.w s.xid) rowsC) d.address)).map (insRow l) ++
          (acAbs (latestView s.w s.xid) rowsC).map (updOf l (am.map (·.2)))) ∧
      AcInv (latestView s.w s.xid) (nrC + n') rows' := by
  have hUS : UpsertStateH S.enter b l trigsC nrC rowsC AU1 AU2 trU AI1 AI2 trI fnI fnU nrHA rowsHA sqHA tblHA :=
    { hac with
      tbl := AcTblState.after bne hac.table hac.fresh hac.inv hac.noUpdB h ht (lt_of_add_succ_le hn)
      q0 := h.q0
      stat := h.funcs ▸ hac.stat
      hist := { hac.hist with table := (h.table _ htH).trans hac.hist.table, seq := (h.seq _ hq).trans hac.hist.seq }
      histView := h.viewE ▸ hac.histView
      histFresh := by
        show Fresh S.xid (S.nextCid + 1) rowsHA
        rw [h.xid, h.cid]; exact hac.histFresh.mono (Nat.le_succ_of_le (Nat.le_add_right _ _)) }
  obtain ⟨res, hrun⟩ := exec_runStmt_upsertAccounts_hist k env b l id trigsC nrC rowsC AU1 AU2 trU AI1 AI2 trI fnI fnU nrHA rowsHA sqHA tblHA
    S.enter hUS henv am (h.types ▸ hlits) hnd items
    (by rw [filter_exAddrs_eq b l trigsC nrC rowsC S.enter hUS.tbl (am.map (·.2)), h.viewE]; exact hitems)
    (Nat.add_assoc .. ▸ hn) hrange
  obtain ⟨hperm, hinv⟩ := upsertAccounts_rows_sem b l trigsC nrC rowsC S.enter hUS.tbl (am.map (·.2)) hnd
  rw [h.viewE] at hperm hinv hrun
  rw [show S.enter.xid = s.xid from h.xid] at hrun hperm hinv
  exact ⟨res, _, _, exec_seqRun_mapM (k + 19) env _ rfl S _ _ hrun, hperm, hinv⟩

end

/-- the state after UpdateVolumes, InsertTransaction (two tables when the history trigger is on) and InsertMoves, counter and
    sequences first (tables as variables: rewriting with the tables of the statements written out is slow) -/
theorem state_after3 (s : St) (q0 q : List Seq) (a b c : Nat) (t1 t2 t3 : Table) :
    (((((((s.bump a).withTable t1).bump b).withSeqs q0).withTable t2).bump c).withSeqs q).withTable t3 =
      ((((s.bump (a + b + c)).withSeqs q).withTable t1).withTable t2).withTable t3 := by
  simp only [bump_comm_table, ← withSeqs_comm_bump, bump_bump, withSeqs_comm_table, withSeqs_withSeqs, Nat.add_assoc]

theorem state_after3H (s : St) (q0 q : List Seq) (a b c : Nat) (t1 t2 t2' t3 : Table) :
    ((((((((s.bump a).withTable t1).bump b).withSeqs q0).withTable t2).withTable t2').bump c).withSeqs q).withTable t3 =
      (((((s.bump (a + b + c)).withSeqs q).withTable t1).withTable t2).withTable t2').withTable t3 := by
  simp only [bump_comm_table, ← withSeqs_comm_bump, bump_bump, withSeqs_comm_table, withSeqs_withSeqs, Nat.add_assoc]

theorem state_after4 (s : St) (q : List Seq) (a : Nat) (t1 t2 t3 t4 : Table) :
    ((((((s.bump a).withSeqs q).withTable t1).withTable t2).withTable t3).bump 1).withTable t4 =
      (((((s.bump (a + 1)).withSeqs q).withTable t1).withTable t2).withTable t3).withTable t4 := by
  simp only [bump_comm_table, ← withSeqs_comm_bump, bump_bump]

/-- the account upserts `Spec.applyTx` performs, in order: the accounts of the postings (with their metadata, if any), then the
    metadata-only accounts -/
def acctBatch (t : TxIn) : List (String × Metadata) :=
  (involvedAccounts t.postings).map (fun a => (a, (t.accountMetadata.get? a).getD [])) ++
    t.accountMetadata.filter (fun e => !(involvedAccounts t.postings).contains e.1)

theorem foldl_acctBatch (t : TxIn) (m : Map String Spec.AccountRow) :
    (acctBatch t).foldl (fun acc e => upsertAccount acc e.1 (some t.timestamp) t.insertedAt e.2) m =
      (t.accountMetadata.filter (fun e => !(involvedAccounts t.postings).contains e.1)).foldl (fun acc e =>
        upsertAccount acc e.1 (some t.timestamp) t.insertedAt e.2)
        ((involvedAccounts t.postings).foldl (fun acc a =>
          upsertAccount acc a (some t.timestamp) t.insertedAt ((t.accountMetadata.get? a).getD [])) m) := by
  unfold acctBatch
  rw [List.foldl_append, List.foldl_map]

theorem applyTx_components {st st' : Store} {t : TxIn} (h : applyTx st t = .ok st') :
    ∃ ms, movesOf (upsertVolumes st.accountsVolumes (volumeUpdates t.postings)).2 t.postings = .ok ms ∧
      st'.accountsVolumes = (upsertVolumes st.accountsVolumes (volumeUpdates t.postings)).1 ∧
      st'.moves = insertMoves st.moves (toRows st.nextSeq st.nextTxId t.insertedAt t.timestamp ms) ∧
      st'.nextSeq = st.nextSeq + ms.length ∧ st'.nextTxId = st.nextTxId + 1 ∧
      (t.upsertAccounts = true →
        st'.accounts = (acctBatch t).foldl (fun acc e => upsertAccount acc e.1 (some t.timestamp) t.insertedAt e.2) st.accounts) := by
  unfold applyTx at h
  simp only at h
  cases hm : movesOf (upsertVolumes st.accountsVolumes (volumeUpdates t.postings)).2 t.postings with
  | error e => rw [hm] at h; cases h
  | ok ms =>
    rw [hm] at h
    cases h
    exact ⟨ms, rfl, rfl, rfl, rfl, rfl, fun hup => by simp only [hup, if_true, foldl_acctBatch]⟩

theorem seqFrom_toRows : ∀ (ms : List Move) (v : Int) (s0 txId : Nat) (ins eff : Int), (s0 : Int) = v →
    SeqFrom v (toRows s0 txId ins eff ms) := by
  intro ms
  induction ms with
  | nil => intro _ _ _ _ _ _; trivial
  | cons m ms ih =>
    intro v s0 txId ins eff h
    exact ⟨h, ih (v + 1) (s0 + 1) txId ins eff (by rw [← h]; push_cast; rfl)⟩

theorem toRows_length : ∀ (ms : List Move) (s0 txId : Nat) (ins eff : Int), (toRows s0 txId ins eff ms).length = ms.length := by
  intro ms
  induction ms with
  | nil => intro _ _ _ _; rfl
  | cons m ms ih => intro s0 txId ins eff; simp [toRows, ih]

/-- From SQL to Spec for volumes, moves and the two sequences: when the rows passed to the statements are those `Spec.applyTx`
    computes (`hvu`, `hpm`) and the sequences stand at the Spec counters, the moves passed are numbered from the `moves` sequence, and
    what the statements' theorems say of the final tables and sequences is what `applyTx st t` holds. -/
theorem applyTx_of_sql {st st' : Store} {t : TxIn} (happly : applyTx st t = .ok st') {l : String}
    {vrows : List P.VolumeRow} (hvu : vuOf vrows = volumeUpdates t.postings)
    {pm : List (P.MoveRow × Spec.MoveRow)}
    (hpm : ∀ ms, movesOf (Spec.upsertVolumes st.accountsVolumes (volumeUpdates t.postings)).2 t.postings = .ok ms →
      pm.map (·.2) = toRows st.nextSeq st.nextTxId t.insertedAt t.timestamp ms)
    {sqT sqM : Seq} (hidT : (st.nextTxId : Int) = sqT.next) (hidM : (st.nextSeq : Int) = sqM.next) :
    SeqFrom sqM.next (pm.map (·.2)) ∧
    ∀ {lv : View} {rsA' rowsM' : List Ver} {seqs' : List Seq} {b fullT : String},
      (∀ k, avView lv rsA' l k = (Spec.upsertVolumes st.accountsVolumes (vuOf vrows)).1.get? k) →
      (ledgerMoves l (mvAbs lv rowsM')).Perm (Spec.insertMoves st.moves (pm.map (·.2))) →
      MvInv lv (sqM.next + pm.length) rowsM' →
      seqs'.find? (·.name == mvSeqFull b) = some { sqM with last := sqM.next + pm.length - 1, called := true } →
      seqs'.find? (·.name == fullT) = some { sqT with last := sqT.next, called := true } →
      (∀ k, avView lv rsA' l k = st'.accountsVolumes.get? k) ∧
      (ledgerMoves l (mvAbs lv rowsM')).Perm st'.moves ∧
      MvInv lv (st'.nextSeq : Int) rowsM' ∧
      (∃ sq', seqs'.find? (·.name == mvSeqFull b) = some sq' ∧ sq'.next = (st'.nextSeq : Int)) ∧
      (∃ sq', seqs'.find? (·.name == fullT) = some sq' ∧ sq'.next = (st'.nextTxId : Int)) := by
  obtain ⟨ms, hm, hav, hmv, hns, hnt, _⟩ := applyTx_components happly
  have hpm' := hpm ms hm
  have hlen : pm.length = ms.length := by
    have := congrArg List.length hpm'
    rwa [List.length_map, toRows_length] at this
  have hseq : ((st'.nextSeq : Nat) : Int) = sqM.next + pm.length := by rw [hns, hlen]; push_cast; omega
  refine ⟨by rw [hpm']; exact seqFrom_toRows ms sqM.next _ _ _ _ hidM, fun {lv rsA' rowsM' seqs' b fullT} hav1 hmv1 hinv hsM hsT => ?_⟩
  refine ⟨fun k => by rw [hav1 k, hvu, hav], by rw [hmv, ← hpm']; exact hmv1, by rw [hseq]; exact hinv, ⟨_, hsM, ?_⟩, ⟨_, hsT, ?_⟩⟩
  · rw [Seq.next_set, hseq]; omega
  · rw [Seq.next_set, hnt]; push_cast; omega

/-- From SQL to Spec for accounts: the table UpsertAccounts leaves (`hperm`) abstracts to the accounts of `applyTx st t` when the
    batch is `acctBatch t` with the dates of the transaction. -/
theorem applyTx_accounts_of_sql {st st' : Store} {t : TxIn} (happly : applyTx st t = .ok st') (hup : t.upsertAccounts = true)
    {l : String} {tbl tbl' : List AcR} {ds : List DbR} (habs : AcAbsTo l tbl st.accounts)
    (hkey' : (tbl'.map (fun a => (a.ledger, a.address))).Nodup)
    (hperm : tbl'.Perm ((ds.filter (fun d => !hasAccount l tbl d.address)).map (insRow l) ++ tbl.map (updOf l ds)))
    (hnd : (ds.map (·.address)).Nodup) (hmeta : ∀ a ∈ tbl, IsMeta a.md)
    (hbatch : ds.map (fun d => (d.address, metaOfJV d.md)) = acctBatch t)
    (hdmeta : ∀ d ∈ ds, IsMeta d.md ∧ d.dm = JV.obj [])
    (hdates : ∀ d ∈ ds, d.fu = t.timestamp ∧ d.ins = t.insertedAt ∧ d.upd = t.insertedAt) :
    AcAbsTo l tbl' st'.accounts := by
  obtain ⟨_, _, _, _, _, _, hacc⟩ := applyTx_components happly
  have hfold := upsert_refines_fold l tbl tbl' ds st.accounts t.insertedAt habs hkey' hperm hnd hmeta hdmeta (fun d hd => (hdates d hd).2)
  have hfu : ∀ (ds : List DbR) (m : Map String Spec.AccountRow), (∀ d ∈ ds, d.fu = t.timestamp) →
      ds.foldl (fun acc d => upsertAccount acc d.address (some d.fu) t.insertedAt (metaOfJV d.md)) m =
      (ds.map (fun d => (d.address, metaOfJV d.md))).foldl (fun acc e => upsertAccount acc e.1 (some t.timestamp) t.insertedAt e.2) m := by
    intro ds
    induction ds with
    | nil => intro m _; rfl
    | cons d rest ih =>
      intro m h
      simp only [List.map_cons, List.foldl_cons, h d (by simp)]
      exact ih _ (fun d' hd' => h d' (by simp [hd']))
  rwa [hfu ds _ (fun d hd => (hdates d hd).1), hbatch, ← hacc hup] at hfold

end Ledger.Sql
