import Ledger.Proofs.SqlSelect
import Ledger.Proofs.SqlPure

/-!
# The phases of a statement that only evaluate expressions, from the values `pv` gives them

Index predicate, WHERE of UPDATE, ON of a join, CHECK constraints, RETURNING list, VALUES row, ORDER BY key, SET list: each runs
`evalExpr` on expressions of the statement in an environment built from the row at hand and leaves the state alone. The
hypotheses are equations `pv … e = .ok v` in that environment; the SET list and the VALUES row are also stated for items that read the state at hand (a sub-query, the
transaction's date): `SetOk`, `EvalsAt`.
-/
namespace Ledger.Sql

theorem exec_truthTest {cb : Callbacks} {te : TypeEnv} {env : Env} {e : Expr} {v : Value} {tv : Option Bool}
    (h : Evals cb te env e v) (ht : v.truth = .ok tv) (s : St) :
    (do
      let v ← evalExpr cb te env e
      pure ((← liftR v.truth) == some true)).exec s = (.ok (tv == some true), s) :=
  exec_seq (h s) (exec_seq (exec_liftR_of ht s) rfl)

/-- the WHERE clause of UPDATE / DELETE on the rows `scopes`, its value given in state `s` -/
theorem exec_whereHolds {n : Nat} {env : Env} {wher : Expr} {scopes : List Scope} {b : Bool} {s : St}
    (h : (evalExpr (cbs n) s.w.types { env with locals := scopes } wher).exec s = (.ok (.bool b), s)) :
    (whereHolds (n + 1) env (some wher) scopes).exec s = (.ok b, s) := by
  rw [whereHolds]
  refine exec_seq (exec_typeEnv s) (exec_seq h ?_)
  cases b <;> rfl

/-- the same from the truth value of the clause, as a statement's meaning gives it when the clause may be NULL -/
theorem exec_whereHolds_of (n : Nat) (env : Env) (wher : Expr) (scopes : List Scope) (s : St) (c : Bool)
    (h : (evalExpr (cbs n) s.w.types { env with locals := scopes } wher >>= fun v => liftR v.truth).exec s = (.ok (some c), s)) :
    (whereHolds (n + 1) env (some wher) scopes).exec s = (.ok c, s) := by
  rw [whereHolds]
  have e : (do
      let te ← typeEnv
      let v ← evalExpr (cbs n) te { env with locals := scopes } wher
      pure ((← liftR v.truth) == some true) : M Bool) =
      (do
        let te ← typeEnv
        let t ← (evalExpr (cbs n) te { env with locals := scopes } wher >>= fun v => liftR v.truth)
        pure (t == some true)) := by
    simp only [bind_assoc]
  rw [e]
  simp only [exec_bind, exec_typeEnv, h, exec_pure]
  cases c <;> rfl

theorem exec_predHolds_pv (t : Table) (e : Expr) (vals : List Value) (v : Value) (tv : Option Bool) (s : St)
    (h : pv s.w.types { locals := [rowScope t (baseName t.name) vals] } e = .ok v) (ht : v.truth = .ok tv) :
    (predHolds t (some e) vals).exec s = (.ok (tv == some true), s) :=
  exec_seq (exec_typeEnv s) (exec_truthTest (.of_pv e h) ht s)

theorem exec_onHolds_pv (cb : Callbacks) (te : TypeEnv) (env : Env) (scopes : List Scope) (c : Expr) (v : Value) (tv : Option Bool)
    (s : St) (h : pv te { env with locals := scopes } c = .ok v) (ht : v.truth = .ok tv) :
    (onHolds cb te env scopes (some c)).exec s = (.ok (tv == some true), s) :=
  exec_truthTest (.of_pv c h) ht s

theorem exec_checkChecks_pv (t : Table) (vals : List Value) (s : St) : ∀ (cks : List CheckDef),
    (∀ ck ∈ cks, ∃ v tv, pv s.w.types { locals := [rowScope t (baseName t.name) vals] } ck.e = .ok v ∧ v.truth = .ok tv ∧
      tv ≠ some false) →
    (checkChecks t vals cks).exec s = (.ok (), s)
  | [], _ => rfl
  | ck :: cks, h => by
    obtain ⟨v, tv, hv, ht, hne⟩ := h ck (List.mem_cons_self ..)
    rw [checkChecks]
    refine exec_seq (exec_typeEnv s) (exec_seq (Evals.of_pv ck.e hv s) (exec_seq (exec_liftR_of ht s) ?_))
    rw [if_neg (by simpa using hne)]
    exact exec_checkChecks_pv t vals s cks (fun c hc => h c (List.mem_cons_of_mem _ hc))

theorem exec_checkConstraints_pv (t : Table) (vals : List Value) (s : St) (hnn : notNullViolation t t.cols vals = none)
    (hck : ∀ ck ∈ t.checks, ∃ v tv, pv s.w.types { locals := [rowScope t (baseName t.name) vals] } ck.e = .ok v ∧ v.truth = .ok tv ∧
      tv ≠ some false) :
    (checkConstraints t vals).exec s = (.ok (), s) := by
  simp only [checkConstraints, hnn]
  exact exec_checkChecks_pv t vals s t.checks hck

theorem exec_valuesItem {cb : Callbacks} {te : TypeEnv} {env : Env} {e : Expr} {a : Value} {s : St} (hd : e ≠ .dflt)
    (h : (evalExpr cb te env e).exec s = (.ok a, s)) :
    (match (generalizing := false) e with
      | .dflt => pure none
      | e => do
        let x ← evalExpr cb te env e
        pure (some x) : M (Option Value)).exec s = (.ok (some a), s) := by
  cases e <;> first | exact absurd rfl hd | exact exec_seq h rfl

/-- in state `s` the expressions `es` have the values `vs`, one by one, and leave the state alone (their values may depend on the
    state: sub-queries) -/
def EvalsAt (cb : Callbacks) (te : TypeEnv) (env : Env) (s : St) : List Expr → List Value → Prop
  | [], [] => True
  | e :: es, v :: vs => (evalExpr cb te env e).exec s = (.ok v, s) ∧ EvalsAt cb te env s es vs
  | _, _ => False

theorem EvalsAt.of_pvs {cb : Callbacks} {te : TypeEnv} {env : Env} (s : St) : ∀ (es : List Expr) {vs : List Value},
    pvs te env es = .ok vs → EvalsAt cb te env s es vs
  | [], vs, h => by rw [pvs] at h; cases h; trivial
  | e :: es, vs, h => by
    rw [pvs] at h
    obtain ⟨a, ha, h⟩ := Except.bind_ok (x := pv te env e) h
    obtain ⟨as, has, h⟩ := Except.bind_ok (x := pvs te env es) h
    cases h
    exact ⟨Evals.of_pv e ha s, EvalsAt.of_pvs s es has⟩

/-- a VALUES row without `DEFAULT`, its items evaluated one by one in state `s` (an item may run a sub-query) -/
theorem exec_evalValuesRow_at (n : Nat) (env : Env) (es : List Expr) (vs : List Value) (s : St) (hd : ∀ e ∈ es, e ≠ .dflt)
    (h : EvalsAt (cbs n) s.w.types env s es vs) : (evalValuesRow (n + 1) env es).exec s = (.ok (vs.map some), s) := by
  rw [evalValuesRow]
  refine exec_seq (exec_typeEnv s) ?_
  induction es generalizing vs with
  | nil => cases vs <;> first | rfl | exact h.elim
  | cons e es ih =>
    cases vs with
    | nil => exact h.elim
    | cons v vs =>
      exact exec_mapM_cons_ok (exec_valuesItem (hd e (List.mem_cons_self ..)) h.1)
        (ih vs (fun e he => hd e (List.mem_cons_of_mem _ he)) h.2)

theorem exec_evalValuesRow_pv (n : Nat) (env : Env) (es : List Expr) (vs : List Value) (s : St) (hd : ∀ e ∈ es, e ≠ .dflt)
    (h : pvs s.w.types env es = .ok vs) : (evalValuesRow (n + 1) env es).exec s = (.ok (vs.map some), s) :=
  exec_evalValuesRow_at n env es vs s hd (.of_pvs s es h)

theorem exec_foldlM_exprItems (cb : Callbacks) (te : TypeEnv) (env : Env) (s : St)
    (F : List String × List Value → SelItem → M (List String × List Value))
    (hF : ∀ acc e a v, (evalExpr cb te env e).exec s = (.ok v, s) →
      (F acc (.expr e a)).exec s = (.ok (acc.1 ++ [if a.isEmpty then exprOutName e else a], acc.2 ++ [v]), s)) :
    ∀ (es : List (Expr × String)) (vs : List Value) (acc : List String × List Value), EvalsAt cb te env s (es.map (·.1)) vs →
      ((es.map (fun p => SelItem.expr p.1 p.2)).foldlM F acc).exec s = (.ok (acc.1 ++ outNames es, acc.2 ++ vs), s) := by
  intro es
  induction es with
  | nil => intro vs acc h; cases vs <;> simp_all [outNames, EvalsAt]
  | cons p ps ih =>
    intro vs acc h
    cases vs with
    | nil => exact h.elim
    | cons v vs =>
      rw [List.map_cons, exec_foldlM_cons, hF _ _ _ _ h.1]
      simp only [ih vs _ h.2]
      simp [outNames, List.append_assoc]

/-- RETURNING a list of expressions: their values on the written row `vals` joined with `extra` -/
theorem exec_evalReturning_exprs (n : Nat) (env : Env) (t : Table) (alias : String) (vals : List Value) (extra : List Scope)
    (es : List (Expr × String)) (vs : List Value) (s : St)
    (h : EvalsAt (cbs n) s.w.types
      { env with locals := [{ alias := if alias.isEmpty then baseName t.name else alias, cols := t.colNames, vals := vals }] ++ extra }
      s (es.map (·.1)) vs) :
    (evalReturning (n + 1) env t alias vals extra (es.map (fun p => SelItem.expr p.1 p.2))).exec s = (.ok (outNames es, vs), s) := by
  rw [evalReturning]
  apply exec_seq (exec_typeEnv s)
  exact exec_foldlM_exprItems _ _ _ s _ (fun _ _ _ _ h => exec_seq h rfl) es vs ([], []) h

theorem exec_evalReturning_pv (n : Nat) (env : Env) (t : Table) (alias : String) (vals : List Value) (extra : List Scope)
    (es : List (Expr × String)) (vs : List Value) (s : St)
    (h : pvs s.w.types
      { env with locals := [{ alias := if alias.isEmpty then baseName t.name else alias, cols := t.colNames, vals := vals }] ++ extra }
      (es.map (·.1)) = .ok vs) :
    (evalReturning (n + 1) env t alias vals extra (es.map (fun p => SelItem.expr p.1 p.2))).exec s = (.ok (outNames es, vs), s) :=
  exec_evalReturning_exprs n env t alias vals extra es vs s (.of_pvs s _ h)

/-- an ORDER BY item that is neither an output column nor an ordinal is evaluated on the input row -/
theorem exec_orderKeyM_pv (cb : Callbacks) (te : TypeEnv) (env : Env) (cols : List String) (r : OutRow) (e : Expr) (d : Bool)
    (nl : NullsOrder) (v : Value) (s : St) (hcol : ∀ name, e = .col "" name → colIndex cols name = none) (hint : ∀ k, e ≠ .int k)
    (h : pv te { env with locals := r.locals, outer := [{ alias := "", cols := cols, vals := r.vals }] ++ env.outer,
                          group := r.group, wins := r.wins } e = .ok v) :
    (orderKeyM cb te env cols r (.mk e d nl)).exec s = (.ok v, s) := by
  simp only [orderKeyM]
  split
  · next i hi =>
    split at hi
    · rw [hcol _ rfl] at hi; cases hi
    · exact absurd rfl (hint _)
    · cases hi
  · exact Evals.of_pv e h s

/-! ### SET lists of any length -/

/-- one SET item in state `s`: the column exists, the expression (not `DEFAULT`) has a value and leaves the state alone (it may read
    it: a sub-query, the transaction's date), the value casts to the column type -/
def SetOk (cb : Callbacks) (te : TypeEnv) (env : Env) (t : Table) (s : St) (si : SetItem) (a : String × Value) : Prop :=
  ∃ e cd v, si = .mk a.1 e ∧ e ≠ .dflt ∧ t.cols.find? (·.name == a.1) = some cd ∧ (evalExpr cb te env e).exec s = (.ok v, s) ∧
    castTo te cd.ty v = .ok a.2

theorem SetOk.of_pv {cb : Callbacks} {te : TypeEnv} {env : Env} {t : Table} {s : St} {c : String} {e : Expr} {cd : ColDef} {v w : Value}
    (hf : t.cols.find? (·.name == c) = some cd) (he : pv te env e = .ok v) (hc : castTo te cd.ty v = .ok w) :
    SetOk cb te env t s (.mk c e) (c, w) :=
  ⟨e, cd, v, rfl, (fun h => by subst h; rw [pv] at he; cases he), hf, Evals.of_pv e he s, hc⟩

def SetsOk (cb : Callbacks) (te : TypeEnv) (env : Env) (t : Table) (s : St) : List SetItem → List (String × Value) → Prop
  | [], [] => True
  | si :: sets, a :: as => SetOk cb te env t s si a ∧ SetsOk cb te env t s sets as
  | _, _ => False

theorem exec_applySets_all (n : Nat) (env : Env) (t : Table) (old : List Value) (sets : List SetItem) (as : List (String × Value))
    (s : St) (h : SetsOk (cbs n) s.w.types env t s sets as) :
    (applySets (n + 1) env t old sets).exec s = (.ok ((t.cols.zip old).map (fun p => (as.lookup p.1.name).getD p.2)), s) := by
  rw [applySets]
  refine exec_seq (exec_typeEnv s) (exec_seq (a := as) (s' := s) ?_ rfl)
  suffices ∀ (sets : List SetItem) (as acc : List (String × Value)) (F : List (String × Value) → SetItem → M (List (String × Value))),
      (∀ acc c e cd v w, e ≠ .dflt → t.cols.find? (·.name == c) = some cd → (evalExpr (cbs n) s.w.types env e).exec s = (.ok v, s) →
        castTo s.w.types cd.ty v = .ok w → (F acc (.mk c e)).exec s = (.ok (acc ++ [(c, w)]), s)) →
      SetsOk (cbs n) s.w.types env t s sets as → (sets.foldlM F acc).exec s = (.ok (acc ++ as), s) from
    this sets as [] _ (fun acc c e cd v w hd hf he hc => by
      simp only [exec_bind, hf, he, hc, exec_liftR_ok, exec_pure]) h
  intro sets
  induction sets with
  | nil => intro as acc F _ h; cases as <;> simp_all [SetsOk]
  | cons si sets ih =>
    intro as acc F hF h
    cases as with
    | nil => exact h.elim
    | cons a as =>
      obtain ⟨⟨e, cd, v, rfl, hd, hf, he, hc⟩, hrest⟩ := h
      rw [exec_foldlM_cons, hF acc a.1 e cd v a.2 hd hf he hc]
      simp only [ih as _ F hF hrest, List.append_assoc, List.cons_append, List.nil_append]

/-- `RETURNING c₁, …, cₙ`, columns of the written row `vals` of `t`: their values are appended -/
theorem exec_accReturning_cols (k : Nat) (env : Env) (t : Table) (alias : String) (vals : List Value) (cs : List String) (vs : List Value)
    (acc : DmlAcc) (s : St) (hne : cs.isEmpty = false) (h : cs.map (lookupIn t.colNames vals) = vs.map some) :
    (accReturning (k + 2) env t alias vals [] (cs.map fun c => SelItem.expr (Expr.col "" c) "") acc).exec s =
      (.ok { retCols := cs, retRows := acc.retRows ++ [vs], affected := acc.affected + 1 }, s) := by
  generalize hsc : ({ alias := if alias.isEmpty then baseName t.name else alias, cols := t.colNames, vals := vals } : Scope) = sc
  have hpvs : ∀ (cs : List String) (vs : List Value), cs.map (lookupIn sc.cols sc.vals) = vs.map some →
      pvs s.w.types { env with locals := [sc] ++ [] } ((cs.map fun c => ((Expr.col "" c, "") : Expr × String)).map (·.1)) = .ok vs := by
    intro cs
    induction cs with
    | nil => intro vs h; cases vs <;> first | rfl | cases h
    | cons c cs ih =>
      intro vs h
      match vs, h with
      | v :: vs, h =>
        rw [List.map_cons, List.map_cons, List.cons.injEq] at h
        simp only [List.map_cons, pvs, pv, lookupColumn_head { env with locals := [sc] ++ [] } sc env.outer c v rfl h.1]
        rw [ih vs h.2]; rfl
  have hret := exec_evalReturning_pv k env t alias vals [] (cs.map fun c => (Expr.col "" c, "")) vs s
    (by rw [hsc]; exact hpvs cs vs (by rw [← hsc]; exact h))
  rw [List.map_map] at hret
  rw [accReturning]
  simp only [List.isEmpty_map, hne, Bool.false_eq_true, if_false]
  have hn : outNames (cs.map fun c => ((Expr.col "" c, "") : Expr × String)) = cs := by
    unfold outNames; rw [List.map_map]; exact (List.map_congr_left fun c _ => rfl).trans (List.map_id _)
  exact exec_seq hret (by rw [hn]; rfl)

end Ledger.Sql
