import Ledger.Proofs.ReplStep

/-! The two invariants of `Ledger.Repl.step` that hold in every configuration: `WF`
(control structure) and `Clean` (the batcher's acknowledgement rule). -/
namespace Ledger.Repl
variable {c : Cfg} {s s' : State} {h h' : Handler} {l : Label}

theorem PcOk.mono {n n' : Nat} (p : PcOk n h) (le : n ≤ n') : PcOk n' h := by
  cases hpc : h.pc <;> simp only [PcOk, hpc] at p ⊢ <;> omega

namespace WF

theorem of_none (hh : s.handler = none) (hc : s.cur = none) (hp : s.pending = none) : WF s := by
  constructor <;> simp [hh, hc, hp]

theorem of_some (hh : s.handler = some h) (up : s.mgrUp = true ∧ s.created = true) (ok : PcOk s.nLogs h)
    (busy : ∀ m, h.pc = .sending m → s.cur ≠ none)
    (stop : h.stopReq = true → s.pending ≠ none ∧ (h.pc = .atFetch ∨ ∃ m, h.pc = .sending m))
    (run : h.stopReq = false → s.pending = none) : WF s := by
  refine ⟨?_, ?_, ?_, fun hp => ⟨h, hh, ?_⟩, ?_, fun _ => up⟩
  · intro _ e; cases hh.symm.trans e; exact ok
  · intro _ m e; cases hh.symm.trans e; exact busy m
  · intro e; cases hh.symm.trans e
  · cases hs : h.stopReq
    · exact absurd (run hs) hp
    · rfl
  · intro _ e; cases hh.symm.trans e; exact stop

theorem up (w : WF s) (hh : s.handler = some h) : s.mgrUp = true ∧ s.created = true :=
  w.handlerUp (by rw [hh]; nofun)

theorem handler_none (w : WF s) (h : ¬ (s.mgrUp = true ∧ s.created = true)) : s.handler = none := by
  cases hh : s.handler with
  | none => rfl
  | some x => exact absurd (w.up hh) h

theorem pending_none (w : WF s) (hn : s.handler = none) : s.pending = none := by
  cases hp : s.pending with
  | none => rfl
  | some op =>
    obtain ⟨_, e, _⟩ := w.pendingStop (by rw [hp]; nofun)
    cases hn.symm.trans e

theorem idle (w : WF s) (hh : s.handler = some h) (hns : h.stopReq = false) : s.pending = none := by
  cases hp : s.pending with
  | none => rfl
  | some op =>
    obtain ⟨_, e, hs⟩ := w.pendingStop (by rw [hp]; nofun)
    cases hh.symm.trans e
    cases hns.symm.trans hs

/-- a stop signal stays unnoticed only inside `ListLogs` and in the channel send -/
theorem running {p : Pc} (w : WF s) (hh : s.handler = some h) (hpc : h.pc = p) (h1 : p ≠ .atFetch)
    (h2 : ∀ m, p ≠ .sending m) : h.stopReq = false := by
  cases hs : h.stopReq with
  | false => rfl
  | true =>
    rcases (w.stopPending h hh hs).2 with e | ⟨m, e⟩
    · exact absurd (hpc.symm.trans e) h1
    · exact absurd (hpc.symm.trans e) (h2 m)

theorem congr (w : WF s) (h1 : s.nLogs ≤ s'.nLogs) (h2 : s'.handler = s.handler) (h3 : s'.cur = s.cur)
    (h4 : s'.pending = s.pending) (h5 : s'.mgrUp = s.mgrUp) (h6 : s'.created = s.created) : WF s' := by
  refine ⟨fun h hh => (w.pcOk h (h2 ▸ hh)).mono h1, ?_, ?_, ?_, ?_, ?_⟩
  · rw [h2, h3]; exact w.sendingBusy
  · rw [h2, h3]; exact w.curNone
  · rw [h2, h4]; exact w.pendingStop
  · rw [h2, h4]; exact w.stopPending
  · rw [h2, h5, h6]; exact w.handlerUp

/-- The handler moves on: the stop flag stays, and a handler with the flag set must end
    up where it cannot see the signal. -/
theorem setHandler (w : WF s) (hh : s.handler = some h) (hs : h'.stopReq = h.stopReq) (ok : PcOk s.nLogs h')
    (busy : ∀ m, h'.pc = .sending m → s.cur ≠ none)
    (stop : h.stopReq = false ∨ h'.pc = .atFetch ∨ ∃ m, h'.pc = .sending m) :
    WF { s with handler := some h' } :=
  of_some rfl (w.up hh) ok busy
    (fun e => ⟨(w.stopPending h hh (hs ▸ e)).1, stop.resolve_left (by rw [← hs, e]; nofun)⟩)
    (fun e => w.idle hh (hs ▸ e))

theorem setCur {cur' : Option Nat} (w : WF s) (hh : s.handler = some h) (hc : cur' ≠ none) : WF { s with cur := cur' } :=
  ⟨w.pcOk, fun _ _ _ _ => hc, (fun e => nomatch hh.symm.trans e), w.pendingStop, w.stopPending, w.handlerUp⟩

theorem clearCur (w : WF s) (hns : ∀ h m, s.handler = some h → h.pc ≠ .sending m) : WF { s with cur := none } :=
  ⟨w.pcOk, fun h m hh e => absurd e (hns h m hh), fun _ => rfl, w.pendingStop, w.stopPending, w.handlerUp⟩

end WF

theorem wf_startHandler {last : Nat} (hu : s.mgrUp = true ∧ s.created = true)
    (hp : s.pending = none) : WF (startHandler s last) :=
  .of_some rfl hu trivial (fun _ => nofun) nofun (fun _ => hp)

theorem wf_finishOp (hh : s.handler = none) (hc : s.cur = none)
    (hu : s.mgrUp = true ∧ s.created = true) : WF (finishOp s) := by
  unfold finishOp
  split
  · exact .of_none hh hc ‹_›
  · exact .of_none hh hc rfl
  · exact wf_startHandler hu rfl
  · exact .of_none hh hc rfl

theorem wf_exit (hu : s.mgrUp = true ∧ s.created = true) : WF (exitHandler c s) := by
  unfold exitHandler
  split
  · exact wf_finishOp rfl ‹_› hu
  · split <;> exact wf_finishOp rfl rfl hu

/-- The handler goes on as `h'` or returns: its flag says whether an operation waits, and a handler with the
    flag set ends up where it cannot see the signal (that is `Cont.on`). -/
theorem wf_cont (k : Cont c s h' s') (up : s.mgrUp = true ∧ s.created = true)
    (run : h'.stopReq = false → s.pending = none) (stop : h'.stopReq = true → s.pending ≠ none)
    (ok : PcOk s.nLogs h') (busy : ∀ m, h'.pc = .sending m → s.cur ≠ none) : WF s' := by
  cases k with
  | on st => exact .of_some rfl up ok busy (fun e => ⟨stop e, st e⟩) run
  | exit => exact wf_exit up

theorem Cont.wf (k : Cont c s h' s') (w : WF s) (hh : s.handler = some h) (hs : h'.stopReq = h.stopReq)
    (ok : PcOk s.nLogs h') (busy : ∀ m, h'.pc = .sending m → s.cur ≠ none) : WF s' :=
  wf_cont k (w.up hh) (fun e => w.idle hh (hs ▸ e)) (fun e => (w.stopPending h hh (hs ▸ e)).1) ok busy

theorem wf_exporterCall (w : WF s) (a b : Nat) (r : AcceptRes) : WF (exporterCall s a b r) := by
  obtain ⟨_, _, _, e⟩ := exporterCall_eq s a b r
  rw [e]
  exact w.congr (Nat.le_refl _) rfl rfl rfl rfl rfl

theorem wf_step (w : WF s) (hs : step c s l = some s') : WF s' := by
  cases Step.of_step hs with
  | skip => exact w
  | append n => exact w.congr (Nat.le_add_right ..) rfl rfl rfl rfl rfl
  | create ho => exact wf_startHandler ⟨(opsOpen_iff.mp ho).1, rfl⟩ (opsOpen_iff.mp ho).2
  | restart _ ho hc => exact wf_startHandler ⟨(opsOpen_iff.mp ho).1, hc⟩ (opsOpen_iff.mp ho).2
  | @halt h _ _ op _ _ _ hh k =>
    exact wf_cont k (w.up hh) nofun (fun _ => nofun) (w.pcOk h hh) (fun m => w.sendingBusy h m hh)
  | resetIdle _ hn => exact .of_none hn (w.curNone hn) (w.pending_none hn)
  | mgrStopIdle hn => exact .of_none hn (w.curNone hn) (w.pending_none hn)
  | mgrStartRun _ hp hc => exact wf_startHandler ⟨rfl, hc⟩ hp
  | mgrStartIdle hm =>
    have hn := w.handler_none (by rw [hm]; nofun)
    exact .of_none hn (w.curNone hn) (w.pending_none hn)
  | fetchPage more hh _ h1 h2 _ k => exact k.wf w hh rfl ⟨rfl, h1, h2, Nat.le_refl _, h1⟩ (fun _ => nofun)
  | fetchNone ok z hh _ hn k =>
    exact k.wf w hh rfl (by rcases hn with rfl | rfl <;> trivial) (by rcases hn with rfl | rfl <;> exact fun _ => nofun)
  | acceptChunk r hh hpc hlt =>
    have hok := w.pcOk _ hh
    simp only [PcOk, hpc] at hok
    have hb := chunkEnd_bounds (c := c) hok.2.2.2.2
    exact (wf_exporterCall w ..).setHandler ((exporterCall_handler ..).trans hh) rfl
      ⟨hok.1, hok.2.1, (exporterCall_nLogs ..).symm ▸ hok.2.2.1, by omega, hlt⟩
      (fun _ => nofun) (.inl (w.running hh hpc nofun (fun _ => nofun)))
  | acceptFailed r hh hpc k =>
    have hok := w.pcOk _ hh
    simp only [PcOk, hpc] at hok
    exact k.wf (wf_exporterCall w ..) ((exporterCall_handler ..).trans hh) rfl
      ⟨hok.1, hok.2.1, (exporterCall_nLogs ..).symm ▸ hok.2.2.1⟩ (fun _ => nofun)
  | acceptDone hh hpc _ hq _ hc k =>
    refine k.wf ?_ ((exporterCall_handler ..).trans hh) rfl (by rcases hq with rfl | rfl | rfl <;> trivial) (fun _ _ => hc)
    exact ((wf_exporterCall w ..).setCur ((exporterCall_handler ..).trans hh) hc).congr (Nat.le_refl _) rfl rfl rfl rfl rfl
  | persistOrphan => exact w.congr (Nat.le_refl _) rfl rfl rfl rfl rfl
  | persistCur _ _ _ hns => exact (w.clearCur hns).congr (Nat.le_refl _) rfl rfl rfl rfl rfl
  | persistSend _ _ _ hh _ _ hq k =>
    refine k.wf ?_ hh rfl (by rcases hq with rfl | rfl <;> trivial) (by rcases hq with rfl | rfl <;> exact fun _ => nofun)
    exact (w.setCur hh (Option.some_ne_none _)).congr (Nat.le_refl _) rfl rfl rfl rfl rfl
  | @tickWake h _ hh hpc hn =>
    have hns : h.stopReq = false := by
      rcases hpc with e | e <;> exact w.running hh e nofun (fun _ => nofun)
    rcases hn with rfl | rfl <;> exact w.setHandler hh rfl trivial (fun _ => nofun) (.inl hns)
  | tickRetry hh hpc =>
    have hok := w.pcOk _ hh
    simp only [PcOk, hpc] at hok
    exact w.setHandler hh rfl ⟨hok.1, hok.2.1, hok.2.2, Nat.le_refl _, hok.2.1⟩ (fun _ => nofun)
      (.inl (w.running hh hpc nofun (fun _ => nofun)))
  | tickFlush hh hpc =>
    have hok := w.pcOk _ hh
    simp only [PcOk, hpc] at hok
    exact w.setHandler hh rfl hok (fun _ => nofun)
      (.inl (w.running hh hpc nofun (fun _ => nofun)))

theorem wf_reach (r : Reach c s) : WF s := by
  induction r with
  | init => exact .of_none rfl rfl rfl
  | step l _ hs ih => exact wf_step ih hs

def PcClean (acked : List Nat) (pc : Pc) : Prop :=
  ∀ lo hi m pos g, pc = .exporting lo hi m pos false g → ∀ k, lo < k → k ≤ pos → k ∈ acked

theorem PcClean.of_le {a : List Nat} {pc : Pc} (h : ∀ lo hi m pos g, pc = .exporting lo hi m pos false g → pos ≤ lo) :
    PcClean a pc := fun lo hi m pos g e k h1 h2 => by have := h lo hi m pos g e; omega

theorem pcClean_enterExport {a : List Nat} {lo hi : Nat} {more : Bool} : PcClean a (enterExport c lo hi more) :=
  .of_le fun _ _ _ _ _ e => by cases e; exact Nat.le_refl _

theorem Clean.pc (cl : Clean s) (hh : s.handler = some h) : PcClean s.acked h.pc :=
  fun lo hi m pos g => cl h lo hi m pos g hh

theorem Clean.of_none (hn : s.handler = none) : Clean s :=
  fun _ _ _ _ _ _ hh => nomatch hn.symm.trans hh

theorem clean_setHandler (hc : PcClean s.acked h'.pc) : Clean { s with handler := some h' } := by
  intro h lo hi m pos g hh
  cases hh
  exact hc lo hi m pos g

theorem Clean.congr (cl : Clean s) (hh : s'.handler = s.handler) (hm : ∀ k, k ∈ s.acked → k ∈ s'.acked) : Clean s' :=
  fun h lo hi m pos g hh' hpc k h1 h2 => hm k (cl h lo hi m pos g (hh ▸ hh') hpc k h1 h2)

theorem clean_startHandler (s : State) (last : Nat) : Clean (startHandler s last) :=
  clean_setHandler (.of_le fun _ _ _ _ _ => nofun)

theorem clean_finishOp (hh : s.handler = none) : Clean (finishOp s) := by
  unfold finishOp
  split
  · exact .of_none hh
  · exact .of_none hh
  · exact clean_startHandler _ _
  · exact .of_none hh

theorem clean_exit (c : Cfg) (s : State) : Clean (exitHandler c s) := by
  unfold exitHandler
  split
  · exact clean_finishOp rfl
  · split <;> exact clean_finishOp rfl

theorem Cont.clean (k : Cont c s h' s') (hc : PcClean s.acked h'.pc) : Clean s' := by
  cases k with
  | on => exact clean_setHandler hc
  | exit => exact clean_exit c s

theorem exporterCall_acked_mono (s : State) (a b : Nat) (r : AcceptRes) :
    ∀ k, k ∈ s.acked → k ∈ (exporterCall s a b r).acked := by
  intro k hk
  cases r
  case fail | lost => exact hk
  all_goals exact List.mem_append_right _ hk

theorem exporterCall_ok_acked {a b k : Nat} (h1 : a < k) (h2 : k ≤ b) : k ∈ (exporterCall s a b .ok).acked :=
  List.mem_append_left _ (mem_idsOf.mpr ⟨h1, h2⟩)

/-- A page whose last chunk comes back `ok` with no failure before is acknowledged as a
    whole: the earlier chunks by `Clean`, the last one by this call. -/
theorem Clean.page_acked {lo hi pos e k : Nat} {m g : Bool} (cl : Clean s)
    (hh : s.handler = some h) (hpc : h.pc = .exporting lo hi m pos false g) (h1 : lo < k) (h2 : k ≤ e) :
    k ∈ (exporterCall s pos e .ok).acked := by
  by_cases hkp : k ≤ pos
  · exact exporterCall_acked_mono s _ _ _ k (cl.pc hh _ _ _ _ _ hpc k h1 hkp)
  · exact exporterCall_ok_acked (by omega) h2

theorem clean_step (cl : Clean s) (hs : step c s l = some s') : Clean s' := by
  cases Step.of_step hs with
  | skip => exact cl
  | append | mgrStopIdle | mgrStartIdle | persistOrphan | persistCur => exact cl.congr rfl (fun _ h => h)
  | create | restart | mgrStartRun => exact clean_startHandler _ _
  | @halt h _ _ _ _ _ _ hh k => exact k.clean (cl.pc (h := h) hh)
  | resetIdle _ hn => exact .of_none hn
  | fetchPage _ _ _ _ _ _ k => exact k.clean pcClean_enterExport
  | fetchNone _ _ _ _ hn k => exact k.clean (by rcases hn with rfl | rfl <;> exact .of_le fun _ _ _ _ _ => nofun)
  | @acceptChunk h lo hi more pos bad r hh hpc =>
    apply clean_setHandler
    intro _ _ _ _ _ e k h1 h2
    injection e with e1 _ _ e4 hb
    subst e1 e4
    simp only [Bool.or_eq_false_iff, Bool.not_eq_false'] at hb
    obtain ⟨rfl, hr⟩ := hb
    cases r <;> cases hr
    exact cl.page_acked hh hpc h1 h2
  | acceptFailed _ _ _ k => exact k.clean (.of_le fun _ _ _ _ _ => nofun)
  | acceptDone _ _ _ hq _ _ k => exact k.clean (by rcases hq with rfl | rfl | rfl <;> exact .of_le fun _ _ _ _ _ => nofun)
  | persistSend _ _ _ _ _ _ hq k => exact k.clean (by rcases hq with rfl | rfl <;> exact .of_le fun _ _ _ _ _ => nofun)
  | tickWake _ _ hn => exact clean_setHandler (by rcases hn with rfl | rfl <;> exact .of_le fun _ _ _ _ _ => nofun)
  | tickRetry => exact clean_setHandler pcClean_enterExport
  | tickFlush hh hpc =>
    exact clean_setHandler fun _ _ _ _ _ e => by cases e; exact cl.pc hh _ _ _ _ _ hpc

theorem clean_reach (r : Reach c s) : Clean s := by
  induction r with
  | init => exact .of_none rfl
  | step l _ hs ih => exact clean_step ih hs

end Ledger.Repl
