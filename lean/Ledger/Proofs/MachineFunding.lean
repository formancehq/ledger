import Ledger.Machine.Funding

/-! Lemmas on the funding operations (`Take`, `TakeMax`, `Concat`, `Reverse`, `Total`).
    Conservation is stated per class of accounts (`totalOf P`); `total` is the class of
    all accounts. -/
namespace Ledger.Machine

def totalOf (P : String → Bool) : List Part → Int
  | [] => 0
  | p :: ps => (if P p.account then p.amount else 0) + totalOf P ps

theorem total_eq_totalOf (ps : List Part) : total ps = totalOf (fun _ => true) ps := by
  induction ps with
  | nil => rfl
  | cons p ps ih => simp [total, totalOf, ih]

theorem total_cons (p : Part) (ps : List Part) : total (p :: ps) = p.amount + total ps := rfl

theorem totalOf_append (P : String → Bool) (a b : List Part) :
    totalOf P (a ++ b) = totalOf P a + totalOf P b := by
  induction a with
  | nil => simp [totalOf]
  | cons p ps ih => simp only [List.cons_append, totalOf, ih]; omega

theorem totalOf_reverse (P : String → Bool) (a : List Part) : totalOf P a.reverse = totalOf P a := by
  induction a with
  | nil => rfl
  | cons p ps ih => simp only [List.reverse_cons, totalOf_append, totalOf, ih]; omega

theorem total_append (a b : List Part) : total (a ++ b) = total a + total b := by
  simp only [total_eq_totalOf, totalOf_append]

theorem total_reverse (a : List Part) : total a.reverse = total a := by
  simp only [total_eq_totalOf, totalOf_reverse]

theorem partsNonneg_nil : partsNonneg [] := nofun

theorem partsNonneg_cons {p : Part} {ps : List Part} :
    partsNonneg (p :: ps) ↔ 0 ≤ p.amount ∧ partsNonneg ps := List.forall_mem_cons

theorem partsNonneg_append {a b : List Part} :
    partsNonneg (a ++ b) ↔ partsNonneg a ∧ partsNonneg b := List.forall_mem_append

theorem partsNonneg_reverse {a : List Part} (h : partsNonneg a) : partsNonneg a.reverse :=
  fun q hq => h q (List.mem_reverse.mp hq)

theorem totalOf_nonneg (P : String → Bool) (ps : List Part) (h : partsNonneg ps) : 0 ≤ totalOf P ps := by
  induction ps with
  | nil => exact Int.le_refl 0
  | cons p ps ih =>
    obtain ⟨hp, hps⟩ := partsNonneg_cons.mp h
    have := ih hps
    simp only [totalOf]
    split <;> omega

theorem total_nonneg (ps : List Part) (h : partsNonneg ps) : 0 ≤ total ps :=
  total_eq_totalOf ps ▸ totalOf_nonneg _ _ h

/-! ### `takeLoop`

Each lemma follows the three exits of the loop: the part in hand has excess (it is
split and the loop stops), it is taken whole (the loop goes on), or nothing is left
to withdraw. -/

theorem takeLoop_totalOf (P : String → Bool) (ps : List Part) (r : Int) :
    totalOf P (takeLoop ps r).1 + totalOf P (takeLoop ps r).2.1 = totalOf P ps := by
  fun_induction takeLoop ps r <;> simp only [totalOf] <;> (try split) <;> omega

/-- The result holds exactly what was asked minus what could not be withdrawn. -/
theorem takeLoop_total (ps : List Part) (r : Int) :
    total (takeLoop ps r).1 = r - (takeLoop ps r).2.2 := by
  fun_induction takeLoop ps r <;> simp only [total] <;> omega

theorem takeLoop_nonneg (ps : List Part) (r : Int) (h : partsNonneg ps) :
    partsNonneg (takeLoop ps r).1 ∧ partsNonneg (takeLoop ps r).2.1 := by
  fun_induction takeLoop ps r with
  | case1 => exact ⟨h, h⟩
  | case2 p ps r hr hlt =>
    obtain ⟨hp, hps⟩ := partsNonneg_cons.mp h
    exact ⟨partsNonneg_cons.mpr ⟨Int.le_of_lt hr, partsNonneg_nil⟩,
      partsNonneg_cons.mpr ⟨by show 0 ≤ p.amount - r; omega, hps⟩⟩
  | case3 p ps r _ _ ih =>
    obtain ⟨hp, hps⟩ := partsNonneg_cons.mp h
    exact ⟨partsNonneg_cons.mpr ⟨hp, (ih hps).1⟩, (ih hps).2⟩
  | case4 => exact ⟨partsNonneg_nil, h⟩

theorem takeLoop_missing (ps : List Part) (r : Int) (h : partsNonneg ps) (hr : 0 ≤ r) :
    (total ps < r → (takeLoop ps r).2.2 = r - total ps) ∧
    (r ≤ total ps → (takeLoop ps r).2.2 = 0) := by
  fun_induction takeLoop ps r with
  | case1 => simp only [total]; omega
  | case2 p ps r _ _ =>
    have := total_nonneg ps (partsNonneg_cons.mp h).2
    exact ⟨fun hlt => by rw [total_cons] at hlt; omega, fun _ => rfl⟩
  | case3 p ps r _ _ ih =>
    have := ih (partsNonneg_cons.mp h).2 (by omega)
    simp only [total]; omega
  | case4 p ps r _ =>
    have := total_nonneg _ h
    simp only; omega

theorem takeMax_totalOf (P : String → Bool) (ps : List Part) (amt : Int) :
    totalOf P (takeMax ps amt).1 + totalOf P (takeMax ps amt).2 = totalOf P ps :=
  takeLoop_totalOf P ps amt

theorem takeMax_total_split (ps : List Part) (amt : Int) :
    total (takeMax ps amt).1 + total (takeMax ps amt).2 = total ps := by
  simp only [total_eq_totalOf]; exact takeMax_totalOf _ ps amt

theorem takeMax_nonneg (ps : List Part) (amt : Int) (h : partsNonneg ps) :
    partsNonneg (takeMax ps amt).1 ∧ partsNonneg (takeMax ps amt).2 :=
  takeLoop_nonneg ps amt h

/-- `TakeMax` takes `min amount total`, and the VM's `missing` is the rest. -/
theorem takeMax_total (ps : List Part) (amt : Int) (h : partsNonneg ps) (hr : 0 ≤ amt) :
    total (takeMax ps amt).1 + (if total ps < amt then amt - total ps else 0) = amt := by
  have h1 := takeLoop_total ps amt
  have h2 := takeLoop_missing ps amt h hr
  simp only [takeMax]
  split <;> omega

theorem zeroHead_totalOf (P : String → Bool) (ps : List Part) (amt : Int) :
    totalOf P (zeroHead ps amt) = 0 := by
  unfold zeroHead
  split
  · split <;> simp [totalOf]
  · rfl

theorem zeroHead_nonneg (ps : List Part) (amt : Int) : partsNonneg (zeroHead ps amt) := by
  unfold zeroHead
  split
  · split
    · exact partsNonneg_cons.mpr ⟨Int.le_refl 0, partsNonneg_nil⟩
    · exact partsNonneg_nil
  · exact partsNonneg_nil

theorem take_eq_some {ps : List Part} {amt : Int} {res rem : List Part} :
    take ps amt = some (res, rem) ↔ (takeLoop ps amt).2.2 = 0 ∧
      res = zeroHead ps amt ++ (takeLoop ps amt).1 ∧ rem = (takeLoop ps amt).2.1 := by
  unfold take
  split <;> simp_all [eq_comm]

theorem take_totalOf (P : String → Bool) {ps : List Part} {amt : Int} {res rem : List Part}
    (h : take ps amt = some (res, rem)) : totalOf P res + totalOf P rem = totalOf P ps := by
  obtain ⟨_, rfl, rfl⟩ := take_eq_some.mp h
  rw [totalOf_append, zeroHead_totalOf, Int.zero_add]
  exact takeLoop_totalOf P ps amt

theorem take_total_split {ps : List Part} {amt : Int} {res rem : List Part}
    (h : take ps amt = some (res, rem)) : total res + total rem = total ps := by
  simp only [total_eq_totalOf]; exact take_totalOf _ h

theorem take_total {ps : List Part} {amt : Int} {res rem : List Part}
    (h : take ps amt = some (res, rem)) : total res = amt := by
  obtain ⟨h0, rfl, rfl⟩ := take_eq_some.mp h
  have := takeLoop_total ps amt
  rw [total_append, total_eq_totalOf (zeroHead ps amt), zeroHead_totalOf]
  omega

theorem take_nonneg {ps : List Part} {amt : Int} {res rem : List Part}
    (h : take ps amt = some (res, rem)) (hn : partsNonneg ps) : partsNonneg res ∧ partsNonneg rem := by
  obtain ⟨_, rfl, rfl⟩ := take_eq_some.mp h
  have := takeLoop_nonneg ps amt hn
  exact ⟨partsNonneg_append.mpr ⟨zeroHead_nonneg _ _, this.1⟩, this.2⟩

theorem concatParts_totalOf (P : String → Bool) (a b : List Part) :
    totalOf P (concatParts a b) = totalOf P a + totalOf P b := by
  fun_induction concatParts a b with
  | case3 l o os h => simp only [totalOf, ← h]; split <;> omega
  | case5 x y a b ih => simp only [totalOf] at *; omega
  | _ => simp [totalOf]

theorem concatParts_total (a b : List Part) : total (concatParts a b) = total a + total b := by
  simp only [total_eq_totalOf]; exact concatParts_totalOf _ a b

theorem concatParts_nonneg (a b : List Part) (ha : partsNonneg a) (hb : partsNonneg b) :
    partsNonneg (concatParts a b) := by
  fun_induction concatParts a b with
  | case1 b => exact hb
  | case2 l => exact ha
  | case3 l o os h =>
    have h1 := (partsNonneg_cons.mp ha).1
    obtain ⟨h2, h3⟩ := partsNonneg_cons.mp hb
    exact partsNonneg_cons.mpr ⟨by show 0 ≤ l.amount + o.amount; omega, h3⟩
  | case4 l o os h => exact partsNonneg_cons.mpr ⟨(partsNonneg_cons.mp ha).1, hb⟩
  | case5 x y a b ih =>
    obtain ⟨h1, h2⟩ := partsNonneg_cons.mp ha
    exact partsNonneg_cons.mpr ⟨h1, ih h2 hb⟩

/-- `x` and `y` share out the funding `ps`: per class of accounts nothing is lost, and no
    negative part appears. -/
structure Split (ps x y : List Part) : Prop where
  totalOf : ∀ P, totalOf P x + totalOf P y = totalOf P ps
  nonneg : partsNonneg ps → partsNonneg x ∧ partsNonneg y

theorem Split.of_takeMax (ps : List Part) (amt : Int) : Split ps (takeMax ps amt).1 (takeMax ps amt).2 :=
  ⟨(takeMax_totalOf · ps amt), takeMax_nonneg ps amt⟩

theorem Split.of_take {ps res rem : List Part} {amt : Int} (h : take ps amt = some (res, rem)) :
    Split ps res rem :=
  ⟨(take_totalOf · h), take_nonneg h⟩

/-- A split of the reversed funding (an in-order destination takes `kept` from the far end),
    read the right way round. -/
theorem Split.reverse {ps x y : List Part} (h : Split ps.reverse x y) : Split ps y.reverse x.reverse :=
  ⟨fun P => by have := h.totalOf P; simp only [totalOf_reverse] at this ⊢; omega,
    fun hf => have hn := h.nonneg (partsNonneg_reverse hf)
      ⟨partsNonneg_reverse hn.2, partsNonneg_reverse hn.1⟩⟩

end Ledger.Machine
