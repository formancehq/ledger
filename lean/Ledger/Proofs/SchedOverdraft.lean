import Ledger.Proofs.SchedBasic

/-!
# C06: the balance a writer checked under lock is the balance its commit produces
-/
namespace Ledger.Sched

/-- rows without an in-progress owner have no uncommitted version -/
def RowWf (w : World) : Prop := ∀ k, (w.vols k).own = none → (w.vols k).pen = none

/-- a balance read under lock stays the row's latest version, up to the reader's own spending -/
def ReadInv (w : World) : Prop :=
  RowWf w ∧ ∀ s p b, w.reads s p = some b →
    (w.vols p).own = some s ∧ (w.vols p).latest = some (b + w.spent s p)

theorem Row.commit_wf {α : Type} (s : Sid) (r : Row α) (h : r.own = none → r.pen = none) :
    (r.commit s).own = none → (r.commit s).pen = none := by
  unfold Row.commit
  split <;> simp_all

theorem Row.abort_wf {α : Type} (s : Sid) (r : Row α) (h : r.own = none → r.pen = none) :
    (r.abort s).own = none → (r.abort s).pen = none := by
  unfold Row.abort
  split <;> simp_all

theorem readInv_commit (w : World) (s : Sid) (h : ReadInv w) : ReadInv (w.commitTx s) := by
  refine ⟨fun k => Row.commit_wf s _ (h.1 k), ?_⟩
  intro t p b hr
  simp only [World.commitTx] at hr ⊢
  by_cases hts : t = s
  · simp [hts] at hr
  · simp only [hts, if_false] at hr ⊢
    have := h.2 t p b hr
    rw [Row.commit_other this.1 hts]
    exact this

theorem readInv_undo (w : World) (s : Sid) (b : Bool) (h : ReadInv w) : ReadInv (w.undo s b) := by
  refine ⟨fun k => Row.abort_wf s _ (h.1 k), ?_⟩
  intro t p v hr
  simp only [World.undo] at hr ⊢
  by_cases hts : t = s
  · simp [hts] at hr
  · simp only [hts, if_false] at hr ⊢
    have := h.2 t p v hr
    rw [Row.abort_other this.1 hts]
    exact this

theorem readInv_getBal (w : World) (s : Sid) (ps vis : List Nat) (h : ReadInv w)
    (hfree : ∀ p ∈ ps, sees w vis p = true → (w.vols p).heldByOther s = none) : ReadInv (w.afterGetBal s ps vis) := by
  constructor
  · intro k
    dsimp only [World.afterGetBal]
    split
    · split
      · simp
      · split
        · simp
        · exact h.1 k
    · exact h.1 k
  · intro t p b hr
    dsimp only [World.afterGetBal] at hr ⊢
    by_cases hc : (decide (t = s) && ps.contains p && sees w vis p) = true
    · -- the pair is read now: its row has a version, so it is an old row, locked by this statement
      rw [if_pos hc] at hr
      simp only [Bool.and_eq_true, decide_eq_true_eq] at hc
      obtain ⟨⟨rfl, hps⟩, hsees⟩ := hc
      obtain ⟨v, hv⟩ := Option.isSome_iff_exists.mp (Bool.and_eq_true_iff.mp hsees).2
      have hnot : ¬ ((w.vols p).com.isNone && (w.vols p).own.isNone) = true := fun hcon => by
        simp only [Bool.and_eq_true, Option.isNone_iff_eq_none] at hcon
        simp [Row.latest, h.1 p hcon.2, hcon.1] at hv
      rw [if_pos hps, if_neg hnot, if_pos hsees]
      simp only [hsees, if_true, hv, Option.getD_some, Option.some.injEq] at hr
      subst hr
      exact ⟨rfl, by simpa [Row.latest, hsees, (by simpa using hps : p ∈ ps)] using hv⟩
    · -- an earlier read of `t`: `t` owns the row, so the statement leaves it alone unless `t = s`
      rw [if_neg hc] at hr
      have hold := h.2 t p b hr
      rw [if_neg hc]
      by_cases hps : ps.contains p = true
      · rw [if_pos hps, if_neg (by simp [hold.1])]
        split
        · rename_i hsees
          by_cases hts : t = s
          · simp only [hts, decide_true, Bool.true_and, hps] at hc
            exact absurd hsees hc
          · exact absurd (hfree p (by simpa using hps) hsees) (not_free_of_own hold.1 hts)
        · exact hold
      · rw [if_neg hps]
        exact hold

theorem foldl_add_shift (l : List (Nat × Int)) (a : Int) :
    l.foldl (fun a d => a + d.2) a = a + l.foldl (fun a d => a + d.2) 0 := by
  induction l generalizing a with
  | nil => simp
  | cons x xs ih => simp only [List.foldl]; rw [ih (a + x.2), ih (0 + x.2)]; omega

theorem readInv_updVol (w : World) (s : Sid) (ds : List (Nat × Int)) (h : ReadInv w)
    (hfree : ∀ d ∈ ds, (w.vols d.1).heldByOther s = none) : ReadInv (w.afterUpdVol s ds) := by
  constructor
  · intro k
    dsimp only [World.afterUpdVol]
    split
    · simp
    · exact h.1 k
  · intro t p b hr
    have hold := h.2 t p b hr
    dsimp only [World.afterUpdVol]
    by_cases htouched : (ds.any (fun d => decide (d.1 = p))) = true
    · -- a touched row that `t` read under lock is owned by `t`, so `t = s`: the delta goes to `spent`
      obtain ⟨d, hd, hdp⟩ := List.any_eq_true.mp htouched
      have hdp' : d.1 = p := by simpa using hdp
      have hts : t = s := Classical.byContradiction fun hts => not_free_of_own hold.1 hts (hdp' ▸ hfree d hd)
      subst hts
      simp only [htouched, if_true, decide_true, Bool.true_and, true_and]
      simp only [Row.latest] at hold ⊢
      rw [hold.2]
      simp only [Option.getD_some]
      congr 1
      omega
    · simp only [htouched, Bool.and_false]
      exact hold

theorem readInv_step (w : World) (s : Sid) (h : ReadInv w) : ReadInv (step w s) :=
  step_inv (P := ReadInv) h (fun _ _ h => h) (fun _ h => h) (fun _ _ _ _ h => h)
    (readInv_commit w s h) (fun b => readInv_undo w s b h)
    (fun _ _ _ _ he => by
      cases he with
      | getBal ps hfree => exact readInv_getBal w s ps _ h hfree
      | updVol ds hfree => exact readInv_updVol w s ds h hfree
      | _ => exact h)

theorem readInv_run (σ : Schedule) (w : World) (h : ReadInv w) : ReadInv (run σ w) :=
  run_inv ReadInv readInv_step σ w h

theorem commit_latest (w : World) (s : Sid) (p : Nat) (h : (w.vols p).own = some s) :
    ((w.commitTx s).vols p).com = (w.vols p).latest := by
  simp [World.commitTx, Row.commit, h]

/-- The explicit, decidable hypothesis of the partial theorem: pair `p` of the `GetBalances ps` that
    session `s` is about to run (or to resume) is in the statement's snapshot — its `accounts_volumes`
    row was committed (or written earlier by the same transaction) when the statement was FIRST issued —
    and still has a version. -/
def CommittedWhenIssued (w : World) (s : Sid) (ps : List Nat) (p : Nat) : Bool :=
  sees w (snapOf w s ps) p

/-- `epq_sees_latest`: a completed `GetBalances` returns, for every pair its snapshot sees, the row's
    latest version at that moment, and holds the row lock from then on -/
theorem getBal_reads {w w' : World} {s : Sid} {ps vis : List Nat} {o : Out} {p : Nat}
    (he : getBal w s ps vis = .done w' o) (hp : p ∈ ps) (hsees : sees w vis p = true) :
    w'.reads s p = some (((w.vols p).latest).getD 0) ∧ (w'.vols p).own = some s := by
  obtain ⟨_, _, rfl⟩ := (getBal_fine ..).of_done he
  have hps : ps.contains p = true := by simpa using hp
  dsimp only [World.afterGetBal]
  constructor
  · simp only [decide_true, hps, hsees, Bool.and_self, if_true]
  · rw [if_pos hps, hsees]
    split <;> rfl

end Ledger.Sched
