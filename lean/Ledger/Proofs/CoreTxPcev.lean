import Ledger.Proofs.CoreReads
import Ledger.Proofs.ListBasic

/-! C04, transaction level: the effective volumes a transaction read reports (last move per
    account/asset of the transaction) are the fold of the postings of the transactions that are
    not after it in (timestamp, id) order. -/
namespace Ledger.Spec
open Ledger.Base Ledger.Core

def _root_.Ledger.Core.Move.key (m : Move) : Key := (m.account, m.asset)

/-- The loop offers every move's effective volumes to its key, and the first offer stays. -/
theorem pcevLoop_eq (l : List Move) (visited : List Key) (ret : PCV) (hw : Map.WF ret)
    (hv : ∀ k, visited.contains k = ret.contains k) (hp : ∀ m ∈ l, m.pcev.isSome = true) :
    pcevLoop l visited ret =
      .ok (l.foldl (fun r m => r.insertWith (fun old _ => old) m.key (m.pcev.getD Volumes.zero)) ret) := by
  induction l generalizing visited ret with
  | nil => rfl
  | cons m l ih =>
    have hpl : ∀ x ∈ l, x.pcev.isSome = true := fun x hx => hp x (List.mem_cons_of_mem _ hx)
    obtain ⟨v, hpv⟩ := Option.isSome_iff_exists.mp (hp m List.mem_cons_self)
    rw [pcevLoop, List.foldl_cons, hv, hpv]
    show (if ret.contains m.key = true then _ else pcevLoop l (m.key :: visited) (ret.insertWith Volumes.add m.key v)) = _
    split
    · rename_i hc
      rw [ih _ _ hw hv hpl, Map.insertWith_keep hw _ _ hc]
    · rename_i hc
      rw [Bool.not_eq_true] at hc
      rw [Map.insertWith_absent hw Volumes.add (fun old _ => old) _ _ hc]
      refine ih _ _ (Map.WF_insertWith _ _ _ hw) (fun k => ?_) hpl
      rw [List.contains_cons, hv, Map.contains, Map.contains, Map.get?_insertWith _ _ _ hw]
      by_cases hk : k = m.key
      · simp [hk]
      · simp [hk]

theorem computePCEV_spec (ms : List Move) (hp : ∀ m ∈ ms, m.pcev.isSome = true) :
    ∃ R, computePCEV ms = .ok R ∧ ∀ k, R.get? k = (ms.reverse.find? (fun m => m.key == k)).bind (·.pcev) := by
  refine ⟨_, pcevLoop_eq ms.reverse [] [] Map.WF_nil (fun _ => rfl) (fun m hm => hp m (List.mem_reverse.mp hm)), fun k => ?_⟩
  rw [Map.get?_foldl_insertNew _ _ _ Map.WF_nil, Map.get?_nil, Option.none_or,
    show (fun m : Move => decide (m.key = k)) = (fun m => m.key == k) from
      funext fun m => (Bool.eq_iff_iff.mpr (by rw [decide_eq_true_eq, beq_iff_eq]))]
  cases hf : ms.reverse.find? (fun m => m.key == k) with
  | none => rfl
  | some m =>
    obtain ⟨v, hv⟩ := Option.isSome_iff_exists.mp (hp m (List.mem_reverse.mp (List.mem_of_find?_eq_some hf)))
    show some (m.pcev.getD _) = m.pcev
    rw [hv]; rfl

theorem TableOrd.seq_of_tx {st : Store} (inv : TableOrd st) {a b : MoveRow} (ha : a ∈ st.moves) (hb : b ∈ st.moves)
    (h : a.txId < b.txId) : a.seq < b.seq := by
  have := pairwise_tri inv.pw (List.mem_map_of_mem (f := MoveRow.st2) ha) (List.mem_map_of_mem (f := MoveRow.st2) hb)
  rcases this with e | r | r
  · have : a.txId = b.txId := congrArg Prod.snd e
    omega
  · exact r.1
  · have : b.txId ≤ a.txId := r.2
    omega

def lastRow (rows : List MoveRow) (k : Key) : Option MoveRow := rows.reverse.find? (fun r => r.key == k)

theorem lastRow_some {rows : List MoveRow} {k : Key} {L : MoveRow} (h : lastRow rows k = some L)
    (hpw : rows.Pairwise (fun a b => a.seq < b.seq)) :
    L ∈ rows ∧ L.key = k ∧ ∀ m ∈ rows, m.key = k → m.seq ≤ L.seq := by
  unfold lastRow at h
  obtain ⟨hk, as, bs, hsplit, has⟩ := List.find?_eq_some_iff_append.mp h
  have hk' : L.key = k := by simpa using hk
  have hrows : rows = bs.reverse ++ L :: as.reverse := by
    have := congrArg List.reverse hsplit
    simpa using this
  refine ⟨by rw [hrows]; simp, hk', ?_⟩
  intro m hm hmk
  rw [hrows] at hm hpw
  rw [List.pairwise_append] at hpw
  rcases List.mem_append.mp hm with h1 | h1
  · have := hpw.2.2 m h1 L List.mem_cons_self
    omega
  · rcases List.mem_cons.mp h1 with rfl | h2
    · exact Nat.le_refl _
    · exfalso
      have := has m (List.mem_reverse.mp h2)
      simp [hmk] at this

theorem lastRow_none {rows : List MoveRow} {k : Key} (h : lastRow rows k = none) : ∀ m ∈ rows, m.key ≠ k := by
  unfold lastRow at h
  intro m hm hk
  have := List.find?_eq_none.mp h m (List.mem_reverse.mpr hm)
  simp [hk] at this


theorem mem_postingSigs {ins eff : Int} {tx : Nat} {ps : List Posting} {s : MoveSig} (h : s ∈ postingSigs ins eff tx ps) :
    s.ins = ins ∧ s.eff = eff ∧ s.tx = tx ∧ touches s.key ps = true := by
  induction ps with
  | nil => simp [postingSigs] at h
  | cons p ps ih =>
    simp only [postingSigs, List.mem_cons] at h
    rcases h with rfl | rfl | h
    · exact ⟨rfl, rfl, rfl, touches_srcKey List.mem_cons_self⟩
    · exact ⟨rfl, rfl, rfl, touches_dstKey List.mem_cons_self⟩
    · obtain ⟨a, b, c, d⟩ := ih h
      exact ⟨a, b, c, by simp only [touches, List.any_cons] at d ⊢; simp [d]⟩

theorem exists_postingSig {ins eff : Int} {tx : Nat} {ps : List Posting} {k : Key} (h : touches k ps = true) :
    ∃ s ∈ postingSigs ins eff tx ps, s.key = k ∧ s.tx = tx := by
  induction ps with
  | nil => simp [touches] at h
  | cons p ps ih =>
    simp only [touches, List.any_cons, Bool.or_eq_true, decide_eq_true_eq] at h
    rcases h with (h | h) | h
    · exact ⟨⟨p.srcKey, ⟨0, p.amount⟩, ins, eff, tx⟩, by simp [postingSigs], h, rfl⟩
    · exact ⟨⟨p.dstKey, ⟨p.amount, 0⟩, ins, eff, tx⟩, by simp [postingSigs], h, rfl⟩
    · obtain ⟨s, hs, hk⟩ := ih (by simpa [touches] using h)
      exact ⟨s, by simp only [postingSigs, List.mem_cons]; exact Or.inr (Or.inr hs), hk⟩

theorem mem_recsSigs {recs : List TxRec} {s : MoveSig} (h : s ∈ recsSigs recs) :
    ∃ t ∈ recs, s.ins = t.insertedAt ∧ s.eff = t.timestamp ∧ s.tx = t.id ∧ touches s.key t.postings = true := by
  induction recs with
  | nil => simp [recsSigs] at h
  | cons t ts ih =>
    simp only [recsSigs, List.mem_append] at h
    rcases h with h | h
    · obtain ⟨a, b, c, d⟩ := mem_postingSigs h
      exact ⟨t, List.mem_cons_self, a, b, c, d⟩
    · obtain ⟨t', ht', hh⟩ := ih h
      exact ⟨t', List.mem_cons_of_mem _ ht', hh⟩

theorem exists_recsSig {recs : List TxRec} {t : TxRec} (ht : t ∈ recs) {k : Key} (h : touches k t.postings = true) :
    ∃ s ∈ recsSigs recs, s.key = k ∧ s.tx = t.id := by
  induction recs with
  | nil => simp at ht
  | cons t' ts ih =>
    simp only [recsSigs, List.mem_append]
    rcases List.mem_cons.mp ht with rfl | ht
    · obtain ⟨s, hs, hk⟩ := exists_postingSig (ins := t.insertedAt) (eff := t.timestamp) (tx := t.id) h
      exact ⟨s, Or.inl hs, hk⟩
    · obtain ⟨s, hs, hk⟩ := ih ht
      exact ⟨s, Or.inr hs, hk⟩

theorem recsFrom_ids (id0 : Nat) (h : List TxIn) :
    (recsFrom id0 h).Pairwise (fun a b => a.id < b.id) ∧ ∀ t ∈ recsFrom id0 h, id0 ≤ t.id := by
  induction h generalizing id0 with
  | nil => simp [recsFrom]
  | cons t h ih =>
    obtain ⟨h1, h2⟩ := ih (id0 + 1)
    simp only [recsFrom, List.pairwise_cons, List.mem_cons]
    refine ⟨⟨?_, h1⟩, ?_⟩
    · intro b hb; have := h2 b hb; show id0 < b.id; omega
    · rintro x (rfl | hx)
      · exact Nat.le_refl _
      · have := h2 x hx; omega

theorem txRecs_id_unique {ops : List StoreOp} {st : Store} (h : runOps ops = .ok st) {t t' : TxRec}
    (ht : t ∈ st.txRecs) (ht' : t' ∈ st.txRecs) (hid : t.id = t'.id) :
    t.timestamp = t'.timestamp ∧ t.postings = t'.postings ∧ t.insertedAt = t'.insertedAt := by
  have hpw := (recsFrom_ids 1 (commitsOf ops)).1
  rw [← (runOps_txs h).1] at hpw
  have := pairwise_tri hpw (List.mem_map_of_mem (f := TxRec.clearReverted) ht) (List.mem_map_of_mem (f := TxRec.clearReverted) ht')
  rcases this with e | r | r
  · have e1 := congrArg TxRec.timestamp e
    have e2 := congrArg TxRec.postings e
    have e3 := congrArg TxRec.insertedAt e
    exact ⟨e1, e2, e3⟩
  · have : t.id < t'.id := r; omega
  · have : t'.id < t.id := r; omega

def convRow (r : MoveRow) : Move :=
  { account := r.account, asset := r.asset, amount := r.amount, isSource := r.isSource, pcv := r.pcv, pcev := some r.pcev }

theorem txEffectiveVolumes_eq (moves : List MoveRow) (txId : Nat) :
    txEffectiveVolumes moves txId = computePCEV ((moves.filter (·.txId = txId)).map convRow) := rfl

/-- A row of a reachable `moves` table belongs to a committed transaction and carries its dates. -/
theorem move_tx {ops : List StoreOp} {st : Store} (h : runOps ops = .ok st) {r : MoveRow} (hr : r ∈ st.moves) :
    ∃ t ∈ st.txRecs, r.txId = t.id ∧ r.insertionDate = t.insertedAt ∧ r.effectiveDate = t.timestamp ∧
      touches r.key t.postings = true := by
  have : r.sig ∈ recsSigs st.txRecs := MovesContent_runOps h ▸ List.mem_map_of_mem hr
  obtain ⟨t, ht, h1, h2, h3, h4⟩ := mem_recsSigs this
  exact ⟨t, ht, h3, h1, h2, h4⟩

/-- … and every pair a committed transaction touches has a row of it. -/
theorem tx_move {ops : List StoreOp} {st : Store} (h : runOps ops = .ok st) {T : TxRec} (hT : T ∈ st.txRecs) {k : Key}
    (hk : touches k T.postings = true) : ∃ r ∈ st.moves, r.key = k ∧ r.txId = T.id := by
  obtain ⟨s, hs, hsk, hstx⟩ := exists_recsSig hT hk
  rw [← MovesContent_runOps h] at hs
  obtain ⟨r, hr, rfl⟩ := List.mem_map.mp hs
  exact ⟨r, hr, hsk, hstx⟩

/-- `(effective_date, transactions_id)` not after that of `T`. -/
def MoveRow.notAfterTx (T : TxRec) (m : MoveRow) : Prop :=
  m.effectiveDate < T.timestamp ∨ (m.effectiveDate = T.timestamp ∧ m.txId ≤ T.id)

instance (T : TxRec) : DecidablePred (MoveRow.notAfterTx T) := fun _ => inferInstanceAs (Decidable (_ ∨ _))

theorem txEffectiveVolumes_fold {ops : List StoreOp} {st : Store} (h : runOps ops = .ok st) (T : TxRec)
    (hT : T ∈ st.txRecs) :
    ∃ R, txEffectiveVolumes st.moves T.id = .ok R ∧
      ∀ k, R.get? k = if touches k T.postings then some (volumesOf (st.txRecs.filter (notAfterTx T)) k) else none := by
  have ord := TableOrd_runOps h
  have hsub : (st.moves.filter (·.txId = T.id)).Pairwise (fun a b => a.seq < b.seq) :=
    ((List.pairwise_map.mp ord.pw).imp fun hab => hab.1).filter _
  rw [txEffectiveVolumes_eq]
  obtain ⟨R, hR, hg⟩ := computePCEV_spec ((st.moves.filter (·.txId = T.id)).map convRow)
    (by intro m hm; obtain ⟨r, _, rfl⟩ := List.mem_map.mp hm; rfl)
  refine ⟨R, hR, fun k => ?_⟩
  rw [hg k, ← List.map_reverse, List.find?_map]
  show ((lastRow (st.moves.filter (·.txId = T.id)) k).map convRow).bind (·.pcev) = _
  cases hl : lastRow (st.moves.filter (·.txId = T.id)) k with
  | none =>
    rw [if_neg fun ht => ?_]; rfl
    obtain ⟨r, hr, hrk, hrtx⟩ := tx_move h hT ht
    exact lastRow_none hl r (List.mem_filter.mpr ⟨hr, decide_eq_true hrtx⟩) hrk
  | some L =>
    obtain ⟨hLmem, hLk, hLmax⟩ := lastRow_some hl hsub
    obtain ⟨hLm, hLtx⟩ := List.mem_filter.mp hLmem
    replace hLtx : L.txId = T.id := of_decide_eq_true hLtx
    obtain ⟨t, ht, httx, _, hteff, htt⟩ := move_tx h hLm
    obtain ⟨e1, e2, _⟩ := txRecs_id_unique h ht hT (httx.symm.trans hLtx)
    rw [if_pos (by rw [← e2, ← hLk]; exact htt)]
    -- `L` is the greatest row of `k` among those of the transactions not after `T`: rows of earlier
    -- transactions have smaller `seq` (`seq_of_tx`), and `L` is the last of `T`'s own
    have hsum := ((PCEV_Inv_iff_running _).mp (PCEV_Inv_runOps h)).latest_eq_sum (o := some L) (k := k)
      (d := MoveRow.notAfterTx T) (fun hn => nomatch hn)
      (fun p hp => by
        cases hp
        refine ⟨hLm, ⟨hLk, Or.inr ⟨hteff.trans e1, Nat.le_of_eq hLtx⟩⟩, fun m hm ⟨hmk, hd⟩ => (notAfter_iff m L).mpr ?_⟩
        rcases hd with hlt | ⟨heq, hle⟩
        · exact Or.inl (by omega)
        · refine Or.inr ⟨by omega, ?_⟩
          rcases Nat.lt_or_ge m.txId L.txId with hlt | hge
          · exact Nat.le_of_lt (ord.seq_of_tx hm hLm hlt)
          · exact hLmax m (List.mem_filter.mpr ⟨hm, decide_eq_true (by omega)⟩) hmk)
      (fun _ _ _ => trivial)
      (fun a ha b hb hdb _ hle => by
        have htx : a.seq ≤ b.seq → a.txId ≤ b.txId := fun hs => Decidable.by_contra fun hgt => by
          have := ord.seq_of_tx hb ha (by omega); omega
        rcases (notAfter_iff a b).mp hle with hlt | ⟨heq, hs⟩ <;> rcases hdb with hb1 | ⟨hb1, hb2⟩
        · exact Or.inl (by omega)
        · exact Or.inl (by omega)
        · exact Or.inl (by omega)
        · exact Or.inr ⟨by omega, by have := htx hs; omega⟩)
    show some L.pcev = _
    rw [show L.pcev = _ from hsum]
    refine (congrArg some (movesVolumesP_eq_fold h
      (fun _ eff tx => decide (eff < T.timestamp ∨ (eff = T.timestamp ∧ tx ≤ T.id))) k)).trans ?_
    refine congrArg (fun l => some (volumesOf l k)) (List.filter_congr fun t _ => ?_)
    simp only [notAfterTx, Bool.decide_or, Bool.decide_and]

end Ledger.Spec
