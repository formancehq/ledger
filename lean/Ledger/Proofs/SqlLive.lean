import Ledger.Proofs.SqlTable
import Ledger.Proofs.SqlValues

/-!
# The rows of a table as the running transaction reads them

The evaluator writes a table in three ways: a new version with a fresh row id (`newVer … :: rows`), a new version in place of the
closed versions of one row id (`updStep`, iterated: `updRun`), and touch-ups that keep values and visibility (row locks). Four
notions say what that does, for any table:
* `Stored lv xid cid nr rows`: what holds of the stored versions between two commands whatever the table (row ids distinct among
  the visible versions and below the table's counter `nr`, nothing written under command id `cid` or later). Kept by `.new` and
  `.updAll`; a chain carries it next to its own typing / unique-key invariant.
* `KeyInv Ty K lv rows`, that invariant for a table with one unique key `K`: every version typed, no two visible versions with the
  same row id or the same key. Kept by `.new` (a key nobody has) and `.updStep` (new values of the same key). That row ids are
  distinct is a `Nodup` here as in `Stored`, kept by `nodup_updStep` (on `nodup_cons_filter_rid`, as the key half of `KeyInv.updStep`
  is); where a statement wants the form `RidInj` it is read off (`RidInj.of_nodup`).
* the content as a list: `visVals lv rows`, with `TView enc lv rows tbl` (it is `tbl.map enc`) and `tabs dec lv rows` (decoded) for a
  table of typed rows. A write acts on it as on a list: `visVals_new`, `visVals_updRun` (up to order).
* the content as a finite map: `get key lv rows k`, under `Keyed key lv rows` (same row id iff same key). A write acts on it as
  on a map: `get_new` / `Keyed.ins`, `get_upd` / `Keyed.upd`, `get_lock` / `Keyed.lock`. `visLookup` is `get` with the row id as key.
`execUpdate` ends in `updRun` over the visible rows in scan order; what that leaves is in the last section (`Stored.updAll`,
`nodup_updAll`, `visLookup_updAll`; for the content `visVals_updRun`, `TView.updRun`).
-/
namespace Ledger.Sql

/-! ### the row versions an INSERT and an UPDATE write -/

def newVer (xid cid rid : Nat) (vals : List Value) : Ver := { rid := rid, xmin := xid, cmin := cid, vals := vals }

/-- one target row of an UPDATE with guard `g` and new values `f` -/
def updStep (lv : View) (xid cid : Nat) (g : List Value → Bool) (f : List Value → List Value) (rows : List Ver) (r : Ver) : List Ver :=
  if g r.vals then newVer xid cid r.rid (f r.vals) :: rows.map (closeRow lv xid cid r.rid) else rows

def updRun (lv : View) (xid cid : Nat) (g : List Value → Bool) (f : List Value → List Value) (rows : List Ver) (ts : List Ver) : List Ver :=
  ts.foldl (updStep lv xid cid g f) rows

theorem find?_ext_mem' {α : Type} (p q : α → Bool) (l : List α) (h : ∀ x ∈ l, p x = q x) : l.find? p = l.find? q := by
  rw [← List.head?_filter, ← List.head?_filter, List.filter_congr h]

theorem newVer_visible (w : World) (xid cid rid : Nat) (vals : List Value) (hx : xid ≠ 0) (hc : cid < 1000000000) :
    (newVer xid cid rid vals).visible (latestView w xid) = true := by
  simp [newVer, Ver.visible, xidVisible, latestView, hx, hc]

theorem filter_vis_new (w : World) (xid cid rid : Nat) (hx : xid ≠ 0) (hc : cid < 1000000000) (v : List Value) (rows : List Ver) :
    (newVer xid cid rid v :: rows).filter (fun q => q.visible (latestView w xid)) =
      newVer xid cid rid v :: rows.filter (fun q => q.visible (latestView w xid)) := by
  rw [List.filter_cons, if_pos (newVer_visible w xid cid rid v hx hc)]

theorem closeRow_ne (lv : View) (xid cid rid : Nat) (r : Ver) (h : r.rid ≠ rid) : closeRow lv xid cid rid r = r := by
  unfold closeRow
  have : (r.rid == rid) = false := by simpa using h
  simp [this]

theorem targets_updStep {lv : View} {xid cid : Nat} {g : List Value → Bool} {f : List Value → List Value} {C : Ver → Prop}
    {rows rest : List Ver} {r : Ver} (hts : ∀ q ∈ r :: rest, q ∈ rows ∧ C q) (hnd : ((r :: rest).map (·.rid)).Nodup) :
    ∀ q ∈ rest, q ∈ updStep lv xid cid g f rows r ∧ C q := by
  intro q hq
  obtain ⟨hm, hC⟩ := hts q (List.mem_cons_of_mem _ hq)
  have hne : q.rid ≠ r.rid := fun e => (List.nodup_cons.mp hnd).1 (by show r.rid ∈ _; rw [← e]; exact List.mem_map_of_mem hq)
  refine ⟨?_, hC⟩
  unfold updStep
  split
  · exact List.mem_cons_of_mem _ (List.mem_map.mpr ⟨q, hm, closeRow_ne _ _ _ _ _ hne⟩)
  · exact hm

theorem perm_cons_filter_ne {α : Type} (key : α → Nat) : ∀ (l : List α), (l.map key).Nodup → ∀ r ∈ l,
    l.Perm (r :: l.filter (fun q => key q != key r)) := by
  intro l
  induction l with
  | nil => intro _ r hr; cases hr
  | cons x xs ih =>
    intro hnd r hr
    simp only [List.map_cons, List.nodup_cons] at hnd
    rcases List.mem_cons.mp hr with rfl | hr'
    · have hall : xs.filter (fun q => key q != key r) = xs := by
        apply List.filter_eq_self.mpr
        intro q hq
        have : key q ≠ key r := fun e => hnd.1 (by rw [← e]; exact List.mem_map_of_mem hq)
        simpa using this
      simp [hall]
    · have hne : key x ≠ key r := fun e => hnd.1 (by rw [e]; exact List.mem_map_of_mem hr')
      have hk : (key x != key r) = true := by simpa using hne
      rw [List.filter_cons, if_pos hk]
      exact (List.Perm.cons x (ih hnd.2 r hr')).trans (List.Perm.swap r x _)

/-- in a list without two rows of the same `k`, a row may be replaced (by row id) by one of the same `k` -/
theorem nodup_cons_filter_rid {β : Type} (k : Ver → β) (rs : List Ver) (r x : Ver) (h : (rs.map k).Nodup) (hr : r ∈ rs) (hk : k x = k r) :
    ((x :: rs.filter (fun q => q.rid != r.rid)).map k).Nodup := by
  rw [List.map_cons, List.nodup_cons]
  refine ⟨fun hmem => ?_, (List.filter_sublist.map _).nodup h⟩
  obtain ⟨q, hq, he⟩ := List.mem_map.mp hmem
  have hq' := List.mem_filter.mp hq
  rw [nodup_map_inj k _ h q hq'.1 r hr (he.trans hk)] at hq'
  simp at hq'

theorem filter_vis_updStep (w : World) (xid cid : Nat) (hx : xid ≠ 0) (hc : cid < 1000000000) (g : List Value → Bool) (f : List Value → List Value)
    (rows : List Ver) (r : Ver) (hg : g r.vals = true) :
    (updStep (latestView w xid) xid cid g f rows r).filter (fun q => q.visible (latestView w xid)) =
      newVer xid cid r.rid (f r.vals) :: (rows.filter (fun q => q.visible (latestView w xid))).filter (fun q => q.rid != r.rid) := by
  unfold updStep
  rw [if_pos hg, filter_vis_new w xid cid r.rid hx hc, List.filter_filter]
  congr 1
  induction rows with
  | nil => rfl
  | cons q qs ih =>
    rw [List.map_cons, List.filter_cons, List.filter_cons, closeRow_visible w xid cid r.rid q hx hc, ih,
      Bool.and_comm (q.rid != r.rid), show (!(q.rid == r.rid)) = (q.rid != r.rid) from rfl]
    by_cases h : (q.visible (latestView w xid) && (q.rid != r.rid)) = true
    · rw [if_pos h, if_pos h, closeRow_ne _ _ _ _ _ (bne_iff_ne.mp (Bool.and_eq_true _ _ ▸ h).2)]
    · rw [if_neg h, if_neg h]

theorem RidInj.of_nodup {lv : View} {rows : List Ver} (hnd : ((rows.filter (fun q => q.visible lv)).map (·.rid)).Nodup) : RidInj lv rows :=
  fun r1 h1 r2 h2 v1 v2 e =>
    nodup_map_inj (fun x : Ver => x.rid) _ hnd r1 (List.mem_filter.mpr ⟨h1, v1⟩) r2 (List.mem_filter.mpr ⟨h2, v2⟩) e

/-- row ids stay distinct among the visible versions under one UPDATE step -/
theorem nodup_updStep (w : World) (xid cid : Nat) (hx : xid ≠ 0) (hc : cid < 1000000000) (g : List Value → Bool) (f : List Value → List Value)
    (rows : List Ver) (r : Ver) (hnd : ((rows.filter (fun q => q.visible (latestView w xid))).map (·.rid)).Nodup) (hr : r ∈ rows)
    (hv : r.visible (latestView w xid) = true) :
    (((updStep (latestView w xid) xid cid g f rows r).filter (fun q => q.visible (latestView w xid))).map (·.rid)).Nodup := by
  cases hg : g r.vals with
  | false => rw [updStep, hg]; exact hnd
  | true =>
    rw [filter_vis_updStep w xid cid hx hc g f rows r hg]
    exact nodup_cons_filter_rid (·.rid) _ r _ hnd (List.mem_filter.mpr ⟨hr, hv⟩) rfl

/-- who is visible after one target row of an UPDATE: the new version, and the visible versions of the other rows, untouched -/
theorem visible_mem_updStep (w : World) (xid cid : Nat) (hx : xid ≠ 0) (hc : cid < 1000000000) (g : List Value → Bool)
    (f : List Value → List Value) (rows : List Ver) (r : Ver) (hg : g r.vals = true) (q : Ver)
    (hq : q ∈ updStep (latestView w xid) xid cid g f rows r) (hv : q.visible (latestView w xid) = true) :
    q = newVer xid cid r.rid (f r.vals) ∨ (q ∈ rows ∧ q.visible (latestView w xid) = true ∧ q.rid ≠ r.rid) := by
  have h : q ∈ (updStep (latestView w xid) xid cid g f rows r).filter (fun q => q.visible (latestView w xid)) := List.mem_filter.mpr ⟨hq, hv⟩
  rw [filter_vis_updStep w xid cid hx hc g f rows r hg] at h
  rcases List.mem_cons.mp h with rfl | h
  · exact .inl rfl
  · obtain ⟨hm, hp⟩ := List.mem_filter.mp h
    exact .inr ⟨(List.mem_filter.mp hm).1, (List.mem_filter.mp hm).2, by simpa using hp⟩

/-- the new contents of a row under an UPDATE restricted to the targets `ts` -/
def updVals (g : List Value → Bool) (f : List Value → List Value) (ts : List Ver) (q : Ver) : List Value :=
  if (ts.map (·.rid)).contains q.rid && g q.vals then f q.vals else q.vals

theorem visible_updRun (w : World) (xid cid : Nat) (hx : xid ≠ 0) (hc : cid < 1000000000) (g : List Value → Bool) (f : List Value → List Value) :
    ∀ (ts rows : List Ver), ((rows.filter (fun q => q.visible (latestView w xid))).map (·.rid)).Nodup →
      (∀ r ∈ ts, r ∈ rows ∧ r.visible (latestView w xid) = true) → (ts.map (·.rid)).Nodup →
      (((updRun (latestView w xid) xid cid g f rows ts).filter (fun q => q.visible (latestView w xid))).map (fun q => (q.rid, q.vals))).Perm
        ((rows.filter (fun q => q.visible (latestView w xid))).map (fun q => (q.rid, updVals g f ts q))) := by
  intro ts
  induction ts with
  | nil =>
    intro rows _ _ _
    simp [updRun, updVals]
  | cons r rest ih =>
    intro rows hnd hts hndt
    obtain ⟨hr, hv⟩ := hts r (by simp)
    have hndt' := List.nodup_cons.mp hndt
    have hrl : r ∈ rows.filter (fun q => q.visible (latestView w xid)) := List.mem_filter.mpr ⟨hr, hv⟩
    have hinj := nodup_map_inj (fun x : Ver => x.rid) _ hnd
    show (((updRun (latestView w xid) xid cid g f (updStep (latestView w xid) xid cid g f rows r) rest).filter _).map _).Perm _
    cases hg : g r.vals with
    | false =>
      have e : updStep (latestView w xid) xid cid g f rows r = rows := by simp [updStep, hg]
      rw [e]
      refine (ih rows hnd (fun q hq => hts q (by simp [hq])) hndt'.2).trans ?_
      apply List.Perm.of_eq
      apply List.map_congr_left
      intro q hq
      by_cases hqr : q.rid = r.rid
      · have : q = r := hinj q hq r hrl hqr
        subst this
        simp [updVals, hg]
      · simp [updVals, hqr]
    | true =>
      have hfil := filter_vis_updStep w xid cid hx hc g f rows r hg
      have hnd' := nodup_updStep w xid cid hx hc g f rows r hnd hr hv
      have h1 := ih _ hnd' (targets_updStep hts hndt) hndt'.2
      rw [hfil] at h1
      refine h1.trans ?_
      have hp := (perm_cons_filter_ne (fun x : Ver => x.rid) _ hnd r hrl).map (fun q => (q.rid, updVals g f (r :: rest) q))
      refine List.Perm.trans ?_ hp.symm
      apply List.Perm.of_eq
      simp only [List.map_cons]
      congr 1
      · have hc1 : (rest.map (·.rid)).contains r.rid = false := by
          cases h : (rest.map (·.rid)).contains r.rid with
          | false => rfl
          | true => exact absurd (List.contains_iff_mem.mp h) hndt'.1
        have a : updVals g f rest (newVer xid cid r.rid (f r.vals)) = f r.vals := by
          have hc2 : (rest.map (·.rid)).contains (newVer xid cid r.rid (f r.vals)).rid = false := hc1
          unfold updVals
          simp only [hc2, Bool.false_and, Bool.false_eq_true, if_false]
          rfl
        have b : updVals g f (r :: rest) r = f r.vals := by
          unfold updVals
          simp [hg]
        show (r.rid, updVals g f rest (newVer xid cid r.rid (f r.vals))) = (r.rid, updVals g f (r :: rest) r)
        rw [a, b]
      · apply List.map_congr_left
        intro q hq
        have hne := (List.mem_filter.mp hq).2
        simp only [bne_iff_ne, ne_eq] at hne
        have hqr' : (q.rid == r.rid) = false := by simpa using hne
        show (q.rid, updVals g f rest q) = (q.rid, updVals g f (r :: rest) q)
        unfold updVals
        simp only [List.map_cons, List.contains_cons, hqr', Bool.false_or]

/-- the targets of an UPDATE, the visible rows in scan order, are rows the transaction sees, each once -/
theorem targets_all {lv : View} {rows : List Ver} (hnd : ((rows.filter (fun q => q.visible lv)).map (·.rid)).Nodup) :
    (∀ r ∈ (rows.filter (fun q => q.visible lv)).reverse, r ∈ rows ∧ r.visible lv = true) ∧
      (((rows.filter (fun q => q.visible lv)).reverse).map (·.rid)).Nodup :=
  ⟨fun _ hr => List.mem_filter.mp (List.mem_reverse.mp hr), by rw [List.map_reverse]; exact (List.reverse_perm _).nodup_iff.mpr hnd⟩

/-- … and have whatever every visible row has -/
theorem targets_all_of {lv : View} {rows : List Ver} {P : Ver → Prop} (hP : ∀ r ∈ rows, r.visible lv = true → P r) :
    ∀ r ∈ (rows.filter (fun q => q.visible lv)).reverse, r ∈ rows ∧ r.visible lv = true ∧ P r := fun r hr =>
  have h := List.mem_filter.mp (List.mem_reverse.mp hr)
  ⟨h.1, h.2, hP r h.1 h.2⟩

theorem visible_updRun_all (w : World) (xid cid : Nat) (hx : xid ≠ 0) (hc : cid < 1000000000) (g : List Value → Bool) (f : List Value → List Value)
    (rows : List Ver) (hnd : ((rows.filter (fun q => q.visible (latestView w xid))).map (·.rid)).Nodup) :
    (((updRun (latestView w xid) xid cid g f rows (rows.filter (fun q => q.visible (latestView w xid))).reverse).filter
        (fun q => q.visible (latestView w xid))).map (fun q => (q.rid, q.vals))).Perm
      ((rows.filter (fun q => q.visible (latestView w xid))).map (fun q => (q.rid, if g q.vals then f q.vals else q.vals))) := by
  have h := visible_updRun w xid cid hx hc g f _ rows hnd (targets_all hnd).1 (targets_all hnd).2
  refine h.trans (List.Perm.of_eq ?_)
  apply List.map_congr_left
  intro q hq
  have : ((rows.filter (fun q => q.visible (latestView w xid))).reverse.map (·.rid)).contains q.rid = true := by
    apply List.contains_iff_mem.mpr
    exact List.mem_map_of_mem (List.mem_reverse.mpr hq)
  simp only [updVals, this, Bool.true_and]

theorem Fresh_updStep (lv : View) (xid cid c' : Nat) (hc : cid < c') (hx : xid ≠ 0) (g : List Value → Bool) (f : List Value → List Value)
    (rows : List Ver) (r : Ver) (h : Fresh xid c' rows) : Fresh xid c' (updStep lv xid cid g f rows r) := by
  unfold updStep
  split
  · intro q hq
    simp only [List.mem_cons, List.mem_map] at hq
    rcases hq with rfl | ⟨q0, hq0, rfl⟩
    · exact ⟨fun _ => hc, fun e => by simp [newVer] at e; exact absurd e.symm hx⟩
    · have := h q0 hq0
      unfold closeRow
      split
      · exact ⟨this.1, fun _ => hc⟩
      · exact this
  · exact h

theorem Fresh_updRun (lv : View) (xid cid c' : Nat) (hc : cid < c') (hx : xid ≠ 0) (g : List Value → Bool) (f : List Value → List Value) :
    ∀ (ts rows : List Ver), Fresh xid c' rows → Fresh xid c' (updRun lv xid cid g f rows ts) := by
  intro ts
  induction ts with
  | nil => intro rows h; exact h
  | cons r rest ih =>
    intro rows h
    exact ih _ (Fresh_updStep lv xid cid c' hc hx g f rows r h)

/-- the values of the version of row `rid` visible under `lv` -/
def visLookup (lv : View) (rows : List Ver) (rid : Nat) : Option (List Value) :=
  (rows.find? (fun r => r.rid == rid && r.visible lv)).map (·.vals)

/-! ### storage facts -/

def RidLt (rows : List Ver) (nr : Nat) : Prop := ∀ r ∈ rows, r.rid < nr

structure Stored (lv : View) (xid cid nr : Nat) (rows : List Ver) : Prop where
  nodup : ((rows.filter (fun r => r.visible lv)).map (·.rid)).Nodup
  fresh : Fresh xid cid rows
  ridLt : RidLt rows nr

theorem Fresh.mono {xid c c' : Nat} {rows : List Ver} (h : Fresh xid c rows) (hc : c ≤ c') : Fresh xid c' rows := by
  intro r hr
  obtain ⟨h1, h2⟩ := h r hr
  exact ⟨fun e => by have := h1 e; omega, fun e => by have := h2 e; omega⟩

theorem Fresh.new {xid cid c : Nat} {rows : List Ver} (h : Fresh xid c rows) (hx : xid ≠ 0) (hc : cid < c) (rid : Nat) (v : List Value) :
    Fresh xid c (newVer xid cid rid v :: rows) := by
  intro q hq
  rcases List.mem_cons.mp hq with rfl | hq
  · exact ⟨fun _ => hc, fun e => absurd e.symm hx⟩
  · exact h q hq

theorem RidLt.map {rows : List Ver} {nr : Nat} (h : RidLt rows nr) (f : Ver → Ver) (hrid : ∀ r, (f r).rid = r.rid) :
    RidLt (rows.map f) nr := by
  intro r hr
  obtain ⟨r0, hr0, rfl⟩ := List.mem_map.mp hr
  rw [hrid]; exact h r0 hr0

theorem RidLt.cons {rows : List Ver} {nr nr' : Nat} (h : RidLt rows nr) (x : Ver) (hle : nr ≤ nr') (hlt : x.rid < nr') :
    RidLt (x :: rows) nr' := by
  intro r hr
  rcases List.mem_cons.mp hr with rfl | hr
  · exact hlt
  · exact Nat.lt_of_lt_of_le (h r hr) hle

/-- an UPDATE step creates no row id: a new version takes the id of the version it replaces -/
theorem rid_updStep_sub (lv : View) (xid cid : Nat) (g : List Value → Bool) (f : List Value → List Value) (rows : List Ver) (r : Ver) :
    ∀ q ∈ updStep lv xid cid g f rows r, q.rid = r.rid ∨ ∃ q0 ∈ rows, q.rid = q0.rid := by
  intro q hq
  unfold updStep at hq
  split at hq
  · simp only [List.mem_cons, List.mem_map] at hq
    rcases hq with rfl | ⟨q0, hq0, rfl⟩
    · exact .inl rfl
    · exact .inr ⟨q0, hq0, by simp⟩
  · exact .inr ⟨q, hq, rfl⟩

theorem rid_updStep (lv : View) (xid cid : Nat) (g : List Value → Bool) (f : List Value → List Value) (rows : List Ver) (r : Ver) (hr : r ∈ rows) :
    ∀ q ∈ updStep lv xid cid g f rows r, ∃ q0 ∈ rows, q.rid = q0.rid :=
  fun q hq => (rid_updStep_sub lv xid cid g f rows r q hq).elim (fun e => ⟨r, hr, e⟩) id

theorem rid_updRun (lv : View) (xid cid : Nat) (g : List Value → Bool) (f : List Value → List Value) :
    ∀ (ts rows : List Ver), ∀ q ∈ updRun lv xid cid g f rows ts, (∃ r ∈ ts, q.rid = r.rid) ∨ ∃ q0 ∈ rows, q.rid = q0.rid := by
  intro ts
  induction ts with
  | nil => intro rows q hq; exact .inr ⟨q, hq, rfl⟩
  | cons r rest ih =>
    intro rows q hq
    rcases ih _ q hq with ⟨r', hr', e⟩ | ⟨q1, hq1, e1⟩
    · exact .inl ⟨r', by simp [hr'], e⟩
    · rcases rid_updStep_sub lv xid cid g f rows r q1 hq1 with e | ⟨q0, hq0, e0⟩
      · exact .inl ⟨r, by simp, e1.trans e⟩
      · exact .inr ⟨q0, hq0, e1.trans e0⟩

theorem RidLt.updRun {rows : List Ver} {nr : Nat} (h : RidLt rows nr) (lv : View) (xid cid : Nat) (g : List Value → Bool)
    (f : List Value → List Value) (ts : List Ver) (hts : ∀ r ∈ ts, r ∈ rows) : RidLt (updRun lv xid cid g f rows ts) nr := by
  intro q hq
  rcases rid_updRun lv xid cid g f ts rows q hq with ⟨r, hr, e⟩ | ⟨q0, hq0, e⟩
  · rw [e]; exact h r (hts r hr)
  · rw [e]; exact h q0 hq0

namespace Stored
variable {lv : View} {xid cid nr : Nat} {rows : List Ver}

theorem mono (h : Stored lv xid cid nr rows) {c' : Nat} (hc : cid ≤ c') : Stored lv xid c' nr rows :=
  ⟨h.nodup, h.fresh.mono hc, h.ridLt⟩

theorem ridInj (h : Stored lv xid cid nr rows) : RidInj lv rows := .of_nodup h.nodup

/-- INSERT: a version written at command `c < cid` under the table's next row id -/
theorem new {w : World} (h : Stored (latestView w xid) xid cid nr rows) (hx : xid ≠ 0) {c : Nat} (hc : c < 1000000000) (hcc : c < cid)
    (v : List Value) : Stored (latestView w xid) xid cid (nr + 1) (newVer xid c nr v :: rows) := by
  refine ⟨?_, h.fresh.new hx hcc nr v, h.ridLt.cons _ (Nat.le_succ nr) (Nat.lt_succ_self nr)⟩
  rw [filter_vis_new w xid c nr hx hc, List.map_cons, List.nodup_cons]
  refine ⟨fun hm => ?_, h.nodup⟩
  obtain ⟨q, hq, e⟩ := List.mem_map.mp hm
  exact absurd e (Nat.ne_of_lt (h.ridLt q (List.mem_filter.mp hq).1))

end Stored

/-! ### a table with one unique key -/

section
variable {κ : Type} {Ty : List Value → Prop} {K : List Value → κ}

structure KeyInv (Ty : List Value → Prop) (K : List Value → κ) (lv : View) (rows : List Ver) : Prop where
  typed : ∀ r ∈ rows, Ty r.vals
  ridNodup : ((rows.filter (fun r => r.visible lv)).map (·.rid)).Nodup
  keyNodup : ((rows.filter (fun r => r.visible lv)).map (fun r => K r.vals)).Nodup

/-- a visible row with the key of the visible row `r` is `r` -/
theorem KeyInv.other {lv : View} {rows : List Ver} (h : KeyInv Ty K lv rows) {r q : Ver} (hr : r ∈ rows) (hv : r.visible lv = true)
    (hq : q ∈ rows) (hvq : q.visible lv = true) (hk : K q.vals = K r.vals) : q = r :=
  nodup_map_inj (fun x : Ver => K x.vals) _ h.keyNodup q (List.mem_filter.mpr ⟨hq, hvq⟩) r (List.mem_filter.mpr ⟨hr, hv⟩) hk

theorem KeyInv.mono {lv : View} {rows : List Ver} {Ty' : List Value → Prop} (h : KeyInv Ty K lv rows) (hty : ∀ v, Ty v → Ty' v) :
    KeyInv Ty' K lv rows := ⟨fun r hr => hty _ (h.typed r hr), h.ridNodup, h.keyNodup⟩

/-- INSERT: a typed row under a row id and a key that no visible row has -/
theorem KeyInv.new {w : World} {xid : Nat} {rows : List Ver} (h : KeyInv Ty K (latestView w xid) rows) (hx : xid ≠ 0) {c : Nat}
    (hc : c < 1000000000) (rid : Nat) (v : List Value) (hty : Ty v)
    (hrid : ∀ q ∈ rows, q.visible (latestView w xid) = true → q.rid ≠ rid)
    (hkey : ∀ q ∈ rows, q.visible (latestView w xid) = true → K q.vals ≠ K v) :
    KeyInv Ty K (latestView w xid) (newVer xid c rid v :: rows) := by
  refine ⟨fun r hr => (List.mem_cons.mp hr).elim (fun e => e ▸ hty) (h.typed r), ?_, ?_⟩ <;>
    rw [filter_vis_new w xid c rid hx hc, List.map_cons, List.nodup_cons]
  · exact ⟨fun hm => let ⟨q, hq, e⟩ := List.mem_map.mp hm; hrid q (List.mem_filter.mp hq).1 (List.mem_filter.mp hq).2 e, h.ridNodup⟩
  · exact ⟨fun hm => let ⟨q, hq, e⟩ := List.mem_map.mp hm; hkey q (List.mem_filter.mp hq).1 (List.mem_filter.mp hq).2 e, h.keyNodup⟩

/-- UPDATE of one row by an `f` that keeps its type and its key -/
theorem KeyInv.updStep {w : World} {xid cid : Nat} (hx : xid ≠ 0) (hc : cid < 1000000000) {g : List Value → Bool}
    {f : List Value → List Value} {rows : List Ver} {r : Ver} (h : KeyInv Ty K (latestView w xid) rows) (hr : r ∈ rows)
    (hv : r.visible (latestView w xid) = true) (hg : g r.vals = true) (hty : Ty (f r.vals)) (hk : K (f r.vals) = K r.vals) :
    KeyInv Ty K (latestView w xid) (updStep (latestView w xid) xid cid g f rows r) := by
  refine ⟨fun q hq => ?_, ?_, ?_⟩
  · rw [Ledger.Sql.updStep, if_pos hg] at hq
    rcases List.mem_cons.mp hq with rfl | hq
    · exact hty
    · obtain ⟨q0, hq0, rfl⟩ := List.mem_map.mp hq
      rw [closeRow_vals]; exact h.typed q0 hq0
  · exact nodup_updStep w xid cid hx hc g f rows r h.ridNodup hr hv
  · rw [filter_vis_updStep w xid cid hx hc g f rows r hg]
    exact nodup_cons_filter_rid (fun q => K q.vals) _ r _ h.keyNodup (List.mem_filter.mpr ⟨hr, hv⟩) hk

end

/-! ### the snapshot of the running command against what the transaction reads -/

/-- a version written under the running command id is invisible to the statement itself -/
theorem not_visible_cv_own (s : St) (hs : TxState s) (r : Ver) (h1 : r.xmin = s.xid) (h2 : r.cmin = s.cid) : r.visible (cv s) = false := by
  have hx := hs.xid
  simp [Ver.visible, xidVisible, cv, h1, h2, hx]

theorem filter_cv_new (s : St) (hs : TxState s) (rid : Nat) (v : List Value) (rows : List Ver) :
    (newVer s.xid s.cid rid v :: rows).filter (fun r => r.visible (cv s)) = rows.filter (fun r => r.visible (cv s)) := by
  rw [List.filter_cons, not_visible_cv_own s hs _ rfl rfl]
  rfl

theorem filter_cv_latest (s : St) (hs : TxState s) (rows : List Ver) (hf : Fresh s.xid s.cid rows) :
    rows.filter (fun r => r.visible (cv s)) = rows.filter (fun r => r.visible (latestView s.w s.xid)) :=
  List.filter_congr fun r hr => visible_cv_latest s hs rows hf r hr

/-! ### the content as a list -/

def visVals (lv : View) (rows : List Ver) : List (List Value) := (rows.filter (fun r => r.visible lv)).map (·.vals)

theorem visVals_new (w : World) (xid cid rid : Nat) (hx : xid ≠ 0) (hc : cid < 1000000000) (v : List Value) (rows : List Ver) :
    visVals (latestView w xid) (newVer xid cid rid v :: rows) = v :: visVals (latestView w xid) rows := by
  unfold visVals
  rw [filter_vis_new w xid cid rid hx hc]; rfl

theorem visVals_updRun (w : World) (xid cid : Nat) (hx : xid ≠ 0) (hc : cid < 1000000000) (g : List Value → Bool)
    (f : List Value → List Value) (rows : List Ver)
    (hnd : ((rows.filter (fun q => q.visible (latestView w xid))).map (·.rid)).Nodup) :
    (visVals (latestView w xid) (updRun (latestView w xid) xid cid g f rows
        (rows.filter (fun q => q.visible (latestView w xid))).reverse)).Perm
      ((visVals (latestView w xid) rows).map (fun v => if g v then f v else v)) := by
  have hp := (visible_updRun_all w xid cid hx hc g f rows hnd).map Prod.snd
  simpa only [visVals, List.map_map, Function.comp_def] using hp

section
variable {α : Type} {enc : α → List Value} {dec : List Value → Option α} {lv : View} {rows : List Ver} {tbl : List α}

/-- `tbl` is what the view sees of `rows`, each row being `enc` of a typed row -/
def TView (enc : α → List Value) (lv : View) (rows : List Ver) (tbl : List α) : Prop := visVals lv rows = tbl.map enc

def tabs (dec : List Value → Option α) (lv : View) (rows : List Ver) : List α := (visVals lv rows).filterMap dec

/-- two views that see the same versions of `rows` read the same content -/
theorem TView.congr {lv' : View} (h : TView enc lv rows tbl) (hv : ∀ r ∈ rows, r.visible lv' = r.visible lv) : TView enc lv' rows tbl := by
  unfold TView visVals at *
  rw [← h, List.filter_congr hv]

theorem TView.of_row (h : TView enc lv rows tbl) (r : Ver) (hr : r ∈ rows) (hv : r.visible lv = true) : ∃ a ∈ tbl, r.vals = enc a := by
  have : r.vals ∈ visVals lv rows := List.mem_map.mpr ⟨r, List.mem_filter.mpr ⟨hr, hv⟩, rfl⟩
  rw [h] at this
  obtain ⟨a, ha, e⟩ := List.mem_map.mp this
  exact ⟨a, ha, e.symm⟩

theorem TView.mem (h : TView enc lv rows tbl) (hinj : ∀ a a', enc a = enc a' → a = a') (a : α) :
    a ∈ tbl ↔ ∃ r ∈ rows, r.visible lv = true ∧ r.vals = enc a := by
  constructor
  · intro ha
    have : enc a ∈ tbl.map enc := List.mem_map_of_mem ha
    rw [← h] at this
    obtain ⟨r, hr, e⟩ := List.mem_map.mp this
    exact ⟨r, (List.mem_filter.mp hr).1, (List.mem_filter.mp hr).2, e⟩
  · rintro ⟨r, hr, hvis, e⟩
    obtain ⟨a', ha', e'⟩ := h.of_row r hr hvis
    rw [hinj a a' (e.symm.trans e')]; exact ha'

theorem TView.abs (hde : ∀ a, dec (enc a) = some a) (htyped : ∀ r ∈ rows, r.visible lv = true → ∃ a, r.vals = enc a) :
    TView enc lv rows (tabs dec lv rows) := by
  unfold TView tabs visVals
  induction rows with
  | nil => rfl
  | cons r rs ih =>
    have ihh := ih (fun x hx => htyped x (List.mem_cons_of_mem _ hx))
    rw [List.filter_cons]
    split
    · next hv =>
      obtain ⟨a, ha⟩ := htyped r List.mem_cons_self hv
      rw [List.map_cons, List.filterMap_cons, ha, hde, List.map_cons, ← ihh]
    · exact ihh

theorem TView.tabs_eq (hde : ∀ a, dec (enc a) = some a) (h : TView enc lv rows tbl) : tabs dec lv rows = tbl := by
  unfold tabs
  rw [h, List.filterMap_map]
  have : (dec ∘ enc) = some := funext hde
  rw [this, List.filterMap_some]

theorem TView.new {w : World} {xid : Nat} (h : TView enc (latestView w xid) rows tbl) (cid rid : Nat) (hx : xid ≠ 0)
    (hc : cid < 1000000000) (a : α) : TView enc (latestView w xid) (newVer xid cid rid (enc a) :: rows) (a :: tbl) := by
  unfold TView at h ⊢
  rw [visVals_new w xid cid rid hx hc, h]; rfl

theorem TView.of_perm (hde : ∀ a, dec (enc a) = some a) (h : (visVals lv rows).Perm (tbl.map enc)) :
    TView enc lv rows (tabs dec lv rows) ∧ (tabs dec lv rows).Perm tbl := by
  refine ⟨TView.abs hde (fun r hr hv => ?_), ?_⟩
  · have : r.vals ∈ tbl.map enc := h.mem_iff.mp (List.mem_map.mpr ⟨r, List.mem_filter.mpr ⟨hr, hv⟩, rfl⟩)
    obtain ⟨a, _, e⟩ := List.mem_map.mp this
    exact ⟨a, e.symm⟩
  · have hp := h.filterMap dec
    rwa [List.filterMap_map, show (dec ∘ enc) = some from funext hde, List.filterMap_some] at hp

/-- an UPDATE on typed rows: guard `gT` and new row `fT` are what `g` and `f` do on encoded rows -/
theorem TView.upd {rows' : List Ver} (hde : ∀ a, dec (enc a) = some a) (h : TView enc lv rows tbl) (g : List Value → Bool)
    (f : List Value → List Value) (hp : (visVals lv rows').Perm ((visVals lv rows).map (fun v => if g v then f v else v)))
    (gT : α → Bool) (fT : α → α) (hg : ∀ a ∈ tbl, g (enc a) = gT a) (hf : ∀ a ∈ tbl, gT a = true → f (enc a) = enc (fT a)) :
    TView enc lv rows' (tabs dec lv rows') ∧ (tabs dec lv rows').Perm (tbl.map fun a => if gT a then fT a else a) := by
  refine TView.of_perm hde (hp.trans (List.Perm.of_eq ?_))
  rw [show visVals lv rows = tbl.map enc from h, List.map_map, List.map_map]
  apply List.map_congr_left
  intro a ha
  simp only [Function.comp, hg a ha]
  cases hga : gT a
  · rfl
  · simp only [if_true]; exact hf a ha hga

theorem TView.updRun {w : World} {xid : Nat} (hde : ∀ a, dec (enc a) = some a) (h : TView enc (latestView w xid) rows tbl) (cid : Nat)
    (hx : xid ≠ 0) (hc : cid < 1000000000) (hnd : ((rows.filter (fun q => q.visible (latestView w xid))).map (·.rid)).Nodup)
    (g : List Value → Bool) (f : List Value → List Value) (gT : α → Bool) (fT : α → α) (hg : ∀ a ∈ tbl, g (enc a) = gT a)
    (hf : ∀ a ∈ tbl, gT a = true → f (enc a) = enc (fT a)) :
    TView enc (latestView w xid)
        (Ledger.Sql.updRun (latestView w xid) xid cid g f rows (rows.filter (fun q => q.visible (latestView w xid))).reverse)
        (tabs dec (latestView w xid)
          (Ledger.Sql.updRun (latestView w xid) xid cid g f rows (rows.filter (fun q => q.visible (latestView w xid))).reverse)) ∧
      (tabs dec (latestView w xid)
          (Ledger.Sql.updRun (latestView w xid) xid cid g f rows (rows.filter (fun q => q.visible (latestView w xid))).reverse)).Perm
        (tbl.map fun a => if gT a then fT a else a) :=
  h.upd hde g f (visVals_updRun w xid cid hx hc g f rows hnd) gT fT hg hf

end

/-! ### the content as a finite map -/

section
variable {κ : Type} [DecidableEq κ] (key : Nat → List Value → κ)

/-- the values of the row with key `k`, as read under `lv` -/
def get (lv : View) (rows : List Ver) (k : κ) : Option (List Value) :=
  (rows.find? (fun r => r.visible lv && decide (key r.rid r.vals = k))).map (·.vals)

structure Keyed (lv : View) (rows : List Ver) : Prop where
  inj : ∀ r1 ∈ rows, ∀ r2 ∈ rows, r1.visible lv = true → r2.visible lv = true → (r1.rid = r2.rid ↔ key r1.rid r1.vals = key r2.rid r2.vals)

variable {key}

theorem get_eq_none {lv : View} {rows : List Ver} {k : κ} (h : get key lv rows k = none) :
    ∀ r ∈ rows, r.visible lv = true → key r.rid r.vals ≠ k := by
  intro r hr hv hk
  cases hf : rows.find? (fun r => r.visible lv && decide (key r.rid r.vals = k)) with
  | some x => rw [get, hf] at h; cases h
  | none =>
    have := List.find?_eq_none.mp hf r hr
    simp [hv, hk] at this

theorem get_map (lv : View) (rows : List Ver) (f : Ver → Ver) (hvis : ∀ r, (f r).visible lv = r.visible lv)
    (hrid : ∀ r, (f r).rid = r.rid) (hvals : ∀ r, (f r).vals = r.vals) (k : κ) : get key lv (rows.map f) k = get key lv rows k := by
  unfold get
  rw [List.find?_map]
  have : ((fun r : Ver => r.visible lv && decide (key r.rid r.vals = k)) ∘ f) = fun r => r.visible lv && decide (key r.rid r.vals = k) := by
    funext r; simp only [Function.comp, hvis, hrid, hvals]
  rw [this]
  cases rows.find? (fun r => r.visible lv && decide (key r.rid r.vals = k)) <;> simp [hvals]

omit [DecidableEq κ] in
theorem Keyed.map {lv : View} {rows : List Ver} (h : Keyed key lv rows) (f : Ver → Ver)
    (hrid : ∀ r, (f r).rid = r.rid) (hvals : ∀ r, (f r).vals = r.vals) (hvis : ∀ r, (f r).visible lv = true → r.visible lv = true) :
    Keyed key lv (rows.map f) := by
  refine ⟨?_⟩
  · intro r1 h1 r2 h2 v1 v2
    obtain ⟨q1, hq1, rfl⟩ := List.mem_map.mp h1
    obtain ⟨q2, hq2, rfl⟩ := List.mem_map.mp h2
    rw [hrid, hrid, hvals, hvals]
    exact h.inj q1 hq1 q2 hq2 (hvis _ v1) (hvis _ v2)

omit [DecidableEq κ] in
theorem Keyed.cons {lv : View} {rows : List Ver} (h : Keyed key lv rows) (x : Ver)
    (hfresh : ∀ r ∈ rows, r.visible lv = true → r.rid ≠ x.rid ∧ key r.rid r.vals ≠ key x.rid x.vals) :
    Keyed key lv (x :: rows) := by
  refine ⟨?_⟩
  · intro r1 h1 r2 h2 v1 v2
    rcases List.mem_cons.mp h1 with e1 | m1 <;> rcases List.mem_cons.mp h2 with e2 | m2
    · rw [e1, e2]; simp
    · rw [e1]; exact ⟨fun e => absurd e.symm (hfresh r2 m2 v2).1, fun e => absurd e.symm (hfresh r2 m2 v2).2⟩
    · rw [e2]; exact ⟨fun e => absurd e (hfresh r1 m1 v1).1, fun e => absurd e (hfresh r1 m1 v1).2⟩
    · exact h.inj r1 m1 r2 m2 v1 v2

section writes
variable (w : World) (xid cid : Nat)

theorem get_new (hx : xid ≠ 0) (hc : cid < 1000000000) (rid : Nat) (v : List Value) (rows : List Ver) (k : κ) :
    get key (latestView w xid) (newVer xid cid rid v :: rows) k = if key rid v = k then some v else get key (latestView w xid) rows k := by
  unfold get
  rw [List.find?_cons, newVer_visible w xid cid rid v hx hc]
  by_cases h : key rid v = k <;> simp [h, newVer]

theorem Keyed.ins {rows : List Ver} {nr : Nat} (h : Keyed key (latestView w xid) rows) (hlt : RidLt rows nr) (v : List Value)
    (hnone : get key (latestView w xid) rows (key nr v) = none) :
    Keyed key (latestView w xid) (newVer xid cid nr v :: rows) :=
  h.cons _ fun r hr hv => ⟨Nat.ne_of_lt (hlt r hr), get_eq_none hnone r hr hv⟩

theorem get_close (hx : xid ≠ 0) (hc : cid < 1000000000) {rows : List Ver} (h : Keyed key (latestView w xid) rows) (ex : Ver) (hex : ex ∈ rows)
    (hv : ex.visible (latestView w xid) = true) (k : κ) :
    get key (latestView w xid) (rows.map (closeRow (latestView w xid) xid cid ex.rid)) k =
      if key ex.rid ex.vals = k then none else get key (latestView w xid) rows k := by
  unfold get
  rw [List.find?_map]
  have hp : ∀ r ∈ rows, ((fun r : Ver => r.visible (latestView w xid) && decide (key r.rid r.vals = k)) ∘ closeRow (latestView w xid) xid cid ex.rid) r =
      (r.visible (latestView w xid) && decide (key r.rid r.vals = k) && !decide (key ex.rid ex.vals = k)) := by
    intro r hr
    simp only [Function.comp, closeRow_visible w xid cid ex.rid r hx hc, closeRow_vals, closeRow_rid]
    cases hvr : r.visible (latestView w xid) with
    | false => rfl
    | true =>
      have hi := h.inj r hr ex hex hvr hv
      by_cases h1 : key r.rid r.vals = k <;> by_cases h2 : key ex.rid ex.vals = k
      · simp [h2, hi.mpr (h1.trans h2.symm)]
      · have : r.rid ≠ ex.rid := fun e => h2 ((hi.mp e).symm.trans h1)
        simp [h1, h2, this]
      · simp [h1]
      · simp [h1]
  rw [find?_ext_mem' _ _ rows hp]
  by_cases h2 : key ex.rid ex.vals = k
  · simp [h2]
  · simp only [h2, decide_false, Bool.not_false, Bool.and_true, if_false]
    cases rows.find? (fun r => r.visible (latestView w xid) && decide (key r.rid r.vals = k)) <;> simp

theorem get_upd (hx : xid ≠ 0) (hc : cid < 1000000000) {rows : List Ver} (h : Keyed key (latestView w xid) rows) (ex : Ver) (hex : ex ∈ rows)
    (hv : ex.visible (latestView w xid) = true) (v : List Value) (hk : key ex.rid v = key ex.rid ex.vals) (k : κ) :
    get key (latestView w xid) (newVer xid cid ex.rid v :: rows.map (closeRow (latestView w xid) xid cid ex.rid)) k =
      if key ex.rid v = k then some v else get key (latestView w xid) rows k := by
  rw [get_new w xid cid hx hc, get_close w xid cid hx hc h ex hex hv, ← hk]
  by_cases h1 : key ex.rid v = k <;> simp [h1]

omit [DecidableEq κ] in
theorem Keyed.upd (hx : xid ≠ 0) (hc : cid < 1000000000) {rows : List Ver} (h : Keyed key (latestView w xid) rows) (ex : Ver) (hex : ex ∈ rows)
    (hv : ex.visible (latestView w xid) = true) (v : List Value) (hk : key ex.rid v = key ex.rid ex.vals) :
    Keyed key (latestView w xid) (newVer xid cid ex.rid v :: rows.map (closeRow (latestView w xid) xid cid ex.rid)) := by
  refine (h.map _ (closeRow_rid _ xid cid ex.rid) (closeRow_vals _ xid cid ex.rid)
    (fun r hr => by rw [closeRow_visible w xid cid _ _ hx hc, Bool.and_eq_true] at hr; exact hr.1)).cons _ ?_
  intro q hq hvq
  obtain ⟨r0, hr0, rfl⟩ := List.mem_map.mp hq
  rw [closeRow_visible w xid cid _ _ hx hc, Bool.and_eq_true] at hvq
  have hne : r0.rid ≠ ex.rid := by simpa using hvq.2
  exact ⟨by simpa [newVer] using hne, fun e => hne ((h.inj r0 hr0 ex hex hvq.1 hv).mpr (by simpa [newVer, hk] using e))⟩

end writes

theorem get_lock (lv lv' : View) (xid cid rid : Nat) (rows : List Ver) (k : κ) :
    get key lv (rows.map (lockRow lv' xid cid rid)) k = get key lv rows k :=
  get_map lv rows _ (fun r => lockRow_visible lv' lv xid cid rid r) (lockRow_rid lv' xid cid rid) (lockRow_vals lv' xid cid rid) k

omit [DecidableEq κ] in
theorem Keyed.lock {lv : View} {rows : List Ver} (h : Keyed key lv rows) (lv' : View) (xid cid rid : Nat) :
    Keyed key lv (rows.map (lockRow lv' xid cid rid)) :=
  h.map _ (lockRow_rid lv' xid cid rid) (lockRow_vals lv' xid cid rid) (fun r hr => by rwa [lockRow_visible] at hr)

end

theorem visLookup_eq_get (lv : View) (rows : List Ver) (rid : Nat) :
    visLookup lv rows rid = get (fun r _ => r) lv rows rid := by
  unfold visLookup get
  congr 2
  funext r
  rw [Bool.and_comm]
  by_cases h : r.rid = rid <;> simp [h]

theorem keyed_rid (lv : View) (rows : List Ver) : Keyed (fun r (_ : List Value) => r) lv rows := ⟨fun _ _ _ _ _ _ => Iff.rfl⟩

theorem visLookup_of_mem (lv : View) (rows : List Ver) (r : Ver) (hr : r ∈ rows) (hv : r.visible lv = true) (hinj : RidInj lv rows) :
    visLookup lv rows r.rid = some r.vals := by
  unfold visLookup
  rw [find?_rid_visible hr hv hinj]
  rfl

theorem visLookup_updStep (w : World) (xid cid : Nat) (hx : xid ≠ 0) (hc : cid < 1000000000) (g : List Value → Bool) (f : List Value → List Value)
    (rows : List Ver) (r : Ver) (hr : r ∈ rows) (hv : r.visible (latestView w xid) = true) (rid : Nat) :
    visLookup (latestView w xid) (updStep (latestView w xid) xid cid g f rows r) rid =
      if rid = r.rid ∧ g r.vals = true then some (f r.vals) else visLookup (latestView w xid) rows rid := by
  unfold updStep
  cases hg : g r.vals with
  | false => simp
  | true =>
    rw [if_pos rfl, visLookup_eq_get, visLookup_eq_get, get_upd w xid cid hx hc (keyed_rid _ rows) r hr hv (f r.vals) rfl rid]
    by_cases he : r.rid = rid
    · simp [he]
    · rw [if_neg he, if_neg (fun h => he h.1.symm)]

theorem visLookup_updRun (w : World) (xid cid : Nat) (hx : xid ≠ 0) (hc : cid < 1000000000) (g : List Value → Bool) (f : List Value → List Value) :
    ∀ (ts rows : List Ver), (∀ r ∈ ts, r ∈ rows ∧ r.visible (latestView w xid) = true) → (ts.map (·.rid)).Nodup →
      ((rows.filter (fun q => q.visible (latestView w xid))).map (·.rid)).Nodup → ∀ rid,
      visLookup (latestView w xid) (updRun (latestView w xid) xid cid g f rows ts) rid =
        if rid ∈ ts.map (·.rid) then (visLookup (latestView w xid) rows rid).map (fun v => if g v then f v else v)
        else visLookup (latestView w xid) rows rid := by
  intro ts
  induction ts with
  | nil => intro rows _ _ _ rid; simp [updRun]
  | cons r rest ih =>
    intro rows hts hnd hndv rid
    obtain ⟨hr, hv⟩ := hts r (by simp)
    show visLookup _ (updRun _ xid cid g f (updStep _ xid cid g f rows r) rest) rid = _
    rw [ih _ (targets_updStep hts hnd) (List.nodup_cons.mp hnd).2 (nodup_updStep w xid cid hx hc g f rows r hndv hr hv) rid,
      visLookup_updStep w xid cid hx hc g f rows r hr hv rid]
    have hlr := visLookup_of_mem _ rows r hr hv (.of_nodup hndv)
    by_cases he : rid = r.rid
    · subst he
      have hnotin : ¬ r.rid ∈ rest.map (·.rid) := (List.nodup_cons.mp hnd).1
      simp only [hnotin, if_false, List.map_cons, List.mem_cons, true_or, if_true, true_and, hlr, Option.map_some]
      cases g r.vals <;> simp
    · simp [he]

/-! ### the UPDATE over every row the transaction sees, in scan order (where `execUpdate` ends) -/

section
variable (w : World) (xid cid : Nat) (g : List Value → Bool) (f : List Value → List Value)

theorem nodup_updAll (hx : xid ≠ 0) (hc : cid < 1000000000) (rows : List Ver)
    (hnd : ((rows.filter (fun q => q.visible (latestView w xid))).map (·.rid)).Nodup) :
    (((updRun (latestView w xid) xid cid g f rows (rows.filter (fun q => q.visible (latestView w xid))).reverse).filter
      (fun q => q.visible (latestView w xid))).map (·.rid)).Nodup := by
  have hp := (visible_updRun w xid cid hx hc g f _ rows hnd (targets_all hnd).1 (targets_all hnd).2).map Prod.fst
  simp only [List.map_map, Function.comp_def] at hp
  exact hp.nodup_iff.mpr hnd

theorem Stored.updAll {nr c : Nat} {rows : List Ver} (h : Stored (latestView w xid) xid cid nr rows) (hx : xid ≠ 0) (hc : c < 1000000000)
    (hcc : c < cid) :
    Stored (latestView w xid) xid cid nr
      (updRun (latestView w xid) xid c g f rows (rows.filter (fun q => q.visible (latestView w xid))).reverse) :=
  ⟨nodup_updAll w xid c g f hx hc rows h.nodup, Fresh_updRun _ xid c cid hcc hx g f _ rows h.fresh,
    h.ridLt.updRun _ xid c g f _ fun r hr => ((targets_all h.nodup).1 r hr).1⟩

/-- every row id reads its old values through the UPDATE (one the transaction does not see reads nothing, before and after) -/
theorem visLookup_updAll (hx : xid ≠ 0) (hc : cid < 1000000000) (rows : List Ver)
    (hnd : ((rows.filter (fun q => q.visible (latestView w xid))).map (·.rid)).Nodup) (rid : Nat) :
    visLookup (latestView w xid) (updRun (latestView w xid) xid cid g f rows (rows.filter (fun q => q.visible (latestView w xid))).reverse) rid =
      (visLookup (latestView w xid) rows rid).map (fun v => if g v then f v else v) := by
  rw [visLookup_updRun w xid cid hx hc g f _ rows (targets_all hnd).1 (targets_all hnd).2 hnd rid]
  split
  · rfl
  · next hm =>
    rw [show visLookup (latestView w xid) rows rid = none from by
      unfold visLookup
      rw [List.find?_eq_none.mpr fun r hr hc => by
        simp only [Bool.and_eq_true, beq_iff_eq] at hc
        exact hm (by simpa using ⟨r, ⟨hr, hc.2⟩, hc.1⟩)]
      rfl]
    rfl

end

end Ledger.Sql
