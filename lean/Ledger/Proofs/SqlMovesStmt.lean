import Ledger.Proofs.SqlMovesDrain

/-!
# `INSERT INTO moves … RETURNING …` with its row triggers, as one statement
-/
open Ledger Ledger.Sql Ledger.Generated Ledger.Core
namespace Ledger.Sql
open Ledger.Spec

/-- a non-empty batch: the accumulator holds the RETURNING columns and one row per inserted move -/
theorem insAcc_eq : ∀ (news : List Spec.MoveRow) (acc : DmlAcc), news ≠ [] →
    insAcc acc news = ⟨["post_commit_volumes", "post_commit_effective_volumes"], acc.retRows ++ news.map retOf, acc.affected + news.length⟩
  | [], _, h => absurd rfl h
  | [m], acc, _ => rfl
  | m :: m' :: ms, acc, _ => by
    rw [insAcc, insAcc_eq (m' :: ms) _ (List.cons_ne_nil _ _)]
    simp [List.append_assoc, Nat.add_assoc, Nat.add_comm 1]

/-- a non-empty batch leaves the sequence at the last number drawn -/
theorem seqsRun_eq (full : String) : ∀ (ms : List Spec.MoveRow) (v : Int) (seqs : List Seq), ms ≠ [] →
    seqsRun full v seqs ms = seqsSet full (v + ms.length - 1) seqs
  | [], _, _, h => absurd rfl h
  | [m], v, seqs, _ => by simp [seqsRun]
  | m :: m' :: ms, v, seqs, _ => by
    rw [seqsRun, seqsRun_eq full (m' :: ms) _ _ (List.cons_ne_nil _ _), seqsSet_seqsSet]
    congr 1
    simp only [List.length_cons]
    omega

theorem insNew_length (ln : String) : ∀ (ms : List Spec.MoveRow) (tbl : List (String × Spec.MoveRow)), (insNew ln tbl ms).length = ms.length := by
  intro ms
  induction ms with
  | nil => intro _; rfl
  | cons m ms ih => intro tbl; simp [insNew, ih]

/-- the VALUES rows of `InsertMoves` evaluate to themselves -/
theorem exec_evalValuesRows_moves (n : Nat) (env : Env) (ln : String) (prs : List WriteSql.P.MoveRow) (s : St) :
    ((prs.map fun r => [(Expr.int r.transactions_id), (Expr.bool r.is_source), (Expr.str r.accounts_address), (Expr.str (toString r.amount)),
        (Expr.str r.asset), (Expr.str r.insertion_date), (Expr.str r.effective_date), (Expr.str r.post_commit_volumes), (Expr.str ln)]).mapM
      (fun row => evalValuesRow (n + 1) env row)).exec s = (.ok (prs.map (fun r => mvSrcRow r ln)), s) := by
  rw [List.mapM_map]
  apply exec_mapM_pure _ (fun r => mvSrcRow r ln)
  intro r _
  exact exec_evalValuesRow_pv n env _ [.int r.transactions_id, .bool r.is_source, .text r.accounts_address, .text (toString r.amount),
    .text r.asset, .text r.insertion_date, .text r.effective_date, .text r.post_commit_volumes, .text ln] s (by simp) rfl


structure MvStmtState (s : St) (b ln : String) (trigs : List TriggerDef)
    (B1 B2 : List TriggerDef) (trB : TriggerDef) (A1 A2 : List TriggerDef) (trA : TriggerDef)
    (item wher dflt_ : Expr) (fB : PlFunc) (setE whereU : Expr) (fA : PlFunc) (nr : Nat) (rows : List Ver) (sq : Seq) : Prop where
  tx : TxState s
  cidLt : s.cid < s.nextCid
  q0 : s.afterQ = []
  bne : b.isEmpty = false
  static : MvStatic s.w.funcs s.w.types b ln trigs B1 B2 trB A1 A2 trA item wher dflt_ fB
  schA : schemaOf trA.fname = b
  funA : s.w.funcs.lookup trA.fname = some fA
  declsA : fA.decls = []
  bodyA : fA.body = updEffBody setE whereU
  semA : UpdEffSem setE whereU
  noUpdB : trigs.filter (fun tr => tr.timing == .before && tr.event == .update) = []
  noUpdA : trigs.filter (fun tr => tr.timing == .after && tr.event == .update) = []
  table : s.w.table? (mvFull b) = some ((mvT b trigs nr).withRows rows)
  seq : s.w.seqs.find? (·.name == mvSeqFull b) = some sq
  inv : MvInv (latestView s.w s.xid) sq.next rows
  fresh : Fresh s.xid s.nextCid rows
  ridLt : ∀ r ∈ rows, r.rid < nr

/-- the statement of `InsertMoves` -/
def insertMovesStmt (b ln : String) (prs : List WriteSql.P.MoveRow) : Stmt :=
  Stmt.insert [] b "moves" "" mvInsertCols (InsertSrc.values (prs.map fun r =>
    [(Expr.int r.transactions_id), (Expr.bool r.is_source), (Expr.str r.accounts_address), (Expr.str (toString r.amount)), (Expr.str r.asset),
     (Expr.str r.insertion_date), (Expr.str r.effective_date), (Expr.str r.post_commit_volumes), (Expr.str ln)])) none mvReturning

theorem insertMoves_shape (b ln : String) (id : Nat) (prs : List WriteSql.P.MoveRow) :
    WriteSql.P.insertMoves b ln id prs = [insertMovesStmt b ln prs] := rfl


theorem MvStmtState.stored {s : St} {b ln : String} {trigs B1 B2 : List TriggerDef} {trB : TriggerDef} {A1 A2 : List TriggerDef}
    {trA : TriggerDef} {item wher dflt_ : Expr} {fB : PlFunc} {setE whereU : Expr} {fA : PlFunc} {nr : Nat} {rows : List Ver} {sq : Seq}
    (h : MvStmtState s b ln trigs B1 B2 trB A1 A2 trA item wher dflt_ fB setE whereU fA nr rows sq) :
    MvStored (latestView s.w s.xid) s.xid s.nextCid nr sq.next rows := ⟨⟨h.inv.ridNodup, h.fresh, h.ridLt⟩, h.inv⟩

/-- `INSERT INTO moves (…) VALUES … RETURNING post_commit_volumes, post_commit_effective_volumes` with the row triggers of ledger `ln`,
    as the session runs it (`runStmt`), on stored rows: the rows `insNew` are returned, the view becomes `drainTbl` of `insTbl`, up to
    order. -/
theorem exec_runStmt_insertMoves (p : Nat) (env : Env) (b ln : String) (trigs : List TriggerDef)
    (B1 B2 : List TriggerDef) (trB : TriggerDef) (A1 A2 : List TriggerDef) (trA : TriggerDef) (item wher dflt_ : Expr) (fB : PlFunc)
    (setE whereU : Expr) (fA : PlFunc) (nr : Nat) (rows : List Ver) (sq : Seq) (s : St)
    (hst : MvStmtState s b ln trigs B1 B2 trB A1 A2 trA item wher dflt_ fB setE whereU fA nr rows sq)
    (pm : List (WriteSql.P.MoveRow × Spec.MoveRow)) (hne : pm ≠ []) (hlits : ∀ x ∈ pm, MvLit s.w.types x.1 x.2)
    (hsf : SeqFrom sq.next (pm.map (·.2))) (hrange : sq.next + pm.length ≤ 9223372036854775808)
    (hnc : s.nextCid + 4 * pm.length ≤ 1000000000) :
    ∃ rows', (runStmt (p + 15) env (insertMovesStmt b ln (pm.map (·.1)))).exec s =
        (.ok { rel := { cols := ["post_commit_volumes", "post_commit_effective_volumes"],
                        rows := (insNew ln (mvAbs (latestView s.w s.xid) rows) (pm.map (·.2))).map retOf },
               affected := pm.length },
         ((s.withSeqs (seqsSet (mvSeqFull b) (sq.next + pm.length - 1) s.w.seqs)).bump (4 * pm.length)).withTable
           ((mvT b trigs (nr + pm.length)).withRows rows')) ∧
      MvStored (latestView s.w s.xid) s.xid (s.nextCid + 4 * pm.length) (nr + pm.length) (sq.next + pm.length) rows' ∧
      (mvAbs (latestView s.w s.xid) rows').Perm
        (drainTbl ln (insTbl ln (mvAbs (latestView s.w s.xid) rows) (pm.map (·.2)))
          (insNew ln (mvAbs (latestView s.w s.xid) rows) (pm.map (·.2)))) := by
  obtain ⟨rows1, hloop, hS1, hview1⟩ := exec_insertLoop_moves p env b ln trigs B1 B2 trB A1 A2 trA item wher dflt_ fB s hst.tx hst.cidLt
    hst.static _ hst.table pm hlits nr rows s.w.seqs 0 {} [] sq hst.seq hsf hrange (by omega) (by simpa using hst.stored)
  have hstart : ((((s.withSeqs s.w.seqs).bump 0).withTable ((mvT b trigs nr).withRows rows)).addQ []) = s := by
    rw [addQ_nil, show (s.withSeqs s.w.seqs).bump 0 = s from rfl]
    exact withTable_self s _ hst.table hst.tx.names
  have hlenN : (insNew ln (mvAbs (latestView s.w s.xid) rows) (pm.map (·.2))).length = pm.length := by
    rw [insNew_length, List.length_map]
  rw [hstart, seqsRun_eq _ _ _ _ (by simpa using hne), List.length_map] at hloop
  simp only [Nat.zero_add, List.nil_append, Nat.add_zero] at hloop hS1
  generalize insNew ln (mvAbs (latestView s.w s.xid) rows) (pm.map (·.2)) = news at hloop hlenN ⊢
  have hnn : news ≠ [] := fun h => hne (List.eq_nil_of_length_eq_zero (by rw [← hlenN, h]; rfl))
  rw [insAcc_eq news {} hnn] at hloop
  obtain ⟨rows', hdrain, hS2, hperm⟩ := exec_drainFold_moves (p + 2) b ln trA.fname setE whereU hst.semA fA hst.declsA hst.bodyA
    (s.withSeqs (seqsSet (mvSeqFull b) (sq.next + pm.length - 1) s.w.seqs)) (hst.tx.withSeqs _) hst.funA hst.schA hst.static.types
    trigs (nr + pm.length) hst.noUpdB hst.noUpdA _ hst.table (sq.next + pm.length) news rows1 (2 * pm.length)
    (by simp only [withSeqs_nextCid, hlenN]; omega) (by simpa using hS1)
  simp only [withSeqs_latestView, withSeqs_xid, withSeqs_nextCid, hlenN] at hdrain hS2 hperm
  rw [hview1] at hperm
  refine ⟨rows', ?_, by rw [show s.nextCid + 4 * pm.length = s.nextCid + 2 * pm.length + 2 * pm.length by omega]; exact hS2, hperm⟩
  have hvals := exec_evalValuesRows_moves (p + 11) env ln (pm.map (·.1)) s
  rw [show (pm.map (·.1)).map (fun r => mvSrcRow r ln) = pm.map (fun x => mvSrcRow x.1 ln) by simp [List.map_map, Function.comp],
    show p + 11 + 1 = p + 12 from rfl] at hvals
  -- the statement proper ends after the row loop, with the queue still to be drained
  have hins := exec_runStmt_queue (p + 12) env (insertMovesStmt b ln (pm.map (·.1))) s
    (((s.withSeqs (seqsSet (mvSeqFull b) (sq.next + pm.length - 1) s.w.seqs)).bump (2 * pm.length)).withTable
      ((mvT b trigs (nr + pm.length)).withRows rows1))
    (((s.withSeqs (seqsSet (mvSeqFull b) (sq.next + pm.length - 1) s.w.seqs)).bump (2 * pm.length + 2 * pm.length)).withTable
      ((mvT b trigs (nr + pm.length)).withRows rows')) _ (news.map (pendingOf trA.fname (mvFull b) ln))
    (by
      rw [clearQ_of_empty s hst.q0, insertMovesStmt, execStmt_insert_noCte]
      exact exec_execInsert_values (p + 12) env b "moves" "" mvInsertCols _ _ _ hst.bne rfl s _ _ hst.table _ _ hvals hloop rfl)
    hst.q0 hst.q0 hdrain
  rw [hins, hst.q0]
  simp only [Nat.zero_add, List.nil_append, hlenN, show 2 * pm.length + 2 * pm.length = 4 * pm.length by omega]
  exact congrArg _ (clearQ_of_empty _ hst.q0)

end Ledger.Sql
