import Ledger.Proofs.ListBasic
import Ledger.Query.Cursor

/-!
Column and offset pagination (C21, the cursor part of C37): the sorted listing, the rows a page
query fetches, `BuildCursor` as equations, the walks along `next`, and the decoders of the
cursor codec on what the encoders produce.
-/
namespace Ledger.Query

def Order.lt (o : Order) (a b : Int) : Prop :=
  match o with
  | .asc => a < b
  | .desc => b < a

instance (o : Order) (a b : Int) : Decidable (o.lt a b) := by
  cases o <;> simp [Order.lt] <;> infer_instance

def KeysDistinct (T : List Row) : Prop := (T.map (·.key)).Nodup

def StrictSorted (o : Order) (S : List Row) : Prop := S.Pairwise (fun a b => o.lt a.key b.key)

theorem Order.le_trans (o : Order) (a b c : Row) : o.le a b → o.le b c → o.le a c := by
  cases o <;> intro h1 h2
  · exact decide_eq_true (Int.le_trans (of_decide_eq_true h1) (of_decide_eq_true h2))
  · exact decide_eq_true (Int.le_trans (of_decide_eq_true h2) (of_decide_eq_true h1))

theorem Order.le_total (o : Order) (a b : Row) : (o.le a b || o.le b a) = true := by
  cases o <;> simp only [Order.le, Bool.or_eq_true, decide_eq_true_eq]
  · exact Int.le_total _ _
  · exact Int.le_total _ _

theorem Order.lt_irrefl (o : Order) (a : Int) : ¬ o.lt a a := by cases o <;> exact Int.lt_irrefl a
theorem Order.lt_asymm (o : Order) {a b : Int} : o.lt a b → ¬ o.lt b a := by
  cases o <;> exact Int.lt_asymm
theorem Order.lt_trans' (o : Order) {a b c : Int} : o.lt a b → o.lt b c → o.lt a c := by
  cases o <;> intro h1 h2
  · exact Int.lt_trans h1 h2
  · exact Int.lt_trans h2 h1

theorem Order.lt_of_le_of_ne (o : Order) {a b : Row} : o.le a b → a.key ≠ b.key → o.lt a.key b.key := by
  cases o <;> intro h1 h2
  · exact Int.lt_iff_le_and_ne.mpr ⟨of_decide_eq_true h1, h2⟩
  · exact Int.lt_iff_le_and_ne.mpr ⟨of_decide_eq_true h1, h2.symm⟩

theorem Order.rev_le (o : Order) (a b : Row) : o.rev.le a b = o.le b a := by cases o <;> rfl

theorem orderBy_perm (o : Order) (T : List Row) : (orderBy o T).Perm T :=
  List.mergeSort_perm T _

theorem orderBy_length (o : Order) (T : List Row) : (orderBy o T).length = T.length :=
  (orderBy_perm o T).length_eq

theorem orderBy_sorted (o : Order) (T : List Row) : (orderBy o T).Pairwise (fun a b => o.le a b) :=
  List.pairwise_mergeSort (o.le_trans) (o.le_total) T

theorem eq_of_key_eq {T : List Row} (h : KeysDistinct T) {a b : Row} (ha : a ∈ T) (hb : b ∈ T)
    (hk : a.key = b.key) : a = b :=
  nodup_map_inj _ T h a ha b hb hk

theorem keysDistinct_perm {A B : List Row} (h : A.Perm B) (hA : KeysDistinct A) : KeysDistinct B :=
  (h.map (fun r : Row => r.key)).nodup_iff.mp hA

theorem le_antisymm_on {o : Order} {T : List Row} (h : KeysDistinct T) {a b : Row}
    (ha : a ∈ T) (hb : b ∈ T) (h1 : o.le a b) (h2 : o.le b a) : a = b := by
  apply eq_of_key_eq h ha hb
  cases o
  · exact Int.le_antisymm (of_decide_eq_true h1) (of_decide_eq_true h2)
  · exact Int.le_antisymm (of_decide_eq_true h2) (of_decide_eq_true h1)

theorem filter_orderBy (o : Order) (T : List Row) (h : KeysDistinct T) (p : Row → Bool) :
    orderBy o (T.filter p) = (orderBy o T).filter p := by
  apply List.Perm.eq_of_pairwise (le := fun a b => o.le a b)
  · intro a b ha hb h1 h2
    have ha' : a ∈ T := (List.mem_filter.mp ((orderBy_perm o _).mem_iff.mp ha)).1
    have hb' : b ∈ T := (orderBy_perm o _).mem_iff.mp (List.mem_filter.mp hb).1
    exact le_antisymm_on h ha' hb' h1 h2
  · exact orderBy_sorted o _
  · exact (orderBy_sorted o T).filter p
  · exact (orderBy_perm o _).trans ((orderBy_perm o T).filter p).symm

theorem orderBy_rev (o : Order) (T : List Row) (h : KeysDistinct T) :
    orderBy o.rev T = (orderBy o T).reverse := by
  apply List.Perm.eq_of_pairwise (le := fun a b => o.rev.le a b)
  · intro a b ha hb h1 h2
    have ha' : a ∈ T := (orderBy_perm _ _).mem_iff.mp ha
    have hb' : b ∈ T := (orderBy_perm o _).mem_iff.mp (List.mem_reverse.mp hb)
    exact le_antisymm_on h ha' hb' h1 h2
  · exact orderBy_sorted _ _
  · rw [List.pairwise_reverse]
    exact (orderBy_sorted o T).imp fun hab => (o.rev_le _ _).trans hab
  · exact (orderBy_perm _ _).trans ((List.reverse_perm _).trans (orderBy_perm o T)).symm

theorem strictSorted_orderBy (o : Order) (T : List Row) (h : KeysDistinct T) :
    StrictSorted o (orderBy o T) :=
  ((orderBy_sorted o T).and
      (List.pairwise_map.mp (keysDistinct_perm (orderBy_perm o T).symm h))).imp
    fun ⟨h1, h2⟩ => o.lt_of_le_of_ne h1 h2

theorem StrictSorted.split {o : Order} {pre suf : List Row} {x : Row}
    (h : StrictSorted o (pre ++ x :: suf)) :
    (∀ a ∈ pre, o.lt a.key x.key) ∧ ∀ a ∈ x :: suf, ¬ o.lt a.key x.key := by
  obtain ⟨_, hx, hpre⟩ := List.pairwise_append.mp h
  refine ⟨fun a ha => hpre a ha x List.mem_cons_self, fun a ha => ?_⟩
  rcases List.mem_cons.mp ha with rfl | ha
  · exact o.lt_irrefl _
  · exact o.lt_asymm ((List.pairwise_cons.mp hx).1 a ha)

theorem colWhere_fwd (o : Order) (p k : Int) : colWhere o false (some p) k = decide (¬ o.lt k p) := by
  cases o <;> simp [colWhere, Order.lt]

theorem colWhere_rev (o : Order) (p k : Int) : colWhere o true (some p) k = decide (o.lt k p) := by
  cases o <;> simp [colWhere, Order.lt]

theorem fetchCol_first (o : Order) (T : List Row) (ps : Nat) :
    fetchCol o false none ps T = (orderBy o T).take (effPageSize ps + 1) := by
  have h : T.filter (fun r => colWhere o false none r.key) = T :=
    List.filter_eq_self.mpr fun _ _ => rfl
  unfold fetchCol colOrder
  rw [if_neg Bool.false_ne_true, h]

theorem fetchCol_fwd (o : Order) (T : List Row) (hT : KeysDistinct T) (ps : Nat)
    (pre suf : List Row) (x : Row) (hS : orderBy o T = pre ++ x :: suf) :
    fetchCol o false (some x.key) ps T = (x :: suf).take (effPageSize ps + 1) := by
  obtain ⟨h1, h2⟩ := StrictSorted.split (hS ▸ strictSorted_orderBy o T hT)
  unfold fetchCol colOrder
  rw [if_neg Bool.false_ne_true, filter_orderBy o T hT, hS, List.filter_append,
    List.filter_eq_nil_iff.mpr, List.filter_eq_self.mpr, List.nil_append]
  · intro a ha; rw [colWhere_fwd]; exact decide_eq_true (h2 a ha)
  · intro a ha; rw [colWhere_fwd]; exact fun h => of_decide_eq_true h (h1 a ha)

theorem fetchCol_rev (o : Order) (T : List Row) (hT : KeysDistinct T) (ps : Nat)
    (pre suf : List Row) (x : Row) (hS : orderBy o T = pre ++ x :: suf) :
    fetchCol o true (some x.key) ps T = pre.reverse.take (effPageSize ps + 1) := by
  obtain ⟨h1, h2⟩ := StrictSorted.split (hS ▸ strictSorted_orderBy o T hT)
  unfold fetchCol colOrder
  rw [if_pos rfl, orderBy_rev o _ (hT.sublist (List.filter_sublist.map _)),
    filter_orderBy o T hT, hS, List.filter_append, List.filter_eq_self.mpr,
    List.filter_eq_nil_iff.mpr, List.append_nil]
  · intro a ha; rw [colWhere_rev]; exact fun h => h2 a ha (of_decide_eq_true h)
  · intro a ha; rw [colWhere_rev]; exact decide_eq_true (h1 a ha)

theorem effPageSize_pos (n : Nat) : 0 < effPageSize n := by
  unfold effPageSize defaultPageSize; split <;> omega

theorem Order.decide_lt (o : Order) (b pid : Int) :
    ((o == .asc && decide (pid > b)) || (o == .desc && decide (pid < b))) = decide (o.lt b pid) := by
  cases o <;> simp [Order.lt]

/-- `BuildCursor` on a forward query: one more row than the page size means there is a next
    page, positioned on that extra row; `previous` exists when the page does not start at
    `bottom`. -/
theorem buildCursorCol_fwd {φ : Type} (q : ColQuery φ) (o : Order) (ret : List Row)
    (hrev : q.reverse = false) :
    buildCursorCol q o ret = .ok
      { data := if effPageSize q.pageSize < ret.length then ret.dropLast else ret,
        pageSize := effPageSize q.pageSize,
        hasMore := decide (effPageSize q.pageSize < ret.length),
        next :=
          if effPageSize q.pageSize < ret.length then
            some { q with bottom := firstBottom q.bottom (ret.map (·.key)),
                          paginationID := (ret.map (·.key)).getLast? }
          else none,
        previous :=
          match q.paginationID, firstBottom q.bottom (ret.map (·.key)) with
          | some pid, some b =>
            if o.lt b pid then some { q with bottom := some b, reverse := true } else none
          | _, _ => none } := by
  have hsome : ∀ (c : Prop) [Decidable c] (x : ColQuery φ),
      (if c then some x else none).isSome = decide c := by
    intro c _ x; by_cases h : c <;> simp [h]
  unfold buildCursorCol
  cases q.paginationID <;> cases hb : firstBottom q.bottom (ret.map (·.key)) <;>
    simp only [hrev, hb, hsome, gt_iff_lt, if_false, Bool.false_eq_true, Order.decide_lt,
      decide_eq_true_eq]

/-- `BuildCursor` on a reverse query (`ret` = the rows before the pagination id, nearest
    first): the page is `ret` turned back into listing order, `next` is the forward query
    again, `previous` is positioned on the page's first row. -/
theorem buildCursorCol_rev {φ : Type} (q : ColQuery φ) (o : Order) (ret : List Row)
    (hrev : q.reverse = true) :
    buildCursorCol q o ret = .ok
      { data := (if effPageSize q.pageSize < ret.length then ret.dropLast else ret).reverse,
        pageSize := effPageSize q.pageSize,
        hasMore := true,
        next := some { q with bottom := firstBottom q.bottom (ret.map (·.key)), reverse := false },
        previous :=
          if effPageSize q.pageSize < ret.length then
            ret.dropLast.getLast?.map fun z =>
              { q with bottom := firstBottom q.bottom (ret.map (·.key)), paginationID := some z.key }
          else none } := by
  unfold buildCursorCol
  by_cases hm : effPageSize q.pageSize < ret.length
  · -- the page size is at least 1, so at least two rows came back
    have h2 : 1 < ret.length := Nat.lt_of_le_of_lt (effPageSize_pos q.pageSize) hm
    have hz : ret[ret.length - 2]? = some ret[ret.length - 2] :=
      List.getElem?_eq_getElem (Nat.sub_lt (Nat.lt_trans Nat.one_pos h2) (by decide))
    have hl : ret.dropLast.getLast? = ret[ret.length - 2]? := by
      rw [List.getLast?_eq_getElem?, List.length_dropLast, List.getElem?_dropLast,
        if_pos (Nat.sub_lt (Nat.sub_pos_of_lt h2) Nat.one_pos)]
      rfl
    simp only [hrev, hm, hl, hz, gt_iff_lt, decide_true, if_true, List.getElem?_map, List.length_map,
      Option.map_some]
  · simp only [hrev, hm, gt_iff_lt, decide_false, if_true, if_false, Bool.false_eq_true]

theorem paginateCol_eq {φ : Type} {q : ColQuery φ} {o : Order} (ho : q.order = some o)
    (T : List Row) :
    paginateCol q T = buildCursorCol q o (fetchCol o q.reverse q.paginationID q.pageSize T) := by
  rw [paginateCol, ho]

/-- `q` is the forward query of the listing `orderBy o T` whose page starts at `suf`, the
    rows `pre` being already listed: the first query (no pagination id), or one positioned
    on the first row of `suf`. -/
structure FwdAt {φ : Type} (o : Order) (T : List Row) (q : ColQuery φ) (pre suf : List Row) :
    Prop where
  split : orderBy o T = pre ++ suf
  order : q.order = some o
  fwd : q.reverse = false
  pos : (pre = [] ∧ q.paginationID = none) ∨ ∃ x rest, suf = x :: rest ∧ q.paginationID = some x.key

theorem FwdAt.initial {φ : Type} (o : Order) (T : List Row) (pageSize : Nat) (rest : φ) :
    FwdAt o T (ColQuery.initial pageSize o rest) [] (orderBy o T) :=
  ⟨rfl, rfl, rfl, .inl ⟨rfl, rfl⟩⟩

theorem FwdAt.fetch {φ : Type} {o : Order} {T : List Row} {q : ColQuery φ} {pre suf : List Row}
    (hT : KeysDistinct T) (h : FwdAt o T q pre suf) :
    fetchCol o q.reverse q.paginationID q.pageSize T = suf.take (effPageSize q.pageSize + 1) := by
  rcases h.pos with ⟨rfl, hpid⟩ | ⟨x, rest, rfl, hpid⟩
  · rw [h.fwd, hpid, fetchCol_first, h.split, List.nil_append]
  · rw [h.fwd, hpid, fetchCol_fwd o T hT q.pageSize pre rest x h.split]

theorem dropLast_take_succ {L : List Row} {n : Nat} (h : n < L.length) :
    (L.take (n + 1)).dropLast = L.take n := by
  rw [← List.take_append_getElem h, List.dropLast_concat]

/-- Dropping the look-ahead row, if it was fetched, leaves the first `n` rows. -/
theorem take_succ_keep (L : List Row) (n : Nat) :
    (if n < (L.take (n + 1)).length then (L.take (n + 1)).dropLast else L.take (n + 1)) =
      L.take n := by
  have hlen : n < (L.take (n + 1)).length ↔ n < L.length := by rw [List.length_take]; omega
  by_cases hm : n < L.length
  · rw [if_pos (hlen.mpr hm), dropLast_take_succ hm]
  · rw [if_neg (mt hlen.mp hm), List.take_of_length_le (by omega), List.take_of_length_le (by omega)]

/-- One forward page: the next `pageSize` rows of the listing; there is a `next` cursor, and
    `hasMore`, exactly when rows remain, and it is positioned right after the page. -/
theorem FwdAt.page {φ : Type} {o : Order} {T : List Row} {q : ColQuery φ} {pre suf : List Row}
    (hT : KeysDistinct T) (h : FwdAt o T q pre suf) :
    ∃ p, paginateCol q T = .ok p ∧ p.data = suf.take (effPageSize q.pageSize) ∧
      (suf.length ≤ effPageSize q.pageSize → p.next = none ∧ p.hasMore = false) ∧
      (effPageSize q.pageSize < suf.length → ∃ q', p.next = some q' ∧ q'.pageSize = q.pageSize ∧
        FwdAt o T q' (pre ++ suf.take (effPageSize q.pageSize)) (suf.drop (effPageSize q.pageSize))) := by
  have hlen : effPageSize q.pageSize < (suf.take (effPageSize q.pageSize + 1)).length ↔
      effPageSize q.pageSize < suf.length := by rw [List.length_take]; omega
  refine ⟨_, by rw [paginateCol_eq h.order, h.fetch hT, buildCursorCol_fwd q o _ h.fwd], ?_, ?_, ?_⟩
  · exact take_succ_keep suf _
  · intro hle
    have hm : ¬ effPageSize q.pageSize < suf.length := by omega
    simp only [hlen, hm, if_false, decide_false, and_self]
  · intro hm
    simp only [hlen, hm, if_true]
    refine ⟨_, rfl, rfl, ?_, h.order, h.fwd, .inr ⟨suf[effPageSize q.pageSize], _, List.drop_eq_getElem_cons hm, ?_⟩⟩
    · rw [List.append_assoc, List.take_append_drop, h.split]
    · show (List.map _ _).getLast? = _
      rw [List.getLast?_map, ← List.take_append_getElem hm, List.getLast?_concat]; rfl

/-- Following `next` from a forward query positioned at the suffix `suf` of the listing
    enumerates exactly `suf`, page by page, and stops. -/
theorem FwdAt.walk {φ : Type} {o : Order} {T : List Row} (hT : KeysDistinct T) :
    ∀ (fuel : Nat) {q : ColQuery φ} {pre suf : List Row}, FwdAt o T q pre suf → suf.length < fuel →
      ((walkNextCol fuel q T).map (·.data)).flatten = suf ∧
      (∃ last, (walkNextCol fuel q T).getLast? = some last ∧ last.next = none ∧
        last.hasMore = false) ∧
      (∀ p ∈ walkNextCol fuel q T, p.data.length ≤ effPageSize q.pageSize)
  | 0, _, _, _, _, hf => absurd hf (Nat.not_lt_zero _)
  | fuel + 1, q, pre, suf, h, hf => by
    obtain ⟨p, hp, hdata, hlast, hmore⟩ := h.page hT
    have hplen : p.data.length ≤ effPageSize q.pageSize := by
      rw [hdata, List.length_take]; exact Nat.min_le_left _ _
    rw [walkNextCol, hp]
    by_cases hm : effPageSize q.pageSize < suf.length
    · obtain ⟨q', hnext, hps, h'⟩ := hmore hm
      have hpos := effPageSize_pos q.pageSize
      obtain ⟨ih1, ⟨last, ih2, ih3⟩, ih4⟩ := FwdAt.walk hT fuel h'
        (List.length_drop ▸ Nat.lt_of_lt_of_le (Nat.sub_lt (Nat.lt_trans hpos hm) hpos)
          (Nat.le_of_lt_succ hf))
      simp only [hnext]
      refine ⟨?_, ⟨last, ?_, ih3⟩, ?_⟩
      · rw [List.map_cons, List.flatten_cons, ih1, hdata, List.take_append_drop]
      · rw [List.getLast?_cons, ih2]; rfl
      · intro p' hp'
        rcases List.mem_cons.mp hp' with rfl | hp'
        · exact hplen
        · exact hps ▸ ih4 p' hp'
    · obtain ⟨hnext, hhas⟩ := hlast (Nat.le_of_not_lt hm)
      simp only [hnext]
      refine ⟨?_, ⟨p, rfl, hnext, hhas⟩, fun p' hp' => (List.mem_singleton.mp hp') ▸ hplen⟩
      rw [List.map_cons, List.map_nil, List.flatten_cons, List.flatten_nil, List.append_nil, hdata,
        List.take_of_length_le (Nat.le_of_not_lt hm)]

/-- `OffsetPaginator.BuildCursor` when a look-ahead row came back. -/
theorem buildCursorOff_more {φ : Type} {q : OffQuery φ} {ret : List Row} (h0 : q.pageSize ≠ 0)
    (hl : ret.length > q.pageSize) (hov : ¬ q.offset > maxUint64 - q.pageSize) :
    ∃ p, buildCursorOff q ret = .ok p ∧ p.data = ret.dropLast ∧
      p.next = some { q with offset := q.offset + q.pageSize } := by
  have hc : (q.pageSize ≠ 0 && decide (ret.length > q.pageSize)) = true := by
    rw [Bool.and_eq_true]; exact ⟨decide_eq_true h0, decide_eq_true hl⟩
  rw [buildCursorOff, if_pos hc, if_neg hov]
  exact ⟨_, rfl, rfl, rfl⟩

/-- … and when none did (or there is no limit). -/
theorem buildCursorOff_last {φ : Type} {q : OffQuery φ} {ret : List Row}
    (h : q.pageSize = 0 ∨ ¬ ret.length > q.pageSize) :
    ∃ p, buildCursorOff q ret = .ok p ∧ p.data = ret ∧ p.next = none := by
  have hc : ¬ (q.pageSize ≠ 0 && decide (ret.length > q.pageSize)) = true := by
    rw [Bool.and_eq_true, decide_eq_true_eq, decide_eq_true_eq]
    exact fun ⟨h0, hl⟩ => h.elim h0 fun h => h hl
  rw [buildCursorOff, if_neg hc]
  exact ⟨_, rfl, rfl, rfl⟩

/-- One offset page: `pageSize` rows from the offset on and a `next` cursor `pageSize`
    further when more rows remain (and there is a limit), otherwise everything that remains. -/
theorem paginateOff_page {φ : Type} {q : OffQuery φ} {o : Order} (ho : q.order = some o)
    (T : List Row) (hmax : T.length ≤ maxInt32) (hoff : q.offset ≤ T.length) :
    ∃ p, paginateOff q T = .ok p ∧
      if q.pageSize ≠ 0 ∧ q.pageSize < T.length - q.offset then
        p.data = ((orderBy o T).drop q.offset).take q.pageSize ∧
          p.next = some { q with offset := q.offset + q.pageSize }
      else p.data = (orderBy o T).drop q.offset ∧ p.next = none := by
  have hD : ((orderBy o T).drop q.offset).length = T.length - q.offset := by
    rw [List.length_drop, orderBy_length]
  have hpag : paginateOff q T = buildCursorOff q (fetchOff o q.offset q.pageSize T) := by
    simp only [paginateOff, ho, if_neg (Nat.not_lt.mpr (Nat.le_trans hoff hmax))]
  rw [hpag, fetchOff]
  by_cases hm : q.pageSize ≠ 0 ∧ q.pageSize < T.length - q.offset
  · -- the page size is below the table size, hence far from overflowing the offset
    have hov : ¬ q.offset > maxUint64 - q.pageSize := by
      have : maxInt32 + maxInt32 ≤ maxUint64 := by decide
      omega
    have hl : (((orderBy o T).drop q.offset).take (q.pageSize + 1)).length > q.pageSize := by
      rw [List.length_take, hD]; omega
    obtain ⟨p, hp, hdata, hnext⟩ := buildCursorOff_more hm.1 hl hov
    simp only [if_pos hm, if_pos (Nat.pos_of_ne_zero hm.1)]
    exact ⟨p, hp, by rw [hdata, dropLast_take_succ (hD ▸ hm.2)], hnext⟩
  · simp only [if_neg hm]
    by_cases hpos : q.pageSize > 0
    · have hle : ((orderBy o T).drop q.offset).length ≤ q.pageSize := by
        rw [hD]; exact Nat.le_of_not_lt fun h => hm ⟨Nat.ne_of_gt hpos, h⟩
      rw [if_pos hpos, List.take_of_length_le (Nat.le_succ_of_le hle)]
      exact buildCursorOff_last (.inr (Nat.not_lt.mpr hle))
    · rw [if_neg hpos]
      exact buildCursorOff_last (.inl (Nat.eq_zero_of_not_pos hpos))

/-- Following `next` from offset `off` enumerates the ordered table from `off` on. -/
theorem walkNextOff_drop {φ : Type} {o : Order} {T : List Row} (hmax : T.length ≤ maxInt32) :
    ∀ (fuel : Nat) {q : OffQuery φ}, q.order = some o → q.offset ≤ T.length →
      T.length - q.offset < fuel →
      ((walkNextOff fuel q T).map (·.data)).flatten = (orderBy o T).drop q.offset ∧
      ∃ last, (walkNextOff fuel q T).getLast? = some last ∧ last.next = none
  | 0, _, _, _, hf => absurd hf (Nat.not_lt_zero _)
  | fuel + 1, q, ho, hoff, hf => by
    obtain ⟨p, hp, hpage⟩ := paginateOff_page ho T hmax hoff
    rw [walkNextOff, hp]
    split at hpage
    · rename_i hm
      obtain ⟨hdata, hnext⟩ := hpage
      have hpos := Nat.pos_of_ne_zero hm.1
      -- the next offset stays within the table, and strictly fewer rows remain after it
      obtain ⟨ih1, last, ih2, ih3⟩ := walkNextOff_drop hmax fuel
        (q := { q with offset := q.offset + q.pageSize }) ho
        (Nat.add_le_of_le_sub' hoff (Nat.le_of_lt hm.2))
        (Nat.sub_add_eq _ _ _ ▸ Nat.lt_of_lt_of_le (Nat.sub_lt (Nat.lt_trans hpos hm.2) hpos)
          (Nat.le_of_lt_succ hf))
      simp only [hnext]
      refine ⟨?_, last, ?_, ih3⟩
      · rw [List.map_cons, List.flatten_cons, ih1, hdata, ← List.drop_drop, List.take_append_drop]
      · rw [List.getLast?_cons, ih2]; rfl
    · obtain ⟨hdata, hnext⟩ := hpage
      simp only [hnext]
      exact ⟨by rw [List.map_cons, List.map_nil, List.flatten_cons, List.flatten_nil,
        List.append_nil, hdata], p, rfl, hnext⟩

/-- The cursors a column page hands out carry the query unchanged (same filters / column,
    order, page size); only the position changes. -/
theorem buildCursorCol_same_query {φ : Type} (q : ColQuery φ) (o : Order) (ret : List Row)
    (p : Page (ColQuery φ)) (h : buildCursorCol q o ret = .ok p) :
    ∀ q', (q' ∈ p.next ∨ q' ∈ p.previous) →
      q'.rest = q.rest ∧ q'.pageSize = q.pageSize ∧ q'.order = q.order := by
  intro q' hq'
  cases hrev : q.reverse
  · rw [buildCursorCol_fwd q o ret hrev] at h
    cases h
    rcases hq' with hq' | hq' <;> simp only [Option.mem_def] at hq' <;> split at hq' <;>
      first | cases hq' | skip
    · exact ⟨rfl, rfl, rfl⟩
    · split at hq' <;> cases hq'
      exact ⟨rfl, rfl, rfl⟩
  · rw [buildCursorCol_rev q o ret hrev] at h
    cases h
    rcases hq' with hq' | hq' <;> simp only [Option.mem_def] at hq'
    · cases hq'; exact ⟨rfl, rfl, rfl⟩
    · split at hq'
      · obtain ⟨z, _, rfl⟩ := Option.map_eq_some_iff.mp hq'
        exact ⟨rfl, rfl, rfl⟩
      · cases hq'

theorem buildCursorOff_same_query {φ : Type} (q : OffQuery φ) (ret : List Row)
    (p : Page (OffQuery φ)) (h : buildCursorOff q ret = .ok p) :
    ∀ q', (q' ∈ p.next ∨ q' ∈ p.previous) →
      q'.rest = q.rest ∧ q'.pageSize = q.pageSize ∧ q'.order = q.order := by
  intro q' hq'
  have hprev : ∀ x : OffQuery φ,
      x ∈ (if q.offset > 0 then
        some ({ q with offset := if q.offset < q.pageSize then 0 else q.offset - q.pageSize } : OffQuery φ)
        else none) → x.rest = q.rest ∧ x.pageSize = q.pageSize ∧ x.order = q.order := by
    intro x hx
    split at hx <;> cases hx
    exact ⟨rfl, rfl, rfl⟩
  unfold buildCursorOff at h
  by_cases hc : (q.pageSize ≠ 0 && decide (ret.length > q.pageSize)) = true
  · by_cases hov : q.offset > maxUint64 - q.pageSize <;> simp only [hc, hov, if_true, if_false] at h <;>
      cases h
    rcases hq' with hq' | hq'
    · cases hq'; exact ⟨rfl, rfl, rfl⟩
    · exact hprev q' hq'
  · simp only [hc] at h
    cases h
    rcases hq' with hq' | hq'
    · cases hq'
    · exact hprev q' hq'

theorem decOrder_toJ (o : Option Order) : decOrder (some (optJ Order.toJ o)) = .ok o := by
  rcases o with _ | _ | _ <;> rfl

theorem decNat_num (n : Nat) : decNat (some (.num n)) = .ok n := by
  simp only [decNat, Int.toNat_natCast, if_neg (Int.not_lt.mpr (Int.natCast_nonneg n))]

theorem decOptInt_num (b : Option Int) : decOptInt (some (optJ J.num b)) = .ok b := by
  cases b <;> rfl

end Ledger.Query
