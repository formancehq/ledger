import Ledger.Machine.Allotment
import Mathlib.Data.Rat.Floor
import Mathlib.Tactic.Linarith
import Mathlib.Algebra.BigOperators.Group.List.Basic

/-! `Allocate` and `NewAllotment` (C24): the floors miss the amount by fewer units than there
    are parts, `distribute` hands those out, so the parts sum to the amount; `NewAllotment`
    fills `remaining` up to one. -/
namespace Ledger.Machine

theorem floorPart_eq_floor (amt : Int) (p : Rat) : floorPart amt p = ⌊(amt : ℚ) * p⌋ := by
  unfold floorPart
  rw [← Rat.floor_intCast_div_natCast]
  congr 1
  have h : (p : ℚ) = (p.num : ℚ) / (p.den : ℚ) := (Rat.num_div_den p).symm
  conv_rhs => rw [h]
  push_cast
  ring

theorem length_distribute (xs : List Int) (r : Int) : (distribute xs r).length = xs.length := by
  induction xs generalizing r with
  | nil => simp [distribute]
  | cons x xs ih => unfold distribute; split <;> simp [ih]

theorem getElem_distribute (xs : List Int) (r : Int) (i : Nat) (h : i < xs.length) :
    (distribute xs r)[i]'(by rw [length_distribute]; exact h) =
      xs[i] + (if (i : Int) < r then 1 else 0) := by
  induction xs generalizing r i with
  | nil => simp at h
  | cons x xs ih =>
    unfold distribute
    split
    · cases i with
      | zero => simp; omega
      | succ i =>
        simp only [List.getElem_cons_succ]
        rw [ih (r - 1) i (by simpa using h)]
        congr 1
        have : ((i + 1 : Nat) : Int) < r ↔ (i : Int) < r - 1 := by omega
        simp only [this]
    · cases i with
      | zero => simp; omega
      | succ i =>
        simp only [List.getElem_cons_succ]
        rw [ih r i (by simpa using h)]
        have h1 : ¬ ((i : Int) < r) := by omega
        have h2 : ¬ (((i + 1 : Nat) : Int) < r) := by omega
        rw [if_neg h1, if_neg h2]

theorem sum_distribute (xs : List Int) (r : Int) (h0 : 0 ≤ r) (hr : r ≤ xs.length) :
    (distribute xs r).sum = xs.sum + r := by
  induction xs generalizing r with
  | nil => simp [distribute] at *; omega
  | cons x xs ih =>
    unfold distribute
    split
    · simp only [List.sum_cons]
      rw [ih (r - 1) (by omega) (by simp at hr; omega)]
      omega
    · have : r = 0 := by omega
      subst this
      simp only [List.sum_cons]
      rw [ih 0 (by omega) (by omega)]
      omega

/-- Arithmetic core: if the portions sum to one, the floors miss the amount by
    fewer units than there are parts. -/
theorem leftover_bounds (a : List Rat) (amt : Int) (hsum : a.sum = 1) :
    0 ≤ amt - (a.map (floorPart amt)).sum ∧ amt - (a.map (floorPart amt)).sum < a.length := by
  have key : ∀ (l : List Rat),
      (((l.map (floorPart amt)).sum : Int) : ℚ) ≤ (amt : ℚ) * l.sum ∧
      (l = [] ∨ (amt : ℚ) * l.sum < (((l.map (floorPart amt)).sum : Int) : ℚ) + l.length) := by
    intro l
    induction l with
    | nil => simp
    | cons p ps ih =>
      obtain ⟨ih1, ih2⟩ := ih
      have hf1 : ((floorPart amt p : Int) : ℚ) ≤ (amt : ℚ) * p := by
        rw [floorPart_eq_floor]; exact Int.floor_le _
      have hf2 : (amt : ℚ) * p < ((floorPart amt p : Int) : ℚ) + 1 := by
        rw [floorPart_eq_floor]; exact Int.lt_floor_add_one _
      simp only [List.map_cons, List.sum_cons, List.length_cons]
      push_cast
      refine ⟨by linarith, Or.inr ?_⟩
      rcases ih2 with rfl | h
      · simp at *; linarith
      · linarith
  obtain ⟨k1, k2⟩ := key a
  rw [hsum, mul_one] at k1 k2
  constructor
  · have : ((a.map (floorPart amt)).sum : Int) ≤ amt := by exact_mod_cast k1
    omega
  · rcases k2 with rfl | h
    · simp at hsum
    · have : amt < (a.map (floorPart amt)).sum + (a.length : Int) := by exact_mod_cast h
      omega

theorem allocate_length (a : List Rat) (amt : Int) : (allocate a amt).length = a.length := by
  simp [allocate, length_distribute]

theorem allocate_sum (a : List Rat) (amt : Int) (hsum : a.sum = 1) : (allocate a amt).sum = amt := by
  obtain ⟨h0, h1⟩ := leftover_bounds a amt hsum
  unfold allocate
  simp only []
  rw [sum_distribute _ _ h0 (by simp; omega)]
  omega

/-- The leftover `r = amt − Σ⌊amt·pᵢ⌋` goes, one unit each, to the first `r` parts. -/
theorem allocate_leftover_first (a : List Rat) (amt : Int) (hsum : a.sum = 1) :
    ∃ r : Int, 0 ≤ r ∧ r < a.length ∧
      ∀ (i : Nat) (h : i < a.length),
        (allocate a amt)[i]'(by rw [allocate_length]; exact h) =
          ⌊(amt : ℚ) * a[i]⌋ + (if (i : Int) < r then 1 else 0) := by
  obtain ⟨h0, h1⟩ := leftover_bounds a amt hsum
  refine ⟨amt - (a.map (floorPart amt)).sum, h0, h1, fun i h => ?_⟩
  unfold allocate
  simp only []
  rw [getElem_distribute _ _ i (by simpa using h)]
  simp [floorPart_eq_floor]

theorem allocate_nonneg (a : List Rat) (amt : Int) (hsum : a.sum = 1) (hamt : 0 ≤ amt)
    (hpos : ∀ p ∈ a, 0 ≤ p) (i : Nat) (h : i < a.length) :
    0 ≤ (allocate a amt)[i]'(by rw [allocate_length]; exact h) := by
  obtain ⟨r, _, _, hr⟩ := allocate_leftover_first a amt hsum
  rw [hr i h]
  have : (0 : ℤ) ≤ ⌊(amt : ℚ) * a[i]⌋ :=
    Int.floor_nonneg.mpr (mul_nonneg (by exact_mod_cast hamt) (hpos _ (List.getElem_mem h)))
  split <;> omega

theorem sum_newAllotment_specificTotal (ps : List Portion) (t : Rat) :
    (ps.map (fillRemaining t)).sum
      = specificTotal ps + countRemaining ps * (1 - t) := by
  induction ps with
  | nil => simp [specificTotal, countRemaining]
  | cons p ps ih =>
    cases p with
    | remaining => simp only [List.map_cons, List.sum_cons, ih, specificTotal, countRemaining, fillRemaining]; push_cast; ring
    | specific r => simp only [List.map_cons, List.sum_cons, ih, specificTotal, countRemaining, fillRemaining]; ring

/-- `remaining` (at most one) is filled up to one; without it the portions are kept. -/
theorem newAllotment_sum {ps : List Portion} {a : List Rat} (h : newAllotment ps = .ok a) :
    a.sum = specificTotal ps + countRemaining ps * (1 - specificTotal ps) := by
  unfold newAllotment at h
  split at h
  · cases h
  · simp only [] at h
    split at h <;> cases h
    exact sum_newAllotment_specificTotal ps _

theorem newAllotment_length {vs : List Portion} {a : List Rat} (h : newAllotment vs = .ok a) :
    a.length = vs.length := by
  unfold newAllotment at h
  split at h
  · cases h
  · simp only at h
    split at h <;> cases h
    exact List.length_map _

end Ledger.Machine
