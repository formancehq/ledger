import Ledger.Proofs.SqlInsertGen
import Ledger.Proofs.SqlNested

/-!
# `INSERT INTO t (cols) VALUES (one row)`, for any table, and the trigger function that is one such statement

The steps of the statement as equations over a table given as a variable (a value drawn from a sequence, the row built column by
column, a primary key above every stored one), and a row trigger whose function is `BEGIN <statement>; RETURN new; END`. The states
these steps leave are those of `SqlState`: `St.withSeqs` after a draw from a sequence, `St.bump` after nested commands.
-/
namespace Ledger.Sql

/-- the sequence `full` after a `nextval` that returned `v` -/
def seqsSet (full : String) (v : Int) (seqs : List Seq) : List Seq :=
  seqs.map (fun x => if x.name == full then { x with last := v, called := true } else x)

def Seq.next (sq : Seq) : Int := if sq.called then sq.last + 1 else sq.last

theorem exec_seqNext (full : String) (s : St) (sq : Seq) (h : s.w.seqs.find? (·.name == full) = some sq) :
    (seqNext full).exec s = (.ok sq.next, s.withSeqs (seqsSet full sq.next s.w.seqs)) := by
  simp only [seqNext, exec_bind, exec_getW, h, exec_setW, exec_pure]
  rfl

theorem find?_seqsSet (full other : String) (v : Int) (seqs : List Seq) :
    (seqsSet full v seqs).find? (·.name == other) =
      (seqs.find? (·.name == other)).map (fun x => if x.name == full then { x with last := v, called := true } else x) := by
  unfold seqsSet
  rw [List.find?_map]
  congr 2
  funext x
  show ((if x.name == full then _ else x).name == other) = _
  split <;> rfl

theorem find_seqsSet (full : String) (v : Int) (seqs : List Seq) (sq : Seq) (h : seqs.find? (·.name == full) = some sq) :
    (seqsSet full v seqs).find? (·.name == full) = some { sq with last := v, called := true } := by
  rw [find?_seqsSet, h]
  exact congrArg some (if_pos (List.find?_some h))

theorem seqsSet_seqsSet (full : String) (v v' : Int) (seqs : List Seq) :
    seqsSet full v' (seqsSet full v seqs) = seqsSet full v' seqs := by
  simp only [seqsSet, List.map_map]
  apply List.map_congr_left
  intro x _
  by_cases hx : x.name = full
  · simp [hx]
  · simp [hx]

theorem castTo_int8 (te : TypeEnv) (v : Int) (h1 : -9223372036854775808 ≤ v) (h2 : v ≤ 9223372036854775807) :
    castTo te (SqlType.mk "" "int8" "" false) (.int v) = .ok (.int v) := by
  have : ¬ (v < -9223372036854775808 ∨ v > 9223372036854775807) := by omega
  simp [castTo, castNonArray, castScalar, isIntType, intRangeCheck, this, bind, Except.bind, pure, Except.pure]

theorem sameGroupKey_int1 (a b : Int) : sameGroupKey [.int a] [.int b] = .ok (decide (a = b)) := by
  simp only [sameGroupKey, compareForSort_int, bind, Except.bind, cmpInt_eq]
  by_cases h : a = b <;> simp [h] <;> rfl

theorem find_seqsSet_ne (full other : String) (v : Int) (h : other ≠ full) (seqs : List Seq) :
    (seqsSet full v seqs).find? (·.name == other) = seqs.find? (·.name == other) := by
  rw [find?_seqsSet]
  cases hx : seqs.find? (·.name == other) with
  | none => rfl
  | some x =>
    have hn : x.name = other := eq_of_beq (List.find?_some (p := fun y : Seq => y.name == other) hx)
    exact congrArg some (if_neg (by rw [hn]; simpa using h))

theorem Seq.next_set (sq : Seq) (v : Int) : ({ sq with last := v, called := true } : Seq).next = v + 1 := by
  simp [Seq.next]

/-- two objects of one bucket with different names: `avFull b ≠ txFull b`, `mvSeqFull b ≠ tmSeqFull b`, … -/
theorem bucket_ne (b : String) {x y : String} (h : x ≠ y) : b ++ "." ++ x ≠ b ++ "." ++ y :=
  fun e => h ((String.append_right_inj _).mp e)

theorem exec_nextval (n : Nat) (te : TypeEnv) (env : Env) (lit full : String) (s : St) (sq : Seq)
    (hname : (seqName lit).exec s = (.ok full, s)) (hsq : s.w.seqs.find? (·.name == full) = some sq) :
    (evalExpr (cbs (n + 2)) te env (Expr.call "" "nextval" [Expr.str lit])).exec s =
      (.ok (.int sq.next), s.withSeqs (seqsSet full sq.next s.w.seqs)) := by
  have hpure : evalPureFn "nextval" [Value.text lit] = none := rfl
  have hcall : (cbs (n + 2)).call "" "nextval" [Value.text lit] = callFunc (n + 1) "" "nextval" [Value.text lit] := rfl
  have hb : callBuiltin "nextval" [Value.text lit] = some (do return .int (← seqNext (← seqName (Value.text lit).toText))) := rfl
  have hsn : (seqName (Value.text lit).toText).exec s = (.ok full, s) := hname
  rw [evalExpr_call _ _ _ _ _ _ (by decide)]
  simp only [evalExpr, evalExprs, exec_bind, exec_pure, hpure, hcall,
    show (("" : String).isEmpty || "" == "public" || "" == "pg_catalog") = true from by decide, if_true]
  rw [callFunc]
  simp only [show (("" : String).isEmpty || "" == "public" || "" == "pg_catalog") = true from by decide, if_true, hb, exec_bind, hsn,
    exec_seqNext full s sq hsq, exec_pure]

/-- a sequence name without schema is looked up in the search path -/
theorem exec_seqName_unqualified (lit : String) (s : St) (hu : unquoteQualified lit = lit) (hd : (firstDotted lit).isEmpty = true) :
    (seqName lit).exec s = (.ok (s.searchPath ++ "." ++ lit), s) := by
  simp [seqName, hu, hd, qualify]

/-- the value `buildRow` computes for one column of the table from the given `(column, value)` pairs -/
def buildCol (n : Nat) (t : Table) (te : TypeEnv) (given : List (String × Option Value)) (cd : ColDef) : M Value :=
  match given.lookup cd.name with
  | some (some v) => liftR (castTo te cd.ty v)
  | _ =>
    match cd.dflt with
    | none => pure .null
    | some e => do
      let v ← withSearchPath (schemaOf t.name) (evalExpr (cbs n) te {} e)
      liftR (castTo te cd.ty v)

theorem exec_buildRow (n : Nat) (t : Table) (cols : List String) (vals : List (Option Value)) (s : St)
    (hlen : cols.length = vals.length) (hfind : cols.find? (fun c => !(t.colNames.contains c)) = none) :
    (buildRow (n + 1) t cols vals).exec s = (t.cols.mapM (buildCol n t s.w.types (cols.zip vals))).exec s := by
  rw [buildRow]
  simp only [exec_bind, exec_typeEnv, hlen, bne_self_eq_false, Bool.false_eq_true, if_false, hfind]
  rfl

/-- columns that need no default expression, and their values: the given value cast to the column type, or NULL when the column
    is not given (or given as DEFAULT) and has no default or the default `NULL` -/
inductive ColsAre (te : TypeEnv) (given : List (String × Option Value)) : List ColDef → List Value → Prop
  | nil : ColsAre te given [] []
  | cast {cd : ColDef} {cds : List ColDef} {v w : Value} {ws : List Value} : given.lookup cd.name = some (some v) →
      castTo te cd.ty v = .ok w → ColsAre te given cds ws → ColsAre te given (cd :: cds) (w :: ws)
  | null {cd : ColDef} {cds : List ColDef} {ws : List Value} : (given.lookup cd.name).join = none →
      cd.dflt = none ∨ cd.dflt = some .null → ColsAre te given cds ws → ColsAre te given (cd :: cds) (.null :: ws)

theorem exec_mapM_buildCol (n : Nat) (t : Table) {te : TypeEnv} {given : List (String × Option Value)} {cds : List ColDef} {ws : List Value}
    (h : ColsAre te given cds ws) (s : St) : (cds.mapM (buildCol n t te given)).exec s = (.ok ws, s) := by
  induction h with
  | nil => rfl
  | cast hl hc _ ih => rw [exec_mapM_cons]; simp only [buildCol, hl, hc, exec_liftR_ok, ih]
  | @null cd _ _ hl hd _ ih =>
    have hcol : (buildCol n t te given cd).exec s = (.ok .null, s) := by
      unfold buildCol
      split
      · rename_i heq; rw [heq] at hl; cases hl
      · rcases hd with hd | hd <;> rw [hd]
        · rfl
        · have h := exec_withSearchPath (schemaOf t.name) (evalExpr (cbs n) te {} Expr.null) s (s.withSP (schemaOf t.name)) .null
            (by simp only [evalExpr, exec_pure])
          simp only [exec_bind, h, show castTo te cd.ty .null = .ok .null from rfl, exec_liftR_ok]
          rfl
    rw [exec_mapM_cons, hcol]; simp only [ih]

/-- every column is given or NULL -/
theorem exec_buildRow_pure (n : Nat) (t : Table) (cols : List String) (vals : List (Option Value)) (s : St) (ws : List Value)
    (hlen : cols.length = vals.length) (hfind : cols.find? (fun c => !(t.colNames.contains c)) = none)
    (h : ColsAre s.w.types (cols.zip vals) t.cols ws) :
    (buildRow (n + 1) t cols vals).exec s = (.ok ws, s) := by
  rw [exec_buildRow n t cols vals s hlen hfind, exec_mapM_buildCol n t h]

/-- the first column is a key that is not given and defaults to `nextval('lit')`, `lit` naming a sequence of the table's schema;
    every other column is given or NULL -/
theorem exec_buildRow_serial (n : Nat) (t : Table) (cols : List String) (vals : List (Option Value)) (s : St) (cd : ColDef)
    (rest : List ColDef) (lit : String) (sq : Seq) (w : Value) (ws : List Value)
    (hlen : cols.length = vals.length) (hfind : cols.find? (fun c => !(t.colNames.contains c)) = none)
    (hcols : t.cols = cd :: rest) (hno : (cols.zip vals).lookup cd.name = none)
    (hd : cd.dflt = some (Expr.call "" "nextval" [Expr.str lit]))
    (hu : unquoteQualified lit = lit) (hdot : (firstDotted lit).isEmpty = true)
    (hsq : s.w.seqs.find? (·.name == schemaOf t.name ++ "." ++ lit) = some sq)
    (hc : castTo s.w.types cd.ty (.int sq.next) = .ok w)
    (hrest : ColsAre s.w.types (cols.zip vals) rest ws) :
    (buildRow (n + 3) t cols vals).exec s =
      (.ok (w :: ws), s.withSeqs (seqsSet (schemaOf t.name ++ "." ++ lit) sq.next s.w.seqs)) := by
  have hnv := exec_withSearchPath (schemaOf t.name) _ s _ _
    (exec_nextval n s.w.types {} lit _ (s.withSP (schemaOf t.name)) sq (exec_seqName_unqualified lit _ hu hdot) hsq)
  rw [exec_buildRow _ t cols vals s hlen hfind, hcols, exec_mapM_cons]
  simp only [buildCol, hno, hd, exec_bind, hnv, hc, exec_liftR_ok]
  rw [exec_mapM_buildCol _ t hrest]
  rfl

theorem exec_findConflict_above (t : Table) (idx : UniqueIdx) (vals : List Value) (q : Int) (s : St)
    (hsolo : ∀ x ∈ s.w.active, x = s.xid) (hp : idx.pred = none) (hk : keyOf t idx.cols vals = [.int q])
    (hall : ∀ r ∈ t.rows, ∃ q', keyOf t idx.cols r.vals = [.int q'] ∧ q' < q) :
    (findConflict t [idx] vals none).exec s = (.ok none, s) := by
  rw [exec_findConflict_single t idx vals none s hsolo hp (by rw [hk]; rfl) (fun _ => false) (fun r hr _ _ => by
    obtain ⟨q', hq, hlt⟩ := hall r hr
    refine exec_keyMatches_noPred t idx _ r s false hp ?_
    rw [hq, hk, sameGroupKey_int1, decide_eq_false (by omega)])]
  simp

/-- `INSERT INTO table (tcols) VALUES (es) [RETURNING …]`, one row, no `ON CONFLICT`, when the row is not changed by a BEFORE
    trigger and meets no unique index: the version is written, then the AFTER INSERT triggers are queued (`hqa`) and the RETURNING
    list evaluated (`hret`). The hypotheses are the outcomes of the steps, each in the state the step before leaves: the VALUES
    row (`s0`: it may draw from a sequence) and the built row (`s1`: so may a column default). -/
theorem exec_execStmt_insertRow (n : Nat) (env : Env) (schema table alias : String) (tcols : List String) (es : List Expr)
    (returning : List SelItem) (full : String) (t : Table) (sr : List (Option Value)) (row : List Value) (acc : DmlAcc)
    (s s0 s1 s2 : St)
    (hcte : (if schema.isEmpty then env.ctes.lookup table else none) = none)
    (hq : (qualify schema table).exec s = (.ok full, s)) (hname : t.name = full)
    (hT : s.w.table? full = some t) (hT0 : s0.w.table? full = some t) (hT1 : s1.w.table? full = some t)
    (hcols : tcols.isEmpty = false)
    (hvals : (evalValuesRow (n + 2) env es).exec s = (.ok sr, s0))
    (hrow : (buildRow (n + 1) t tcols sr).exec s0 = (.ok row, s1))
    (hfb : (fireBefore (n + 1) t .insert [] (some row) none).exec s1 = (.ok (some row), s1))
    (hck : (checkConstraints t row).exec s1 = (.ok (), s1))
    (hfc : (findConflict t t.uniques row none).exec s1 = (.ok none, s1))
    (hfk : t.fks = [])
    (hqa : (queueAfter (n + 1) (t.inserted s1.xid s1.cid row) .insert [] (some row) none).exec
      (s1.withTable (t.inserted s1.xid s1.cid row)) = (.ok (), s2))
    (hret : (accReturning (n + 1) env (t.inserted s1.xid s1.cid row) alias row [] returning {}).exec s2 = (.ok acc, s2))
    (hrc : (acc.retCols.isEmpty && !returning.isEmpty) = false) :
    (execStmt (n + 4) env (Stmt.insert [] schema table alias tcols (InsertSrc.values [es]) none returning)).exec s =
      (.ok { rel := { cols := acc.retCols, rows := acc.retRows }, affected := acc.affected }, s2) := by
  subst hname
  rw [execStmt_insert_noCte, execInsert]
  simp only [hcte, exec_bind, hq, exec_getTable hT, exec_mapM_cons, List.mapM_nil, hvals, exec_pure, hcols, Bool.false_eq_true, if_false,
    exec_foldlM_cons, List.foldlM_nil,
    exec_insertRowStep_ins (n + 1) env t.name table alias tcols returning sr {} t row s0 none row s1 s1 s2 hT0 rfl hrow hfb hT1 hck
      (fun _ _ _ _ e => nomatch e) hfc (exec_checkForeignKeys_nil t row _ hfk) hqa, hret, hrc]

/-- A row trigger whose function is `BEGIN <stmt>; RETURN new; END` without declarations, fired with a NEW row: when `stmt` ends
    normally in the PL/pgSQL state `pst` and `new` denotes a row there (`hnew`: not a column), the trigger returns NEW as `stmt` leaves
    it; `RETURN new` uses up one more command id, and the search path is restored. -/
theorem exec_runTrigger_retNew (k : Nat) (fname : String) (t : Table) (f : PlFunc) (stmt : PlStmt)
    (hdecls : f.decls = []) (hbody : f.body = [stmt, PlStmt.ret (some (Expr.col "" "new"))])
    (s s1 : St) (hf : s.w.funcs.lookup fname = some f) (nv : List Value) (old : Option (List Value)) (pst : PlSt)
    (cs : List String) (vs : List Value)
    (hstmt : (execPlStmt (k + 2) { vars := [], tcols := t.cols, new := some nv, old := old } stmt).exec (s.withSP (schemaOf fname)) =
      (.ok (pst, .normal), s1))
    (hnew : lookupColumn pst.env "" "new" = .ok (.row cs vs)) :
    (runTrigger (k + 4) fname t (some nv) old).exec s = (.ok pst.new, (s1.bump 1).withSP s.searchPath) := by
  have hret := exec_withNewCid (evalExpr (cbs k) s1.w.types pst.env (Expr.col "" "new")) s1 s1.enter (.row cs vs)
    (by simp only [evalExpr, hnew, exec_liftR_ok])
  rw [enter_withCid] at hret
  rw [runTrigger]
  simp only [exec_bind, exec_getW, hf, exec_typeEnv]
  refine exec_withSearchPath (schemaOf fname) _ s _ _ ?_
  simp only [hdecls, List.foldlM_nil, exec_bind, exec_pure, hbody]
  rw [execPl]
  simp only [exec_bind, hstmt]
  rw [execPl]
  simp only [exec_bind]
  rw [execPlStmt]
  simp only [exec_bind, exec_typeEnv, hret, exec_pure]

/-- a statement run from PL/pgSQL for its effect only: one nested command; `found` tells whether it affected a row -/
theorem exec_execPlStmt_exec (n : Nat) (pst : PlSt) (st : Stmt) (s s1 : St) (r : DmlResult)
    (h : (withNewCid (runStmt n pst.env st)).exec s = (.ok r, s1)) :
    (execPlStmt (n + 1) pst (.exec st [])).exec s = (.ok ({ pst with found := r.affected > 0 }, .normal), s1) := by
  rw [execPlStmt]
  simp only [exec_bind, exec_typeEnv, h, List.isEmpty_nil, if_true, exec_pure]

/-! ### the trigger function `BEGIN INSERT INTO <serial table> (cols) VALUES (es); RETURN new; END` -/

/-- a table whose first column `cd` is a bigserial primary key drawn from the sequence `lit` of the table's schema, without
    trigger or foreign key -/
structure SerialTbl (t : Table) (cd : ColDef) (rest : List ColDef) (lit : String) (idx : UniqueIdx) : Prop where
  cols : t.cols = cd :: rest
  ty : cd.ty = SqlType.mk "" "int8" "" false
  dflt : cd.dflt = some (Expr.call "" "nextval" [Expr.str lit])
  unq : unquoteQualified lit = lit
  dot : (firstDotted lit).isEmpty = true
  trig : t.triggers = []
  fks : t.fks = []
  uniques : t.uniques = [idx]
  idxCols : idx.cols = [cd.name]
  idxPred : idx.pred = none

/-- the table is stored under its name, its sequence is `sq`, and every stored key is below the sequence -/
structure SerialState (s : St) (t : Table) (lit : String) (sq : Seq) : Prop where
  table : s.w.table? t.name = some t
  seq : s.w.seqs.find? (·.name == schemaOf t.name ++ "." ++ lit) = some sq
  all : ∀ r ∈ t.rows, ∃ q vs, r.vals = .int q :: vs ∧ q < sq.next
  lo : -9223372036854775808 ≤ sq.next
  hi : sq.next ≤ 9223372036854775807

/-- The function is fired on any table `tn` with any NEW / OLD; `table` is a serial table `t` of the function's schema. When the
    VALUES row evaluates, in the nested command's state and without changing it, to `sr`, the columns after the key are `ws` and the
    constraints hold: one row `sq.next :: ws` is appended, the sequence advances, two command ids are used, NEW is returned as it is. -/
theorem exec_runTrigger_serialIns (k : Nat) (fname table : String) (tcols : List String) (es : List Expr) (f : PlFunc)
    (hdecls : f.decls = [])
    (hbody : f.body = [PlStmt.exec (Stmt.insert [] "" table "" tcols (InsertSrc.values [es]) none []) [], PlStmt.ret (some (Expr.col "" "new"))])
    (s : St) (hs : TxState s) (hf : s.w.funcs.lookup fname = some f) (hnc : s.nextCid + 2 ≤ 1000000000)
    (tn : Table) (nv : List Value) (old : Option (List Value))
    (hnew : ∀ fd, ∃ cs vs,
      lookupColumn ({ vars := [], tcols := tn.cols, new := some nv, old := old, found := fd } : PlSt).env "" "new" = .ok (.row cs vs))
    (t : Table) (cd : ColDef) (rest : List ColDef) (lit : String) (idx : UniqueIdx) (hser : SerialTbl t cd rest lit idx)
    (hname : t.name = schemaOf fname ++ "." ++ table) (sq : Seq) (hst : SerialState s t lit sq)
    (sr : List (Option Value)) (ws : List Value)
    (hvals : (evalValuesRow (k + 4) ({ vars := [], tcols := tn.cols, new := some nv, old := old } : PlSt).env es).exec
        (s.withSP (schemaOf fname)).enter.clearQ = (.ok sr, (s.withSP (schemaOf fname)).enter.clearQ))
    (hlen : tcols.length = sr.length) (hne : tcols.isEmpty = false)
    (hfind : tcols.find? (fun c => !(t.colNames.contains c)) = none) (hno : (tcols.zip sr).lookup cd.name = none)
    (hrest : ColsAre s.w.types (tcols.zip sr) rest ws)
    (hck : ∀ s', (checkConstraints t (.int sq.next :: ws)).exec s' = (.ok (), s')) :
    (runTrigger (k + 10) fname tn (some nv) old).exec s =
      (.ok (some nv), ((s.withSeqs (seqsSet (schemaOf t.name ++ "." ++ lit) sq.next s.w.seqs)).bump 2).withTable
        (t.inserted s.xid s.nextCid (.int sq.next :: ws))) := by
  have hS : TxState (s.withSP (schemaOf fname)).enter.clearQ := ((hs.withSP _).enter (by simp; omega)).clearQ
  have hkey : ∀ v vs, keyOf t idx.cols (v :: vs) = [v] := by
    intro v vs; simp [keyOf, hser.idxCols, Table.colNames, hser.cols, lookupIn]
  have hnotrig : ∀ (tm : TrigTiming) (ev : TrigEvent), t.triggers.filter (fun tr => tr.timing == tm && tr.event == ev) = [] := by
    intro tm ev; rw [hser.trig]; rfl
  -- the INSERT, as a nested command with the function's schema as search path
  have hstmt : (execStmt (k + 6) ({ vars := [], tcols := tn.cols, new := some nv, old := old } : PlSt).env
      (Stmt.insert [] "" table "" tcols (InsertSrc.values [es]) none [])).exec (s.withSP (schemaOf fname)).enter.clearQ =
      (.ok { rel := { cols := [], rows := [] }, affected := 1 },
       ((s.withSP (schemaOf fname)).enter.clearQ.withSeqs (seqsSet (schemaOf t.name ++ "." ++ lit) sq.next s.w.seqs)).withTable
         (t.inserted s.xid s.nextCid (.int sq.next :: ws))) := by
    -- the nested command's state under a name, with what it shares with `s`: comparing `s.w` with the `w` of the nested state by
    -- unfolding is slow
    generalize hN : (s.withSP (schemaOf fname)).enter.clearQ = N at hvals hS ⊢
    have hw : N.w = s.w := by rw [← hN, clearQ_w, enter_w, withSP_w]
    have hx : N.xid = s.xid := by rw [← hN, clearQ_xid, enter_xid, withSP_xid]
    have hc : N.cid = s.nextCid := by rw [← hN, clearQ_cid, enter_cid, withSP_nextCid]
    have hq : (qualify "" table).exec N = (.ok t.name, N) := by rw [exec_qualify_sp, hname, ← hN]; rfl
    have hT : N.w.table? t.name = some t := by rw [hw]; exact hst.table
    rw [← hw, ← hx, ← hc]
    refine exec_execStmt_insertRow (k + 2) _ "" table "" tcols es [] t.name t sr (.int sq.next :: ws) { affected := 1 } N N
      (N.withSeqs (seqsSet (schemaOf t.name ++ "." ++ lit) sq.next N.w.seqs)) _ rfl hq rfl hT hT hT hne hvals
      (exec_buildRow_serial k t tcols sr N cd rest lit sq _ ws hlen hfind hser.cols hno hser.dflt hser.unq hser.dot (by rw [hw]; exact hst.seq)
        (by rw [hser.ty]; exact castTo_int8 _ _ hst.lo hst.hi) (by rw [hw]; exact hrest))
      (exec_fireBefore_none _ t .insert (by simp) _ _ _ _ (hnotrig _ _)) (hck _) ?_ hser.fks
      (exec_queueAfter_none _ _ .insert [] _ _ _ (hnotrig _ _)) rfl rfl
    rw [hser.uniques]
    refine exec_findConflict_above t idx _ sq.next _ hS.solo hser.idxPred (hkey _ _) (fun r hr => ?_)
    obtain ⟨q, vs, hv, hlt⟩ := hst.all r hr
    exact ⟨q, by rw [hv, hkey], hlt⟩
  have hcmd := exec_withNewCid _ (s.withSP (schemaOf fname)) _ _ (exec_runStmt_noAfter' (k + 5) _ _ (s.withSP (schemaOf fname)).enter _ _ hstmt rfl)
  obtain ⟨cs, vs, hrow⟩ := hnew (decide ((1 : Nat) > 0))
  rw [exec_runTrigger_retNew (k + 6) fname tn f _ hdecls hbody s _ hf nv old _ cs vs (exec_execPlStmt_exec _ _ _ _ _ _ hcmd) hrow]
  cases s
  rfl

/-- what the trigger leaves is again such a state: the invariant of a drain into a serial table -/
theorem SerialState.step {s : St} {t : Table} {lit : String} {sq : Seq} (h : SerialState s t lit sq) (ws : List Value) (c k : Nat)
    (hhi : sq.next + 1 ≤ 9223372036854775807) :
    SerialState (((s.withSeqs (seqsSet (schemaOf t.name ++ "." ++ lit) sq.next s.w.seqs)).bump k).withTable (t.inserted s.xid c (.int sq.next :: ws)))
      (t.inserted s.xid c (.int sq.next :: ws)) lit { sq with last := sq.next, called := true } where
  table := withTable_table? _ t (t.inserted s.xid c (.int sq.next :: ws)) h.table
  seq := find_seqsSet _ _ _ _ h.seq
  all := by
    rw [Seq.next_set]
    intro r hr
    rcases List.mem_cons.mp hr with e | e
    · subst e; exact ⟨sq.next, ws, rfl, by omega⟩
    · obtain ⟨q, vs, hv, hlt⟩ := h.all r e
      exact ⟨q, vs, hv, by omega⟩
  lo := by rw [Seq.next_set]; have := h.lo; omega
  hi := by rw [Seq.next_set]; omega

end Ledger.Sql
