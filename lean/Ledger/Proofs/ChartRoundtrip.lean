import Ledger.Chart.SchemaJson
import Ledger.Proofs.ListBasic

/-!
C30, the JSON round trip of a schema: `unmarshal (marshal c) = .ok c` for every valid chart, by
mutual structural recursion over the nested chart tree (no depth bound).  Every chart `unmarshal`
returns is `Valid`, so the round trip applies to every chart that was ever read from JSON; the
decoders are chains of guards and binds, and `Yields x P` ("when `x` succeeds, its result
satisfies `P`") is pushed through them.
-/
namespace Ledger.Chart

theorem validName_head {c : Char} {r : Key} (h : validName (c :: r) = true) : c ≠ '$' ∧ c ≠ '.' := by
  have hc : isSegChar c = true := by simp [validName] at h; exact h.1
  constructor <;> (rintro rfl; revert hc; decide)

/-- A member key is a plain name exactly when it is a segment name that is neither a `$variable`
    nor a `.property`. -/
theorem validName_iff (k : Key) :
    validName k = true ↔ validateSegment k = true ∧ isProp k = false ∧ isVar k = false := by
  unfold validateSegment isProp isVar
  constructor
  · intro h
    cases k with
    | nil => cases h
    | cons c r =>
      obtain ⟨h1, h2⟩ := validName_head h
      -- the arms of the three matches with head `$` or `.` are excluded by `h1` / `h2`
      refine ⟨?_, ?_, ?_⟩ <;> split <;> first | (rename_i e; cases e; contradiction) | rfl | exact h
  · rintro ⟨h, hp, hv⟩
    split at h
    · simp at hv
    · simp at hp
    · exact h

theorem ne_of_isProp {k k' : Key} (h : isProp k = false) (h' : isProp k' = true) : k ≠ k' := by
  intro e; subst e; rw [h] at h'; cases h'

/-- Round trip of a `map[string]T` codec in the model's style: the encoder encodes the values, the
    decoder decodes the head, then the rest.  The last four hypotheses are the defining equations of
    the pair, which hold by `rfl` at every instance. -/
theorem kvList_rt {α ε : Type} (f : α → JTree) (g : JTree → Except ε α)
    (m : List (Key × α) → List (Key × JTree)) (u : List (Key × JTree) → Except ε (List (Key × α)))
    (xs : List (Key × α)) (h : ∀ kv ∈ xs, g (f kv.2) = .ok kv.2)
    (m_nil : m [] = [] := by rfl) (m_cons : ∀ k d r, m ((k, d) :: r) = (k, f d) :: m r := by intros; rfl)
    (u_nil : u [] = .ok [] := by rfl)
    (u_cons : ∀ k v r, u ((k, v) :: r) = (g v >>= fun d => u r >>= fun r' => pure ((k, d) :: r')) := by
      intros; rfl) : u (m xs) = .ok xs := by
  induction xs with
  | nil => rw [m_nil, u_nil]
  | cons kv rest ih =>
    obtain ⟨k, d⟩ := kv
    rw [m_cons, u_cons, h (k, d) List.mem_cons_self, ih fun kv hkv => h kv (List.mem_cons_of_mem _ hkv)]
    rfl

theorem metaEntries_rt (m : List (Key × Option String)) :
    unmarshalMetaEntries (m.map marshalMetaEntry) = .ok m :=
  kvList_rt (fun d => (marshalMetaEntry ([], d)).2) unmarshalMetaEntry (List.map marshalMetaEntry) _ m
    fun kv _ => by rcases kv with ⟨_, _ | _⟩ <;> rfl

theorem meta_rt (m : List (Key × Option String)) :
    unmarshalMeta (marshalMeta m) = .ok (some m) := by
  rw [marshalMeta, unmarshalMeta, metaEntries_rt]
  rfl

theorem unmarshalMembers_metadata (ops : RegexOps) (v : JTree) (rest : List (Key × JTree)) :
    unmarshalMembers ops ((keyMetadata, v) :: rest) =
      (unmarshalMeta v >>= fun m => unmarshalMembers ops rest >>= fun acc =>
        pure { acc with md := some m }) := rfl

def accOfAccount (hc : Bool) : Option AccountSchema → Acc
  | none => {}
  | some a => { self := hc, md := a.metadata.map some }

theorem members_self (ops : RegexOps) (hc : Bool) (pat : Option String) :
    unmarshalMembers ops ((if hc then [(keySelf, JTree.obj [])] else []) ++ marshalPattern pat)
      = .ok { self := hc } := by
  cases hc <;> cases pat <;> rfl

theorem members_account (ops : RegexOps) (hc : Bool) (acct : Option AccountSchema)
    (pat : Option String) :
    unmarshalMembers ops (marshalAccount hc acct ++ marshalPattern pat)
      = .ok (accOfAccount hc acct) := by
  rcases acct with _ | ⟨_ | m⟩
  · cases pat <;> rfl
  · exact members_self ops hc pat
  · rw [marshalAccount, List.append_assoc, List.singleton_append, unmarshalMembers_metadata, meta_rt,
      members_self]
    rfl

theorem lookup_marshalFixed (ops : RegexOps) (k : Key) (hk : isProp k = true) :
    (fixed : List (Key × Segment)) → validFixed ops fixed → (marshalFixed fixed).lookup k = none
  | [], _ => rfl
  | (k', s) :: rest, h => by
    rw [validFixed] at h
    have hne : (k == k') = false := by
      simpa using (ne_of_isProp ((validName_iff k').1 h.1).2.1 hk).symm
    rw [marshalFixed, List.lookup_cons, hne]
    exact lookup_marshalFixed ops k hk rest h.2.2

theorem lookup_pattern_marshalSeg (ops : RegexOps) (s : Segment) (h : s.Valid ops) :
    (marshalSeg s).lookup keyPattern = none := by
  obtain ⟨fixed, var, acct⟩ := s
  rw [Segment.Valid] at h
  have hv : (marshalVar var).lookup keyPattern = none := by
    rcases var with _ | ⟨_, _, _⟩ <;> rfl
  have ha : ∀ hc, (marshalAccount hc acct).lookup keyPattern = none := by
    intro hc
    rcases acct with _ | ⟨_ | _⟩ <;> cases hc <;> rfl
  rw [marshalSeg, List.lookup_append, List.lookup_append, lookup_marshalFixed ops keyPattern rfl fixed h.1,
    hv, ha]
  rfl

theorem readPattern_marshalSeg (ops : RegexOps) (s : Segment) (h : s.Valid ops)
    (pat : Option String) (hp : ∀ p, pat = some p → ops.compiles p = true) :
    readPattern ops (marshalSeg s ++ marshalPattern pat) = .ok pat := by
  rw [readPattern, List.lookup_append, lookup_pattern_marshalSeg ops s h]
  cases pat with
  | none => rfl
  | some p => simp [marshalPattern, hp p rfl, pure, Except.pure]

def accOf : Segment → Acc
  | .mk fixed var acct =>
    { accOfAccount (!fixed.isEmpty || var.isSome) acct with fixed := fixed, var := var }

/-- Once `fixed`, `var` and the metadata are constructors, `finish` computes. -/
theorem finish_accOf (ops : RegexOps) (s : Segment) (h : s.Valid ops) : (accOf s).finish = .ok s := by
  obtain ⟨fixed, var, acct⟩ := s
  rw [Segment.Valid] at h
  rcases acct with _ | ⟨⟨_ | m⟩⟩ <;> cases fixed <;> cases var <;>
    first | rfl | (rcases h.2.2 rfl with h | h <;> exact absurd rfl h)

theorem ok_bind {ε α β} (a : α) (f : α → Except ε β) : (Except.ok a >>= f) = f a := rfl

/-- a sub-segment member `name: {…}` (fixed) or `$name: {…}` (variable) -/
theorem unmarshalMembers_sub (ops : RegexOps) {k : Key} (kvs rest : List (Key × JTree))
    (hp : isProp k = false) (hvs : validateSegment k = true) :
    unmarshalMembers ops ((k, .obj kvs) :: rest) =
      (readPattern ops kvs >>= fun pattern => unmarshalSeg ops (.obj kvs) >>= fun seg =>
        unmarshalMembers ops rest >>= fun acc =>
        if isVar k then
          if acc.var.isSome then throw .twoVariable
          else pure { acc with var := some (.mk k.tail pattern seg) }
        else
          if pattern.isSome then throw .patternOnFixed
          else pure { acc with fixed := (k, seg) :: acc.fixed }) := by
  rw [unmarshalMembers]
  simp only [hp, hvs, Bool.not_false, Bool.not_true, if_true, Bool.false_eq_true, if_false, JTree.fields?]

mutual
theorem seg_members_rt (ops : RegexOps) : (s : Segment) → s.Valid ops → (pat : Option String) →
    unmarshalMembers ops (marshalSeg s ++ marshalPattern pat) = .ok (accOf s)
  | .mk fixed var acct, h, pat => by
    rw [Segment.Valid] at h
    have ha := members_account ops (!fixed.isEmpty || var.isSome) acct pat
    have hvar := var_rt ops var h.2.1 _ _ ha (by cases acct <;> rfl)
    rw [marshalSeg, List.append_assoc, List.append_assoc, fixed_rt ops fixed h.1 _ _ hvar]
    cases acct <;> simp [accOf, accOfAccount]
theorem fixed_rt (ops : RegexOps) : (fixed : List (Key × Segment)) → validFixed ops fixed →
    (tail : List (Key × JTree)) → (accT : Acc) → unmarshalMembers ops tail = .ok accT →
    unmarshalMembers ops (marshalFixed fixed ++ tail) = .ok { accT with fixed := fixed ++ accT.fixed }
  | [], _, tail, accT, ht => ht
  | (k, s) :: rest, h, tail, accT, ht => by
    rw [validFixed] at h
    obtain ⟨hk, hs, hrest⟩ := h
    obtain ⟨hvs, hprop, hvar⟩ := (validName_iff k).1 hk
    have hseg := seg_members_rt ops s hs none
    have hrp := readPattern_marshalSeg ops s hs none nofun
    rw [marshalPattern, List.append_nil] at hseg hrp
    simp only [marshalFixed, List.cons_append, unmarshalMembers_sub ops _ _ hprop hvs, hrp, unmarshalSeg,
      hseg, fixed_rt ops rest hrest tail accT ht, hvar, ok_bind, finish_accOf ops s hs]
    rfl
theorem var_rt (ops : RegexOps) : (var : Option VarSegment) → validVar ops var →
    (tail : List (Key × JTree)) → (accT : Acc) → unmarshalMembers ops tail = .ok accT →
    accT.var = none →
    unmarshalMembers ops (marshalVar var ++ tail) = .ok { accT with var := var }
  | none, _, tail, accT, ht, hnone => by
    rw [marshalVar, List.nil_append, ht, ← hnone]
  | some (.mk label pat s), h, tail, accT, ht, hnone => by
    rw [validVar] at h
    obtain ⟨hl, hp, hs⟩ := h
    simp only [marshalVar, List.singleton_append, unmarshalMembers_sub ops (k := '$' :: label) _ _ rfl hl,
      readPattern_marshalSeg ops s hs pat hp, unmarshalSeg, seg_members_rt ops s hs pat, ht, ok_bind,
      finish_accOf ops s hs, hnone]
    rfl
end

theorem seg_rt (ops : RegexOps) (s : Segment) (h : s.Valid ops) :
    unmarshalSeg ops (.obj (marshalSeg s)) = .ok s := by
  have hseg := seg_members_rt ops s h none
  simp only [marshalPattern, List.append_nil] at hseg
  simp [unmarshalSeg, hseg, bind, Except.bind, finish_accOf ops s h]

theorem root_rt (ops : RegexOps) : (c : Chart) → validFixed ops c →
    unmarshalRoot ops (marshalFixed c) = .ok c
  | [], _ => by simp [marshalFixed, unmarshalRoot, pure, Except.pure]
  | (k, s) :: rest, h => by
    simp only [validFixed] at h
    obtain ⟨hk, hs, hrest⟩ := h
    obtain ⟨hvs, hprop, hvar⟩ := (validName_iff k).1 hk
    have ih := root_rt ops rest hrest
    have hl := lookup_pattern_marshalSeg ops s hs
    simp only [marshalFixed, unmarshalRoot, hvs, hvar, hprop, JTree.fields?, hl, seg_rt ops s hs, ih]
    simp [bind, Except.bind, pure, Except.pure]

def Yields {ε α} (x : Except ε α) (P : α → Prop) : Prop := ∀ a, x = .ok a → P a

theorem yields_pure {ε α} {a : α} {P : α → Prop} (h : P a) : Yields (pure a : Except ε α) P := by
  intro b e; cases e; exact h

theorem yields_throw {ε α} {e : ε} {P : α → Prop} : Yields (throw e : Except ε α) P := by
  intro b e; cases e

theorem yields_bind {ε α β} {x : Except ε α} {f : α → Except ε β} {Q : α → Prop} {P : β → Prop}
    (hx : Yields x Q) (hf : ∀ a, Q a → Yields (f a) P) : Yields (x >>= f) P := fun b e =>
  let ⟨a, ha, hb⟩ := Except.bind_ok e
  hf a (hx a ha) b hb

theorem yields_guard {ε α} {c : Prop} [Decidable c] {e : ε} {x : Except ε α} {P : α → Prop}
    (h : ¬ c → Yields x P) : Yields (if c then throw e else x) P := by
  split
  · exact yields_throw
  · exact h ‹_›

theorem yields_ite {ε α} {c : Prop} [Decidable c] {x y : Except ε α} {P : α → Prop}
    (hx : c → Yields x P) (hy : ¬ c → Yields y P) : Yields (if c then x else y) P := by
  split
  · exact hx ‹_›
  · exact hy ‹_›

theorem validName_tail_of_isVar {k : Key} (hv : isVar k = true) (h : validateSegment k = true) :
    validName k.tail = true := by
  unfold isVar at hv
  split at hv
  · exact h
  · cases hv

theorem readPattern_compiles (ops : RegexOps) (fields : List (Key × JTree)) :
    Yields (readPattern ops fields) fun pat => ∀ p, pat = some p → ops.compiles p = true := by
  unfold readPattern
  split
  · exact yields_pure nofun
  · split
    · exact yields_pure fun p hp => by cases hp; assumption
    · exact yields_throw
  · exact yields_throw

theorem finish_valid {ops : RegexOps} {a : Acc} (hf : validFixed ops a.fixed) (hv : validVar ops a.var) :
    Yields a.finish (Segment.Valid ops) := by
  unfold Acc.finish
  refine yields_guard fun _ => yields_guard fun _ => yields_pure ?_
  rw [Segment.Valid]
  refine ⟨hf, hv, fun hnone => ?_⟩
  by_cases hfx : a.fixed = []
  · refine .inr fun hvn => ?_
    simp [hfx, hvn] at hnone
  · exact .inl hfx

mutual
theorem seg_valid (ops : RegexOps) : (j : JTree) → (s : Segment) → unmarshalSeg ops j = .ok s → s.Valid ops
  | .null => by
    rw [unmarshalSeg]; exact finish_valid trivial trivial
  | .obj kvs => by
    rw [unmarshalSeg]
    exact yields_bind (members_valid ops kvs) fun acc h => finish_valid h.1 h.2
  | .bool _ | .num _ | .str _ | .arr _ => by rw [unmarshalSeg] <;> first | exact yields_throw | nofun
theorem members_valid (ops : RegexOps) : (kvs : List (Key × JTree)) → (acc : Acc) →
    unmarshalMembers ops kvs = .ok acc → validFixed ops acc.fixed ∧ validVar ops acc.var
  | [] => by rw [unmarshalMembers]; exact yields_pure ⟨trivial, trivial⟩
  | (k, v) :: rest => by
    have ih := members_valid ops rest
    rw [unmarshalMembers]
    refine yields_ite (fun hprop => yields_guard fun hvs => ?_) fun hprop => ?_
    · cases v.fields? with
      | none => exact yields_throw
      | some fields =>
        refine yields_bind (readPattern_compiles ops fields) fun pat hpat => ?_
        refine yields_bind (seg_valid ops v) fun seg hseg => ?_
        refine yields_bind ih fun acc' hacc' => ?_
        refine yields_ite (fun hvar => yields_guard fun _ => yields_pure ⟨hacc'.1, ?_, hpat, hseg⟩)
          fun hvar => yields_guard fun _ => yields_pure ⟨⟨?_, hseg, hacc'.1⟩, hacc'.2⟩
        · exact validName_tail_of_isVar hvar (by simpa using hvs)
        · exact (validName_iff k).2 ⟨by simpa using hvs, by simpa using hprop, by simpa using hvar⟩
    · refine yields_ite (fun _ => ?_) fun _ => yields_ite (fun _ => ?_) fun _ => yields_ite (fun _ => ?_) fun _ => ih
      · rcases v.fields? with _ | _ | _
        · exact yields_throw
        · exact yields_bind ih fun _ h => yields_pure h
        · exact yields_throw
      · exact yields_bind (Q := fun _ => True) (fun _ _ => trivial) fun _ _ =>
          yields_bind ih fun _ h => yields_pure h
      · cases v.fields? with
        | none => exact yields_throw
        | some _ => exact yields_bind ih fun _ h => yields_pure h
end

theorem root_valid (ops : RegexOps) : (kvs : List (Key × JTree)) →
    Yields (unmarshalRoot ops kvs) (validFixed ops)
  | [] => by rw [unmarshalRoot]; exact yields_pure trivial
  | (k, v) :: rest => by
    rw [unmarshalRoot]
    refine yields_guard fun hvs => yields_guard fun hvar => yields_guard fun hprop => ?_
    cases v.fields? with
    | none => exact yields_throw
    | some fields =>
      refine yields_guard fun _ => yields_bind (seg_valid ops v) fun seg hseg => ?_
      refine yields_bind (root_valid ops rest) fun r hr => yields_pure ⟨?_, hseg, hr⟩
      exact (validName_iff k).2 ⟨by simpa using hvs, by simpa using hprop, by simpa using hvar⟩

theorem unmarshal_valid' (ops : RegexOps) (j : JTree) : Yields (unmarshal ops j) (Valid ops) := by
  unfold unmarshal
  cases j.fields? with
  | none => exact yields_throw
  | some kvs => exact root_valid ops kvs

/-! A struct is written as an append of members, optional ones through `optMember` or an
`if`; the three `findField_*` lemmas take the decoder's search through such a list, and
the comparisons of the (fixed) field names are decided. -/

@[simp] theorem ff_nil (n : Key) (acc : Option JTree) : findField n [] acc = acc := rfl
theorem ff_cons (n k : Key) (v : JTree) (rest : List (Key × JTree)) (acc : Option JTree) :
    findField n ((k, v) :: rest) acc =
      findField n rest (if k.map asciiLower = n then some v else acc) := rfl

theorem findField_append (n : Key) (a b : List (Key × JTree)) (acc : Option JTree) :
    findField n (a ++ b) acc = findField n b (findField n a acc) := by
  induction a generalizing acc with
  | nil => rfl
  | cons kv a ih => exact ih _

theorem findField_optMember (n k : Key) (o acc : Option JTree) :
    findField n (optMember k o) acc = if k.map asciiLower = n then o.or acc else acc := by
  cases o <;> simp [optMember, ff_cons]

/-- a member written with `omitempty` -/
theorem findField_omit (n : Key) (c : Prop) [Decidable c] (l : List (Key × JTree))
    (acc : Option JTree) :
    findField n (if c then [] else l) acc = if c then acc else findField n l acc := by
  split <;> rfl

theorem template_rt (t : TxTemplate) : unmarshalTemplate (marshalTemplate t) = .ok t := by
  obtain ⟨d, s, r⟩ := t
  simp +decide only [marshalTemplate, unmarshalTemplate, strFieldOf, findField_append, findField_omit,
    ff_cons, ff_nil, if_true, if_false]
  by_cases hr : r = "" <;> simp_all <;> rfl

theorem templates_rt (ts : List (Key × TxTemplate)) : unmarshalTemplates (marshalTemplates ts) = .ok ts :=
  kvList_rt marshalTemplate unmarshalTemplate _ _ ts fun kv _ => template_rt kv.2

theorem varType_rt (t : VarType) : VarType.ofString t.toString = some t := by
  cases t <;> decide +kernel

theorem varDecl_rt (d : VarDecl) (h : d.Valid) : unmarshalVarDecl (marshalVarDecl d) = .ok d := by
  obtain ⟨t, dflt⟩ := d
  rcases dflt with _ | v <;>
    simp +decide only [marshalVarDecl, unmarshalVarDecl, strFieldOf, ff_cons, ff_nil, if_true, if_false,
      pure_bind, varType_rt]
  · rfl
  · split <;> rename_i heq <;> cases heq <;> first | rfl | exact absurd rfl h

theorem vars_rt (vs : List (Key × VarDecl)) (h : ∀ kv ∈ vs, kv.2.Valid) :
    unmarshalVars (marshalVars vs) = .ok vs :=
  kvList_rt marshalVarDecl unmarshalVarDecl _ _ vs fun kv hkv => varDecl_rt kv.2 (h kv hkv)

theorem query_rt (q : QueryTemplate) (h : q.Valid) : unmarshalQuery (marshalQuery q) = .ok q := by
  obtain ⟨d, r, params, vars, body⟩ := q
  have hv := vars_rt vars h
  simp +decide only [marshalQuery, unmarshalQuery, strFieldOf, findField_append, findField_optMember,
    findField_omit, ff_cons, ff_nil, if_true, if_false]
  cases vars <;> by_cases hd : d = "" <;> simp_all <;> rfl

theorem queries_rt (qs : List (Key × QueryTemplate)) (h : ∀ kq ∈ qs, kq.2.Valid) :
    unmarshalQueries (marshalQueries qs) = .ok qs :=
  kvList_rt marshalQuery unmarshalQuery _ _ qs fun kq hkq => query_rt kq.2 (h kq hkq)

end Ledger.Chart
