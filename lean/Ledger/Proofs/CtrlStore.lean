import Ledger.Proofs.CtrlRun
import Ledger.Proofs.CoreMap
import Ledger.Proofs.ListBasic

/-!
The store contract call by call.  `CommitTransaction` and `InsertLog` are inverted
once (`commitTransaction_cases`, `insertLog_cases`); every other call rewrites one table in
one of a few ways (`Db.Upd`); `exec_ok_cases` / `exec_error` say which.  Whatever a
call answers the sequences only advance (`exec_seq`, `run_seq`); a successful one only adds
to the accounts (`exec_accLe`) and keeps the id / key invariant `Inv` (`exec_inv`).
-/
namespace Ledger.Ctrl
open Ledger.Base Ledger.Core

def SeqLe (a b : Seqs) : Prop := a.tx ≤ b.tx ∧ a.log ≤ b.log

theorem SeqLe.refl (a : Seqs) : SeqLe a a := ⟨Nat.le_refl _, Nat.le_refl _⟩
theorem SeqLe.trans {a b c : Seqs} (h1 : SeqLe a b) (h2 : SeqLe b c) : SeqLe a c :=
  ⟨Nat.le_trans h1.1 h2.1, Nat.le_trans h1.2 h2.2⟩

/-- A row is never removed, its insertion date never changes, its first usage never rises. -/
def AccLe (a b : Map String Account) : Prop :=
  ∀ k acc, a.get? k = some acc →
    ∃ acc', b.get? k = some acc' ∧ acc'.insertionDate = acc.insertionDate ∧ acc'.firstUsage ≤ acc.firstUsage

theorem AccLe.refl (a : Map String Account) : AccLe a a := fun _ acc h => ⟨acc, h, rfl, Int.le_refl _⟩

theorem AccLe.trans {a b c : Map String Account} (h1 : AccLe a b) (h2 : AccLe b c) : AccLe a c := by
  intro k acc h
  obtain ⟨x, hx, hi, hf⟩ := h1 k acc h
  obtain ⟨y, hy, hi2, hf2⟩ := h2 k x hx
  exact ⟨y, hy, hi2.trans hi, Int.le_trans hf2 hf⟩

theorem AccLe.insert (m : Map String Account) (k : String) (new : Account)
    (h : ∀ old, m.get? k = some old → new.insertionDate = old.insertionDate ∧ new.firstUsage ≤ old.firstUsage) :
    AccLe m (m.insert k new) := by
  intro k2 acc h2
  by_cases hk : k2 = k
  · subst hk
    exact ⟨new, Map.get?_insert_self _ _ _, h acc h2⟩
  · exact ⟨acc, by rw [Map.get?_insert_ne _ _ _ _ hk]; exact h2, rfl, Int.le_refl _⟩

theorem upsertAccount_le (now : Time) (m : Map String Account) (r : AccIn) : AccLe m (upsertAccount now m r) := by
  unfold upsertAccount
  cases h : m.get? r.address with
  | none => exact AccLe.insert _ _ _ (fun old ho => nomatch h.symm.trans ho)
  | some a =>
    have key : ∀ new : Account, new.insertionDate = a.insertionDate → new.firstUsage ≤ a.firstUsage →
        AccLe m (m.insert r.address new) :=
      fun new hi hf => AccLe.insert _ _ _ fun old ho => by cases h.symm.trans ho; exact ⟨hi, hf⟩
    cases r.firstUsage with
    | none =>
      dsimp only
      split
      · exact key _ rfl (Int.le_refl _)
      · exact AccLe.refl _
    | some f =>
      dsimp only
      split
      · refine key _ rfl ?_
        dsimp only
        split
        · exact Int.le_of_lt ‹_›
        · exact Int.le_refl _
      · exact AccLe.refl _

theorem updateAccountMeta_le (w : Time) (m : Map String Account) (e : String × Meta) :
    AccLe m (updateAccountMeta w m e) := by
  unfold updateAccountMeta
  cases h : m.get? e.1 with
  | none => exact AccLe.insert _ _ _ (fun old ho => nomatch h.symm.trans ho)
  | some a =>
    dsimp only
    split
    · exact AccLe.refl _
    · refine AccLe.insert _ _ _ (fun old ho => ?_)
      cases h.symm.trans ho
      refine ⟨rfl, ?_⟩
      dsimp only
      split
      · exact Int.le_of_lt ‹_›
      · exact Int.le_refl _

theorem AccLe.foldl {β : Type} (f : Map String Account → β → Map String Account)
    (hf : ∀ m b, AccLe m (f m b)) (l : List β) (m : Map String Account) : AccLe m (l.foldl f m) := by
  induction l generalizing m with
  | nil => exact AccLe.refl _
  | cons b r ih => exact AccLe.trans (hf m b) (ih _)

/-- `CommitTransaction` inverted: whatever it answers the sequences only advance; it
    refuses for a taken id or reference, and otherwise appends the row it describes. -/
theorem commitTransaction_cases {now : Time} {t : TxIn} {d : Db} {sq sq' : Seqs} {res : Except StoreErr (Tx × Db)}
    (h : commitTransaction now t d sq = (sq', res)) :
    SeqLe sq sq' ∧ match res with
    | .error e => e = .concurrentTx ∨ e = .referenceConflict
    | .ok (row, d') =>
      d' = { d with volumes := (volumeUpdates t.postings).foldl addVolumes d.volumes, txs := d.txs ++ [row] } ∧
      row = { id := row.id, postings := t.postings, metadata := t.metadata, reference := t.reference,
              timestamp := (match t.timestamp with | some x => x | none => now),
              insertedAt := (match t.insertedAt with | some x => x | none => now),
              updatedAt := (match t.updatedAt with | some x => x | none => (match t.insertedAt with | some x => x | none => now)),
              revertedAt := t.revertedAt, pcv := (updateVolumes (volumeUpdates t.postings) d.volumes).1,
              template := t.template } ∧
      (∀ x ∈ d.txs, x.id ≠ row.id) ∧
      (t.reference = "" ∨ ∀ x ∈ d.txs, x.reference ≠ t.reference) ∧
      (t.id = none → row.id = sq.tx + 1 ∧ sq' = { sq with tx := sq.tx + 1 }) := by
  unfold commitTransaction at h
  cases hid : t.id <;> rw [hid] at h <;> dsimp only at h <;> split at h <;> (try split at h) <;> cases h
  all_goals
    refine ⟨by first | exact SeqLe.refl _ | exact ⟨Nat.le_succ _, Nat.le_refl _⟩, ?_⟩
    first
    | exact Or.inl rfl
    | exact Or.inr rfl
    | rename_i hdup href
      refine ⟨rfl, rfl, ?_, ?_, by first | exact fun _ => ⟨rfl, rfl⟩ | exact nofun⟩
      · exact fun x hx he => hdup (List.any_eq_true.mpr ⟨x, hx, decide_eq_true he⟩)
      · by_cases hr : t.reference = ""
        · exact Or.inl hr
        · exact Or.inr fun x hx he => href ⟨hr, List.any_eq_true.mpr ⟨x, hx, decide_eq_true he⟩⟩

/-- Conversely, a fresh id and a taken non-empty reference: `CommitTransaction` answers the reference conflict. -/
theorem commitTransaction_dup_ref {now : Time} {t : TxIn} {d : Db} {sq : Seqs}
    (hr : t.reference ≠ "") (hdup : ∃ x ∈ d.txs, x.reference = t.reference)
    (hid : ∀ x ∈ d.txs, x.id ≠ (match t.id with | some i => i | none => sq.tx + 1)) :
    (commitTransaction now t d sq).2 = .error .referenceConflict := by
  have h1 : ¬ (d.txs.any fun y => decide (y.id = (match t.id with | some i => i | none => sq.tx + 1))) = true :=
    fun h => let ⟨y, hy, he⟩ := List.any_eq_true.mp h; hid y hy (of_decide_eq_true he)
  have h2 : t.reference ≠ "" ∧ (d.txs.any fun y => decide (y.reference = t.reference)) = true :=
    ⟨hr, List.any_eq_true.mpr (hdup.imp fun _ h => ⟨h.1, decide_eq_true h.2⟩)⟩
  unfold commitTransaction
  cases hl : t.id <;> simp only [hl] at h1 ⊢ <;> rw [if_neg h1, if_pos h2]

/-- `InsertLog` inverted, in the same way; an idempotency-key conflict names a log that carries the key. -/
theorem insertLog_cases {now : Time} {l : LogIn} {d : Db} {sq sq' : Seqs} {res : Except StoreErr (Log × Db)}
    (h : insertLog now l d sq = (sq', res)) :
    SeqLe sq sq' ∧ match res with
    | .error e => e = .constraint ∨ (e = .ikConflict ∧ (readLogWithIK l.ik d).isSome = true)
    | .ok (row, d') =>
      d' = { d with logs := d.logs ++ [row] } ∧
      row = { id := row.id, payload := l.payload, date := (match l.date with | some x => x | none => now),
              ik := l.ik, ihash := l.ihash, schemaVersion := l.schemaVersion } ∧
      (∀ x ∈ d.logs, x.id ≠ row.id) ∧ (l.ik = "" ∨ ∀ x ∈ d.logs, x.ik ≠ l.ik) ∧
      (l.id = none → row.id = sq.log + 1 ∧ sq' = { sq with log := sq.log + 1 }) ∧
      (∀ i, l.id = some i → row.id = i ∧ sq' = sq) := by
  unfold insertLog at h
  have found : l.ik ≠ "" ∧ (d.logs.any fun x => decide (x.ik = l.ik)) = true → (readLogWithIK l.ik d).isSome = true := by
    intro ⟨hne, hany⟩
    obtain ⟨x, hx, hxe⟩ := List.any_eq_true.mp hany
    unfold readLogWithIK
    rw [if_neg hne, List.find?_isSome]
    exact ⟨x, hx, by simpa using hxe⟩
  cases hid : l.id <;> rw [hid] at h <;> dsimp only at h <;> split at h <;> (try split at h) <;> cases h
  all_goals
    refine ⟨by first | exact SeqLe.refl _ | exact ⟨Nat.le_refl _, Nat.le_succ _⟩, ?_⟩
    first
    | exact Or.inl rfl
    | exact Or.inr ⟨rfl, found ‹_›⟩
    | rename_i hdup hik
      refine ⟨rfl, rfl, ?_, ?_, by first | exact fun _ => ⟨rfl, rfl⟩ | exact nofun,
        by first | exact fun _ hi => by cases hi; exact ⟨rfl, rfl⟩ | exact nofun⟩
      · exact fun x hx he => hdup (List.any_eq_true.mpr ⟨x, hx, decide_eq_true he⟩)
      · by_cases hr : l.ik = ""
        · exact Or.inl hr
        · exact Or.inr fun x hx he => hik ⟨hr, List.any_eq_true.mpr ⟨x, hx, decide_eq_true he⟩⟩

/-- Conversely, a fresh id and a taken non-empty key: `InsertLog` answers the idempotency-key conflict. -/
theorem insertLog_dup_ik {now : Time} {l : LogIn} {d : Db} {sq : Seqs}
    (hk : l.ik ≠ "") (hdup : ∃ x ∈ d.logs, x.ik = l.ik)
    (hid : ∀ x ∈ d.logs, x.id ≠ (match l.id with | some i => i | none => sq.log + 1)) :
    (insertLog now l d sq).2 = .error .ikConflict := by
  have h1 : ¬ (d.logs.any fun y => decide (y.id = (match l.id with | some i => i | none => sq.log + 1))) = true :=
    fun h => let ⟨y, hy, he⟩ := List.any_eq_true.mp h; hid y hy (of_decide_eq_true he)
  have h2 : l.ik ≠ "" ∧ (d.logs.any fun y => decide (y.ik = l.ik)) = true :=
    ⟨hk, List.any_eq_true.mpr (hdup.imp fun _ h => ⟨h.1, decide_eq_true h.2⟩)⟩
  unfold insertLog
  cases hl : l.id <;> simp only [hl] at h1 ⊢ <;> rw [if_neg h1, if_pos h2]

/-- What a successful call other than `CommitTransaction` and `InsertLog` does to the
    tables: nothing; zero rows for the balances it locks; an `accounts` table in which
    rows only moved one way; one more schema; or an `UPDATE` of the transactions with
    one id that rewrites only metadata, `updated_at` and `reverted_at`. -/
inductive Db.Upd (d : Db) : Db → Prop where
  | same : Upd d d
  | lock (q : List Key) : Upd d { d with volumes := q.foldl lockZero d.volumes }
  | accounts (a : Map String Account) (h : AccLe d.accounts a) : Upd d { d with accounts := a }
  | schema (row : Schema) : Upd d { d with schemas := d.schemas ++ [row] }
  | modifyTx (id : Nat) (g : Tx → Tx)
      (hg : ∀ x, g x = { x with metadata := (g x).metadata, updatedAt := (g x).updatedAt, revertedAt := (g x).revertedAt }) :
      Upd d (d.modifyTx id g)

/-- What the three calls on one transaction id answer: not found, or such an update. -/
def Db.TxUpd (d : Db) : Except StoreErr ((Tx × Bool) × Db) → Prop
  | .error e => e = .notFound
  | .ok (_, d') => d.Upd d'

theorem Db.TxUpd.ok {d d' : Db} {res : Except StoreErr ((Tx × Bool) × Db)} {r : Tx × Bool} (h : d.TxUpd res)
    (he : res = .ok (r, d')) : d.Upd d' := by subst he; exact h

theorem Db.TxUpd.error {d : Db} {res : Except StoreErr ((Tx × Bool) × Db)} {e : StoreErr} (h : d.TxUpd res)
    (he : res = .error e) : e = .notFound := by subst he; exact h

theorem revertTransaction_upd (now : Time) (id : Nat) (w : Option Time) (d : Db) :
    d.TxUpd (revertTransaction now id w d) := by
  unfold revertTransaction
  split
  · exact rfl
  · split
    · exact .same
    · exact .modifyTx _ _ fun _ => rfl

theorem updateTxMeta_upd (now : Time) (id : Nat) (m : Meta) (w : Option Time) (d : Db) :
    d.TxUpd (updateTxMeta now id m w d) := by
  unfold updateTxMeta
  split
  · exact rfl
  · exact .modifyTx _ _ fun _ => by split <;> rfl

theorem deleteTxMeta_upd (now : Time) (id : Nat) (k : String) (w : Option Time) (d : Db) :
    d.TxUpd (deleteTxMeta now id k w d) := by
  unfold deleteTxMeta
  split
  · exact rfl
  · exact .modifyTx _ _ fun _ => by split <;> rfl

theorem deleteAccountMeta_upd (now : Time) (a k : String) (d : Db) : d.Upd (deleteAccountMeta now a k d) := by
  unfold deleteAccountMeta
  cases hg : d.accounts.get? a with
  | none => exact .same
  | some x =>
    exact .accounts _ (AccLe.insert _ _ _ fun old ho => by cases hg.symm.trans ho; exact ⟨rfl, Int.le_refl _⟩)

theorem exec_ok_cases {now : Time} {c : Call} {d : Db} {sq sq' : Seqs} {r : c.Ret} {d' : Db}
    (h : exec now c d sq = (sq', .ok (r, d'))) :
    (∃ t row, c = .commitTransaction t ∧ commitTransaction now t d sq = (sq', .ok (row, d'))) ∨
    (∃ l row, c = .insertLog l ∧ insertLog now l d sq = (sq', .ok (row, d'))) ∨ (sq' = sq ∧ d.Upd d') := by
  cases c with
  | commitTransaction t => exact Or.inl ⟨t, r, rfl, h⟩
  | insertLog l => exact Or.inr (Or.inl ⟨l, r, rfl, h⟩)
  | readLogIK ik => cases h; exact Or.inr (Or.inr ⟨rfl, .same⟩)
  | findSchema v => cases h; exact Or.inr (Or.inr ⟨rfl, .same⟩)
  | findLatestSchemaVersion => cases h; exact Or.inr (Or.inr ⟨rfl, .same⟩)
  | getAccount a => cases h; exact Or.inr (Or.inr ⟨rfl, .same⟩)
  | getBalances q => cases h; exact Or.inr (Or.inr ⟨rfl, .lock q⟩)
  | upsertAccounts rows => cases h; exact Or.inr (Or.inr ⟨rfl, .accounts _ (AccLe.foldl _ (upsertAccount_le now) rows _)⟩)
  | updateAccountsMeta m w => cases h; exact Or.inr (Or.inr ⟨rfl, .accounts _ (AccLe.foldl _ (updateAccountMeta_le _) m _)⟩)
  | deleteAccountMeta a k => cases h; exact Or.inr (Or.inr ⟨rfl, deleteAccountMeta_upd now a k d⟩)
  | insertSchema s =>
    simp only [exec, insertSchema] at h
    split at h <;> cases h
    · exact Or.inr (Or.inr ⟨rfl, .same⟩)
    · exact Or.inr (Or.inr ⟨rfl, .schema _⟩)
  | revertTransaction id w =>
    exact Or.inr (Or.inr ⟨(Prod.mk.inj h).1.symm, (revertTransaction_upd now id w d).ok (Prod.mk.inj h).2⟩)
  | updateTxMeta id m w =>
    exact Or.inr (Or.inr ⟨(Prod.mk.inj h).1.symm, (updateTxMeta_upd now id m w d).ok (Prod.mk.inj h).2⟩)
  | deleteTxMeta id k w =>
    exact Or.inr (Or.inr ⟨(Prod.mk.inj h).1.symm, (deleteTxMeta_upd now id k w d).ok (Prod.mk.inj h).2⟩)

theorem exec_seq {now : Time} {c : Call} {d : Db} {sq sq' : Seqs} {res : Except StoreErr (c.Ret × Db)}
    (h : exec now c d sq = (sq', res)) : SeqLe sq sq' := by
  cases c with
  | commitTransaction t => exact (commitTransaction_cases h).1
  | insertLog l => exact (insertLog_cases h).1
  | _ => cases h; exact SeqLe.refl _

/-- What a failing call answered: the store contract never answers a deadlock (nor
    any other injected-only error), and an idempotency-key conflict only from
    `InsertLog` when a log carries the key. -/
theorem exec_error {now : Time} {c : Call} {d : Db} {sq sq' : Seqs} {e : StoreErr}
    (h : exec now c d sq = (sq', .error e)) :
    e = .notFound ∨ e = .concurrentTx ∨ e = .referenceConflict ∨ e = .constraint ∨
      (e = .ikConflict ∧ ∃ l, c = .insertLog l ∧ (readLogWithIK l.ik d).isSome = true) := by
  cases c with
  | commitTransaction t =>
    exact (commitTransaction_cases h).2.elim (fun h => Or.inr (Or.inl h)) (fun h => Or.inr (Or.inr (Or.inl h)))
  | insertLog l =>
    exact (insertLog_cases h).2.elim (fun h => Or.inr (Or.inr (Or.inr (Or.inl h))))
      (fun h => Or.inr (Or.inr (Or.inr (Or.inr ⟨h.1, l, rfl, h.2⟩))))
  | revertTransaction id w => exact Or.inl ((revertTransaction_upd now id w d).error (Prod.mk.inj h).2)
  | updateTxMeta id m w => exact Or.inl ((updateTxMeta_upd now id m w d).error (Prod.mk.inj h).2)
  | deleteTxMeta id k w => exact Or.inl ((deleteTxMeta_upd now id k w d).error (Prod.mk.inj h).2)
  | _ => cases h

/-- A call of the write path: ids come from the sequences and a transaction is not
    born reverted (the import path, which supplies both, is treated separately). -/
def Call.Fresh : Call → Prop
  | .commitTransaction t => t.id = none ∧ t.revertedAt = none
  | .insertLog l => l.id = none
  | _ => True

def Call.Quiet : Call → Prop
  | .commitTransaction t => t.id = none ∧ t.revertedAt = none
  | .insertLog _ => False
  | _ => True

theorem Call.Quiet.fresh {c : Call} (h : c.Quiet) : c.Fresh := by
  cases c <;> first | exact h | exact trivial | exact h.elim

theorem Db.Upd.logs {d d' : Db} (h : d.Upd d') : d'.logs = d.logs := by cases h <;> rfl

theorem exec_quiet_logs {now : Time} {c : Call} {d : Db} {sq sq' : Seqs} {r : c.Ret} {d' : Db} (hq : c.Quiet)
    (h : exec now c d sq = (sq', .ok (r, d'))) : d'.logs = d.logs := by
  rcases exec_ok_cases h with ⟨t, row, _, hc⟩ | ⟨l, row, rfl, _⟩ | ⟨_, hu⟩
  · rw [(commitTransaction_cases hc).2.1]
  · exact hq.elim
  · exact hu.logs

theorem Db.Upd.accLe {d d' : Db} (h : d.Upd d') : AccLe d.accounts d'.accounts := by
  cases h with
  | accounts a h => exact h
  | _ => exact AccLe.refl _

theorem exec_accLe {now : Time} {c : Call} {d : Db} {sq sq' : Seqs} {r : c.Ret} {d' : Db}
    (h : exec now c d sq = (sq', .ok (r, d'))) : AccLe d.accounts d'.accounts := by
  rcases exec_ok_cases h with ⟨t, row, _, hc⟩ | ⟨l, row, _, hc⟩ | ⟨_, hu⟩
  · rw [(commitTransaction_cases hc).2.1]; exact AccLe.refl _
  · rw [(insertLog_cases hc).2.1]; exact AccLe.refl _
  · exact hu.accLe

structure Inv (d : Db) (sq : Seqs) : Prop where
  logIds : ∀ l ∈ d.logs, l.id ≤ sq.log
  logSorted : d.logs.Pairwise (fun a b => a.id < b.id)
  txIds : ∀ t ∈ d.txs, t.id ≤ sq.tx
  txSorted : d.txs.Pairwise (fun a b => a.id < b.id)
  ikUnique : d.logs.Pairwise (fun a b => b.ik = "" ∨ a.ik ≠ b.ik)
  refUnique : d.txs.Pairwise (fun a b => b.reference = "" ∨ a.reference ≠ b.reference)

theorem Inv.empty : Inv {} {} :=
  ⟨fun _ h => absurd h List.not_mem_nil, List.Pairwise.nil, fun _ h => absurd h List.not_mem_nil,
   List.Pairwise.nil, List.Pairwise.nil, List.Pairwise.nil⟩

theorem Inv.seq_mono {d : Db} {sq sq' : Seqs} (h : Inv d sq) (hs : SeqLe sq sq') : Inv d sq' :=
  ⟨fun l hl => Nat.le_trans (h.logIds l hl) hs.2, h.logSorted,
   fun t ht => Nat.le_trans (h.txIds t ht) hs.1, h.txSorted, h.ikUnique, h.refUnique⟩

/-- The invariant reads `id` and `reference` of the transactions and the logs only. -/
theorem Inv.upd {d d' : Db} {sq : Seqs} (h : Inv d sq) (hu : d.Upd d') : Inv d' sq := by
  cases hu with
  | modifyTx id g hg =>
    have key : ∀ x : Tx, (if x.id = id then g x else x).id = x.id ∧
        (if x.id = id then g x else x).reference = x.reference := by
      intro x; split
      · exact ⟨by rw [hg x], by rw [hg x]⟩
      · exact ⟨rfl, rfl⟩
    refine ⟨h.logIds, h.logSorted, ?_, ?_, h.ikUnique, ?_⟩
    · intro t ht
      obtain ⟨x, hx, rfl⟩ := List.mem_map.mp ht
      rw [(key x).1]; exact h.txIds x hx
    · exact List.pairwise_map.mpr (h.txSorted.imp fun {a b} hab => by rw [(key a).1, (key b).1]; exact hab)
    · exact List.pairwise_map.mpr (h.refUnique.imp fun {a b} hab => by rw [(key a).2, (key b).2]; exact hab)
  | _ => exact ⟨h.logIds, h.logSorted, h.txIds, h.txSorted, h.ikUnique, h.refUnique⟩

theorem exec_inv {now : Time} {c : Call} {d : Db} {sq sq' : Seqs} {r : c.Ret} {d' : Db} (hf : c.Fresh)
    (he : exec now c d sq = (sq', .ok (r, d'))) (h : Inv d sq) : Inv d' sq' := by
  rcases exec_ok_cases he with ⟨t, row, rfl, hc⟩ | ⟨l, row, rfl, hc⟩ | ⟨rfl, hu⟩
  · obtain ⟨_, rfl, hr, _, hnew, hsq⟩ := commitTransaction_cases hc
    have href : row.reference = t.reference := congrArg Tx.reference hr
    obtain ⟨hrow, rfl⟩ := hsq hf.1
    refine ⟨h.logIds, h.logSorted, ?_, ?_, h.ikUnique, ?_⟩
    · intro x hx
      rcases List.mem_append.mp hx with hx | hx
      · exact Nat.le_succ_of_le (h.txIds x hx)
      · cases List.mem_singleton.mp hx; exact Nat.le_of_eq hrow
    · exact pairwise_append_one h.txSorted fun a ha => hrow ▸ Nat.lt_succ_of_le (h.txIds a ha)
    · exact pairwise_append_one h.refUnique fun a ha =>
        hnew.elim (fun h0 => Or.inl (href ▸ h0)) (fun hne => Or.inr (href ▸ hne a ha))
  · obtain ⟨_, rfl, hrow, hid, hnew, hsq, _⟩ := insertLog_cases hc
    obtain ⟨hrid, rfl⟩ := hsq hf
    have hik : row.ik = l.ik := congrArg Log.ik hrow
    refine ⟨?_, ?_, h.txIds, h.txSorted, ?_, h.refUnique⟩
    · intro x hx
      rcases List.mem_append.mp hx with hx | hx
      · exact Nat.le_succ_of_le (h.logIds x hx)
      · cases List.mem_singleton.mp hx; exact Nat.le_of_eq hrid
    · exact pairwise_append_one h.logSorted fun a ha => hrid ▸ Nat.lt_succ_of_le (h.logIds a ha)
    · exact pairwise_append_one h.ikUnique fun a ha =>
        hnew.elim (fun h0 => Or.inl (hik ▸ h0)) (fun hne => Or.inr (hik ▸ hne a ha))
  · exact h.upd hu

theorem run_seq {α : Type} (now : Time) (h : String) (f : Faults) (p : Prog α) (st : RunSt) :
    SeqLe st.seq (run now h f p st).2.seq :=
  run_rel now h f (fun x y => SeqLe x.2 y.2) (fun _ => SeqLe.refl _) (fun _ _ _ => SeqLe.trans)
    (fun _ _ _ _ => ⟨fun _ _ he => exec_seq he, fun _ _ _ he => exec_seq he⟩) p.all_true st

theorem run_quiet_logs {α : Type} {E : Err → Prop} (now : Time) (hn : String) (f : Faults) {p : Prog α}
    (hp : p.All Call.Quiet E) (st : RunSt) : (run now hn f p st).2.db.logs = st.db.logs :=
  run_rel now hn f (fun x y => y.1.logs = x.1.logs) (fun _ => rfl) (fun _ _ _ h1 h2 => h2.trans h1)
    (fun _ _ _ hc => ⟨fun _ _ _ => rfl, fun _ _ _ he => exec_quiet_logs hc he⟩) hp st

/-- `fetchLogWithIK` reads only. -/
theorem run_ikLookup_db (now : Time) (h : String) (f : Faults) (ik ihash : String) (st : RunSt) :
    (run now h f (ikLookup ik ihash) st).2.db = st.db ∧ (run now h f (ikLookup ik ihash) st).2.seq = st.seq := by
  unfold ikLookup
  split
  · exact ⟨rfl, rfl⟩
  · simp only [run]
    split
    · exact ⟨rfl, rfl⟩
    · simp only [exec]
      cases readLogWithIK ik st.db with
      | none => exact ⟨rfl, rfl⟩
      | some log =>
        simp only
        split <;> exact ⟨rfl, rfl⟩

end Ledger.Ctrl
