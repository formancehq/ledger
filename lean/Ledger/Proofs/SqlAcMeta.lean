import Ledger.Proofs.SqlAccountsCte
import Ledger.Proofs.SqlInsertRow

/-!
# `insert_account_metadata_history` / `update_account_metadata_history` (AFTER ROW triggers of `accounts`, ACCOUNT_METADATA_HISTORY = SYNC)

Both trigger functions of `Ledger.Generated.Schema` are `INSERT INTO accounts_metadata (ledger, accounts_address, revision, date, metadata)
VALUES (new.ledger, new.address, <revision>, <date>, new.metadata); RETURN new` — with `1, new.insertion_date` on INSERT and
`coalesce((SELECT revision + 1 FROM accounts_metadata WHERE accounts_metadata.accounts_address = new.address AND
accounts_metadata.ledger = new.ledger ORDER BY revision DESC LIMIT 1), 1), new.updated_at` on UPDATE. `accounts_metadata` is a table
with a bigserial key and the functions are one INSERT into it, so either trigger (`exec_runTrigger_am`) is an instance of
`exec_runTrigger_serialIns`, like the trigger of `transactions` (`SqlTxMeta`).
-/
open Ledger Ledger.Sql Ledger.Generated Ledger.Core
namespace Ledger.Sql

/-- a row of `accounts_metadata` (column order of `Schema.tbl_accounts_metadata`) -/
structure AmR where
  seq : Int
  ledger : String
  metadata : JV
  revision : Int
  date : Int
  address : String

def amVals (r : AmR) : List Value := [.int r.seq, .text r.ledger, .json r.metadata, .int r.revision, .ts r.date, .text r.address]

def amCols : List String := Schema.tbl_accounts_metadata.cols.map (·.name)

def amFull (b : String) : String := b ++ "." ++ "accounts_metadata"

def amSeqFull (b : String) : String := b ++ "." ++ "accounts_metadata_seq_seq"

/-- `accounts_metadata` of bucket `b` -/
def amT (b : String) (nr : Nat) : Table := { Schema.tbl_accounts_metadata with name := amFull b, nextRid := nr }

/-- the row a trigger writes for the NEW account row `a`: revision `rv`, date `dt`, numbered `q` -/
def amOf (a : AcR) (rv dt q : Int) : AmR := { seq := q, ledger := a.ledger, metadata := a.md, revision := rv, date := dt, address := a.address }

def AmAll (bound : Int) (rows : List Ver) : Prop := ∀ r ∈ rows, ∃ y : AmR, r.vals = amVals y ∧ y.seq < bound

/-- the statement of both trigger functions -/
def amInsertStmt (revE dateE : Expr) : Stmt :=
  Stmt.insert [] "" "accounts_metadata" "" ["ledger", "accounts_address", "revision", "date", "metadata"]
    (InsertSrc.values [[Expr.col "new" "ledger", Expr.col "new" "address", revE, dateE, Expr.col "new" "metadata"]]) none []

/-- the revision sub-query of `update_account_metadata_history` -/
def amRevQuery : Query :=
  Query.mk [] (SetExpr.select (Select.mk false [] [SelItem.expr (Expr.binop BinOp.add (Expr.col "" "revision") (Expr.int 1)) ""]
    [FromItem.table "" "accounts_metadata" ""]
    (some (Expr.binop BinOp.and (Expr.binop BinOp.eq (Expr.col "accounts_metadata" "accounts_address") (Expr.col "new" "address"))
      (Expr.binop BinOp.eq (Expr.col "accounts_metadata" "ledger") (Expr.col "new" "ledger")))) [] none))
    [OrderItem.mk (Expr.col "" "revision") true NullsOrder.dflt] (some (Expr.int 1)) none LockMode.none

def amRevExpr : Expr := Expr.call "" "coalesce" [Expr.subq amRevQuery, Expr.int 1]

theorem insertAcMeta_body :
    Schema.fn_insert_account_metadata_history.body =
      [PlStmt.exec (amInsertStmt (Expr.int 1) (Expr.col "new" "insertion_date")) [], PlStmt.ret (some (Expr.col "" "new"))] ∧
    Schema.fn_insert_account_metadata_history.decls = [] := ⟨rfl, rfl⟩

theorem updateAcMeta_body :
    Schema.fn_update_account_metadata_history.body =
      [PlStmt.exec (amInsertStmt amRevExpr (Expr.col "new" "updated_at")) [], PlStmt.ret (some (Expr.col "" "new"))] ∧
    Schema.fn_update_account_metadata_history.decls = [] := ⟨rfl, rfl⟩

/-- the environment of the PL body of a row trigger on `accounts` with NEW = `a` (and OLD = `o` on UPDATE) -/
def acPlEnv (a : AcR) (old : Option AcR) (fd : Bool) : Env :=
  { outer := [{ alias := "", cols := ["found"], vals := [.bool fd] }, { alias := "new", cols := acCols, vals := a.vals }] ++
      (match old with | some o => [{ alias := "old", cols := acCols, vals := o.vals }] | none => []) }

theorem lookup_new_ac (a : AcR) (old : Option AcR) (fd : Bool) (c : String) (v : Value) (h : lookupIn acCols a.vals c = some v) :
    lookupColumn (acPlEnv a old fd) "new" c = .ok v :=
  lookupColumn_alias _ "new" c { alias := "new", cols := acCols, vals := a.vals } v rfl (by rw [lastComponent_new]; rfl) h

theorem exec_checkConstraints_am (b : String) (nr : Nat) (rows : List Ver) (y : AmR) (s : St) :
    (checkConstraints ((amT b nr).withRows rows) (amVals y)).exec s = (.ok (), s) :=
  exec_checkConstraints_pv _ _ s rfl (List.forall_mem_singleton.mpr ⟨.bool true, some true,
    by rw [pv, pv, lookupColumn_head _ _ [] _ (.text y.address) rfl rfl]; rfl, rfl, by decide⟩)

def amIdx : UniqueIdx := { name := "accounts_metadata_pkey", cols := ["seq"], pred := none, primary := true }

theorem amT_uniques (b : String) (nr : Nat) (rows : List Ver) : ((amT b nr).withRows rows).uniques = [amIdx] := rfl

theorem am_serial (b : String) (nr : Nat) (rows : List Ver) :
    SerialTbl ((amT b nr).withRows rows) Schema.tbl_accounts_metadata.cols.head! Schema.tbl_accounts_metadata.cols.tail
      "accounts_metadata_seq_seq" amIdx :=
  ⟨rfl, rfl, rfl, by decide, by decide, rfl, rfl, rfl, rfl, rfl⟩

structure AmState (s : St) (b : String) (nr : Nat) (rows : List Ver) (sq : Seq) : Prop where
  table : s.w.table? (amFull b) = some ((amT b nr).withRows rows)
  seq : s.w.seqs.find? (·.name == amSeqFull b) = some sq
  all : AmAll sq.next rows
  lo : 0 ≤ sq.next
  hi : sq.next ≤ 9223372036854775807

theorem AmState.serial {s : St} {b : String} {nr : Nat} {rows : List Ver} {sq : Seq} (h : AmState s b nr rows sq)
    (hsch : schemaOf (amFull b) = b) : SerialState s ((amT b nr).withRows rows) "accounts_metadata_seq_seq" sq :=
  ⟨h.table, by rw [show schemaOf ((amT b nr).withRows rows).name = b from hsch]; exact h.seq,
   fun r hr => let ⟨y, hv, hlt⟩ := h.all r hr; ⟨y.seq, _, hv, hlt⟩, by have := h.lo; omega, h.hi⟩

/-- **either trigger**, run for NEW = `a` (OLD = `old`), its revision / date expressions having the values `rv`, `dt` in the nested
    command's state -/
theorem exec_runTrigger_am (k : Nat) (b fname : String) (a : AcR) (old : Option AcR) (revE dateE : Expr) (rv dt : Int)
    (f : PlFunc) (hdecls : f.decls = [])
    (hbody : f.body = [PlStmt.exec (amInsertStmt revE dateE) [], PlStmt.ret (some (Expr.col "" "new"))])
    (s : St) (hs : TxState s) (hf : s.w.funcs.lookup fname = some f) (hschema : schemaOf fname = b) (hsch : schemaOf (amFull b) = b)
    (hnc : s.nextCid + 2 ≤ 1000000000) (t : Table) (htc : t.cols = Schema.tbl_accounts.cols)
    (nr : Nat) (rows : List Ver) (sq : Seq) (hst : SerialState s ((amT b nr).withRows rows) "accounts_metadata_seq_seq" sq)
    (hrev : (evalExpr (cbs (k + 3)) s.w.types (acPlEnv a old false) revE).exec (s.withSP b).enter.clearQ = (.ok (.int rv), (s.withSP b).enter.clearQ))
    (hdate : (evalExpr (cbs (k + 3)) s.w.types (acPlEnv a old false) dateE).exec (s.withSP b).enter.clearQ = (.ok (.ts dt), (s.withSP b).enter.clearQ))
    (hr1 : revE ≠ .dflt) (hr2 : dateE ≠ .dflt) :
    (runTrigger (k + 10) fname t (some a.vals) (old.map (·.vals))).exec s =
      (.ok (some a.vals), ((s.withSeqs (seqsSet (amSeqFull b) sq.next s.w.seqs)).bump 2).withTable
        ((amT b (nr + 1)).withRows (newVer s.xid s.nextCid nr (amVals (amOf a rv dt sq.next)) :: rows))) := by
  subst hschema
  have henv : ∀ fd : Bool,
      ({ vars := [], tcols := t.cols, new := some a.vals, old := old.map (·.vals), found := fd } : PlSt).env = acPlEnv a old fd := by
    intro fd
    cases old <;> simp [PlSt.env, acPlEnv, htc, acCols]
  have c := fun c v h => Evals.col (cb := cbs (k + 3)) (te := s.w.types) (lookup_new_ac a old false c v h)
  have h := exec_runTrigger_serialIns k fname "accounts_metadata" _ _ f hdecls hbody s hs hf hnc t a.vals (old.map (·.vals))
    (fun fd => ⟨acCols, a.vals, by rw [henv fd]; cases old <;> cases a <;> rfl⟩)
    _ _ _ _ _ (am_serial (schemaOf fname) nr rows) rfl sq hst
    _ [.text a.ledger, .json a.md, .int rv, .ts dt, .text a.address]
    (by
      rw [henv false]
      exact exec_evalValuesRow_at (k + 3) _ _ [.text a.ledger, .text a.address, .int rv, .ts dt, .json a.md] _
        (by simp [hr1, hr2])
        ⟨c "ledger" (.text a.ledger) (by cases a; rfl) _, c "address" (.text a.address) (by cases a; rfl) _, hrev, hdate,
          c "metadata" (.json a.md) (by cases a; rfl) _, trivial⟩)
    rfl rfl rfl rfl
    (.cast rfl (castTo_varchar_text _ _) <| .cast rfl rfl <| .cast rfl rfl <| .cast rfl rfl <| .cast rfl (castTo_varchar_text _ _) .nil)
    (exec_checkConstraints_am (schemaOf fname) nr rows (amOf a rv dt sq.next))
  rw [show schemaOf ((amT (schemaOf fname) nr).withRows rows).name = schemaOf fname from hsch] at h
  exact h

end Ledger.Sql
