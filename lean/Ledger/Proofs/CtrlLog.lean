import Ledger.Proofs.CtrlStore

/-!
What `runLog` is made of, operation by operation (one walk through the controller:
`runLog_all`), and what follows for a run of it.  A complete one looked up its
schema, ran `body` — what that wrote is read off the payload it returns (`Wrote`,
`body` inverted once: `eval_body`) — and appended exactly one log, the one it
returns (`run_runLog_phases`, `run_runLog_ok`); nothing before `InsertLog` touches
the `logs` table.  A retryable error of a failed one was injected, or is the key
conflict of `InsertLog` on a log that is there.
-/
namespace Ledger.Ctrl
open Ledger.Base Ledger.Core

/-- Not one of the errors the retry loop reacts to, nor the model's fuel marker. -/
def Err.Plain : Err → Prop
  | .store .deadlock | .store .ikConflict | .outOfFuel => False
  | _ => True

/-- The calls the Numscript runtime makes: balance locks and account reads. -/
def Call.LockOnly : Call → Prop
  | .getBalances _ => True
  | .getAccount _ => True
  | _ => False

theorem Call.LockOnly.quiet {c : Call} (h : c.LockOnly) : c.Quiet := by
  cases c <;> first | exact trivial | exact h.elim

theorem replayCalls_all (cs : List MCall) : (replayCalls cs).All Call.LockOnly Err.Plain := by
  induction cs with
  | nil => exact .pure ()
  | cons c r ih => cases c <;> exact .call _ _ trivial fun _ => ih

theorem postingsMachine_all (ps : List Posting) (force : Bool) : (postingsMachine ps force).All Call.LockOnly Err.Plain := by
  unfold postingsMachine
  dsimp only
  split
  · exact .pure _
  · refine .call _ _ trivial fun bal => ?_
    split
    · exact .pure _
    · exact .fail _ trivial

theorem scriptMachine_all (obs : List MachineObs) (n : Nat) : (scriptMachine obs n).All Call.LockOnly Err.Plain := by
  unfold scriptMachine
  split
  · exact .fail _ trivial
  · refine (replayCalls_all _).bind fun _ => ?_
    split
    · exact .fail _ trivial
    · exact .pure _

theorem createBody_all (strict : Bool) (schema : Option Schema) (c : CreateIn) {m : Prog MachineResult}
    (hm : m.All Call.LockOnly Err.Plain) : (createBody strict schema c m).All Call.Quiet Err.Plain := by
  unfold createBody
  split
  · exact .fail _ trivial
  · refine (hm.mono (fun _ => Call.LockOnly.quiet) fun _ => id).bind fun r => ?_
    split
    · exact .fail _ trivial
    · split
      · exact .fail _ trivial
      · exact .call _ _ ⟨rfl, rfl⟩ fun tx => .call _ _ trivial fun _ => .pure _

theorem revertBody_all (id : Nat) (force aed : Bool) (m : Meta) : (revertBody id force aed m).All Call.Quiet Err.Plain := by
  unfold revertBody
  refine .call _ _ trivial fun r => ?_
  split
  · exact .fail _ trivial
  · refine .call _ _ trivial fun bal => ?_
    dsimp only
    split
    · rename_i e he
      refine .fail _ ?_
      split at he
      · cases he
      · split at he
        · cases he; trivial
        · split at he <;> cases he
          trivial
    · exact .call _ _ ⟨rfl, rfl⟩ fun tx => .pure _

theorem body_all (strict : Bool) (kind : OpKind) (n : Nat) (schema : Option Schema) :
    (body strict kind n schema).All Call.Quiet Err.Plain := by
  cases kind with
  | createP c ps force => exact createBody_all _ _ _ (postingsMachine_all ps force)
  | createS c obs => exact createBody_all _ _ _ (scriptMachine_all obs n)
  | revert id force aed m => exact revertBody_all id force aed m
  | saveTxMeta id m => exact .call _ _ trivial fun _ => .pure _
  | saveAccMeta a m => exact .call _ _ trivial fun _ => .pure _
  | delTxMeta id key =>
    refine .call _ _ trivial fun r => ?_
    split
    · exact .pure _
    · exact .fail _ trivial
  | delAccMeta a key => exact .call _ _ trivial fun _ => .pure _
  | insertSchema version chart templates tplBad =>
    simp only [body]
    split
    · exact .fail _ trivial
    · split
      · exact .fail _ trivial
      · refine .call _ _ trivial fun r => ?_
        split
        · exact .pure _
        · exact .fail _ trivial

theorem schemaPhase_all (strict : Bool) (kind : OpKind) (sv : String) :
    (schemaPhase strict kind sv).All Call.Quiet Err.Plain := by
  unfold schemaPhase
  split
  · refine .call _ _ trivial fun r => ?_
    split
    · exact .pure _
    · exact .call _ _ trivial fun _ => .fail _ trivial
  · split
    · refine .call _ _ trivial fun latest => ?_
      split
      · exact .fail _ trivial
      · exact .pure _
    · exact .pure _

theorem logPhase_cases (strict : Bool) (ik ihash sv : String) (schema : Option Schema) (p : Payload) :
    logPhase strict ik ihash sv schema p = .fail .schemaValidation ∨
    logPhase strict ik ihash sv schema p =
      .call (.insertLog { payload := p, ik := ik, ihash := ihash, schemaVersion := sv }) .pure := by
  unfold logPhase
  cases schema with
  | none => exact Or.inr (if_neg Bool.false_ne_true)
  | some sc =>
    dsimp only
    split
    · exact Or.inl rfl
    · exact Or.inr rfl

theorem logPhase_all (strict : Bool) (ik ihash sv : String) (schema : Option Schema) (p : Payload) :
    (logPhase strict ik ihash sv schema p).All Call.Fresh Err.Plain := by
  rcases logPhase_cases strict ik ihash sv schema p with h | h <;> rw [h]
  · exact .fail _ trivial
  · exact .call _ _ rfl fun l => .pure l

theorem runLog_all (strict : Bool) (kind : OpKind) (ik ihash sv : String) (n : Nat) :
    (runLog strict kind ik ihash sv n).All Call.Fresh Err.Plain :=
  ((schemaPhase_all strict kind sv).mono (fun _ => Call.Quiet.fresh) fun _ => id).bind fun schema =>
  ((body_all strict kind n schema).mono (fun _ => Call.Quiet.fresh) fun _ => id).bind fun p =>
    logPhase_all strict ik ihash sv schema p

theorem ikLookup_all (ik ihash : String) : (ikLookup ik ihash).All (fun _ => True) Err.Plain := by
  unfold ikLookup
  split
  · exact .pure _
  · refine .call _ _ trivial fun r => ?_
    split
    · exact .pure _
    · split
      · exact .fail _ trivial
      · exact .pure _

theorem eval_lockOnly {α : Type} {E : Err → Prop} {now : Time} {p : Prog α} (hp : p.All Call.LockOnly E) {d : Db} {sq : Seqs}
    {x : α × Db × Seqs} (h : eval now p d sq = some x) :
    ∃ q : List Key, x.2.1 = { d with volumes := q.foldl lockZero d.volumes } ∧ x.2.2 = sq := by
  induction hp generalizing d sq with
  | pure a => cases h; exact ⟨[], rfl, rfl⟩
  | fail e => cases h
  | call c k hc _ ih =>
    cases c with
    | getBalances q1 =>
      obtain ⟨q2, hd, hs⟩ := ih _ (d := { d with volumes := q1.foldl lockZero d.volumes }) h
      exact ⟨q1 ++ q2, by rw [hd, List.foldl_append], hs⟩
    | getAccount a => exact ih _ h
    | _ => exact hc.elim

/-- The tables after a complete `body` on tables `d`, read off the payload it returns:
    the one `UPDATE` of a metadata operation, the new schema row, or — for a new and for
    a reverted transaction — balance locks (`q`) followed by one `CommitTransaction`. -/
inductive Wrote (now : Time) (schema : Option Schema) (d : Db) : Payload → Db → Prop where
  | savedTx (id : Nat) (m : Meta) (t : Tx) (hf : d.findTx id = some t) :
      Wrote now schema d (.savedMeta (.transaction id) m)
        (d.modifyTx id fun x => if metaContains x.metadata m then x
                                else { x with metadata := metaMerge x.metadata m, updatedAt := now })
  | deletedTx (id : Nat) (key : String) (t : Tx) (hf : d.findTx id = some t) :
      Wrote now schema d (.deletedMeta (.transaction id) key)
        (d.modifyTx id fun x => if x.metadata.contains key then { x with metadata := x.metadata.erase key, updatedAt := now }
                                else x)
  | savedAcc (a : String) (m : Meta) :
      Wrote now schema d (.savedMeta (.account a) m)
        (upsertAccounts now [{ address := a, metadata := m, defaults := defaultsOf schema a }] d)
  | deletedAcc (a key : String) : Wrote now schema d (.deletedMeta (.account a) key) (deleteAccountMeta now a key d)
  | schema (row : Schema) (hnew : (d.schemas.any fun x => decide (x.version = row.version)) = false) :
      Wrote now schema d (.insertedSchema row) { d with schemas := d.schemas ++ [row] }
  | created (t : TxIn) (am : Map String Meta) (q : List Key) (sq sq' : Seqs) (row : Tx) (dc : Db)
      (hc : commitTransaction now t { d with volumes := q.foldl lockZero d.volumes } sq = (sq', .ok (row, dc))) :
      Wrote now schema d (.created row am) (upsertAccounts now (accountRows schema row am) dc)
  | reverted (orig : Tx) (hf : d.findTx orig.id = some orig) (hr : orig.revertedAt = none)
      (t : TxIn) (q : List Key) (sq sq' : Seqs) (row : Tx) (d' : Db)
      (hc : commitTransaction now t
        { d.modifyTx orig.id (fun x => { x with revertedAt := some now, updatedAt := now }) with
          volumes := q.foldl lockZero d.volumes } sq = (sq', .ok (row, d'))) :
      Wrote now schema d (.reverted { orig with revertedAt := some now, updatedAt := now } row) d'

theorem findTx_id {d : Db} {id : Nat} {t : Tx} (h : d.findTx id = some t) : t.id = id := by
  simpa using List.find?_some h

theorem eval_createBody {now : Time} {strict : Bool} {schema : Option Schema} {c : CreateIn} {machine : Prog MachineResult}
    (hm : machine.All Call.LockOnly Err.Plain) {d1 d2 : Db} {sq1 sq2 : Seqs} {p : Payload}
    (h : eval now (createBody strict schema c machine) d1 sq1 = some (p, d2, sq2)) : Wrote now schema d1 p d2 := by
  unfold createBody at h
  split at h
  · cases h
  · obtain ⟨r, dm, sqm, hmach, h⟩ := eval_bind_some now _ _ _ _ _ h
    obtain ⟨q, rfl, _⟩ : ∃ q : List Key, dm = _ ∧ _ := eval_lockOnly hm hmach
    split at h
    · cases h
    · split at h
      · cases h
      · obtain ⟨sqc, row, dc, hexc, h⟩ := eval_call_some now _ _ _ _ _ h
        cases h
        simp only [exec] at hexc
        exact .created _ _ q _ _ row dc hexc

theorem eval_revertBody {now : Time} {schema : Option Schema} {id : Nat} {force aed : Bool} {m : Meta} {d1 d2 : Db}
    {sq1 sq2 : Seqs} {p : Payload} (h : eval now (revertBody id force aed m) d1 sq1 = some (p, d2, sq2)) :
    Wrote now schema d1 p d2 := by
  unfold revertBody at h
  obtain ⟨sqa, r, da, hex, h⟩ := eval_call_some now _ _ d1 sq1 _ h
  simp only [exec, revertTransaction, Prod.mk.injEq] at hex
  obtain ⟨rfl, hex⟩ := hex
  cases hf : d1.findTx id with
  | none => rw [hf] at hex; cases hex
  | some t =>
    rw [hf] at hex
    cases findTx_id hf
    cases hr : t.revertedAt with
    | some w => simp only [hr] at hex; cases hex; cases h
    | none =>
      simp only [hr] at hex
      cases hex
      simp only [Bool.not_true, Bool.false_eq_true, ↓reduceIte] at h
      obtain ⟨sqb, bal, db, hexb, h⟩ := eval_call_some now _ _ _ _ _ h
      cases hexb
      split at h
      · cases h
      · obtain ⟨sqc, row, dc, hexc, h⟩ := eval_call_some now _ _ _ _ _ h
        cases h
        simp only [exec] at hexc
        exact .reverted t hf hr _ _ _ _ row _ hexc

theorem eval_body {now : Time} {strict : Bool} {kind : OpKind} {n : Nat} {schema : Option Schema} {d1 d2 : Db}
    {sq1 sq2 : Seqs} {p : Payload} (h : eval now (body strict kind n schema) d1 sq1 = some (p, d2, sq2)) :
    Wrote now schema d1 p d2 := by
  cases kind with
  | createP c ps force => exact eval_createBody (postingsMachine_all ps force) h
  | createS c obs => exact eval_createBody (scriptMachine_all obs n) h
  | revert id force aed m => exact eval_revertBody h
  | saveTxMeta id m =>
    simp only [body, eval, exec, updateTxMeta] at h
    cases hf : d1.findTx id with
    | none => simp only [hf] at h; cases h
    | some t => simp only [hf] at h; cases h; exact .savedTx id m t hf
  | delTxMeta id key =>
    simp only [body, eval, exec, deleteTxMeta] at h
    cases hf : d1.findTx id with
    | none => simp only [hf] at h; cases h
    | some t =>
      simp only [hf] at h
      split at h <;> cases h
      exact .deletedTx id key t hf
  | saveAccMeta a m => cases h; exact .savedAcc a m
  | delAccMeta a key => cases h; exact .deletedAcc a key
  | insertSchema version chart tpls bad =>
    simp only [body] at h
    split at h
    · cases h
    · split at h
      · cases h
      · simp only [eval, exec, insertSchema] at h
        by_cases hdup : (d1.schemas.any fun x => decide (x.version = version)) = true
        · simp only [hdup, ↓reduceIte, eval] at h; cases h
        · simp only [hdup, Bool.false_eq_true, ↓reduceIte, eval] at h
          cases h
          exact .schema _ (Bool.eq_false_iff.mpr hdup)

structure Appended (now : Time) (ik ihash sv : String) (st0 st : RunSt) (log : Log) : Prop where
  logs : st.db.logs = st0.db.logs ++ [log]
  ik : log.ik = ik
  ihash : log.ihash = ihash
  sv : log.schemaVersion = sv
  date : log.date = now

theorem run_logPhase_ok (now : Time) (hn : String) (f : Faults) (strict : Bool) (ik ihash sv : String)
    (schema : Option Schema) (p : Payload) (st2 st : RunSt) (log : Log)
    (h : run now hn f (logPhase strict ik ihash sv schema p) st2 = (.ok log, st)) :
    Appended now ik ihash sv st2 st log ∧ log.payload = p := by
  rcases logPhase_cases strict ik ihash sv schema p with hl | hl <;> rw [hl] at h
  · cases h
  · rcases run_call_pure h with ⟨_, _, h, _⟩ | ⟨_, _, h, _⟩ | ⟨r, hex, h⟩ <;> cases h
    simp only [exec] at hex
    obtain ⟨_, hd, hrow, _⟩ := insertLog_cases hex
    exact ⟨⟨congrArg Db.logs hd, congrArg Log.ik hrow, congrArg Log.ihash hrow, congrArg Log.schemaVersion hrow,
      congrArg Log.date hrow⟩, congrArg Log.payload hrow⟩

theorem run_runLog_ok (now : Time) (hn : String) (f : Faults) (strict : Bool) (kind : OpKind)
    (ik ihash sv : String) (n : Nat) (st0 st : RunSt) (log : Log)
    (h : run now hn f (runLog strict kind ik ihash sv n) st0 = (.ok log, st)) :
    Appended now ik ihash sv st0 st log := by
  obtain ⟨schema, st1, h1, h⟩ := run_bind_ok h
  obtain ⟨p, st2, h2, h⟩ := run_bind_ok h
  have hl1 := run_quiet_logs now hn f (schemaPhase_all strict kind sv) st0
  have hl2 := run_quiet_logs now hn f (body_all strict kind n schema) st1
  rw [h1] at hl1
  rw [h2] at hl2
  have h3 := (run_logPhase_ok now hn f strict ik ihash sv schema p st2 st log h).1
  exact ⟨by rw [h3.logs, hl2, hl1], h3.ik, h3.ihash, h3.sv, h3.date⟩

theorem eval_schemaPhase_found (now : Time) (strict : Bool) (kind : OpKind) (sv : String) (d : Db) (sq : Seqs)
    (x : Option Schema × Db × Seqs) (h : eval now (schemaPhase strict kind sv) d sq = some x) :
    x.1 = (if sv ≠ "" then findSchema sv d else none) ∧ x.2.1 = d ∧ (sv ≠ "" → (findSchema sv d).isSome = true) := by
  unfold schemaPhase at h
  by_cases hsv : sv = ""
  · simp only [hsv, ne_eq, not_true_eq_false, ↓reduceIte] at h ⊢
    split at h
    · simp only [eval, exec] at h
      split at h <;> cases h
      exact ⟨rfl, rfl, nofun⟩
    · cases h; exact ⟨rfl, rfl, nofun⟩
  · simp only [ne_eq, hsv, not_false_eq_true, ↓reduceIte, eval, exec] at h ⊢
    cases hf : findSchema sv d with
    | none => simp only [hf, eval, exec] at h; cases h
    | some sc => simp only [hf, eval] at h; cases h; exact ⟨rfl, rfl, fun _ => rfl⟩

theorem eval_schemaPhase (now : Time) (strict : Bool) (kind : OpKind) (sv : String) (d : Db) (sq : Seqs)
    (x : Option Schema × Db × Seqs) (h : eval now (schemaPhase strict kind sv) d sq = some x) :
    x.1 = (if sv ≠ "" then findSchema sv d else none) ∧ x.2.1 = d :=
  let h' := eval_schemaPhase_found now strict kind sv d sq x h
  ⟨h'.1, h'.2.1⟩

theorem run_runLog_phases {now : Time} {hn : String} {f : Faults} {strict : Bool} {kind : OpKind} {ik ihash sv : String}
    {n : Nat} {st0 st : RunSt} {log : Log} (h : run now hn f (runLog strict kind ik ihash sv n) st0 = (.ok log, st)) :
    ∃ p d2 sq2, Wrote now (if sv ≠ "" then findSchema sv st0.db else none) st0.db p d2 ∧
      (sv ≠ "" → (findSchema sv st0.db).isSome = true) ∧
      insertLog now { payload := p, ik := ik, ihash := ihash, schemaVersion := sv } d2 sq2 = (st.seq, .ok (log, st.db)) := by
  have hev := run_ok_eval now hn f _ st0 st log h
  unfold runLog at hev
  obtain ⟨schema, d1, sq1, h1, hev⟩ := eval_bind_some now _ _ _ _ _ hev
  obtain ⟨rfl, rfl, hfound⟩ : schema = _ ∧ d1 = st0.db ∧ _ := eval_schemaPhase_found now strict kind sv _ _ _ h1
  obtain ⟨p, d2, sq2, h2, h3⟩ := eval_bind_some now _ _ _ _ _ hev
  rcases logPhase_cases strict ik ihash sv _ p with hl | hl <;> rw [hl] at h3
  · cases h3
  · obtain ⟨_, _, _, hex, h3⟩ := eval_call_some now _ _ _ _ _ h3
    cases h3
    exact ⟨p, d2, sq2, eval_body h2, hfound, hex⟩

theorem kind_err_deadlock (k : FaultKind) (h : k.err = .deadlock) : k = .deadlock := by
  cases k <;> first | rfl | cases h

theorem kind_err_conflict (k : FaultKind) (h : k.err = .ikConflict) : k = .ikConflict := by
  cases k <;> first | rfl | cases h

theorem run_deadlock_origin {α : Type} {Q : Call → Prop} {now : Time} {hn : String} {f : Faults} {p : Prog α}
    (hp : p.All Q Err.Plain) {st st' : RunSt} (hr : run now hn f p st = (.error (.store .deadlock), st')) :
    fires f st'.n = some .deadlock ∧ st.n < st'.n := by
  rcases run_error_cases hp hr with h | ⟨kind, h1, h2, h3⟩ | ⟨c, sq, se, _, hex, h2⟩
  · exact h.elim
  · cases kind_err_deadlock kind (Err.store.inj h2).symm
    exact ⟨h1, h3⟩
  · cases h2
    rcases exec_error hex with h | h | h | h | ⟨h, _⟩ <;> cases h

theorem run_error_not_outOfFuel {α : Type} {Q : Call → Prop} {now : Time} {hn : String} {f : Faults} {p : Prog α}
    (hp : p.All Q Err.Plain) {st st' : RunSt} {e : Err} (hr : run now hn f p st = (.error e, st')) : e ≠ .outOfFuel := by
  rintro rfl
  rcases run_error_cases hp hr with h | ⟨_, _, h, _⟩ | ⟨_, _, _, _, _, h⟩
  · exact h
  · cases h
  · cases h

theorem run_quiet_conflict_injected {α : Type} {now : Time} {hn : String} {f : Faults} {p : Prog α}
    (hp : p.All Call.Quiet Err.Plain) {st st' : RunSt} (hr : run now hn f p st = (.error (.store .ikConflict), st')) :
    fires f st'.n = some .ikConflict := by
  rcases run_error_cases hp hr with h | ⟨kind, h1, h2, _⟩ | ⟨c, sq, se, hq, hex, h2⟩
  · exact h.elim
  · cases kind_err_conflict kind (Err.store.inj h2).symm
    exact h1
  · cases h2
    rcases exec_error hex with h | h | h | h | ⟨_, l, rfl, _⟩
    all_goals first | cases h | exact hq.elim

theorem runLog_conflict_log_found (now : Time) (hn : String) (f : Faults) (strict : Bool) (kind : OpKind)
    (ik ihash sv : String) (n : Nat) (st0 st : RunSt) (hnof : ∀ m, fires f m ≠ some .ikConflict)
    (h : run now hn f (runLog strict kind ik ihash sv n) st0 = (.error (.store .ikConflict), st)) :
    (readLogWithIK ik st0.db).isSome = true := by
  rcases run_bind_error h with h1 | ⟨schema, st1, h1, h⟩
  · exact absurd (run_quiet_conflict_injected (schemaPhase_all strict kind sv) h1) (hnof _)
  · rcases run_bind_error h with h2 | ⟨p, st2, h2, h⟩
    · exact absurd (run_quiet_conflict_injected (body_all strict kind n schema) h2) (hnof _)
    · have hl1 := run_quiet_logs now hn f (schemaPhase_all strict kind sv) st0
      have hl2 := run_quiet_logs now hn f (body_all strict kind n schema) st1
      rw [h1] at hl1
      rw [h2] at hl2
      rcases logPhase_cases strict ik ihash sv schema p with hl | hl <;> rw [hl] at h
      · cases h
      · rcases run_call_pure h with ⟨kd, hf, he, _⟩ | ⟨se, hex, he, _⟩ | ⟨_, _, he⟩
        · cases kind_err_conflict kd (Err.store.inj (Except.error.inj he)).symm
          exact absurd hf (hnof _)
        · cases he
          simp only [exec] at hex
          rcases (insertLog_cases hex).2 with h | ⟨_, h⟩
          · cases h
          · -- `readLogWithIK` reads the `logs` table only
            unfold readLogWithIK at h ⊢
            rwa [hl2, hl1] at h
        · cases he

end Ledger.Ctrl
