import Ledger.Proofs.InterpUnits
import Ledger.Proofs.InterpExpr
import Ledger.Proofs.MachineSrc

/-!
Vocabulary of the simulation between the machine's fundings and the interpreter's
funds queue: `takeExt` (the first `n` units of an availability list extended by an
unbounded fallback account), `Pushed` (what a source does to the interpreter's state),
`Rel` (tracked balances of the machine = cached balances of the interpreter).
-/
namespace Ledger.Interp
open Ledger.Machine

def takeExt (n : Nat) (A : List String) (fb : Option String) : List String :=
  A.take n ++ (match fb with
    | some w => List.replicate (n - A.length) w
    | none => [])

theorem takeExt_none (n : Nat) (A : List String) : takeExt n A none = A.take n := by
  simp [takeExt]

theorem takeExt_zero (A : List String) (fb : Option String) : takeExt 0 A fb = [] := by
  cases fb <;> simp [takeExt]

theorem takeExt_length_some (n : Nat) (A : List String) (w : String) :
    (takeExt n A (some w)).length = n := by
  simp only [takeExt, List.length_append, List.length_take, List.length_replicate]
  rcases Nat.le_total n A.length with h | h
  · rw [Nat.min_eq_left h, Nat.sub_eq_zero_of_le h, Nat.add_zero]
  · rw [Nat.min_eq_right h, Nat.add_sub_cancel' h]

theorem takeExt_length_le (n : Nat) (A : List String) (fb : Option String) :
    (takeExt n A fb).length ≤ n := by
  cases fb with
  | none => rw [takeExt_none, List.length_take]; exact Nat.min_le_left _ _
  | some w => rw [takeExt_length_some]; exact Nat.le_refl _

theorem takeExt_append (n : Nat) (A B : List String) (fb : Option String) :
    A.take n ++ takeExt (n - (A.take n).length) B fb = takeExt n (A ++ B) fb := by
  have h1 : n - (A.take n).length = n - A.length := by
    rw [List.length_take]
    rcases Nat.le_total n A.length with h | h
    · rw [Nat.min_eq_left h, Nat.sub_self, Nat.sub_eq_zero_of_le h]
    · rw [Nat.min_eq_right h]
  rw [h1]
  cases fb with
  | none => simp [takeExt, List.take_append]
  | some w =>
    simp only [takeExt, List.take_append, List.length_append, List.append_assoc, Nat.sub_add_eq]

theorem take_takeExt (m n : Nat) (A : List String) (fb : Option String) :
    (takeExt n A fb).take m = takeExt (min m n) A fb := by
  cases fb with
  | none => simp [takeExt, List.take_take]
  | some w =>
    have h : min (m - min n A.length) (n - A.length) = min m n - A.length := by
      rcases Nat.le_total n A.length with h | h
      · rw [Nat.sub_eq_zero_of_le h, Nat.min_zero,
          Nat.sub_eq_zero_of_le (Nat.le_trans (Nat.min_le_right m n) h)]
      · rw [Nat.min_eq_right h, Nat.sub_min_sub_right]
    simp only [takeExt, List.take_append, List.take_take, List.take_replicate, List.length_take, h]

theorem takeExt_of_le (n : Nat) (A : List String) (fb : Option String) (h : n ≤ A.length) :
    takeExt n A fb = A.take n := by
  cases fb with
  | none => simp [takeExt]
  | some w =>
    have : n - A.length = 0 := by omega
    simp [takeExt, this]

theorem takeExt_of_length_lt {n : Nat} {A : List String} {fb : Option String}
    (h : (takeExt n A fb).length < n) : takeExt n A fb = A := by
  cases fb with
  | some w => rw [takeExt_length_some] at h; exact absurd h (Nat.lt_irrefl n)
  | none =>
    rw [takeExt_none, List.length_take] at h
    rw [takeExt_none, List.take_of_length_le (by omega)]

theorem takeExt_nil_some (n : Nat) (w : String) : takeExt n [] (some w) = List.replicate n w := by
  simp [takeExt]

/-- `ist'` is `ist` after pushing senders whose units are `X` (asset `c`). -/
structure Pushed (c : String) (ist ist' : IState) (X : List String) : Prop where
  queue : ∃ Q, ist'.queue = ist.queue ++ Q ∧ units Q = X ∧ Pos Q
  bal : ∀ a c', ist'.bal a c' = ist.bal a c' - (if c' = c then (X.count a : Int) else 0)
  postings : ist'.postings = ist.postings
  txMeta : ist'.txMeta = ist.txMeta
  accMeta : ist'.accMeta = ist.accMeta
  asset : ist'.asset = ist.asset

theorem Pushed.refl (c : String) (ist : IState) : Pushed c ist ist [] :=
  ⟨⟨[], by simp, rfl, Pos.nil⟩, by intro a c'; simp, rfl, rfl, rfl, rfl⟩

theorem Pushed.trans {c : String} {s1 s2 s3 : IState} {X Y : List String}
    (h1 : Pushed c s1 s2 X) (h2 : Pushed c s2 s3 Y) : Pushed c s1 s3 (X ++ Y) := by
  obtain ⟨Q1, q1, u1, p1⟩ := h1.queue
  obtain ⟨Q2, q2, u2, p2⟩ := h2.queue
  refine ⟨⟨Q1 ++ Q2, by rw [q2, q1, List.append_assoc], by rw [units_append, u1, u2],
    Pos.append.mpr ⟨p1, p2⟩⟩, ?_, h2.postings.trans h1.postings, h2.txMeta.trans h1.txMeta,
    h2.accMeta.trans h1.accMeta, h2.asset.trans h1.asset⟩
  intro a c'
  rw [h2.bal, h1.bal, List.count_append]
  split <;> simp <;> omega

theorem pushSender_pushed {c : String} (a : String) (amt : Int) (ist : IState) (h : 0 ≤ amt)
    (hc : ist.asset = c) : Pushed c ist (pushSender a amt ist) (List.replicate amt.toNat a) := by
  unfold pushSender
  by_cases h0 : amt = 0
  · rw [if_pos h0]; subst h0; simpa using Pushed.refl c ist
  · rw [if_neg h0]
    refine ⟨⟨[⟨a, amt⟩], rfl, by simp, Pos.cons.mpr ⟨by simp; omega, Pos.nil⟩⟩, ?_, rfl, rfl, rfl, rfl⟩
    intro a' c'
    simp only [upd, hc, List.count_replicate]
    by_cases h1 : a' = a <;> by_cases h2 : c' = c
    · subst h1; subst h2; simp; omega
    · simp [h1, h2]
    · have : ¬ (a = a') := fun x => h1 x.symm
      simp [h1, h2, this]
    · simp [h1, h2]

def HasP (P : List (String × String)) (b : Balances) : Prop :=
  ∀ a c, (a, c) ∈ P → a ≠ "world" → ∃ v, b.get a c = some v

/-- On the tracked pairs `P` the machine's balances are the interpreter's cached ones. World is left out:
    the `Delta`s of the machine's primitives say nothing of it. -/
def Rel (P : List (String × String)) (b : Balances) (ib : String → String → Int) : Prop :=
  ∀ a c, (a, c) ∈ P → a ≠ "world" → b.get a c = some (ib a c)

theorem Rel.hasP {P : List (String × String)} {b : Balances} {ib : String → String → Int}
    (h : Rel P b ib) : HasP P b := fun a c hp hw => ⟨_, h a c hp hw⟩

theorem HasP.delta {P : List (String × String)} {b b' : Balances} {d : String → String → Int}
    (h : HasP P b) (hwf : b.WF) (hd : Delta b b' d) : HasP P b' := by
  intro a c hp hw
  obtain ⟨v, hv⟩ := h a c hp hw
  exact ⟨_, hd.bal a c v hw hwf hv⟩

theorem Rel.delta {P : List (String × String)} {b b' : Balances} {ib ib' : String → String → Int}
    {d : String → String → Int} (h : Rel P b ib) (hwf : b.WF) (hd : Delta b b' d)
    (hi : ∀ a c, (a, c) ∈ P → a ≠ "world" → ib' a c = ib a c + d a c) : Rel P b' ib' := by
  intro a c hp hw
  rw [hd.bal a c _ hw hwf (h a c hp hw), hi a c hp hw]

theorem fl_eq_count (a c : String) (f : Funding) (h : partsNonneg f.parts) :
    fl a c f = if f.asset = c then ((units f.parts).count a : Int) else 0 := by
  simp only [fl, acctTotal_eq_count a _ h]

/-- The bounded leaves of a source resolve to pairs of `P`. -/
def LeavesIn (P : List (String × String)) (env : Env) (c : String) (es : List Expr) : Prop :=
  ∀ e ∈ es, ∃ a, evalAccount env e = .ok a ∧ (a, c) ∈ P

theorem LeavesIn.left {P : List (String × String)} {env : Env} {c : String} {x y : List Expr}
    (h : LeavesIn P env c (x ++ y)) : LeavesIn P env c x := fun e he => h e (by simp [he])

theorem LeavesIn.right {P : List (String × String)} {env : Env} {c : String} {x y : List Expr}
    (h : LeavesIn P env c (x ++ y)) : LeavesIn P env c y := fun e he => h e (by simp [he])

def fbOf (env : Env) (fb : Option Expr) : Option String :=
  match fb with
  | none => none
  | some e =>
    match evalAccount env e with
    | .ok a => some a
    | .error _ => none

def unitsAll : List Funding → List String
  | [] => []
  | f :: fs => units f.parts ++ unitsAll fs

theorem concatAll_units_aux (fs : List Funding) (acc : List Part) (hacc : partsNonneg acc)
    (h : ∀ f ∈ fs, partsNonneg f.parts) :
    units (fs.foldl (fun acc f => concatParts acc f.parts) acc) = units acc ++ unitsAll fs := by
  induction fs generalizing acc with
  | nil => simp [unitsAll]
  | cons f fs ih =>
    simp only [List.foldl_cons, unitsAll]
    rw [ih _ (concatParts_nonneg _ _ hacc (h f (by simp))) (fun g hg => h g (by simp [hg])),
      concatParts_units _ _ hacc (h f (by simp)), List.append_assoc]

theorem concatAll_units (fs : List Funding) (h : ∀ f ∈ fs, partsNonneg f.parts) :
    units (concatAll fs) = unitsAll fs := by
  simpa [concatAll] using concatAll_units_aux fs [] partsNonneg_nil h

end Ledger.Interp
