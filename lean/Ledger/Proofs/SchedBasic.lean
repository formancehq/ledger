import Ledger.Sched.Model
import Ledger.Proofs.ListBasic

/-!
# What a statement does, what a step is, and what a step of another session leaves alone

`exec` and `stepR` are each specified once, forward: every attempt is `Att.Fine` and what a completed one leaves
is an `Eff` (`exec_fine`); a turn that answers is a `Turn` (`step_cases`). Every invariant of schedules is proved
through them (`step_inv`). And `SameFor s w w'`: four things session `s` owns — its advisory
locks, the rows of `accounts_volumes` it locked, its session record, its uncommitted logs — are out
of reach of every other session. The rows of `rev`, `state` and `accts` that `s` locked are not
covered: no proof needs them.
-/
namespace Ledger.Sched

theorem run_inv (P : World → Prop) (h : ∀ w s, P w → P (step w s)) :
    ∀ (σ : Schedule) (w : World), P w → P (run σ w) := by
  intro σ
  induction σ with
  | nil => intro w hw; exact hw
  | cons s σ ih => intro w hw; exact ih _ (h w s hw)

/-- an invariant `P` of steps, and `Q` kept by a step wherever `P` holds -/
theorem run_inv₂ {P Q : World → Prop} (hP : ∀ w s, P w → P (step w s)) (hQ : ∀ w s, P w → Q w → Q (step w s))
    (σ : Schedule) (w : World) (hp : P w) (hq : Q w) : P (run σ w) ∧ Q (run σ w) :=
  run_inv (fun w => P w ∧ Q w) (fun w s h => ⟨hP w s h.1, hQ w s h.1 h.2⟩) σ w ⟨hp, hq⟩

@[simp] theorem setSess_vols (w : World) (s : Sid) (f) : (w.setSess s f).vols = w.vols := rfl
@[simp] theorem setSess_rev (w : World) (s : Sid) (f) : (w.setSess s f).rev = w.rev := rfl
@[simp] theorem setSess_state (w : World) (s : Sid) (f) : (w.setSess s f).state = w.state := rfl
@[simp] theorem setSess_txs (w : World) (s : Sid) (f) : (w.setSess s f).txs = w.txs := rfl
@[simp] theorem setSess_logs (w : World) (s : Sid) (f) : (w.setSess s f).logs = w.logs := rfl
@[simp] theorem setSess_blocks (w : World) (s : Sid) (f) : (w.setSess s f).blocks = w.blocks := rfl
@[simp] theorem setSess_txSeq (w : World) (s : Sid) (f) : (w.setSess s f).txSeq = w.txSeq := rfl
@[simp] theorem setSess_logSeq (w : World) (s : Sid) (f) : (w.setSess s f).logSeq = w.logSeq := rfl
@[simp] theorem setSess_adv (w : World) (s : Sid) (f) : (w.setSess s f).adv = w.adv := rfl
@[simp] theorem setSess_commits (w : World) (s : Sid) (f) : (w.setSess s f).commits = w.commits := rfl
@[simp] theorem setSess_revWins (w : World) (s : Sid) (f) : (w.setSess s f).revWins = w.revWins := rfl
@[simp] theorem setSess_logCommits (w : World) (s : Sid) (f) : (w.setSess s f).logCommits = w.logCommits := rfl
@[simp] theorem setSess_reads (w : World) (s : Sid) (f) : (w.setSess s f).reads = w.reads := rfl
@[simp] theorem setSess_spent (w : World) (s : Sid) (f) : (w.setSess s f).spent = w.spent := rfl

theorem setSess_sess_self (w : World) (s : Sid) (f) : (w.setSess s f).sess s = f (w.sess s) := by
  simp only [World.setSess, if_true]

theorem firstSome_none {α β : Type} (f : α → Option β) :
    ∀ (l : List α), firstSome f l = none → ∀ a ∈ l, f a = none := by
  intro l
  induction l with
  | nil => intro _ a ha; cases ha
  | cons x xs ih =>
    intro h a ha
    unfold firstSome at h
    cases hx : f x with
    | some b => rw [hx] at h; cases h
    | none =>
      rw [hx] at h
      cases ha with
      | head => exact hx
      | tail _ hm => exact ih h a hm

theorem heldByOther_none {α : Type} {s : Sid} {r : Row α} (h : r.heldByOther s = none) :
    r.own = none ∨ r.own = some s := by
  unfold Row.heldByOther at h
  cases ho : r.own with
  | none => exact Or.inl rfl
  | some t =>
    rw [ho] at h
    simp only at h
    split at h
    · rename_i hts; exact Or.inr (by rw [hts])
    · cases h

theorem not_free_of_own {α : Type} {s t : Sid} {r : Row α} (ho : r.own = some t) (hts : t ≠ s) :
    r.heldByOther s ≠ none := by
  intro h
  rcases heldByOther_none h with h0 | h0 <;> rw [ho] at h0
  · cases h0
  · injection h0 with h0; exact hts h0

theorem Row.commit_other {α : Type} {s t : Sid} {r : Row α} (h : r.own = some t) (hts : t ≠ s) :
    r.commit s = r := by
  unfold Row.commit
  rw [h, if_neg (fun hc => hts (Option.some.inj hc))]

theorem Row.abort_other {α : Type} {s t : Sid} {r : Row α} (h : r.own = some t) (hts : t ≠ s) :
    r.abort s = r := by
  unfold Row.abort
  rw [h, if_neg (fun hc => hts (Option.some.inj hc))]

theorem Row.commit_own {α : Type} {s : Sid} {r : Row α} (h : r.own = some s) :
    r.commit s = { com := r.latest, own := none, pen := none } := if_pos h

theorem Row.commit_free {α : Type} {s : Sid} {r : Row α} (h : r.own = none) : r.commit s = r :=
  if_neg (by rw [h]; nofun)

theorem Row.abort_free {α : Type} {s : Sid} {r : Row α} (h : r.own = none) : r.abort s = r :=
  if_neg (by rw [h]; nofun)

/-- what an attempt in `w` can be: it waits; it completes without error, with a world and an answer that `Q`
    describes; or it fails and leaves `w` but for the sequence values it drew -/
inductive Att.Fine (w : World) (Q : World → Out → Prop) : Att → Prop
  | blocked (t : Sid) : Att.Fine w Q (.blocked t)
  | done (w' : World) (o : Out) : o.err = none → Q w' o → Att.Fine w Q (.done w' o)
  | failed (e : Err) (tq lq : Nat → Nat) : e ≠ .aborted → (∀ l, w.logSeq l ≤ lq l) →
      Att.Fine w Q (.failed { w with txSeq := tq, logSeq := lq } e)

theorem Att.Fine.mono {w : World} {Q Q' : World → Out → Prop} {a : Att} (h : a.Fine w Q) (hq : ∀ w' o, Q w' o → Q' w' o) :
    a.Fine w Q' := by
  cases h with
  | blocked t => exact .blocked t
  | done w' o ho h => exact .done w' o ho (hq _ _ h)
  | failed e tq lq h1 h2 => exact .failed e tq lq h1 h2

theorem Att.Fine.of_done {w : World} {Q : World → Out → Prop} {a : Att} {w' : World} {o : Out} (h : a.Fine w Q)
    (ha : a = .done w' o) : o.err = none ∧ Q w' o := by
  subst ha
  cases h with
  | done _ _ h1 h2 => exact ⟨h1, h2⟩

def World.afterGetBal (w : World) (s : Sid) (ps vis : List Nat) : World :=
  { w with
    vols := fun k =>
      let r := w.vols k
      if ps.contains k then
        if r.com.isNone && r.own.isNone then { com := none, own := some s, pen := some 0 }
        else if sees w vis k then { r with own := some s }
        else r
      else r
    reads := fun t k =>
      if t = s && ps.contains k && sees w vis k then some (if sees w vis k then ((w.vols k).latest).getD 0 else 0)
      else w.reads t k
    spent := fun t k => if t = s && ps.contains k && sees w vis k then 0 else w.spent t k }

theorem getBal_fine (w : World) (s : Sid) (ps vis : List Nat) : (getBal w s ps vis).Fine w fun w' _ =>
    (∀ p ∈ ps, sees w vis p = true → (w.vols p).heldByOther s = none) ∧ w' = w.afterGetBal s ps vis := by
  unfold getBal
  split
  · exact .blocked _
  · split
    · exact .blocked _
    · rename_i hsel
      refine .done _ _ rfl ⟨fun p hp hs => ?_, rfl⟩
      have := firstSome_none _ _ hsel p hp
      rwa [if_pos hs] at this

def deltaOf (ds : List (Nat × Int)) (k : Nat) : Int := (ds.filter (·.1 = k)).foldl (fun a d => a + d.2) (0 : Int)

def World.afterUpdVol (w : World) (s : Sid) (ds : List (Nat × Int)) : World :=
  { w with
    vols := fun k =>
      let r := w.vols k
      if ds.any (·.1 = k) then { r with own := some s, pen := some ((r.latest).getD 0 + deltaOf ds k) } else r
    spent := fun t k => if t = s && ds.any (·.1 = k) then w.spent t k + deltaOf ds k else w.spent t k }

theorem updVol_fine (w : World) (s : Sid) (ds : List (Nat × Int)) : (updVol w s ds).Fine w fun w' _ =>
    (∀ d ∈ ds, (w.vols d.1).heldByOther s = none) ∧ w' = w.afterUpdVol s ds := by
  unfold updVol
  split
  · exact .blocked _
  · rename_i hblk
    exact .done _ _ rfl ⟨firstSome_none _ _ hblk, rfl⟩

/-- a sequence after one `nextval` (an explicit id draws nothing) -/
def bump (seq : Nat → Nat) (l : Nat) (id : Option Nat) : Nat → Nat :=
  fun l' => if l' = l && id.isNone then seq l + 1 else seq l'

theorem le_bump (seq : Nat → Nat) (l : Nat) (id : Option Nat) (l' : Nat) : seq l' ≤ bump seq l id l' := by
  unfold bump
  split
  · rename_i h
    simp only [Bool.and_eq_true, decide_eq_true_eq] at h
    rw [h.1]; exact Nat.le_succ _
  · exact Nat.le_refl _

/-- the row `InsertTransaction` appends -/
def newTx (w : World) (s : Sid) (l ref : Nat) (id : Option Nat) : Tx :=
  { l := l, id := id.getD (w.txSeq l + 1), ref := ref, by_ := s, com := false }

def World.afterInsTx (w : World) (s : Sid) (l ref : Nat) (id : Option Nat) : World :=
  { w with
    txSeq := bump w.txSeq l id
    txs := w.txs ++ [newTx w s l ref id]
    rev := fun l' t' =>
      if l' = l && t' = id.getD (w.txSeq l + 1) then { com := none, own := some s, pen := some false } else w.rev l' t' }

theorem insTx_fine (w : World) (s : Sid) (l ref : Nat) (id : Option Nat) : (insTx w s l ref id).Fine w fun w' o =>
    w.txs.find? (fun t => t.l = l && t.id = id.getD (w.txSeq l + 1)) = none ∧
    (if ref = 0 then none else w.txs.find? (fun t => t.l = l && t.ref = ref)) = none ∧
    w' = w.afterInsTx s l ref id ∧ o = { vals := [id.getD (w.txSeq l + 1)] } := by
  unfold insTx
  dsimp only
  generalize (if ref = 0 then none else w.txs.find? (fun t => t.l = l && t.ref = ref)) = r
  split
  · split
    · exact .blocked _
    · exact .failed _ _ w.logSeq nofun fun _ => Nat.le_refl _
  · rename_i h1
    cases r with
    | some t =>
      dsimp only
      split
      · exact .blocked _
      · exact .failed _ _ w.logSeq nofun fun _ => Nat.le_refl _
    | none => exact .done _ _ rfl ⟨h1, rfl, rfl, rfl⟩

/-- the row the log INSERT appends -/
def newLog (w : World) (s : Sid) (l ik hash : Nat) (sync : Bool) (id : Option Nat) (tx : Nat) : Lg :=
  Lg.mk l (id.getD (w.logSeq l + 1)) ik hash
    (if sync then maxId ((w.logs.filter (fun e => e.l = l && visLog s e)).map (·.id)) else 0) tx s false

def World.afterInsLog (w : World) (s : Sid) (l ik hash : Nat) (sync : Bool) (id : Option Nat) (tx : Nat) : World :=
  { w with logSeq := bump w.logSeq l id, logs := w.logs ++ [newLog w s l ik hash sync id tx] }

theorem insLog_fine (w : World) (s : Sid) (l ik hash : Nat) (sync : Bool) (id : Option Nat) (tx : Nat) :
    (insLog w s l ik hash sync id tx).Fine w fun w' _ =>
      w.logs.find? (fun e => e.l = l && e.id = id.getD (w.logSeq l + 1)) = none ∧
      (if ik = 0 then none else w.logs.find? (fun e => e.l = l && e.ik = ik)) = none ∧
      w' = w.afterInsLog s l ik hash sync id tx := by
  unfold insLog
  dsimp only
  generalize (if ik = 0 then none else w.logs.find? (fun e => e.l = l && e.ik = ik)) = r
  split
  · split
    · exact .blocked _
    · exact .failed _ w.txSeq _ nofun (le_bump _ _ _)
  · rename_i h1
    cases r with
    | some e =>
      dsimp only
      split
      · exact .blocked _
      · exact .failed _ w.txSeq _ nofun (le_bump _ _ _)
    | none => exact .done _ _ rfl ⟨h1, rfl, rfl⟩

/-- the ids `create_blocks` reads -/
def cbIds (w : World) (l : Nat) : List Nat := sortNat ((w.logs.filter (fun e => e.l = l && e.com)).map (·.id))

def World.afterBlocks (w : World) (l size : Nat) : World :=
  { w with blocks :=
      w.blocks ++ mkBlocks l size ((cbIds w l).length + 1) (maxId ((w.blocks.filter (·.l = l)).map (·.to))) (cbIds w l) }

/-- transaction control statements (handled by `stepR` itself) -/
def Stmt.isCtl : Stmt → Bool
  | .begin | .commit | .rollback | .savepoint | .release | .rollbackTo => true
  | _ => false

/-- statements that touch none of what the lock discipline watches: advisory locks, logs, the
    transaction and savepoint nesting -/
def Stmt.plain : Stmt → Bool
  | .getBalances _ | .updateVolumes _ | .insertTx _ _ _ | .upsertAccounts _ | .readIK _ _ | .readState _
  | .readLastLog _ | .updateState _ | .revertUpdate _ _ _ | .createBlocks _ _ | .rollbackTo | .setval _ => true
  | _ => false

/-- the advisory key a statement asks for, and whether for the transaction only -/
def Stmt.lockReq : Stmt → Option (Nat × Bool)
  | .lockLedgerX l => some (ledgerKey l, true)
  | .lockLedgerS l => some (ledgerKey l, false)
  | .advLockLog l => some (logKey l, true)
  | _ => none

/-- `Eff w s st w'`: statement `st` of session `s` can complete in `w`, and leaves `w'` -/
inductive Eff (w : World) (s : Sid) : Stmt → World → Prop
  /-- reads, and conditional updates that find nothing to update -/
  | same (st : Stmt) : st.plain = true → Eff w s st w
  | lock (st : Stmt) (key : Nat) (x : Bool) : st.lockReq = some (key, x) → holder? w.adv key s = none →
      Eff w s st { w with adv := w.adv ++ [{ key := key, sid := s, xact := x }] }
  | unlock (l : Nat) : Eff w s (.unlockLedgerS l)
      ({ w with adv := w.adv.filter (fun a => !(a.key = ledgerKey l && a.sid = s && !a.xact)) }.clearWaiters s)
  | state (l : Nat) (f : Nat → Row Bool) : Eff w s (.updateState l) { w with state := f }
  | setval (l : Nat) (tq lq : Nat → Nat) : (∀ l', l' ≠ l → lq l' = w.logSeq l') →
      Eff w s (.setval l) { w with txSeq := tq, logSeq := lq }
  | getBal (ps : List Nat) : (∀ p ∈ ps, sees w (snapOf w s ps) p = true → (w.vols p).heldByOther s = none) →
      Eff w s (.getBalances ps) (w.afterGetBal s ps (snapOf w s ps))
  | updVol (ds : List (Nat × Int)) : (∀ d ∈ ds, (w.vols d.1).heldByOther s = none) →
      Eff w s (.updateVolumes ds) (w.afterUpdVol s ds)
  | accts (as : List Nat) (f : Nat → Row Unit) : Eff w s (.upsertAccounts as) { w with accts := f }
  | insTx (l ref : Nat) (id : Option Nat) :
      w.txs.find? (fun t => t.l = l && t.id = id.getD (w.txSeq l + 1)) = none →
      (if ref = 0 then none else w.txs.find? (fun t => t.l = l && t.ref = ref)) = none →
      Eff w s (.insertTx l ref id) (w.afterInsTx s l ref id)
  | insLog (l ik hash : Nat) (sync : Bool) (id : Option Nat) (tx : Nat) :
      w.logs.find? (fun e => e.l = l && e.id = id.getD (w.logSeq l + 1)) = none →
      (if ik = 0 then none else w.logs.find? (fun e => e.l = l && e.ik = ik)) = none →
      Eff w s (.insertLog l ik hash sync id tx) (w.afterInsLog s l ik hash sync id tx)
  /-- a revert UPDATE that modifies: the transaction is visible, nobody else owns its row, and the
      guarded form found the latest version un-reverted -/
  | revert (l tx : Nat) (g : Bool) : (∃ t ∈ w.txs, t.l = l ∧ t.id = tx ∧ visTx s t = true) →
      (w.rev l tx).heldByOther s = none →
      (g = true → (w.rev l tx).com ≠ some true ∧ (w.rev l tx).latest = some false) →
      Eff w s (.revertUpdate l tx g)
        { w with
          rev := fun l' t' => if l' = l && t' = tx then { w.rev l tx with own := some s, pen := some true } else w.rev l' t'
          revWins := w.revWins ++ [{ l := l, tx := tx, by_ := s, com := false }] }
  | blocks (l size : Nat) : Eff w s (.createBlocks l size) (w.afterBlocks l size)

/-- `exec`, statement by statement: every attempt is `Fine`, and what a completed one leaves is an `Eff` -/
theorem exec_fine (w : World) (s : Sid) {st : Stmt} (hc : st.isCtl = false) :
    (exec w s st).Fine w fun w' _ => Eff w s st w' := by
  have same : ∀ o : Out, o.err = none → st.plain = true → (Att.done w o).Fine w fun w' _ => Eff w s st w' :=
    fun o ho hp => .done _ _ ho (.same _ hp)
  cases st with
  | begin | commit | rollback | savepoint | release | rollbackTo => cases hc
  | lockLedgerX l | lockLedgerS l | advLockLog l =>
    simp only [exec]
    split
    · exact .blocked _
    · rename_i hn; exact .done _ _ rfl (.lock _ _ _ rfl hn)
  | unlockLedgerS l => exact .done _ _ rfl (.unlock l)
  | updateState l =>
    simp only [exec]
    split
    · exact same _ rfl rfl
    · split
      · exact .blocked _
      · split
        · exact .done _ _ rfl (.state l _)
        · exact same _ rfl rfl
  | setval l =>
    refine .done _ _ rfl (.setval l _ _ fun l' hl => ?_)
    simp only [hl, decide_false, Bool.false_and, Bool.false_eq_true, if_false]
  | readState l | readLastLog l => exact same _ rfl rfl
  | readIK l ik => simp only [exec]; split <;> exact same _ rfl rfl
  | getBalances ps => exact (getBal_fine w s ps _).mono fun _ _ h => by obtain ⟨hf, rfl⟩ := h; exact .getBal ps hf
  | updateVolumes ds => exact (updVol_fine w s ds).mono fun _ _ h => by obtain ⟨hf, rfl⟩ := h; exact .updVol ds hf
  | upsertAccounts as =>
    simp only [exec]
    split
    · exact .blocked _
    · exact .failed _ w.txSeq w.logSeq nofun fun _ => Nat.le_refl _
    · exact .done _ _ rfl (.accts as _)
  | insertTx l ref id =>
    exact (insTx_fine w s l ref id).mono fun _ _ h => by obtain ⟨h1, h2, rfl, _⟩ := h; exact .insTx l ref id h1 h2
  | insertLog l ik hash sync id tx =>
    exact (insLog_fine w s l ik hash sync id tx).mono fun _ _ h => by
      obtain ⟨h1, h2, rfl⟩ := h; exact .insLog l ik hash sync id tx h1 h2
  | revertUpdate l tx g =>
    simp only [exec]
    split
    · exact same _ rfl rfl
    · rename_i hex
      split
      · exact same _ rfl rfl
      · rename_i hnc
        split
        · exact .blocked _
        · rename_i hfree
          split
          · rename_i hlat
            refine .done _ _ rfl (.revert l tx g (by simpa [and_assoc] using hex) hfree fun hg => ?_)
            subst hg
            exact ⟨by simpa using hnc, by simpa using hlat⟩
          · exact same _ rfl rfl
  | createBlocks l size => exact .done _ _ rfl (.blocks l size)

/-- answers a statement can give: BEGIN, COMMIT and ROLLBACK never fail -/
def Possible : Stmt → Out → Prop
  | .begin, o | .commit, o | .rollback, o => o.err = none
  | _, _ => True

theorem possible_of_notCtl (st : Stmt) (o : Out) (h : st.isCtl = false) : Possible st o := by
  cases st <;> first | trivial | cases h

/-- `Turn w s st o w1`: statement `st` of `s` is answered `o` and leaves `w1` (before the program moves on). An answer
    is of one of three kinds, the ones `stepR` tells apart by `o.err`: refused in an aborted transaction (nothing
    happens), failed (the transaction is aborted; sequence values drawn are lost), or gone through: transaction
    control, or the effect of the statement. -/
inductive Turn (w : World) (s : Sid) : Stmt → Out → World → Prop
  | refused (st : Stmt) : Possible st { err := some .aborted } → Turn w s st { err := some .aborted } w
  | failed (st : Stmt) (e : Err) (tq lq : Nat → Nat) : Possible st { err := some e } → e ≠ .aborted →
      (∀ l, w.logSeq l ≤ lq l) →
      Turn w s st { err := some e } (({ w with txSeq := tq, logSeq := lq } : World).failTx s)
  | begin : Turn w s .begin {} (w.setSess s (fun x => { x with inTx := true }))
  | commitNoop : (w.sess s).inTx = false → Turn w s .commit {} w
  | commit : (w.sess s).inTx = true → (w.sess s).aborted = false → Turn w s .commit {} (w.commitTx s)
  | rollback (st : Stmt) : st = .commit ∨ st = .rollback → Turn w s st {} (w.rollbackTx s)
  | savepoint : Turn w s .savepoint {} (w.setSess s (fun x => { x with sp := x.sp + 1 }))
  | release : (w.sess s).sp ≠ 0 → Turn w s .release {} (w.setSess s (fun x => { x with sp := x.sp - 1 }))
  | rollbackTo : (w.sess s).sp ≠ 0 → Turn w s .rollbackTo {} (w.setSess s (fun x => { x with aborted := false }))
  | eff (st : Stmt) (o : Out) (w' : World) : st.isCtl = false → o.err = none → Eff w s st w' → Turn w s st o w'

/-- the step of a statement that is not transaction control; `sn` is the snapshot a waiting
    statement remembers -/
theorem stepR_exec {w : World} {s : Sid} {st : Stmt} {k : Out → Prog} (hp : (w.sess s).prog = .stmt st k)
    (hc : st.isCtl = false) :
    ∃ sn, stepR w s =
      if (w.sess s).aborted then (advance w s k { err := some .aborted }, .error .aborted)
      else match exec w s st with
        | .done w' o => (advance w' s k o, .ok)
        | .failed w' e => (advance (w'.failTx s) s k { err := some e }, .error e)
        | .blocked t =>
          if waitCycle w s cycleFuel (some t) then (advance (w.failTx s) s k { err := some .deadlock }, .error .deadlock)
          else (w.setSess s (fun x => { x with snap := sn, waitsFor := some t }), .blocked) := by
  unfold stepR
  simp only [hp]
  -- a statement that never waits leaves `sn` undetermined: any value does
  cases st <;> first | (cases hc; done) | exact ⟨_, rfl⟩ | exact ⟨none, rfl⟩

theorem step_of_exec_done {w : World} {s : Sid} {st : Stmt} {k : Out → Prog} {w' : World} {o : Out}
    (hp : (w.sess s).prog = .stmt st k) (hc : st.isCtl = false) (hab : (w.sess s).aborted = false)
    (he : exec w s st = .done w' o) : step w s = advance w' s k o := by
  obtain ⟨sn, h⟩ := stepR_exec hp hc
  unfold step
  rw [h, hab, he]
  rfl

theorem step_cases (w : World) (s : Sid) :
    (step w s = w) ∨
    (∃ sn wf, step w s = w.setSess s (fun x => { x with snap := sn, waitsFor := wf })) ∨
    (∃ st k o w1, (w.sess s).prog = .stmt st k ∧ step w s = advance w1 s k o ∧ Turn w s st o w1) := by
  cases hp : (w.sess s).prog with
  | done r => left; unfold step stepR; simp only [hp]
  | stmt st k =>
    right
    have fail : ∀ e : Err, Possible st { err := some e } → e ≠ .aborted → Turn w s st { err := some e } (w.failTx s) :=
      fun e hpos hne => .failed st e w.txSeq w.logSeq hpos hne fun _ => Nat.le_refl _
    cases hc : st.isCtl with
    | false =>
      obtain ⟨sn, h⟩ := stepR_exec hp hc
      have hpos := fun o => possible_of_notCtl st o hc
      unfold step
      rw [h]
      cases hab : (w.sess s).aborted with
      | true => exact Or.inr ⟨st, k, _, _, rfl, rfl, .refused st (hpos _)⟩
      | false =>
        simp only [Bool.false_eq_true, if_false]
        have hf := exec_fine w s hc
        generalize exec w s st = a at hf ⊢
        cases hf with
        | done w' o ho he => exact Or.inr ⟨st, k, _, _, rfl, rfl, .eff st o w' hc ho he⟩
        | failed e tq lq hne hle => exact Or.inr ⟨st, k, _, _, rfl, rfl, .failed st e tq lq (hpos _) hne hle⟩
        | blocked t =>
          dsimp only
          split
          · exact Or.inr ⟨st, k, _, _, rfl, rfl, fail _ (hpos _) nofun⟩
          · exact Or.inl ⟨_, _, rfl⟩
    | true =>
      right
      refine ⟨st, k, ?_⟩
      unfold step stepR
      simp only [hp]
      cases st with
      | begin => exact ⟨_, _, trivial, rfl, .begin⟩
      | commit =>
        dsimp only
        cases hin : (w.sess s).inTx with
        | false => exact ⟨_, _, trivial, rfl, .commitNoop hin⟩
        | true =>
          cases hab : (w.sess s).aborted with
          | true => exact ⟨_, _, trivial, rfl, .rollback _ (.inl rfl)⟩
          | false => exact ⟨_, _, trivial, rfl, .commit hin hab⟩
      | rollback => exact ⟨_, _, trivial, rfl, .rollback _ (.inr rfl)⟩
      | savepoint =>
        dsimp only
        cases (w.sess s).aborted with
        | true => exact ⟨_, _, trivial, rfl, .refused _ trivial⟩
        | false => exact ⟨_, _, trivial, rfl, .savepoint⟩
      | release =>
        dsimp only
        cases (w.sess s).aborted with
        | true => exact ⟨_, _, trivial, rfl, .refused _ trivial⟩
        | false =>
          by_cases hsp : (w.sess s).sp = 0
          · rw [if_pos hsp]; exact ⟨_, _, trivial, rfl, fail _ trivial nofun⟩
          · rw [if_neg hsp]; exact ⟨_, _, trivial, rfl, .release hsp⟩
      | rollbackTo =>
        dsimp only
        by_cases hsp : (w.sess s).sp = 0
        · rw [if_pos hsp]; exact ⟨_, _, trivial, rfl, fail _ trivial nofun⟩
        · rw [if_neg hsp]; exact ⟨_, _, trivial, rfl, .rollbackTo hsp⟩
      | _ => cases hc

theorem step_prog_self (w : World) (s : Sid) :
    ((step w s).sess s).prog = (w.sess s).prog ∨
    ∃ st k o, (w.sess s).prog = .stmt st k ∧ ((step w s).sess s).prog = k o := by
  rcases step_cases w s with h | ⟨sn, wf, h⟩ | ⟨st, k, o, w1, hp, h, _⟩
  · rw [h]; exact Or.inl rfl
  · rw [h, setSess_sess_self]; exact Or.inl rfl
  · rw [h]; exact Or.inr ⟨st, k, o, hp, by unfold advance; rw [setSess_sess_self]⟩

/-- The two advisory keys of a ledger are told apart by parity, and `World.undo` reads it: the undoing of `s` leaves
    the entries of other sessions, the session-scoped ones and, when it stops at a savepoint, the transaction-scoped
    ones with an odd key (the ledger lock, taken before the savepoint). -/
theorem undo_keeps_adv {w : World} {s : Sid} {keep : Bool} {a : Adv} (ha : a ∈ w.adv)
    (h : a.sid ≠ s ∨ a.xact = false ∨ (keep = true ∧ a.key % 2 = 1)) : a ∈ (w.undo s keep).adv := by
  refine List.mem_filter.mpr ⟨ha, ?_⟩
  rcases h with h | h | ⟨h1, h2⟩ <;> simp [*]

theorem logKey_even (l : Nat) : logKey l % 2 = 0 := Nat.mul_mod_right 2 l

theorem ledgerKey_odd (l : Nat) : ledgerKey l % 2 = 1 := Nat.mul_add_mod 2 l 1

theorem keys_ne (l : Nat) : logKey l ≠ ledgerKey l := fun h => by
  have := ledgerKey_odd l
  rw [← h, logKey_even] at this; cases this

theorem failTx_logSeq (w : World) (s : Sid) : (w.failTx s).logSeq = w.logSeq := by
  unfold World.failTx; dsimp only; split <;> rfl

/-- the sequences are outside what a failure undoes -/
theorem failTx_seq (w : World) (s : Sid) (tq lq : Nat → Nat) :
    ({ w with txSeq := tq, logSeq := lq } : World).failTx s = { w.failTx s with txSeq := tq, logSeq := lq } := by
  unfold World.failTx; dsimp only; split <;> rfl

/-- A property of worlds that survives session-local updates, the wake-up of waiters and the loss of
    sequence values, and that COMMIT, the undoing of `s`'s work and every statement's effect keep
    in the world at hand, holds after the step of `s`. -/
theorem step_inv {P : World → Prop} {s : Sid} {w : World} (hw : P w)
    (hSess : ∀ w f, P w → P (w.setSess s f))
    (hClear : ∀ w, P w → P (w.clearWaiters s))
    (hSeq : ∀ w tq lq, (∀ l, w.logSeq l ≤ lq l) → P w → P { w with txSeq := tq, logSeq := lq })
    (hCommit : P (w.commitTx s))
    (hUndo : ∀ b, P (w.undo s b))
    (hExec : ∀ st k w', (w.sess s).prog = .stmt st k → Eff w s st w' → P w') : P (step w s) := by
  have hRollback : P (w.rollbackTx s) := hSess _ _ (hClear _ (hUndo false))
  have hFail : P (w.failTx s) := by
    unfold World.failTx
    dsimp only
    split
    · exact hSess _ _ (hClear _ (hUndo _))
    · exact hSess _ _ hw
  rcases step_cases w s with h | ⟨sn, wf, h⟩ | ⟨st, k, o, w1, hp, h, ht⟩
  · rw [h]; exact hw
  · rw [h]; exact hSess _ _ hw
  · rw [h]
    refine hSess _ _ ?_
    cases ht with
    | begin | savepoint | release _ | rollbackTo _ => exact hSess _ _ hw
    | refused _ _ | commitNoop _ => exact hw
    | rollback _ _ => exact hRollback
    | commit _ _ => exact hCommit
    | failed _ _ _ _ _ _ hle => rw [failTx_seq]; exact hSeq _ _ _ (by rw [failTx_logSeq]; exact hle) hFail
    | eff _ _ _ _ _ he => exact hExec _ _ _ hp he

/-- from `w` to `w'`: the advisory locks of `s` are still there, the rows of `vols` it locked are
    unchanged, its session record is the same up to the wait-for edge, and it has no uncommitted
    log that it did not have (nothing is said of the rows of `rev`, `state`, `accts`) -/
structure SameFor (s : Sid) (w w' : World) : Prop where
  adv : ∀ a ∈ w.adv, a.sid = s → a ∈ w'.adv
  vols : ∀ p, (w.vols p).own = some s → w'.vols p = w.vols p
  sess : ∃ wf, w'.sess s = { w.sess s with waitsFor := wf }
  logs : ∀ e ∈ w'.logs, e.by_ = s → e.com = false → e ∈ w.logs

theorem SameFor.refl (s : Sid) (w : World) : SameFor s w w :=
  ⟨fun _ h _ => h, fun _ _ => rfl, ⟨_, rfl⟩, fun _ h _ _ => h⟩

theorem SameFor.trans {s : Sid} {a b c : World} (h1 : SameFor s a b) (h2 : SameFor s b c) : SameFor s a c := by
  refine ⟨fun x hx hs => h2.adv x (h1.adv x hx hs) hs, fun p hp => ?_, ?_, fun e he hb hc => h1.logs e (h2.logs e he hb hc) hb hc⟩
  · rw [h2.vols p (by rw [h1.vols p hp]; exact hp), h1.vols p hp]
  · obtain ⟨wf1, e1⟩ := h1.sess
    obtain ⟨wf2, e2⟩ := h2.sess
    exact ⟨wf2, by rw [e2, e1]⟩

theorem SameFor.prog {s : Sid} {w w' : World} (h : SameFor s w w') : (w'.sess s).prog = (w.sess s).prog := by
  obtain ⟨wf, e⟩ := h.sess; rw [e]

theorem SameFor.inTx {s : Sid} {w w' : World} (h : SameFor s w w') : (w'.sess s).inTx = (w.sess s).inTx := by
  obtain ⟨wf, e⟩ := h.sess; rw [e]

theorem SameFor.sp {s : Sid} {w w' : World} (h : SameFor s w w') : (w'.sess s).sp = (w.sess s).sp := by
  obtain ⟨wf, e⟩ := h.sess; rw [e]

theorem sameFor_of_sess {s : Sid} {w : World} {σ : Sid → Session} (h : ∃ wf, σ s = { w.sess s with waitsFor := wf }) :
    SameFor s w { w with sess := σ } :=
  ⟨fun _ h _ => h, fun _ _ => rfl, h, fun _ h _ _ => h⟩

theorem sameFor_setSess {s t : Sid} (hts : t ≠ s) (w : World) (f) : SameFor s w (w.setSess t f) :=
  sameFor_of_sess ⟨_, by rw [if_neg (Ne.symm hts)]⟩

theorem sameFor_clear (s t : Sid) (w : World) : SameFor s w (w.clearWaiters t) :=
  sameFor_of_sess (by dsimp only; split <;> exact ⟨_, rfl⟩)

theorem sameFor_commit {s t : Sid} (hts : t ≠ s) (w : World) : SameFor s w (w.commitTx t) := by
  refine ⟨fun a ha hs => ?_, fun p hp => Row.commit_other hp (Ne.symm hts), ?_, fun e he hb hc => ?_⟩
  · refine List.mem_filter.mpr ⟨ha, ?_⟩
    simp [hs, Ne.symm hts]
  · simp only [World.commitTx, Ne.symm hts, if_false]
    split <;> exact ⟨_, rfl⟩
  · obtain ⟨x, hx, hxe⟩ := List.mem_map.mp he
    by_cases hxt : x.by_ = t
    · rw [if_pos hxt] at hxe; rw [← hxe] at hc; cases hc
    · rw [if_neg hxt] at hxe; rw [← hxe]; exact hx

theorem sameFor_undo {s t : Sid} (hts : t ≠ s) (w : World) (b : Bool) : SameFor s w (w.undo t b) := by
  exact ⟨fun a ha hs => undo_keeps_adv ha (.inl fun h => hts (h.symm.trans hs)), fun p hp => Row.abort_other hp (Ne.symm hts),
    ⟨_, rfl⟩, fun e he _ _ => (List.mem_filter.mp he).1⟩

/-- a statement of `t` cannot touch a row `s` owns: it would have waited -/
theorem sameFor_eff {s t : Sid} (hts : t ≠ s) {w : World} {st : Stmt} {w' : World} (h : Eff w t st w') :
    SameFor s w w' := by
  cases h with
  | lock st key x _ _ =>
    exact ⟨fun a ha _ => List.mem_append_left _ ha, fun _ _ => rfl, ⟨_, rfl⟩, fun _ h _ _ => h⟩
  | unlock l =>
    refine ((⟨fun a ha hs => ?_, fun _ _ => rfl, ⟨_, rfl⟩, fun _ h _ _ => h⟩ :
      SameFor s w { w with adv := w.adv.filter _ })).trans (sameFor_clear s t _)
    refine List.mem_filter.mpr ⟨ha, ?_⟩
    simp [hs, Ne.symm hts]
  | getBal ps hfree =>
    refine ⟨fun _ h _ => h, fun p hp => ?_, ⟨_, rfl⟩, fun _ h _ _ => h⟩
    dsimp only [World.afterGetBal]
    split
    · rename_i hps
      rw [if_neg (by simp [hp])]
      split
      · rename_i hsees
        exact absurd (hfree p (by simpa using hps) hsees) (not_free_of_own hp (Ne.symm hts))
      · rfl
    · rfl
  | updVol ds hfree =>
    refine ⟨fun _ h _ => h, fun p hp => ?_, ⟨_, rfl⟩, fun _ h _ _ => h⟩
    dsimp only [World.afterUpdVol]
    split
    · rename_i htouched
      obtain ⟨d, hd, hdp⟩ := List.any_eq_true.mp htouched
      have hdp' : d.1 = p := by simpa using hdp
      exact absurd (hdp' ▸ hfree d hd) (not_free_of_own hp (Ne.symm hts))
    · rfl
  | insLog l ik hash sync id tx _ _ =>
    refine ⟨fun _ h _ => h, fun _ _ => rfl, ⟨_, rfl⟩, fun e he hb _ => ?_⟩
    rcases List.mem_append.mp he with he | he
    · exact he
    · rw [List.mem_singleton.mp he] at hb; exact absurd hb hts
  | _ => exact ⟨fun _ h _ => h, fun _ _ => rfl, ⟨_, rfl⟩, fun _ h _ _ => h⟩

theorem sameFor_step {s t : Sid} (hts : t ≠ s) (w : World) : SameFor s w (step w t) :=
  step_inv (P := SameFor s w) (SameFor.refl s w)
    (fun w' f h => h.trans (sameFor_setSess hts w' f))
    (fun w' h => h.trans (sameFor_clear s t w'))
    (fun _ _ _ _ h => ⟨h.adv, h.vols, h.sess, h.logs⟩)
    (sameFor_commit hts w) (sameFor_undo hts w) (fun _ _ _ _ he => sameFor_eff hts he)

theorem sameFor_run {s : Sid} {σ : Schedule} (hσ : ∀ t ∈ σ, t ≠ s) (w : World) : SameFor s w (run σ w) := by
  induction σ generalizing w with
  | nil => exact SameFor.refl s w
  | cons t σ ih =>
    exact (sameFor_step (hσ t (List.mem_cons_self ..)) w).trans (ih (fun u hu => hσ u (List.mem_cons_of_mem _ hu)) _)

end Ledger.Sched
