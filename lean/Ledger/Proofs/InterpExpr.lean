import Ledger.Interp.Fragment
import Ledger.Proofs.MachineExpr

/-!
Expressions: whenever the machine's `evalExpr` yields a value (on an environment
without unresolved `balance()` placeholders), the interpreter's `evaluateExpr` yields
the same value on an environment with the same bindings, provided the literals are read
alike by both parsers (`litsOK`).
-/
namespace Ledger.Interp
open Ledger.Machine

def EnvEq (env ienv : Env) : Prop := ∀ x, env.lookup x = ienv.lookup x

/-- No unresolved `balance()` placeholder. -/
def EnvOK (env : Env) : Prop := ∀ x v, env.lookup x = some v → valGood v = true

/-- `e` is `l + r` or `l - r`, and `op` the operation on the amounts. -/
inductive Arith : Expr → Expr → Expr → (Int → Int → Int) → Prop
  | add (l r : Expr) : Arith (.add l r) l r (· + ·)
  | sub (l r : Expr) : Arith (.sub l r) l r (· - ·)

theorem Arith.ok {env : Env} {e l r : Expr} {op : Int → Int → Int} {v : Value} (he : Arith e l r op)
    (h : Machine.evalExpr env e = .ok v) :
    ∃ a b, Machine.evalExpr env l = .ok a ∧ Machine.evalExpr env r = .ok b ∧
      ((∃ x y, a = .number x ∧ b = .number y ∧ v = .number (op x y)) ∨
       (∃ c x y, a = .monetary c x ∧ b = .monetary c y ∧
          v = .monetary c (some (op (nilAsZero x) (nilAsZero y))))) := by
  cases he
  · obtain ⟨a, b, ha, hb, hv⟩ := evalBin_ok (evalExpr_add env l r ▸ h)
    exact ⟨a, b, ha, hb, arithV_ok hv⟩
  · obtain ⟨a, b, ha, hb, hv⟩ := evalBin_ok (evalExpr_sub env l r ▸ h)
    exact ⟨a, b, ha, hb, arithV_ok hv⟩

theorem valGood_monetary {a : String} {x : Option Int} (h : valGood (.monetary a x) = true) :
    ∃ v, x = some v := by
  cases x with
  | none => simp [valGood] at h
  | some v => exact ⟨v, rfl⟩

/-- One induction: the interpreter yields the machine's value, and that value holds no
    unresolved `balance()` placeholder (needed of the operands of `+` / `-`, where the
    interpreter matches on `some`). -/
theorem evalExpr_agree_good {env ienv : Env} (heq : EnvEq env ienv) (henv : EnvOK env) :
    ∀ (e : Expr) (v : Value), litsOK e = true → Machine.evalExpr env e = .ok v →
      Interp.evalExpr ienv e = .ok v ∧ valGood v = true := by
  intro e
  induction e with
  | acct s =>
    intro v hl h
    simp only [litsOK] at hl
    cases h
    exact ⟨by simp [Interp.evalExpr, hl], rfl⟩
  | portion t =>
    intro v hl h
    simp only [litsOK, portionLitOK] at hl
    simp only [Machine.evalExpr] at h
    split at h <;> cases h
    rename_i p hp
    rw [hp] at hl
    split at hl
    · rename_i p' q hp' hq
      cases hp'
      obtain rfl : p = q := by simpa using hl
      exact ⟨by simp only [Interp.evalExpr]; exact hq, rfl⟩
    · cases hl
  | mon a n ih =>
    intro v hl h
    simp only [litsOK] at hl
    simp only [Machine.evalExpr] at h
    split at h <;> cases h
    rename_i s hs
    exact ⟨by simp only [Interp.evalExpr, (ih _ hl hs).1], rfl⟩
  | var x =>
    intro v _ h
    simp only [Machine.evalExpr] at h
    split at h <;> cases h
    rename_i hw
    exact ⟨by simp only [Interp.evalExpr, ← heq x, hw], henv x _ hw⟩
  | add l r ihl ihr | sub l r ihl ihr =>
    intro v hl h
    simp only [litsOK, Bool.and_eq_true] at hl
    obtain ⟨a, b, ha, hb, hv⟩ := Arith.ok (by constructor) h
    obtain ⟨ia, ga⟩ := ihl a hl.1 ha
    obtain ⟨ib, gb⟩ := ihr b hl.2 hb
    rcases hv with ⟨x, y, rfl, rfl, rfl⟩ | ⟨c, x, y, rfl, rfl, rfl⟩
    · exact ⟨by simp only [Interp.evalExpr, ia, ib], rfl⟩
    · obtain ⟨x', rfl⟩ := valGood_monetary ga
      obtain ⟨y', rfl⟩ := valGood_monetary gb
      exact ⟨by simp [Interp.evalExpr, ia, ib, nilAsZero], rfl⟩
  | _ => intro v _ h; cases h; exact ⟨rfl, rfl⟩

theorem evalExpr_agree {env ienv : Env} (heq : EnvEq env ienv) (henv : EnvOK env) :
    ∀ (e : Expr) (v : Value), litsOK e = true → Machine.evalExpr env e = .ok v →
      Interp.evalExpr ienv e = .ok v :=
  fun e v hl h => (evalExpr_agree_good heq henv e v hl h).1

theorem evalAcct_agree {env ienv : Env} (heq : EnvEq env ienv) (henv : EnvOK env) {e : Expr} {a : String}
    (hl : litsOK e = true) (h : evalAccount env e = .ok a) : evalAcct ienv e = .ok a := by
  simp only [evalAcct, evalExpr_agree heq henv e _ hl (evalAccount_ok h)]

theorem evalMon_agree {env ienv : Env} (heq : EnvEq env ienv) (henv : EnvOK env) {e : Expr} {a : String}
    {v : Int} (hl : litsOK e = true) (h : evalMonetary env e = .ok (a, some v)) :
    evalMon ienv e = .ok (a, v) := by
  simp only [evalMon, evalExpr_agree heq henv e _ hl (evalMonetary_ok h)]

theorem evalMonOf_agree {env ienv : Env} (heq : EnvEq env ienv) (henv : EnvOK env) {e : Expr} {a : String}
    {v : Int} (hl : litsOK e = true) (h : evalMonetary env e = .ok (a, some v)) :
    evalMonOf ienv a e = .ok v := by
  simp [evalMonOf, evalMon_agree heq henv hl h]

theorem evalAsset_agree {env ienv : Env} (heq : EnvEq env ienv) (henv : EnvOK env) {e : Expr} {a : String}
    (hl : litsOK e = true) (h : evalAssetE env e = .ok a) : evalAsset ienv e = .ok a := by
  simp only [evalAsset, evalExpr_agree heq henv e _ hl (evalAssetE_ok h)]

theorem okCap_spec {env : Env} {asset : String} {e : Expr} (h : okCap env asset e = true) :
    litsOK e = true ∧ ∃ v, evalMonetary env e = .ok (asset, some v) ∧ 0 ≤ v := by
  simp only [okCap, Bool.and_eq_true] at h
  refine ⟨h.1, ?_⟩
  have h2 := h.2
  split at h2
  · rename_i a v hv
    simp only [Bool.and_eq_true, decide_eq_true_eq] at h2
    exact ⟨v, by rw [hv, h2.1], h2.2⟩
  · cases h2

theorem okAcct_spec {env : Env} {e : Expr} (h : okAcct env e = true) :
    litsOK e = true ∧ ∃ a, evalAccount env e = .ok a ∧ validAccount a = true := by
  simp only [okAcct, Bool.and_eq_true] at h
  refine ⟨h.1, ?_⟩
  have h2 := h.2
  split at h2
  · rename_i a ha; exact ⟨a, ha, h2⟩
  · cases h2

end Ledger.Interp
