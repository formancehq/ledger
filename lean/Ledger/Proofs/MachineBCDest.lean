import Ledger.Proofs.MachineBCSrc

/-! Byte-code level: `VisitAllotment` and all destinations (account, in-order with `kept`,
    allotment) by mutual recursion. -/
namespace Ledger.Machine

/-- Stack effect of a destination: `[funding, …] ↦ [remainder, …]`. -/
def destK (env : Env) (d : Dest) : Kl := fun stk st =>
  match stk with
  | .funding F :: rest =>
    match evalDest env F.asset d F.parts st with
    | .error e => .error e
    | .ok (rem, st1) => .ok (.funding ⟨F.asset, rem⟩ :: rest, st1)
  | _ => .error (.fault "stack")

def portionK (env : Env) (p : PortionE) : Kl := fun stk st =>
  match evalPortion env p with
  | .ok v => .ok (.val (.portion v) :: stk, st)
  | .error e => .error e

theorem sim_portion {ds : Decls} {env : Env} (henv : EnvTyped ds env) (C : CS → Prop) {p : PortionE}
    (hp : PortionOK ds p) : Sim ds env C (cPortion p) T (portionK env p) := by
  cases p with
  | lit t =>
    obtain ⟨v, hv⟩ := hp
    refine .of_emit fun cs cs' hg hc ha => ?_
    simp only [cPortion, hv] at ha
    exact ((sim_pushConst ds env C (.portion v)).emit hg hc ha).congr fun stk st => by
      simp [pushK, portionK, evalPortion, hv, cvalue]
  | var x =>
    refine .of_emit fun cs cs' hg hc ha => ?_
    simp only [cPortion] at ha
    split at ha
    · cases ha
    · rename_i idx hl
      cases ha
      obtain ⟨r, h1, h2, _⟩ := hg.1 x idx hl
      obtain ⟨w, hw, hty⟩ := henv x _ hp
      obtain ⟨q, rfl⟩ := val_portion hty
      exact (pushIf_emit true hg (.var h1 h2 hw)).congr fun stk st => by simp [pushK, portionK, evalPortion, hw]
  | remaining =>
    exact (sim_pushConst ds env C (.portion .remaining)).congr fun stk st _ => by
      simp [pushK, portionK, evalPortion, cvalue]

/-- The portions, pushed from the last to the first. -/
def portionsK (env : Env) (ps : List PortionE) : Kl := fun stk st =>
  match evalPortions env ps with
  | .ok vs => .ok (vs.map (fun v => SVal.val (.portion v)) ++ stk, st)
  | .error e => .error e

theorem sim_portions {ds : Decls} {env : Env} (henv : EnvTyped ds env) (C : CS → Prop) (hC : Stable C) :
    (ps : List PortionE) → (∀ p ∈ ps, PortionOK ds p) →
    Sim ds env C (seqA (ps.reverse.map cPortion)) T (portionsK env ps)
  | [], _ => by
    refine (Sim.nil ds env C).congr ?_
    intro stk st _
    simp [Kl.id, portionsK, evalPortions]
  | p :: ps, h => by
    have ih := sim_portions henv C hC ps (fun q hq => h q (by simp [hq]))
    have h1 := Sim.append hC ih (Sim.single hC (sim_portion henv C (h p (by simp)))) (fun _ _ _ _ _ _ => trivial)
    have hl : (p :: ps).reverse.map cPortion = ps.reverse.map cPortion ++ [cPortion p] := by simp
    rw [hl]
    refine h1.congr ?_
    intro stk st _
    obtain ⟨v, hv⟩ := evalPortion_ok henv (h p (by simp))
    simp only [Kl.comp, portionsK, evalPortions, hv]
    cases evalPortions env ps with
    | error e => rfl
    | ok vs => simp [portionK, hv]

theorem popPortions_all : (vs : List Portion) → (rest : Stack) →
    popPortions vs.length (vs.map (fun v => SVal.val (.portion v)) ++ rest) = .ok (vs, rest)
  | [], rest => by simp [popPortions]
  | v :: vs, rest => by simp [popPortions, popPortions_all vs rest]

theorem opK_MAKE_ALLOTMENT_pop (n : Int) (s : Stack) (st : State) :
    opK OP_MAKE_ALLOTMENT (.val (.number n) :: s) st =
      match popPortions n.toNat s with
      | .error e => .error e
      | .ok (ps, s') =>
        match newAllotment ps with
        | .ok a => .ok (.allotment a :: s', st)
        | .error msg =>
          if msg = "sum of portions exceeded 100%" then .error (.run "exec" "allot-exceeded")
          else .error (.run "exec" "allot-two-remaining") := rfl

theorem opK_MAKE_ALLOTMENT (vs : List Portion) (rest : Stack) (st : State) :
    opK OP_MAKE_ALLOTMENT (.val (.number vs.length) :: (vs.map (fun v => SVal.val (.portion v)) ++ rest)) st =
      match newAllotment vs with
      | .ok a => .ok (.allotment a :: rest, st)
      | .error msg =>
        if msg = "sum of portions exceeded 100%" then .error (.run "exec" "allot-exceeded")
        else .error (.run "exec" "allot-two-remaining") := by
  rw [opK_MAKE_ALLOTMENT_pop, Int.toNat_natCast, popPortions_all]

/-- `VisitAllotment`: pushes the allotment. -/
def allotK (env : Env) (ps : List PortionE) : Kl := fun stk st =>
  match makeAllotment env ps with
  | .error e => .error e
  | .ok a => .ok (.allotment a :: stk, st)

theorem sim_allotment {ds : Decls} {env : Env} (henv : EnvTyped ds env) (C : CS → Prop) (hC : Stable C)
    (ps : List PortionE) (hps : ∀ p ∈ ps, PortionOK ds p) :
    Sim ds env C (cAllotment ps) T (allotK env ps) := by
  have h := Sim.append hC (sim_portions henv C hC ps hps)
    (Sim.seq hC (sim_pushInteger ds env C ps.length) (Sim.single hC (sim_emitOp ds env C OP_MAKE_ALLOTMENT)))
    (fun _ _ _ _ _ _ => trivial)
  unfold cAllotment
  refine h.congr ?_
  intro stk st _
  simp only [Kl.comp, portionsK, allotK, makeAllotment]
  cases hev : evalPortions env ps with
  | error e => rfl
  | ok vs =>
    have hl := evalPortions_length ps vs hev
    simp only [pushK, ← hl, opK_MAKE_ALLOTMENT]
    cases newAllotment vs with
    | ok a => rfl
    | error msg => simp only; split <;> rfl

theorem opK_ALLOC (a : List Rat) (c : String) (v : Option Int) (rest : Stack) (st : State) :
    opK OP_ALLOC (.allotment a :: .val (.monetary c v) :: rest) st =
      match needAmt v with
      | .error e => .error e
      | .ok amt => .ok ((allocate a amt).map (fun p => SVal.val (.monetary c (some p))) ++ rest, st) := rfl

theorem opK_FUNDING_REVERSE (f : Funding) (rest : Stack) (st : State) :
    opK OP_FUNDING_REVERSE (.funding f :: rest) st = .ok (.funding ⟨f.asset, f.parts.reverse⟩ :: rest, st) := rfl

abbrev monV (c : String) (p : Int) : SVal := .val (.monetary c (some p))

def InOrdP : Stack → Prop := fun stk => ∃ F k rest, stk = .funding F :: monV F.asset k :: rest
def AllotP (n : Nat) : Stack → Prop := fun stk =>
  ∃ (F : Funding) (ps : List Int) (rest : Stack), stk = .funding F :: (ps.map (monV F.asset) ++ rest) ∧ ps.length = n

def kdK (env : Env) (d : KeptOrDest) : Kl := fun stk st =>
  match stk with
  | .funding F :: rest =>
    match evalKD env F.asset d F.parts st with
    | .error e => .error e
    | .ok (rem, st1) => .ok (.funding ⟨F.asset, rem⟩ :: rest, st1)
  | _ => .error (.fault "stack")

def inorderK (env : Env) (items : InOrderDstList) : Kl := fun stk st =>
  match stk with
  | .funding F :: .val (.monetary _ (some k)) :: rest =>
    match evalInOrder env F.asset items k F.parts st with
    | .error e => .error e
    | .ok (k', f', st') => .ok (.funding ⟨F.asset, f'⟩ :: monV F.asset k' :: rest, st')
  | _ => .error (.fault "stack")

def popMons : Nat → Stack → Option (List Int × Stack)
  | 0, s => some ([], s)
  | n + 1, .val (.monetary _ (some p)) :: s =>
    match popMons n s with
    | some (ps, r) => some (p :: ps, r)
    | none => none
  | _, _ => none

theorem popMons_all (c : String) : (ps : List Int) → (rest : Stack) →
    popMons ps.length (ps.map (monV c) ++ rest) = some (ps, rest)
  | [], rest => by simp [popMons]
  | p :: ps, rest => by simp [popMons, monV, popMons_all c ps rest]

def allotdstK (env : Env) (items : AllotDstList) : Kl := fun stk st =>
  match stk with
  | .funding F :: tl =>
    match popMons items.length tl with
    | some (ps, rest) =>
      match evalAllotDst env F.asset items ps F.parts st with
      | .error e => .error e
      | .ok (f', st') => .ok (.funding ⟨F.asset, f'⟩ :: rest, st')
    | none => .error (.fault "stack")
  | _ => .error (.fault "stack")

mutual
  theorem dest_runs {ds : Decls} {env : Env} (henv : EnvTyped ds env) (C : CS → Prop) (hC : Stable C) :
      (d : Dest) → checkDest ds d = .ok () → Runs ds env C (cDest d) FundingTop (destK env d)
    | .account e, h => by
      have ht := checkDest_account_inv h
      obtain ⟨acc, hev, hacc⟩ := evalAccount_of_typed henv ht
      have hs := Sim.seq hC (sim_emitOp ds env C OP_FUNDING_SUM) (Sim.seq hC (sim_emitOp ds env C OP_TAKE)
        (Sim.seq hC (sim_pushExpr henv C ht) (Sim.single hC (sim_emitOp ds env C OP_SEND))))
      refine ⟨_, hs, ?_⟩
      rintro _ st ⟨F, rest, rfl⟩
      simp only [Kl.comp, opK_FUNDING_SUM, opK_TAKE, destK, evalDest, hacc, needAmt, ne_eq, not_true_eq_false,
        if_false]
      cases take F.parts (total F.parts) with
      | none => rfl
      | some r => simp [exprK, hev, opK_SEND]
    | .inorder items rem, h => by
      obtain ⟨hitems, h⟩ := checkDest_inorder_inv h
      obtain ⟨g1, e1, r1⟩ := inorder_runs henv C hC items hitems
      obtain ⟨g2, e2, r2⟩ := kd_runs henv C hC rem h
      have op := sim_emitOp ds env C
      have bmp := sim_bump ds env C hC
      have hs := Sim.seq hC (op OP_FUNDING_SUM) (Sim.seq hC (op OP_ASSET) (Sim.seq hC (sim_pushInteger ds env C 0)
        (Sim.seq hC (op OP_MONETARY_NEW) (Sim.seq hC (bmp 1) (Sim.seq hC e1
        (Sim.seq hC (op OP_FUNDING_REVERSE) (Sim.seq hC (bmp 1) (Sim.seq hC (op OP_TAKE)
        (Sim.seq hC (op OP_FUNDING_REVERSE) (Sim.seq hC (bmp 1) (Sim.seq hC (op OP_FUNDING_REVERSE)
        (Sim.seq hC e2 (Sim.seq hC (bmp 1) (Sim.seq hC (sim_pushInteger ds env C 2)
        (Sim.single hC (op OP_FUNDING_ASSEMBLE))))))))))))))))
      refine ⟨_, hs, ?_⟩
      rintro _ st ⟨F, rest, rfl⟩
      simp only [Kl.comp, opK_FUNDING_SUM, opK_ASSET_mon, pushK, opK_MONETARY_NEW, bumpK_one,
        r1 _ st ⟨F, 0, rest, rfl⟩, inorderK, destK, evalDest]
      cases evalInOrder env F.asset items 0 F.parts st with
      | error e => rfl
      | ok r =>
        obtain ⟨kept, f1, st1⟩ := r
        simp only [monV, opK_FUNDING_REVERSE, bumpK_one, opK_TAKE, needAmt, ne_eq, not_true_eq_false, if_false]
        cases take f1.reverse kept with
        | none => rfl
        | some q =>
          obtain ⟨resR, remR⟩ := q
          simp only [opK_FUNDING_REVERSE, bumpK_one, r2 _ st1 ⟨_, _, rfl⟩, kdK]
          cases evalKD env F.asset rem remR.reverse st1 with
          | error e => rfl
          | ok w => simp [bumpK_one, opK_ASSEMBLE2]
    | .allot items, h => by
      obtain ⟨hal, h⟩ := checkDest_allot_inv h
      obtain ⟨g1, e1, r1⟩ := allotdst_runs henv C hC items h
      have hs := Sim.seq hC (sim_emitOp ds env C OP_FUNDING_SUM)
        (Sim.seq hC (sim_allotment henv C hC items.portions (checkAllotment_ok hal))
        (Sim.seq hC (sim_emitOp ds env C OP_ALLOC) (Sim.seq hC (sim_bump ds env C hC items.length)
        (Sim.single hC e1))))
      refine ⟨_, hs, ?_⟩
      rintro _ st ⟨F, rest, rfl⟩
      simp only [Kl.comp, opK_FUNDING_SUM, allotK, destK, evalDest]
      cases hma : makeAllotment env items.portions with
      | error e => rfl
      | ok a =>
        have hl : (allocate a (total F.parts)).length = items.length :=
          (allocate_length_of_make hma _).trans items.portions_length
        simp only [opK_ALLOC, needAmt]
        rw [← hl, ← List.length_map (f := monV F.asset), bumpK_append]
        simp only [r1 _ st ⟨F, _, rest, rfl, hl⟩, allotdstK, ← hl, popMons_all]
  theorem kd_runs {ds : Decls} {env : Env} (henv : EnvTyped ds env) (C : CS → Prop) (hC : Stable C) :
      (d : KeptOrDest) → checkKD ds d = .ok () → Runs ds env C (cKD d) FundingTop (kdK env d)
    | .kept, _ => ⟨_, sim_skip ds env C, by rintro _ st ⟨F, rest, rfl⟩; simp [Kl.id, kdK, evalKD]⟩
    | .to d, h => by
      obtain ⟨g, e, r⟩ := dest_runs henv C hC d h
      refine ⟨g, e, ?_⟩
      rintro _ st ⟨F, rest, rfl⟩
      rw [r _ st ⟨F, rest, rfl⟩]
      simp only [destK, kdK, evalKD]
  theorem inorder_runs {ds : Decls} {env : Env} (henv : EnvTyped ds env) (C : CS → Prop) (hC : Stable C) :
      (items : InOrderDstList) → checkInOrder ds items = .ok () →
      Runs ds env C (cInOrder items) InOrdP (inorderK env items)
    | .nil, _ => ⟨_, sim_skip ds env C, by
        rintro _ st ⟨F, k, rest, rfl⟩; simp [Kl.id, inorderK, evalInOrder, monV]⟩
    | .cons m d rest, h => by
      obtain ⟨htm, hd, h⟩ := checkInOrder_cons_inv h
      obtain ⟨g1, e1, r1⟩ := kd_runs henv C hC d hd
      obtain ⟨g2, e2, r2⟩ := inorder_runs henv C hC rest h
      have op := sim_emitOp ds env C
      have bmp := sim_bump ds env C hC
      have hs := Sim.seq hC (sim_pushExpr henv C htm) (Sim.seq hC (op OP_TAKE_MAX) (Sim.seq hC (bmp 2)
        (Sim.seq hC (op OP_DELETE) (Sim.seq hC e1
        (Sim.seq hC (op OP_FUNDING_SUM) (Sim.seq hC (bmp 3) (Sim.seq hC (op OP_MONETARY_ADD)
        (Sim.seq hC (bmp 1) (Sim.seq hC (bmp 2) (Sim.seq hC (sim_pushInteger ds env C 2)
        (Sim.seq hC (op OP_FUNDING_ASSEMBLE) (Sim.single hC e2))))))))))))
      refine ⟨_, hs, ?_⟩
      rintro _ st ⟨F, k, rest', rfl⟩
      simp only [Kl.comp, exprK_monetary henv htm, inorderK, monV, evalInOrder]
      cases evalMonetary env m with
      | error e => rfl
      | ok mon =>
        simp only [opK_TAKE_MAX]
        cases needAmt mon.2 with
        | error e => rfl
        | ok amt =>
          simp only
          by_cases hneg : amt < 0
          · simp [hneg]
          · by_cases hfa : F.asset = mon.1
            · simp only [hneg, hfa, ne_eq, not_true_eq_false, if_false, bumpK_two, opK_DELETE_val,
                r1 _ st ⟨_, _, rfl⟩, kdK]
              cases evalKD env mon.1 d (takeMax F.parts amt).1 st with
              | error e => rfl
              | ok w =>
                obtain ⟨r, st1⟩ := w
                simp only [opK_FUNDING_SUM, bumpK_one, bumpK_two, bumpK_three, opK_MONETARY_ADD, ne_eq,
                  not_true_eq_false, if_false, pushK, opK_ASSEMBLE2, nilAsZero]
                rw [r2 _ st1 ⟨⟨mon.1, _⟩, _, _, rfl⟩]
                simp [inorderK, monV]
            · simp [hneg, hfa]
  theorem allotdst_runs {ds : Decls} {env : Env} (henv : EnvTyped ds env) (C : CS → Prop) (hC : Stable C) :
      (items : AllotDstList) → checkAllotDst ds items = .ok () →
      Runs ds env C (cAllotDst items) (AllotP items.length) (allotdstK env items)
    | .nil, _ => ⟨_, sim_skip ds env C, by
        rintro _ st ⟨F, ps, rest, rfl, hl⟩
        cases ps with
        | nil => simp [Kl.id, allotdstK, AllotDstList.length, popMons, evalAllotDst]
        | cons p ps => simp [AllotDstList.length] at hl⟩
    | .cons pe d rest, h => by
      obtain ⟨hd, h⟩ := checkAllotDst_cons_inv h
      obtain ⟨g1, e1, r1⟩ := kd_runs henv C hC d hd
      obtain ⟨g2, e2, r2⟩ := allotdst_runs henv C hC rest h
      have hs := Sim.seq hC (sim_bump ds env C hC 1) (Sim.seq hC (sim_emitOp ds env C OP_TAKE) (Sim.seq hC e1
        (Sim.seq hC (sim_bump ds env C hC 1) (Sim.seq hC (sim_pushInteger ds env C 2)
        (Sim.seq hC (sim_emitOp ds env C OP_FUNDING_ASSEMBLE) (Sim.single hC e2))))))
      refine ⟨_, hs, ?_⟩
      rintro _ st ⟨F, ps, rest', rfl, hl⟩
      cases ps with
      | nil => simp [AllotDstList.length] at hl
      | cons p ps =>
        have hl' : ps.length = rest.length := by simpa [AllotDstList.length] using hl
        simp only [Kl.comp, monV, List.map_cons, List.cons_append, bumpK_one, opK_TAKE, needAmt, ne_eq,
          not_true_eq_false, if_false, allotdstK, AllotDstList.length, popMons, ← hl', popMons_all, evalAllotDst]
        cases take F.parts p with
        | none => rfl
        | some q =>
          obtain ⟨res, rem⟩ := q
          simp only [r1 _ st ⟨_, _, rfl⟩, kdK]
          cases evalKD env F.asset d res st with
          | error e => rfl
          | ok w =>
            obtain ⟨r, st1⟩ := w
            simp only [bumpK_one, pushK, opK_ASSEMBLE2, ne_eq, not_true_eq_false, if_false]
            rw [r2 _ st1 ⟨⟨F.asset, _⟩, ps, rest', rfl, hl'⟩]
            simp [allotdstK, popMons_all, ← hl']
end

theorem sim_kd_gen {ds : Decls} {env : Env} (henv : EnvTyped ds env) (C : CS → Prop) (hC : Stable C) :
      (d : KeptOrDest) → checkKD ds d = .ok () → Sim ds env C (cKD d) FundingTop (kdK env d) :=
  fun d h => (kd_runs henv C hC d h).sim

theorem sim_inorder_gen {ds : Decls} {env : Env} (henv : EnvTyped ds env) (C : CS → Prop) (hC : Stable C) :
      (items : InOrderDstList) → checkInOrder ds items = .ok () →
      Sim ds env C (cInOrder items) InOrdP (inorderK env items) :=
  fun items h => (inorder_runs henv C hC items h).sim

theorem sim_allotdst_gen {ds : Decls} {env : Env} (henv : EnvTyped ds env) (C : CS → Prop) (hC : Stable C) :
      (items : AllotDstList) → checkAllotDst ds items = .ok () →
      Sim ds env C (cAllotDst items) (AllotP items.length) (allotdstK env items) :=
  fun items h => (allotdst_runs henv C hC items h).sim

end Ledger.Machine
