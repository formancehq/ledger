import Ledger.Proofs.CorePcev
import Ledger.Proofs.SqlNested
import Ledger.Proofs.SqlLock
import Ledger.Proofs.SqlMovesExpr
import Ledger.Proofs.SqlLive
import Ledger.Proofs.SqlPurePhases

/-!
# The query of `set_effective_volumes` on any `moves` table

`SELECT item FROM moves WHERE wher ORDER BY effective_date DESC, seq DESC LIMIT 1` (the pieces `item`, `wher` with the meaning
`SetEffSem`), evaluated by LeanPG on ANY table of well-typed rows with distinct sequence numbers, returns the row that
`Ledger.Spec.prevMove` picks (`exec_prevQuery`). The scan is shared with the read datasets: `exec_scanMoves` hands the rows on as typed
rows (`MvScan`: row id, ledger, move), and the SELECT theorems over decoded rows take every clause as a function of the typed row.
-/
open Ledger Ledger.Sql Ledger.Generated Ledger.Core

namespace Ledger.Sql

/-- sort keys of the trigger's query: (effective_date, seq) -/
def mvKeyOk (k : List Value) : Prop := ∃ (e q : Int), k = [.ts e, .int q]

/-- ORDER BY effective_date DESC, seq DESC -/
def mvCmp (k1 k2 : List Value) : Ordering :=
  match k1, k2 with
  | [.ts e1, .int q1], [.ts e2, .int q2] => (descInt e1 e2).then (descInt q1 q2)
  | _, _ => .eq

theorem mvCmp_lt (e1 q1 e2 q2 : Int) : mvCmp [.ts e1, .int q1] [.ts e2, .int q2] = .lt ↔ (e2 < e1 ∨ (e1 = e2 ∧ q2 < q1)) := by
  simp only [mvCmp, Ordering.then_eq_lt, descInt_lt, descInt_eq]

/-- the two sort columns of the trigger's query -/
def mvSort : List SortCol := [tsCol true, intCol true]

theorem mvSort_ok : ∀ col ∈ mvSort, ColOk col := by simp [mvSort, colOk_ts, colOk_int]

theorem keysOk_mv {k : List Value} (h : mvKeyOk k) : KeysOk mvSort k := by
  obtain ⟨e, q, rfl⟩ := h; exact ⟨⟨e, rfl⟩, ⟨q, rfl⟩, trivial⟩

/-- `cmpOrderKeys` on these keys is `mvCmp`, a strict weak order: column by column -/
theorem mvCmpOk {β : Type} :
    CmpOk (fun (x y : List Value × β) => cmpOrderKeys x.1 y.1 [true, true] [NullsOrder.dflt, NullsOrder.dflt])
      (fun x y => mvCmp x.1 y.1) (fun x => mvKeyOk x.1) :=
  (CmpOk.lex mvSort mvSort_ok [.dflt, .dflt] rfl).congr (fun _ => keysOk_mv)
    (by rintro x y ⟨e1, q1, hx⟩ ⟨e2, q2, hy⟩; rw [hx, hy]; simp [lexCmp, mvSort, tsCol, intCol, keyCol, mvCmp, descInt])

def mvFull (b : String) : String := b ++ "." ++ "moves"

/-- `moves` of bucket `b`, with the per-ledger triggers `trigs` -/
def mvT (b : String) (trigs : List TriggerDef) (nr : Nat) : Table :=
  { Schema.tbl_moves with name := mvFull b, triggers := trigs, nextRid := nr }

theorem mvT_colNames (b : String) (trigs : List TriggerDef) (nr : Nat) : (mvT b trigs nr).colNames = mvCols := rfl

/-- read a well-typed row of `moves` back -/
def mvDec : List Value → Option (String × Spec.MoveRow)
  | [.int q, .text l, .text a, .text c, .int amt, .ts ins, .ts eff, .row _ [.int pi, .int po], .row _ [.int ei, .int eo], .bool src, .int tx] =>
    some (l, { seq := q.toNat, txId := tx.toNat, account := a, asset := c, amount := amt, isSource := src, insertionDate := ins,
               effectiveDate := eff, pcv := ⟨pi, po⟩, pcev := ⟨ei, eo⟩ })
  | _ => none

theorem mvDec_mvVals (l : String) (m : Spec.MoveRow) : mvDec (mvVals l m) = some (l, m) := rfl

/-- the typed content of the rows visible in `v` -/
def MvView (v : View) (rows : List Ver) (tbl : List (String × Spec.MoveRow)) : Prop :=
  (rows.filter (fun r => r.visible v)).map (·.vals) = tbl.map (fun p => mvVals p.1 p.2)

/-- is `p` a candidate "previous move" of the NEW row `n` of ledger `ln`? -/
def mvCand (ln : String) (n : Spec.MoveRow) (p : String × Spec.MoveRow) : Bool :=
  decide (p.2.account = n.account ∧ p.2.asset = n.asset ∧ p.1 = ln) && p.2.before n

def seqOfVals (vals : List Value) : Nat :=
  match mvDec vals with
  | some (_, m) => m.seq
  | none => 0

def prevOrder : List OrderItem :=
  [OrderItem.mk (Expr.col "" "effective_date") true NullsOrder.dflt, OrderItem.mk (Expr.col "" "seq") true NullsOrder.dflt]

theorem compareScalar_int (a b : Int) : compareScalar (.int a) (.int b) = .ok (some (cmpInt a b)) := by
  simp [compareScalar]; rfl

theorem sameGroupKey_vol_ok (ns ns' : List String) (a b c d : Int) : ∃ x, sameGroupKey [.row ns [.int a, .int b]] [.row ns' [.int c, .int d]] = .ok x := by
  apply sameGroupKey_ok
  intro p hp
  simp only [List.zip_cons_cons, List.zip_nil_right, List.mem_cons, List.not_mem_nil, or_false] at hp
  subst hp
  simp only [compareForSort, compareValues, compareScalarList, compareScalar_int, bind, Except.bind, pure, Except.pure]
  cases cmpInt a c <;> simp <;> cases cmpInt b d <;> simp

theorem hasTieR_mv (l : List (List Value × OutRow))
    (h : ∀ p ∈ l, ∃ (e q i o : Int), p.1 = [.ts e, .int q] ∧ p.2.vals = [.row [] [.int i, .int o]])
    (hp : l.Pairwise (fun a b => a.1 ≠ b.1)) : hasTieR l = .ok false :=
  hasTieR_distinct mvSort mvSort_ok l (fun p hp => let ⟨e, q, _, _, hk, _⟩ := h p hp; keysOk_mv ⟨e, q, hk⟩)
    (fun p hp q hq => by
      obtain ⟨_, _, i1, o1, _, hv1⟩ := h p hp
      obtain ⟨_, _, i2, o2, _, hv2⟩ := h q hq
      rw [hv1, hv2]; exact sameGroupKey_vol_ok [] [] i1 o1 i2 o2) hp

/-- the query of `set_effective_volumes` -/
def prevQuery (item wher : Expr) : Query :=
  Query.mk [] (SetExpr.select (Select.mk false [] [SelItem.expr item ""] [FromItem.table "" "moves" ""] (some wher) [] none))
    prevOrder (some (Expr.int 1)) none LockMode.none

open Ledger.Spec

/-- a scanned row of `moves` -/
def mvScope (b : String) (rid : Nat) (p : String × MoveRow) : Scope :=
  { alias := "moves", cols := mvCols, vals := mvVals p.1 p.2, src := some (mvFull b, rid) }

def Typed (b : String) (Ls : List (List Scope)) : Prop := ∀ L ∈ Ls, ∃ rid p, L = [mvScope b rid p]

theorem Typed.filter {b : String} {Ls : List (List Scope)} (h : Typed b Ls) (f : List Scope → Bool) : Typed b (Ls.filter f) :=
  fun L hL => h L (List.mem_filter.mp hL).1

theorem lookup_mv (env : Env) (b : String) (rid : Nat) (p : String × MoveRow) (hl : env.locals = [mvScope b rid p]) (c : String) (v : Value)
    (h : lookupIn mvCols (mvVals p.1 p.2) c = some v) : lookupColumn env "" c = .ok v :=
  lookup_local_unq env (mvScope b rid p) hl c v h

/-- a scanned row of `moves`: row id, ledger, move -/
abbrev MvScan := Nat × (String × MoveRow)

/-- the scanned row as FROM hands it on -/
def mvRow (b : String) (x : MvScan) : List Scope := [mvScope b x.1 x.2]

/-- FROM `moves`, named with its schema or found on the search path (`hq`): the scanned rows are typed rows `xs`, whose contents are
    the table's (in scan order) -/
theorem exec_scanMoves (q : Nat) (env : Env) (schema b : String) (s : St) (hs : TxState s)
    (hcte : (if schema.isEmpty then env.ctes.lookup "moves" else none) = none)
    (hq : (qualify schema "moves").exec s = (.ok (mvFull b), s)) (trigs : List TriggerDef)
    (nr : Nat) (rows : List Ver) (hT : s.w.table? (mvFull b) = some ((mvT b trigs nr).withRows rows))
    (tbl : List (String × MoveRow)) (hview : MvView (cv s) rows tbl) :
    ∃ xs : List MvScan,
      (evalFromList (q + 3) env [FromItem.table schema "moves" ""] [[]]).exec s = (.ok (xs.map (mvRow b)), s) ∧
      xs.map (·.2) = tbl.reverse := by
  obtain ⟨xs, hxs, hfrom⟩ := exec_evalFromList_typed q env schema "moves" "" (mvFull b) _ s hs hcte hq hT
    (fun p : String × MoveRow => mvVals p.1 p.2) tbl hview
  exact ⟨xs, hfrom, hxs⟩

/-- `<bucket>.moves` names the table of the bucket -/
theorem qualify_moves (b : String) (hb : b.isEmpty = false) (s : St) : (qualify b "moves").exec s = (.ok (mvFull b), s) :=
  exec_qualify b "moves" hb s

def ledgerMoves (ln : String) (tbl : List (String × Spec.MoveRow)) : List Spec.MoveRow :=
  (tbl.filter (fun p => decide (p.1 = ln))).map (·.2)

theorem mem_ledgerMoves {ln : String} {tbl : List (String × Spec.MoveRow)} {m : Spec.MoveRow} :
    m ∈ ledgerMoves ln tbl ↔ (ln, m) ∈ tbl := by
  simp only [ledgerMoves, List.mem_map, List.mem_filter, decide_eq_true_eq]
  constructor
  · rintro ⟨⟨l, m'⟩, ⟨h1, h2⟩, h3⟩
    simp only at h2 h3
    subst h2 h3
    exact h1
  · intro h
    exact ⟨(ln, m), ⟨h, rfl⟩, rfl⟩

theorem nodup_seq_of_perm_ledgerMoves {l : String} {tbl : List (String × Spec.MoveRow)} {T : List Spec.MoveRow}
    (hT : T.Perm (ledgerMoves l tbl)) (h : (tbl.map (·.2.seq)).Nodup) : (T.map (·.seq)).Nodup := by
  refine (hT.map _).nodup_iff.mpr ?_
  unfold ledgerMoves
  rw [List.map_map]
  exact ((List.filter_sublist (l := tbl)).map (fun q => q.2.seq)).nodup h

theorem mvCand_iff (ln : String) (n : Spec.MoveRow) (p : String × Spec.MoveRow) :
    mvCand ln n p = true ↔ (p.1 = ln ∧ p.2.key = n.key ∧ p.2.before n = true) := by
  simp only [mvCand, Bool.and_eq_true, decide_eq_true_eq, Spec.MoveRow.key, Prod.mk.injEq]
  constructor
  · rintro ⟨⟨a, b, c⟩, d⟩; exact ⟨c, ⟨a, b⟩, d⟩
  · rintro ⟨c, ⟨a, b⟩, d⟩; exact ⟨⟨a, b, c⟩, d⟩

/-- rows with distinct sequence numbers are separated by `(effective_date, seq)` -/
theorem notAfter_sep {t : List Spec.MoveRow} (hnd : (t.map (·.seq)).Nodup) :
    ∀ x ∈ t, ∀ y ∈ t, x.notAfter y = true → y.notAfter x = true → x = y :=
  fun x hx y hy a b => nodup_map_inj (fun q : Spec.MoveRow => q.seq) t hnd x hx y hy (notAfter_antisymm a b)

theorem prevMove_eq_of_max {T : List Spec.MoveRow} (hnd : (T.map (·.seq)).Nodup) {n x : Spec.MoveRow} (hx : x ∈ T)
    (hk : x.key = n.key) (hb : x.before n = true) (hmax : ∀ y ∈ T, y.key = n.key → y.before n = true → y.notAfter x = true) :
    prevMove T n = some x := by
  rw [prevMove_eq_latest]
  exact latest_eq_of_max beforeOrd (notAfter_sep hnd) hx ⟨hk, hb⟩ (fun y hy hc => hmax y hy hc.1 hc.2)

/-- the sort key of the trigger's query on a typed row -/
def mvKey (p : String × MoveRow) : List Value := [.ts p.2.effectiveDate, .int p.2.seq]

/-- `ORDER BY effective_date DESC, seq DESC` on an output row whose column names hide neither: both are read off the input row -/
theorem exec_prevOrderKeys (cb : Callbacks) (te : TypeEnv) (env : Env) (cols : List String) (o : OutRow) {b : String} {rid : Nat}
    {p : String × MoveRow} (hl : o.locals = [mvScope b rid p]) (h1 : colIndex cols "effective_date" = none)
    (h2 : colIndex cols "seq" = none) (s : St) :
    (prevOrder.mapM (orderKeyM cb te env cols o)).exec s = (.ok (mvKey p), s) := by
  have k := fun c v (hc : colIndex cols c = none) h => exec_orderKeyM_pv cb te env cols o (.col "" c) true .dflt v s
    (fun _ e => by cases e; exact hc) (fun _ e => nomatch e) (by rw [pv]; exact lookup_mv _ b rid p hl c v h)
  exact exec_mapM_cons_ok (k _ _ h1 (mvCol_effDate ..)) (exec_mapM_cons_ok (k _ _ h2 (mvCol_seq ..)) (exec_mapM_nil _ s))

/-- The query of `set_effective_volumes`, run for the NEW row `n` of ledger `ln` on a `moves` table whose visible content is `tbl`
    (sequence numbers distinct): at most one row, holding the effective volumes of `Spec.prevMove` plus NEW's delta. -/
theorem exec_prevQuery (p : Nat) (b ln : String) (n : Spec.MoveRow) (x : Value) (found : Bool)
    (item wher dflt_ : Expr) (hsem : SetEffSem item wher dflt_) (hname : outNames [(item, "")] = ["row"])
    (s : St) (hs : TxState s) (hsp : s.searchPath = b) (trigs : List TriggerDef) (nr : Nat) (rows : List Ver)
    (hT : s.w.table? (mvFull b) = some ((mvT b trigs nr).withRows rows))
    (tbl : List (String × Spec.MoveRow)) (hview : MvView (cv s) rows tbl) (hseq : (tbl.map (·.2.seq)).Nodup) :
    (evalQuery (p + 6) (plEnvV (mvValsX ln n x) found []) (prevQuery item wher)).exec s =
      (.ok { cols := ["row"], rows := match prevMove (ledgerMoves ln tbl) n with
        | some q => [[.row [] [.int (q.pcev.add n.delta).input, .int (q.pcev.add n.delta).output]]]
        | none => [] }, s) := by
  have hnd := nodup_seq_of_perm_ledgerMoves (.refl (ledgerMoves ln tbl)) hseq
  have hrow : colIndex (outNames [(item, "")]) "effective_date" = none ∧ colIndex (outNames [(item, "")]) "seq" = none := by
    rw [hname]; exact ⟨by decide, by decide⟩
  obtain ⟨res, hq, hfirst⟩ := exec_evalQuery_first p (plEnvV (mvValsX ln n x) found []) item wher prevOrder (by simp [prevOrder])
    "" "moves" (mvFull b) ((mvT b trigs nr).withRows rows) s hs rfl (hsp ▸ exec_qualify_sp "moves" s) hT
    (fun q : String × Spec.MoveRow => mvVals q.1 q.2) tbl hview (mvCand ln n)
    (fun q => .row [] [.int (q.2.pcev.add n.delta).input, .int (q.2.pcev.add n.delta).output]) mvKey mvCmp mvKeyOk
    (fun y _ => hsem.hwher (cbs (p + 3)) s.w.types y.2.1 ln y.2.2 n x found [] (some (mvFull b, y.1)) s)
    (fun y _ _ => hsem.hitem (cbs (p + 3)) s.w.types y.2.1 ln y.2.2 n x found [] (some (mvFull b, y.1)) s)
    (by
      have : prevOrder.any (fun o => o.exprOf.hasAgg) = false := rfl
      simp only [Expr.anyHasAgg, hsem.hitemAgg, this, Bool.or_false])
    (by
      have : Expr.winsList (prevOrder.map OrderItem.exprOf) = [] := rfl
      rw [this, List.append_nil]
      exact hsem.hitemWin)
    (fun y _ _ => exec_prevOrderKeys _ _ _ _ _ (b := b) (rid := y.1) (p := y.2) rfl hrow.1 hrow.2 s) mvCmpOk (fun _ _ _ => ⟨_, _, rfl⟩)
    (fun l hl => hasTieR_mv l
      (fun kr hkr => by
        obtain ⟨a, _, e⟩ := List.mem_map.mp (hl.mem_iff.mp (List.mem_map_of_mem (f := fun p => (p.1, p.2.vals)) hkr))
        simp only [Prod.mk.injEq] at e
        exact ⟨_, _, _, _, e.1.symm, e.2.symm⟩)
      (by
        -- distinct sequence numbers: no two candidates have the same sort key
        have hk : ((tbl.filter (mvCand ln n)).map (fun a => (mvKey a, [Value.row [] [.int (a.2.pcev.add n.delta).input,
            .int (a.2.pcev.add n.delta).output]]))).Pairwise (fun a c => a.1 ≠ c.1) := by
          refine List.pairwise_map.mpr (((List.pairwise_map.mp hseq).sublist List.filter_sublist).imp fun hne h => hne ?_)
          simp only [mvKey, List.cons.injEq, Value.int.injEq, and_true] at h
          exact Int.ofNat_inj.mp h.2
        exact List.pairwise_map (f := fun p : List Value × OutRow => (p.1, p.2.vals)) (R := fun a c => a.1 ≠ c.1).mp
          (hl.symm.pairwise hk fun {a c} (h : a.1 ≠ c.1) => Ne.symm h)))
  rw [hname] at hq
  rw [show prevQuery item wher = Query.mk [] (SetExpr.select (Select.mk false [] [SelItem.expr item ""]
    [FromItem.table "" "moves" ""] (some wher) [] none)) prevOrder (some (Expr.int 1)) none LockMode.none from rfl, hq]
  rcases hfirst with ⟨rfl, hnone⟩ | ⟨a, ha, hc, rfl, hmax⟩
  · -- no candidate: `prevMove` finds none either
    cases hp : prevMove (ledgerMoves ln tbl) n with
    | none => rfl
    | some q =>
      obtain ⟨h1, h2, h3, _⟩ := prevMove_some hp
      have := hnone (ln, q) (mem_ledgerMoves.mp h1)
      rw [(mvCand_iff ln n (ln, q)).mpr ⟨rfl, h2, h3⟩] at this
      cases this
  · -- the first candidate in (effective_date, seq) descending order bounds the candidates
    obtain ⟨c1, c2, c3⟩ := (mvCand_iff ln n a).mp hc
    rw [prevMove_eq_of_max hnd (mem_ledgerMoves.mpr (by rw [← c1]; exact ha)) c2 c3 fun y hy yk yb => by
      have := hmax (ln, y) (mem_ledgerMoves.mp hy) ((mvCand_iff ln n (ln, y)).mpr ⟨rfl, yk, yb⟩)
      simp only [mvKey, ne_eq, mvCmp_lt] at this
      rw [notAfter_iff]
      omega]

end Ledger.Sql
