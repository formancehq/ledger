import Ledger.Proofs.SqlPure
import Ledger.Generated.Schema
import Ledger.Spec.Store

/-!
# The trigger functions of `moves`, expression by expression

`set_effective_volumes` (BEFORE INSERT) and `update_effective_volumes` (AFTER INSERT) of
`Ledger.Generated.Schema`, taken apart: for ANY scanned / target row and ANY NEW row (rows of the
shape `mvVals`, i.e. well-typed rows of `moves`), LeanPG's expression evaluator gives their WHERE
clauses, select item / SET expression and default the meaning `Ledger.Spec.setEffective` /
`updateEffective` assume (`MoveRow.before`, `MoveRow.delta`, `Volumes.add`). The ORDER BY … LIMIT 1
of the query is fixed syntactically. That LeanPG's SELECT / UPDATE loops apply these expressions to
every row and pick the first row in that order is the business of `SqlMovesSel` / `SqlMovesUpdate`.

The trigger functions are generated from the migrations, so their expressions may be rendered differently tomorrow (operands
swapped, `a > b` for `b < a`). They are evaluated along whatever syntax tree they have (`pv`, `SqlPure`) and the result is compared
with the specification up to the laws of `&&`, `||`, `+`, `=`.
-/

open Ledger Ledger.Sql Ledger.Generated Ledger.Core

namespace Ledger.Sql

theorem evals_pairRow {cb : Callbacks} {te : TypeEnv} {env : Env} {e1 e2 : Expr} {i o : Int}
    (h1 : pv te env e1 = .ok (.int i)) (h2 : pv te env e2 = .ok (.int o)) :
    Evals cb te env (.row [e1, e2]) (.row [] [.int i, .int o]) :=
  .row (.cons (.of_pv _ h1) (.cons (.of_pv _ h2) .nil))

/-- a row of `moves` (column order of `Schema.tbl_moves`) holding a Spec move of ledger `l` -/
def mvValsX (l : String) (m : Spec.MoveRow) (x : Value) : List Value :=
  [.int m.seq, .text l, .text m.account, .text m.asset, .int m.amount, .ts m.insertionDate, .ts m.effectiveDate,
   .row ["inputs", "outputs"] [.int m.pcv.input, .int m.pcv.output],
   x,
   .bool m.isSource, .int m.txId]

/-- the composite value of a `volumes` column -/
def volVal (v : Volumes) : Value := .row ["inputs", "outputs"] [.int v.input, .int v.output]

def mvVals (l : String) (m : Spec.MoveRow) : List Value := mvValsX l m (volVal m.pcev)

def mvCols : List String := Schema.tbl_moves.cols.map (·.name)

theorem mvCols_eq : mvCols = ["seq", "ledger", "accounts_address", "asset", "amount", "insertion_date", "effective_date",
    "post_commit_volumes", "post_commit_effective_volumes", "is_source", "transactions_id"] := rfl

section
variable (l : String) (m : Spec.MoveRow) (x : Value)
theorem mvCol_seq : lookupIn mvCols (mvValsX l m x) "seq" = some (.int m.seq) := rfl
theorem mvCol_ledger : lookupIn mvCols (mvValsX l m x) "ledger" = some (.text l) := rfl
theorem mvCol_account : lookupIn mvCols (mvValsX l m x) "accounts_address" = some (.text m.account) := by simp [mvCols_eq, mvValsX, lookupIn]
theorem mvCol_asset : lookupIn mvCols (mvValsX l m x) "asset" = some (.text m.asset) := by simp [mvCols_eq, mvValsX, lookupIn]
theorem mvCol_amount : lookupIn mvCols (mvValsX l m x) "amount" = some (.int m.amount) := by simp [mvCols_eq, mvValsX, lookupIn]
theorem mvCol_insDate : lookupIn mvCols (mvValsX l m x) "insertion_date" = some (.ts m.insertionDate) := by simp [mvCols_eq, mvValsX, lookupIn]
theorem mvCol_effDate : lookupIn mvCols (mvValsX l m x) "effective_date" = some (.ts m.effectiveDate) := by simp [mvCols_eq, mvValsX, lookupIn]
theorem mvCol_pcv : lookupIn mvCols (mvValsX l m x) "post_commit_volumes" = some (volVal m.pcv) := by simp [mvCols_eq, mvValsX, lookupIn, volVal]
theorem mvCol_pcev : lookupIn mvCols (mvValsX l m x) "post_commit_effective_volumes" = some x := by simp [mvCols_eq, mvValsX, lookupIn]
theorem mvCol_isSource : lookupIn mvCols (mvValsX l m x) "is_source" = some (.bool m.isSource) := by simp [mvCols_eq, mvValsX, lookupIn]
end

/-- the environment in which a row trigger on `moves` evaluates a query over `moves`: the scanned row,
    then the PL variables (`found`), then NEW (values `nv`) -/
def trigEnvV (lm : String) (m : Spec.MoveRow) (nv : List Value) (found : Bool) (rest : List Scope)
    (src : Option (String × Nat) := none) : Env :=
  { locals := [{ alias := "moves", cols := mvCols, vals := mvVals lm m, src := src }],
    outer := [{ alias := "", cols := ["found"], vals := [.bool found] }, { alias := "new", cols := mvCols, vals := nv }] ++ rest }

def trigEnv (lm : String) (m : Spec.MoveRow) (ln : String) (n : Spec.MoveRow) (found : Bool) (rest : List Scope)
    (src : Option (String × Nat) := none) : Env := trigEnvV lm m (mvVals ln n) found rest src

theorem lookup_moves_colV (lm : String) (m : Spec.MoveRow) (nv : List Value) (found : Bool) (rest : List Scope) (c : String)
    (v : Value) (h : lookupIn mvCols (mvVals lm m) c = some v) (src : Option (String × Nat) := none) :
    lookupColumn (trigEnvV lm m nv found rest src) "" c = .ok v :=
  lookupColumn_head _ _ _ c v rfl h

theorem lookup_new_colV (lm : String) (m : Spec.MoveRow) (nv : List Value) (found : Bool) (rest : List Scope) (c : String)
    (v : Value) (h : lookupIn mvCols nv c = some v) (src : Option (String × Nat) := none) :
    lookupColumn (trigEnvV lm m nv found rest src) "new" c = .ok v :=
  lookupColumn_alias _ "new" c { alias := "new", cols := mvCols, vals := nv } v rfl (by rw [lastComponent_new]; rfl) h

/-- the environment of the PL body of a row trigger on `moves`: the PL variables, then NEW -/
def plEnvV (nv : List Value) (found : Bool) (rest : List Scope) : Env :=
  { locals := [],
    outer := [{ alias := "", cols := ["found"], vals := [.bool found] }, { alias := "new", cols := mvCols, vals := nv }] ++ rest }

def plEnv (ln : String) (n : Spec.MoveRow) (found : Bool) (rest : List Scope) : Env := plEnvV (mvVals ln n) found rest

theorem lookup_new_col_plV (nv : List Value) (found : Bool) (rest : List Scope) (c : String)
    (v : Value) (h : lookupIn mvCols nv c = some v) :
    lookupColumn (plEnvV nv found rest) "new" c = .ok v :=
  lookupColumn_alias _ "new" c { alias := "new", cols := mvCols, vals := nv } v rfl (by rw [lastComponent_new]; rfl) h

/-- `set_effective_volumes`, expression by expression (`setEffective_all` below), for ANY scanned row `m` (of ledger `lm`) and ANY
    NEW row `n` (of ledger `ln`):
    * the query is `SELECT item FROM moves WHERE wher ORDER BY effective_date DESC, seq DESC LIMIT 1`,
      wrapped in `coalesce(…, dflt)` and assigned to `new.post_commit_effective_volumes`;
    * `wher` holds iff `m` has NEW's account, asset and ledger and is strictly before NEW in
      (effective_date, seq) order — `Spec.MoveRow.before`;
    * `item` is `m`'s effective volumes plus NEW's delta; `dflt` is NEW's delta. -/
def setEffBody (item wher dflt_ : Expr) : List PlStmt :=
  [PlStmt.assign (PlTarget.field "new" "post_commit_effective_volumes")
    (Expr.call "" "coalesce" [Expr.subq (Query.mk [] (SetExpr.select (Select.mk false [] [SelItem.expr item ""] [FromItem.table "" "moves" ""] (some wher) [] none))
        [OrderItem.mk (Expr.col "" "effective_date") true NullsOrder.dflt, OrderItem.mk (Expr.col "" "seq") true NullsOrder.dflt]
        (some (Expr.int 1)) none LockMode.none), dflt_]),
   PlStmt.ret (some (Expr.col "" "new"))]

/-- what `wher`, `item` and `dflt` of `set_effective_volumes` mean, on ANY scanned row and ANY NEW row (whatever its
    `post_commit_effective_volumes`, which is what the trigger computes) -/
structure SetEffSem (item wher dflt_ : Expr) : Prop where
  hwher : ∀ (cb : Callbacks) (te : TypeEnv) (lm ln : String) (m n : Spec.MoveRow) (x : Value) (found : Bool) (rest : List Scope)
    (src : Option (String × Nat)) (s : St),
    (evalExpr cb te (trigEnvV lm m (mvValsX ln n x) found rest src) wher).exec s =
      (.ok (.bool (decide (m.account = n.account ∧ m.asset = n.asset ∧ lm = ln) && m.before n)), s)
  hitem : ∀ (cb : Callbacks) (te : TypeEnv) (lm ln : String) (m n : Spec.MoveRow) (x : Value) (found : Bool) (rest : List Scope)
    (src : Option (String × Nat)) (s : St),
    (evalExpr cb te (trigEnvV lm m (mvValsX ln n x) found rest src) item).exec s =
      (.ok (.row [] [.int (m.pcev.add n.delta).input, .int (m.pcev.add n.delta).output]), s)
  hdflt : ∀ (cb : Callbacks) (te : TypeEnv) (ln : String) (n : Spec.MoveRow) (x : Value) (found : Bool) (rest : List Scope) (s : St),
    (evalExpr cb te (plEnvV (mvValsX ln n x) found rest) dflt_).exec s =
      (.ok (.row [] [.int n.delta.input, .int n.delta.output]), s)
  hitemAgg : item.hasAgg = false
  hitemWin : Expr.winsList [item] = []
  /-- the output column of the query is named `row` (so `effective_date`, `seq` in ORDER BY are columns of `moves`) -/
  hnameE : exprOutName item = "row"

theorem delta_eq (n : Spec.MoveRow) :
    n.delta.input = (if n.isSource then 0 else n.amount) ∧ n.delta.output = (if n.isSource then n.amount else 0) := by
  unfold Spec.MoveRow.delta; cases n.isSource <;> exact ⟨rfl, rfl⟩

theorem add_input (v w : Volumes) : (v.add w).input = v.input + w.input := rfl
theorem add_output (v w : Volumes) : (v.add w).output = v.output + w.output := rfl

theorem ite_int (b : Prop) [Decidable b] (x y : Int) : (if b then Value.int x else Value.int y) = Value.int (if b then x else y) := by
  split <;> rfl

theorem rowField_volVal (v : Volumes) :
    rowField (volVal v) "inputs" = .ok (.int v.input) ∧ rowField (volVal v) "outputs" = .ok (.int v.output) := ⟨rfl, rfl⟩

set_option linter.unusedSimpArgs false in
theorem setEffective_all : ∃ (item wher dflt_ : Expr),
    Schema.fn_set_effective_volumes.body = setEffBody item wher dflt_ ∧ SetEffSem item wher dflt_ := by
  refine ⟨_, _, _, rfl, ⟨?_, ?_, ?_, by decide, by decide, by decide⟩⟩
  · intro cb te lm ln m n x found rest src
    have c := fun c v h => lookup_moves_colV lm m (mvValsX ln n x) found rest c v h src
    have nw := fun c v h => lookup_new_colV lm m (mvValsX ln n x) found rest c v h src
    refine Evals.of_pv _ ?_
    -- both directions of every comparison are listed: the text may write either
    simp only [pv, pv_ok, binV_ok, ne_eq, reduceCtorEq, not_false_eq_true,
      c _ _ (mvCol_account ..), c _ _ (mvCol_asset ..), c _ _ (mvCol_ledger ..), c _ _ (mvCol_effDate ..),
      c _ _ (mvCol_seq ..), nw _ _ (mvCol_account ..), nw _ _ (mvCol_asset ..), nw _ _ (mvCol_ledger ..), nw _ _ (mvCol_effDate ..),
      nw _ _ (mvCol_seq ..), evalBinop_eq_text, evalBinop_eq_ts, evalBinop_lt_ts, evalBinop_gt_ts, evalBinop_lt_int, evalBinop_gt_int]
    simp only [Spec.MoveRow.before, Int.ofNat_lt, Bool.decide_and, Bool.and_assoc, Bool.and_comm, Bool.and_left_comm, Bool.or_comm,
      eq_comm]
  · intro cb te lm ln m n x found rest src
    refine evals_pairRow ?_ ?_ <;>
      simp only [pv, pv_ok, binV_ok, ne_eq, reduceCtorEq, not_false_eq_true,
        lookup_moves_colV lm m _ found rest _ _ (mvCol_pcev ..) src, lookup_new_colV lm m _ found rest _ _ (mvCol_isSource ..) src,
        lookup_new_colV lm m _ found rest _ _ (mvCol_amount ..) src, rowField_volVal, ite_int, evalBinop_add_int, add_input, add_output,
        delta_eq, Int.add_comm]
  · intro cb te ln n x found rest
    refine evals_pairRow ?_ ?_ <;>
      simp only [pv, pv_ok, binV_ok, ne_eq, reduceCtorEq, not_false_eq_true, lookup_new_col_plV (mvValsX ln n x) found rest _ _ (mvCol_isSource ..),
        lookup_new_col_plV (mvValsX ln n x) found rest _ _ (mvCol_amount ..), ite_int, delta_eq]

/-- `update_effective_volumes`, expression by expression, for ANY target row `m` and ANY NEW row `n`:
    the body is `UPDATE moves SET post_commit_effective_volumes = setE WHERE wher` (no FROM, no
    RETURNING) followed by `RETURN new`; `wher` holds iff `m` has NEW's account, asset and ledger and a
    STRICTLY LATER effective date; `setE` is `m`'s effective volumes plus NEW's delta (`updateEffective_all` below). -/
def updEffBody (setE wher : Expr) : List PlStmt :=
  [PlStmt.exec (Stmt.update [] "" "moves" "" [SetItem.mk "post_commit_effective_volumes" setE] [] (some wher) []) [],
   PlStmt.ret (some (Expr.col "" "new"))]

/-- what `wher` and `setE` of `update_effective_volumes` mean, on ANY target row and ANY NEW row -/
structure UpdEffSem (setE wher : Expr) : Prop where
  hwher : ∀ (cb : Callbacks) (te : TypeEnv) (lm ln : String) (m n : Spec.MoveRow) (found : Bool) (rest : List Scope)
    (src : Option (String × Nat)) (s : St),
    (evalExpr cb te (trigEnv lm m ln n found rest src) wher).exec s =
      (.ok (.bool (decide (m.account = n.account ∧ m.asset = n.asset ∧ lm = ln ∧ n.effectiveDate < m.effectiveDate))), s)
  hset : ∀ (cb : Callbacks) (te : TypeEnv) (lm ln : String) (m n : Spec.MoveRow) (found : Bool) (rest : List Scope)
    (src : Option (String × Nat)) (s : St),
    (evalExpr cb te (trigEnv lm m ln n found rest src) setE).exec s =
      (.ok (.row [] [.int (m.pcev.add n.delta).input, .int (m.pcev.add n.delta).output]), s)
  notDflt : setE ≠ Expr.dflt

set_option linter.unusedSimpArgs false in
theorem updateEffective_all : ∃ (setE wher : Expr),
    Schema.fn_update_effective_volumes.body = updEffBody setE wher ∧ UpdEffSem setE wher := by
  refine ⟨_, _, rfl, ⟨?_, ?_, by intro h; cases h⟩⟩
  · intro cb te lm ln m n found rest src
    have c := fun c v h => lookup_moves_colV lm m (mvVals ln n) found rest c v h src
    have nw := fun c v h => lookup_new_colV lm m (mvVals ln n) found rest c v h src
    refine Evals.of_pv _ ?_
    simp only [pv, pv_ok, binV_ok, ne_eq, reduceCtorEq, not_false_eq_true,
      trigEnv, c _ _ (mvCol_account ..), c _ _ (mvCol_asset ..), c _ _ (mvCol_ledger ..), c _ _ (mvCol_effDate ..),
      nw _ _ (mvCol_account ..), nw _ _ (mvCol_asset ..), nw _ _ (mvCol_ledger ..), nw _ _ (mvCol_effDate ..),
      evalBinop_eq_text, evalBinop_lt_ts, evalBinop_gt_ts]
    simp only [Bool.decide_and, Bool.and_assoc, Bool.and_comm, Bool.and_left_comm, eq_comm]
  · intro cb te lm ln m n found rest src
    refine evals_pairRow ?_ ?_ <;>
      simp only [pv, pv_ok, binV_ok, ne_eq, reduceCtorEq, not_false_eq_true, trigEnv, lookup_moves_colV lm m _ found rest _ _ (mvCol_pcev ..) src,
        lookup_new_colV lm m (mvVals ln n) found rest _ _ (mvCol_isSource ..) src,
        lookup_new_colV lm m (mvVals ln n) found rest _ _ (mvCol_amount ..) src, rowField_volVal, ite_int, evalBinop_add_int, add_input,
        add_output, delta_eq, Int.add_comm]

end Ledger.Sql
