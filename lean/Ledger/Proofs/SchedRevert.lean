import Ledger.Proofs.SchedBasic
import Ledger.Proofs.SchedWalk

/-!
# C15: a transaction is reverted at most once, under any schedule

Ghost `World.revWins` records every revert UPDATE that answered `modified = true`
(live until its session commits or rolls back). Invariant: per (ledger, transaction)
at most one win exists, live or committed.
-/
namespace Ledger.Sched

/-- programs that only issue the revert UPDATE WITH its `reverted_at IS NULL` condition -/
def Guarded : Prog → Prop
  | .done _ => True
  | .stmt st k => (∀ l t, st ≠ .revertUpdate l t false) ∧ ∀ o, Guarded (k o)

def winsOf (w : World) (l tx : Nat) : List RevWin := w.revWins.filter (fun e => e.l = l && e.tx = tx)

structure RevInv (w : World) : Prop where
  /-- at most one win per transaction -/
  once : ∀ l tx, (winsOf w l tx).length ≤ 1
  /-- a live win owns the row with the reverted version -/
  live : ∀ e ∈ w.revWins, e.com = false → (w.rev e.l e.tx).own = some e.by_ ∧ (w.rev e.l e.tx).pen = some true
  /-- a committed win: the committed version is reverted and nobody owns the row -/
  done_ : ∀ e ∈ w.revWins, e.com = true → (w.rev e.l e.tx).com = some true ∧ (w.rev e.l e.tx).own = none
  /-- the reverted transaction exists -/
  tx_ : ∀ e ∈ w.revWins, ∃ t ∈ w.txs, t.l = e.l ∧ t.id = e.tx ∧ (t.com = true ∨ (e.com = false ∧ t.by_ = e.by_))

theorem winsOf_map (w : World) (f : RevWin → RevWin) (hf : ∀ e, (f e).l = e.l ∧ (f e).tx = e.tx) (l tx : Nat) :
    ((w.revWins.map f).filter (fun e => e.l = l && e.tx = tx)).length = (winsOf w l tx).length := by
  rw [List.filter_map, List.length_map]
  congr 1
  exact List.filter_congr fun e _ => by simp only [Function.comp, (hf e).1, (hf e).2]

theorem revInv_commit (w : World) (s : Sid) (h : RevInv w) : RevInv (w.commitTx s) := by
  have hk : ∀ e : RevWin, (if e.by_ = s then { e with com := true } else e).l = e.l ∧
      (if e.by_ = s then { e with com := true } else e).tx = e.tx := fun e => by split <;> exact ⟨rfl, rfl⟩
  refine ⟨fun l tx => ?_, ?_, ?_, ?_⟩
  · exact (winsOf_map w _ hk l tx).symm ▸ h.once l tx
  all_goals refine List.forall_mem_map.mpr fun e he => ?_
  all_goals rw [(hk e).1, (hk e).2]
  · intro hc
    have hs : e.by_ ≠ s := fun hs => by rw [if_pos hs] at hc; cases hc
    rw [if_neg hs] at hc ⊢
    have := h.live e he hc
    show ((w.rev e.l e.tx).commit s).own = _ ∧ ((w.rev e.l e.tx).commit s).pen = _
    rw [Row.commit_other this.1 hs]; exact this
  · intro hc'
    show ((w.rev e.l e.tx).commit s).com = _ ∧ ((w.rev e.l e.tx).commit s).own = _
    cases hc : e.com with
    | true => rw [Row.commit_free (h.done_ e he hc).2]; exact h.done_ e he hc
    | false =>
      obtain ⟨ho, hp⟩ := h.live e he hc
      have hs : e.by_ = s := Classical.byContradiction fun hs => by rw [if_neg hs, hc] at hc'; cases hc'
      rw [Row.commit_own (hs ▸ ho)]
      exact ⟨by simp [Row.latest, hp], rfl⟩
  · obtain ⟨t, ht, hl, hid, hcom⟩ := h.tx_ e he
    refine ⟨_, List.mem_map.mpr ⟨t, ht, rfl⟩, by split <;> exact hl, by split <;> exact hid, ?_⟩
    by_cases hts : t.by_ = s
    · exact Or.inl (by rw [if_pos hts])
    · rw [if_neg hts]
      refine hcom.imp id fun ⟨hc, hby⟩ => ?_
      rw [if_neg (hby ▸ hts)]; exact ⟨hc, hby⟩

theorem revInv_undo (w : World) (s : Sid) (b : Bool) (h : RevInv w) : RevInv (w.undo s b) := by
  refine ⟨fun l tx => ?_, fun e he hc => ?_, fun e he hc => ?_, fun e he => ?_⟩
  · exact Nat.le_trans (List.Sublist.filter _ List.filter_sublist).length_le (h.once l tx)
  all_goals obtain ⟨he, hkeep⟩ := List.mem_filter.mp he
  · have := h.live e he hc
    have hs : e.by_ ≠ s := by simpa [hc] using hkeep
    show ((w.rev e.l e.tx).abort s).own = _ ∧ ((w.rev e.l e.tx).abort s).pen = _
    rw [Row.abort_other this.1 hs]; exact this
  · have := h.done_ e he hc
    show ((w.rev e.l e.tx).abort s).com = _ ∧ ((w.rev e.l e.tx).abort s).own = _
    rw [Row.abort_free this.2]; exact this
  · obtain ⟨t, ht, hl, hid, hcom⟩ := h.tx_ e he
    refine ⟨t, List.mem_filter.mpr ⟨ht, ?_⟩, hl, hid, hcom⟩
    rcases hcom with hc | ⟨hc, hby⟩
    · simp [hc]
    · have : e.by_ ≠ s := by simpa [hc] using hkeep
      simp [hby, this]

theorem revInv_revert (w : World) (s : Sid) (l tx : Nat) (h : RevInv w)
    (hex : ∃ t ∈ w.txs, t.l = l ∧ t.id = tx ∧ visTx s t = true)
    (hcom : (w.rev l tx).com ≠ some true) (hlat : (w.rev l tx).latest = some false) :
    RevInv { w with
      rev := fun l' t' => if l' = l && t' = tx then { w.rev l tx with own := some s, pen := some true } else w.rev l' t'
      revWins := w.revWins ++ [{ l := l, tx := tx, by_ := s, com := false }] } := by
  -- no win exists yet: a committed one would have left the committed version reverted, a live one the latest
  have hno : ∀ e ∈ w.revWins, ¬ (decide (e.l = l) && decide (e.tx = tx)) = true := by
    intro e he hk
    simp only [Bool.and_eq_true, decide_eq_true_eq] at hk
    obtain ⟨rfl, rfl⟩ := hk
    cases hc : e.com with
    | true => exact hcom (h.done_ e he hc).1
    | false => rw [Row.latest, (h.live e he hc).2] at hlat; cases hlat
  refine ⟨fun l' tx' => ?_, fun e he hc => ?_, fun e he hc => ?_, fun e he => ?_⟩
  · show ((w.revWins ++ [_]).filter _).length ≤ 1
    rw [List.filter_append, List.length_append]
    by_cases hk : l = l' ∧ tx = tx'
    · obtain ⟨rfl, rfl⟩ := hk
      rw [List.filter_eq_nil_iff.mpr hno]
      exact Nat.le_trans (Nat.le_of_eq (Nat.zero_add _)) (List.length_filter_le _ _)
    · rw [List.filter_cons_of_neg (by simpa using hk)]
      exact h.once l' tx'
  all_goals rcases List.mem_append.mp he with he | he
  · dsimp only; rw [if_neg (hno e he)]; exact h.live e he hc
  · cases List.mem_singleton.mp he; simp
  · dsimp only; rw [if_neg (hno e he)]; exact h.done_ e he hc
  · cases List.mem_singleton.mp he; cases hc
  · exact h.tx_ e he
  · cases List.mem_singleton.mp he
    obtain ⟨t, ht, hl, hid, hv⟩ := hex
    simp only [visTx, Bool.or_eq_true, decide_eq_true_eq] at hv
    exact ⟨t, ht, hl, hid, hv.imp id fun hb => ⟨rfl, hb⟩⟩

theorem revInv_insTx (w : World) (s : Sid) (l ref : Nat) (id : Option Nat) (h : RevInv w)
    (h1 : w.txs.find? (fun t => t.l = l && t.id = id.getD (w.txSeq l + 1)) = none) :
    RevInv (w.afterInsTx s l ref id) := by
  -- no transaction (l, nid) exists, hence no win refers to it
  have hfresh : ∀ e ∈ w.revWins, ¬ ((decide (e.l = l) && decide (e.tx = id.getD (w.txSeq l + 1))) = true) := by
    intro e he hc
    simp only [Bool.and_eq_true, decide_eq_true_eq] at hc
    obtain ⟨t, ht, hl, hid, _⟩ := h.tx_ e he
    exact List.find?_eq_none.mp h1 t ht (by simp [hl.trans hc.1, hid.trans hc.2])
  refine ⟨h.once, fun e he hc => ?_, fun e he hc => ?_, fun e he => ?_⟩
  · dsimp only [World.afterInsTx]
    rw [if_neg (hfresh e he)]
    exact h.live e he hc
  · dsimp only [World.afterInsTx]
    rw [if_neg (hfresh e he)]
    exact h.done_ e he hc
  · obtain ⟨t, ht, hrest⟩ := h.tx_ e he
    exact ⟨t, List.mem_append_left _ ht, hrest⟩

def AllGuarded (w : World) : Prop := ∀ s, Guarded (w.sess s).prog

theorem revInv_step (w : World) (s : Sid) (hg : AllGuarded w) (h : RevInv w) : RevInv (step w s) :=
  have keep : ∀ w : World, RevInv w → ∀ σ, RevInv { w with sess := σ } := fun _ h _ => ⟨h.once, h.live, h.done_, h.tx_⟩
  step_inv (P := RevInv) h (fun w f h => keep w h _) (fun w h => keep w h _)
    (fun _ _ _ _ h => ⟨h.once, h.live, h.done_, h.tx_⟩)
    (revInv_commit w s h) (fun b => revInv_undo w s b h)
    (fun st k _ hp he => by
      cases he with
      | revert l tx g hex hfree hlat =>
        cases g with
        | true => exact revInv_revert w s l tx h hex (hlat rfl).1 (hlat rfl).2
        | false => have := hg s; rw [hp] at this; exact absurd rfl (this.1 l tx)
      | insTx l ref id h1 _ => exact revInv_insTx w s l ref id h h1
      | _ => exact ⟨h.once, h.live, h.done_, h.tx_⟩)

theorem allGuarded_step (w : World) (s : Sid) (hg : AllGuarded w) : AllGuarded (step w s) := by
  intro t
  by_cases hts : t = s
  · subst hts
    rcases step_prog_self w t with h | ⟨st, k, o, hp, hk⟩
    · rw [h]; exact hg t
    · rw [hk]
      have := hg t
      rw [hp] at this
      exact this.2 o
  · rw [(sameFor_step (Ne.symm hts) w).prog]; exact hg t

theorem revInv_run (σ : Schedule) (w : World) (hg : AllGuarded w) (h : RevInv w) : RevInv (run σ w) ∧ AllGuarded (run σ w) :=
  (run_inv₂ allGuarded_step revInv_step σ w hg h).symm

theorem Guarded.mk' {st : Stmt} {k : Out → Prog} (h1 : ∀ l t, st ≠ .revertUpdate l t false)
    (h2 : ∀ o, Guarded (k o)) : Guarded (.stmt st k) := ⟨h1, h2⟩

theorem guarded_done (r : Resp) : Guarded (.done r) := trivial

theorem guarded_walk : Walk (fun _ : Unit => Guarded) (fun _ st => ∀ l t, st ≠ .revertUpdate l t false)
    (fun _ _ _ => ()) (fun _ _ => True) :=
  ⟨fun _ _ _ h1 h2 => ⟨h1, fun o => h2 o trivial⟩⟩

abbrev BodyGuarded (body : Body) : Prop := BodyKeeps (fun _ : Unit => Guarded) (fun _ => True) body

theorem guarded_forgeLog (recheck : Bool) (ops : TxOps) (hops : ops = topTx ∨ ops = nestedTx) (l ik hash : Nat)
    (body : Body) (hb : BodyGuarded body) (fin : Resp → Prog) (hfin : ∀ r, Guarded (fin r)) :
    Guarded (forgeLogG recheck ops l ik hash body fin) :=
  walk_forgeLog guarded_walk (K := fun _ => True) recheck l ik hash
    (fun _ => by rcases hops with rfl | rfl <;> exact ⟨nofun, nofun, nofun⟩) (fun _ => nofun) (fun _ _ _ => trivial) hb
    (fun _ => hfin) (fun _ _ _ => trivial) ()

theorem guarded_onErr {st : Stmt} {fail : Err → Prog} {next : Out → Prog} (hst : ∀ l t, st ≠ .revertUpdate l t false)
    (hf : ∀ e, Guarded (fail e)) (hn : ∀ o, Guarded (next o)) :
    Guarded (.stmt st fun o => match o.err with | some e => fail e | none => next o) :=
  ⟨hst, fun o => by dsimp only; split; exact hf _; exact hn _⟩

theorem guarded_ite {c : Prop} [Decidable c] {a b : Prog} (ha : Guarded a) (hb : Guarded b) :
    Guarded (if c then a else b) := by
  split <;> assumption

theorem bodyGuarded_send (q : Send) : BodyGuarded (sendBody q) := by
  intro _ fail refuse succ _ hf hr hs
  have hf' := fun e => hf () e trivial
  unfold sendBody
  extract_lets onErr write
  have hwrite : Guarded write :=
    guarded_onErr nofun hf' fun _ => guarded_onErr nofun hf' fun o => guarded_onErr nofun hf' fun _ =>
      have hins := guarded_onErr (st := .insertLog q.l q.ik q.hash q.sync none (headNat o)) nofun hf'
        fun o' => hs () (headNat o) (headNat o') trivial
      guarded_ite (guarded_onErr nofun hf' fun _ => hins) hins
  exact guarded_ite hwrite (guarded_onErr nofun hf' fun o => guarded_ite hwrite (hr () _ trivial))

/-- after its first statement — the UPDATE, guarded by `hq` — `revertBody` issues no revert UPDATE -/
theorem bodyGuarded_revert (q : Revert) (hq : q.guarded = true) : BodyGuarded (revertBody q) := by
  intro _ fail refuse succ _ hf hr hs
  have hf' := fun e => hf () e trivial
  have hr' := fun r => hr () r trivial
  unfold revertBody
  extract_lets onErr ds
  refine guarded_onErr (fun l t h => by injection h with _ _ hg; rw [hq] at hg; cases hg) hf' fun o =>
    guarded_ite (hr' _) (guarded_ite (hr' _) (guarded_onErr nofun hf' fun ob => guarded_ite (hr' _)
      (guarded_onErr nofun hf' fun _ => guarded_onErr nofun hf' fun o => ?_)))
  have hins := guarded_onErr (st := .insertLog q.l q.ik q.hash q.sync none (headNat o)) nofun hf'
    fun o' => hs () (headNat o) (headNat o') trivial
  exact guarded_ite (guarded_onErr nofun hf' fun _ => hins) hins

theorem guarded_handleState (l : Nat) (inUse : Bool) (inner : TxOps → (Resp → Prog) → Prog)
    (hin : ∀ ops, (ops = topTx ∨ ops = nestedTx) → ∀ fin, (∀ r, Guarded (fin r)) → Guarded (inner ops fin)) :
    Guarded (handleState l inUse inner) := by
  unfold handleState guardErr
  have hbail : ∀ e, Guarded (.stmt .rollback fun _ => .done { err := errName e }) := fun e => ⟨nofun, fun _ => trivial⟩
  refine guarded_ite (hin topTx (Or.inl rfl) _ fun _ => trivial) ⟨nofun, fun _ => ?_⟩
  refine guarded_onErr nofun hbail fun _ => guarded_onErr nofun hbail fun o => ?_
  have hrest := hin nestedTx (Or.inr rfl)
    (fun r => if r.err = "" then .stmt .commit fun _ => .done r else .stmt .rollback fun _ => .done r)
    fun r => guarded_ite ⟨nofun, fun _ => trivial⟩ ⟨nofun, fun _ => trivial⟩
  exact guarded_ite ⟨nofun, fun _ => ⟨nofun, fun _ => hrest⟩⟩ hrest

theorem guarded_revertProg (q : Revert) (hq : q.guarded = true) (inUse : Bool) : Guarded (revertProg q inUse) := by
  unfold revertProg
  apply guarded_handleState
  intro ops hops fin hfin
  exact guarded_forgeLog true ops hops _ _ _ _ (bodyGuarded_revert q hq) fin hfin

theorem guarded_sendProg (q : Send) (inUse : Bool) : Guarded (sendProg q inUse) := by
  unfold sendProg
  apply guarded_handleState
  intro ops hops fin hfin
  exact guarded_forgeLog true ops hops _ _ _ _ (bodyGuarded_send q) fin hfin

end Ledger.Sched
