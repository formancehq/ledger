import Ledger.Proofs.MachineTx
import Std.Data.String.ToNat
import Ledger.Proofs.Decimal

/-! C25: the variables `va{i}` / `vm{j}` that `TxToScriptData` generates resolve to the
    accounts / monetaries they were generated for (`TxBound`), whenever the run gets
    past variable resolution. String formatting / parsing round trips. -/
namespace Ledger.Machine

theorem accVar_inj {i j : Nat} (h : accVar i = accVar j) : i = j := by
  unfold accVar at h
  exact Nat.repr_injective ((String.append_right_inj "va").mp h)

theorem monVar_inj {i j : Nat} (h : monVar i = monVar j) : i = j := by
  unfold monVar at h
  exact Nat.repr_injective ((String.append_right_inj "vm").mp h)

theorem accVar_ne_monVar (i j : Nat) : accVar i ≠ monVar j := by
  intro h
  have := congrArg String.toList h
  simp only [accVar, monVar, String.toList_append] at this
  have e1 : "va".toList = ['v', 'a'] := rfl
  have e2 : "vm".toList = ['v', 'm'] := rfl
  rw [e1, e2] at this
  simp at this

theorem isDigit_of_Char_isDigit {c : Char} (h : c.isDigit = true) : isDigit c = true := by
  simp only [Char.isDigit, Bool.and_eq_true, decide_eq_true_eq] at h
  simp only [isDigit, Bool.and_eq_true, decide_eq_true_eq]
  exact ⟨h.1, h.2⟩

theorem digitsVal_eq_ofDigitChars (l : List Char) : digitsVal l = Nat.ofDigitChars 10 l 0 := by
  rw [Nat.ofDigitChars_eq_foldl]
  unfold digitsVal
  congr 1
  funext acc c
  rw [Nat.mul_comm]

theorem digitsVal_repr (n : Nat) : digitsVal (Nat.repr n).toList = n := by
  rw [Nat.toList_repr, digitsVal_eq_ofDigitChars, Nat.ofDigitChars_ten_toDigits]

theorem repr_allDigits (n : Nat) : allDigits (Nat.repr n).toList = true := by
  obtain ⟨c, rest, e, _⟩ := Decimal.toDigits_head n
  rw [Nat.toList_repr]
  simp only [allDigits, Bool.and_eq_true, Bool.not_eq_true', List.all_eq_true]
  exact ⟨by rw [e]; rfl, fun c hc => isDigit_of_Char_isDigit (Decimal.isDigit_of_mem_toDigits hc)⟩

theorem parseDigitsInt_repr (n : Nat) :
    parseDigitsInt false (Nat.repr n).toList = some (n : Int) ∧
    parseDigitsInt true (Nat.repr n).toList = some (-(n : Int)) := by
  have ha := repr_allDigits n
  have hv := digitsVal_repr n
  constructor <;> simp only [parseDigitsInt, ha, digitsNat, hv] <;> simp

theorem parseBigInt10_nat (n : Nat) : parseBigInt10 (Nat.repr n).toList = some (n : Int) := by
  have hp := (parseDigitsInt_repr n).1
  -- the text starts with a digit, so with no sign
  obtain ⟨c, rest, e, hd, _⟩ := Decimal.toDigits_head n
  rw [Nat.toList_repr, e] at hp ⊢
  unfold parseBigInt10
  split
  · rename_i r heq; cases heq; cases hd
  · rename_i r heq; cases heq; cases hd
  · exact hp

theorem parseBigInt10_int (v : Int) : parseBigInt10 (toString v).toList = some v := by
  cases v with
  | ofNat n => exact parseBigInt10_nat n
  | negSucc m =>
    have h := (parseDigitsInt_repr (m + 1)).2
    rw [Nat.toList_repr] at h
    rw [Decimal.toString_int_toList]
    exact h

theorem parseDigitsInt_noSpace {neg : Bool} {ds : List Char} {v : Int}
    (h : parseDigitsInt neg ds = some v) : ' ' ∉ ds := by
  unfold parseDigitsInt at h
  split at h
  · cases h
  · rename_i hd
    intro hm
    have hd' : allDigits ds = true := by simpa using hd
    simp only [allDigits, Bool.and_eq_true, List.all_eq_true] at hd'
    have := hd'.2 ' ' hm
    revert this; decide

theorem parseBigInt10_noSpace {cs : List Char} {v : Int} (h : parseBigInt10 cs = some v) : ' ' ∉ cs := by
  unfold parseBigInt10 at h
  split at h
  · intro hm
    rcases List.mem_cons.mp hm with hm | hm
    · revert hm; decide
    · exact parseDigitsInt_noSpace h hm
  · intro hm
    rcases List.mem_cons.mp hm with hm | hm
    · revert hm; decide
    · exact parseDigitsInt_noSpace h hm
  · exact parseDigitsInt_noSpace h

/-! ### `strings.SplitN(data, " ", 2)` -/

theorem splitFirstSpace_append (a d : List Char) :
    ∀ x y, splitFirstSpace (a ++ ' ' :: d) = some (x, y) → (x = a ∧ y = d) ∨ ' ' ∈ y := by
  induction a with
  | nil =>
    intro x y h
    simp only [List.nil_append, splitFirstSpace, if_true] at h
    cases h; exact Or.inl ⟨rfl, rfl⟩
  | cons c cs ih =>
    intro x y h
    simp only [List.cons_append, splitFirstSpace] at h
    split at h
    · cases h
      right
      simp
    · cases hs' : splitFirstSpace (cs ++ ' ' :: d) with
      | none => simp [hs'] at h
      | some ab =>
        obtain ⟨a', b'⟩ := ab
        simp only [hs'] at h
        have i0 := ih a' b' hs'
        cases h
        rcases i0 with ⟨rfl, rfl⟩ | hm
        · exact Or.inl ⟨rfl, rfl⟩
        · exact Or.inr hm

/-- The value `TxToScriptData` writes for a monetary variable parses back to it. -/
theorem parseValue_monetary_roundtrip {cfg : Cfg} {asset : String} {amt : Int} {v : Value}
    (h : parseValue cfg .monetary (asset ++ " " ++ toString amt) = .val v) :
    v = .monetary asset (some amt) := by
  unfold parseValue at h
  simp only at h
  have e : (asset ++ " " ++ toString amt).toList = asset.toList ++ ' ' :: (toString amt).toList := by
    rw [String.toList_append, String.toList_append]
    have : " ".toList = [' '] := rfl
    rw [this]; simp
  rw [e] at h
  split at h
  · cases h
  · rename_i a y hs
    split at h
    · cases h
    · rename_i w hw
      rcases splitFirstSpace_append _ _ a y hs with ⟨rfl, rfl⟩ | hm
      · rw [parseBigInt10_int] at hw
        cases hw
        split at h
        · cases h
        · split at h
          · cases h
          · cases h
            simp [String.ofList_toList]
      · exact absurd hm (parseBigInt10_noSpace hw)

theorem parseValue_account_roundtrip {cfg : Cfg} {a : String} {v : Value}
    (h : parseValue cfg .account a = .val v) : v = .account a := by
  unfold parseValue at h
  simp only at h
  split at h <;> cases h
  rfl

theorem insertSorted_perm (x : String) (l : List String) : (insertSorted x l).Perm (x :: l) := by
  induction l with
  | nil => exact List.Perm.refl _
  | cons y ys ih =>
    simp only [insertSorted]
    split
    · exact List.Perm.refl _
    · exact (List.Perm.cons y ih).trans (List.Perm.swap x y ys)

theorem sortStrings_perm (l : List String) : (sortStrings l).Perm l := by
  induction l with
  | nil => exact List.Perm.refl _
  | cons x xs ih =>
    simp only [sortStrings, List.foldr_cons]
    exact (insertSorted_perm x _).trans (List.Perm.cons x ih)

def AllPlain (ds : List VarDecl) : Prop := ∀ d ∈ ds, d.orig = .none ∨ False

theorem isPlainDecl {d : VarDecl} (h : d.orig = Origin.none) : isPlain d = true := by
  simp [isPlain, h]

theorem resolveVars_plain (cfg : Cfg) (inp : Input) (plain : List (String × Parsed)) :
    (ds : List VarDecl) → (∀ d ∈ ds, d.orig = Origin.none) → (env : Env) → (bvs : List BalVar) →
    (env' : Env) → (bvs' : List BalVar) → resolveVars cfg inp plain ds env bvs = .ok (env', bvs') →
    bvs' = bvs ∧ ∃ added : Env, env' = env ++ added ∧ added.map (·.1) = ds.map (·.name) ∧
      ∀ kv ∈ added, plain.lookup kv.1 = some (.val kv.2)
  | [], _, env, bvs, env', bvs', h => by
    simp only [resolveVars] at h; cases h
    exact ⟨rfl, [], by simp, rfl, by intro kv hkv; cases hkv⟩
  | d :: ds, hp, env, bvs, env', bvs', h => by
    have hd : d.orig = Origin.none := hp d (by simp)
    simp only [resolveVars, hd] at h
    split at h
    · rename_i v hl
      obtain ⟨r1, added, r2, r3, r4⟩ := resolveVars_plain cfg inp plain ds
        (fun x hx => hp x (by simp [hx])) _ bvs env' bvs' h
      refine ⟨r1, (d.name, v) :: added, by rw [r2]; simp, by simp [r3], ?_⟩
      intro kv hkv
      rcases List.mem_cons.mp hkv with rfl | hkv
      · exact hl
      · exact r4 kv hkv
    · cases h
    · cases h

/-- With plain declarations only: the environment binds each variable (names distinct) to its
    parsed value, and the tracked pairs are the needed ones, read from the store. -/
theorem prepare_plain {cfg : Cfg} {s : Script} {inp : Input} {env : Env} {bal : Balances}
    {pairs : List (String × String)} (h : prepare cfg s inp = .ok (env, bal, pairs))
    (hp : ∀ d ∈ s.vars, d.orig = Origin.none) :
    ((s.vars.map (·.name)).Nodup → ∀ d ∈ s.vars, ∃ data v, inp.vars.lookup d.name = some data ∧
      parseValue cfg d.ty data = .val v ∧ env.lookup d.name = some v) ∧
    ∃ needed, neededPairs env s.stmts = .ok needed ∧
      ∀ pr ∈ needed, pr.1 ≠ "world" ∧ bal.get pr.1 pr.2 = some (inp.balance pr.1 pr.2) := by
  obtain ⟨plain, env0, bvs, needed, live, hps, hrv, hneeded, hworld, hl, _, rfl, rfl, rfl⟩ :=
    prepare_inv h
  obtain ⟨rfl, _, rfl, hnames, hvals⟩ := resolveVars_plain cfg inp plain s.vars hp [] [] env0 bvs hrv
  -- no `balance()` variable: the environment is the one `resolveVars` built
  have : live = [] := by rw [hl]; split <;> rfl
  subst this
  refine ⟨fun hn d hd => ?_, needed, hneeded, fun pr hpr =>
    ⟨hworld pr hpr, if_pos (List.any_eq_true.mpr ⟨pr, hpr, by simp⟩)⟩⟩
  obtain ⟨kv, hkv, hk1⟩ := List.mem_map.mp
    (show d.name ∈ env0.map (·.1) from hnames ▸ List.mem_map.mpr ⟨d, hd, rfl⟩)
  obtain ⟨d', hd', hname, data, hdata, hpv⟩ :=
    parsePlainVars_lookup cfg inp.vars s.vars _ hps kv.1 _ (hvals kv hkv)
  -- `d' = d`: names are distinct
  cases decl_unique s.vars hn d d' hd hd' (by rw [hname, hk1])
  exact ⟨data, kv.2, hk1 ▸ hdata, hpv.symm, hk1 ▸ lookup_of_nodup env0 (hnames ▸ hn) kv hkv⟩

/-- The generated names are distinct: behind the lookups in `txVars` and in the declarations
    of `txScript`. -/
theorem txNames_nodup (n m : Nat) :
    ((List.range n).map accVar ++ (List.range m).map monVar).Nodup := by
  rw [List.nodup_append]
  refine ⟨List.Pairwise.map accVar (fun a b hab h => hab (accVar_inj h)) List.nodup_range,
    List.Pairwise.map monVar (fun a b hab h => hab (monVar_inj h)) List.nodup_range, ?_⟩
  intro a ha b hb hab
  obtain ⟨i, _, rfl⟩ := List.mem_map.mp ha
  obtain ⟨j, _, rfl⟩ := List.mem_map.mp hb
  exact accVar_ne_monVar i j hab

theorem zipIdx_keys {α : Type} (l : List α) (f : Nat → String) (g : α → String) :
    (l.zipIdx.map (fun x => (f x.2, g x.1))).map (·.1) = (List.range l.length).map f := by
  rw [List.range_eq_range', ← List.zipIdx_map_snd 0 l, List.map_map, List.map_map]; rfl

theorem txVars_nodup (ps : List TxPosting) : ((txVars ps).map (·.1)).Nodup := by
  have := txNames_nodup (txAccounts ps []).length (txMons ps []).length
  rw [← zipIdx_keys _ accVar id,
    ← zipIdx_keys _ monVar (fun m : String × Int => m.1 ++ " " ++ toString m.2)] at this
  simpa [txVars] using this

theorem txVars_acc (ps : List TxPosting) (k : Nat) (h : k < (txAccounts ps []).length) :
    (txVars ps).lookup (accVar k) = some (txAccounts ps [])[k] :=
  lookup_of_nodup _ (txVars_nodup ps) (accVar k, (txAccounts ps [])[k]) (List.mem_append_left _
    (List.mem_map.mpr ⟨((txAccounts ps [])[k], k), List.mk_mem_zipIdx_iff_getElem?.mpr (by simp [h]), rfl⟩))

theorem txVars_mon (ps : List TxPosting) (j : Nat) (h : j < (txMons ps []).length) :
    (txVars ps).lookup (monVar j) =
      some ((txMons ps [])[j].1 ++ " " ++ toString (txMons ps [])[j].2) :=
  lookup_of_nodup _ (txVars_nodup ps) (monVar j, _) (List.mem_append_right _
    (List.mem_map.mpr ⟨((txMons ps [])[j], j), List.mk_mem_zipIdx_iff_getElem?.mpr (by simp [h]), rfl⟩))

theorem mem_insertNew (xs : List String) (x y : String) : y ∈ insertNew xs x ↔ y ∈ xs ∨ y = x := by
  unfold insertNew
  split
  · rename_i hc
    have : x ∈ xs := by simpa using hc
    constructor
    · exact Or.inl
    · rintro (h | rfl)
      · exact h
      · exact this
  · simp

theorem txAccounts_mono (ps : List TxPosting) (acc : List String) (a : String) (h : a ∈ acc) :
    a ∈ txAccounts ps acc := by
  induction ps generalizing acc with
  | nil => exact h
  | cons p ps ih =>
    simp only [txAccounts]
    apply ih
    split <;> split <;> simp [mem_insertNew, h]

theorem txAccounts_mem (ps : List TxPosting) (acc : List String) (p : TxPosting) (hp : p ∈ ps) :
    (p.source ≠ "world" → p.source ∈ txAccounts ps acc) ∧
    (p.destination ≠ "world" → p.destination ∈ txAccounts ps acc) := by
  induction ps generalizing acc with
  | nil => cases hp
  | cons q qs ih =>
    simp only [txAccounts]
    rcases List.mem_cons.mp hp with rfl | hq
    · constructor
      · intro hs
        apply txAccounts_mono
        simp only [hs, if_false]
        split <;> simp [mem_insertNew]
      · intro hd
        apply txAccounts_mono
        simp only [hd, if_false]
        simp [mem_insertNew]
    · exact ih _ hq

theorem txMons_mono (ps : List TxPosting) (acc : List (String × Int)) (m : String × Int) (h : m ∈ acc) :
    m ∈ txMons ps acc := by
  induction ps generalizing acc with
  | nil => exact h
  | cons p ps ih =>
    simp only [txMons]
    split
    · exact ih acc h
    · exact ih _ (by simp [h])

theorem txMons_mem (ps : List TxPosting) (acc : List (String × Int)) (p : TxPosting) (hp : p ∈ ps) :
    (p.asset, p.amount) ∈ txMons ps acc := by
  induction ps generalizing acc with
  | nil => cases hp
  | cons q qs ih =>
    simp only [txMons]
    rcases List.mem_cons.mp hp with rfl | hq
    · split
      · rename_i hany
        apply txMons_mono
        simp only [List.any_eq_true, decide_eq_true_eq] at hany
        obtain ⟨m, hm, h1, h2⟩ := hany
        have : m = (p.asset, p.amount) := by cases m; simp_all
        rw [← this]; exact hm
      · apply txMons_mono; simp
    · split
      · exact ih acc hq
      · exact ih _ hq

theorem findIdx_spec {α : Type} (p : α → Bool) (xs : List α) {x : α} (hx : x ∈ xs) (hp : p x = true) :
    ∃ hlt : xs.findIdx p < xs.length, p xs[xs.findIdx p] = true :=
  ⟨List.findIdx_lt_length.mpr ⟨x, hx, hp⟩, List.findIdx_getElem⟩

theorem indexOfStr_spec (xs : List String) (x : String) (h : x ∈ xs) :
    ∃ hlt : indexOfStr xs x < xs.length, xs[indexOfStr xs x] = x := by
  obtain ⟨hlt, hp⟩ := findIdx_spec (· = x) xs h (decide_eq_true rfl)
  exact ⟨hlt, of_decide_eq_true hp⟩

theorem indexOfMon_spec (xs : List (String × Int)) (a : String) (v : Int) (h : (a, v) ∈ xs) :
    ∃ hlt : indexOfMon xs a v < xs.length, xs[indexOfMon xs a v] = (a, v) := by
  obtain ⟨hlt, hp⟩ := findIdx_spec (fun m => m.1 = a ∧ m.2 = v) xs h (decide_eq_true ⟨rfl, rfl⟩)
  exact ⟨hlt, Prod.ext (of_decide_eq_true hp).1 (of_decide_eq_true hp).2⟩

theorem txScript_plain (ps : List TxPosting) (force : Bool) :
    ∀ d ∈ (txScript ps force).vars, d.orig = Origin.none := by
  intro d hd
  simp only [txScript, List.mem_append, List.mem_map] at hd
  rcases hd with ⟨n, _, rfl⟩ | ⟨n, _, rfl⟩ <;> rfl

theorem txScript_names (ps : List TxPosting) (force : Bool) :
    ((txScript ps force).vars.map (·.name)).Perm
      ((List.range (txAccounts ps []).length).map accVar ++ (List.range (txMons ps []).length).map monVar) := by
  simp only [txScript, List.map_append, List.map_map]
  have e1 : ((fun x : VarDecl => x.name) ∘ fun n => (⟨.account, n, .none⟩ : VarDecl)) = id := by funext n; rfl
  have e2 : ((fun x : VarDecl => x.name) ∘ fun n => (⟨.monetary, n, .none⟩ : VarDecl)) = id := by funext n; rfl
  rw [e1, e2, List.map_id, List.map_id]
  exact List.Perm.append (sortStrings_perm _) (sortStrings_perm _)

theorem txScript_nodup (ps : List TxPosting) (force : Bool) :
    ((txScript ps force).vars.map (·.name)).Nodup :=
  (txScript_names ps force).nodup_iff.mpr (txNames_nodup _ _)

theorem txScript_accDecl (ps : List TxPosting) (force : Bool) (k : Nat) (h : k < (txAccounts ps []).length) :
    (⟨.account, accVar k, .none⟩ : VarDecl) ∈ (txScript ps force).vars := by
  simp only [txScript, List.mem_append, List.mem_map]
  left
  refine ⟨accVar k, ?_, rfl⟩
  rw [(sortStrings_perm _).mem_iff]
  exact List.mem_map.mpr ⟨k, List.mem_range.mpr h, rfl⟩

theorem txScript_monDecl (ps : List TxPosting) (force : Bool) (j : Nat) (h : j < (txMons ps []).length) :
    (⟨.monetary, monVar j, .none⟩ : VarDecl) ∈ (txScript ps force).vars := by
  simp only [txScript, List.mem_append, List.mem_map]
  right
  refine ⟨monVar j, ?_, rfl⟩
  rw [(sortStrings_perm _).mem_iff]
  exact List.mem_map.mpr ⟨j, List.mem_range.mpr h, rfl⟩

theorem txBound_of_prepare {cfg : Cfg} {ps : List TxPosting} {force : Bool} {inp : Input}
    (hv : inp.vars = txVars ps) {env : Env} {bal : Balances} {pairs : List (String × String)}
    (h : prepare cfg (txScript ps force) inp = .ok (env, bal, pairs)) :
    ∀ p ∈ ps, TxBound env (txAccounts ps []) (txMons ps []) p := by
  have hplain := (prepare_plain h (txScript_plain ps force)).1 (txScript_nodup ps force)
  have hacc : ∀ a, (a ≠ "world" → a ∈ txAccounts ps []) →
      evalExpr env (txAccE (txAccounts ps []) a) = .ok (.account a) := by
    intro a ha
    rw [txAccE]
    split
    next hw => rw [hw]; rfl
    next hw =>
    obtain ⟨hlt, hget⟩ := indexOfStr_spec _ a (ha hw)
    obtain ⟨data, v, h1, h2, h3⟩ := hplain _ (txScript_accDecl ps force _ hlt)
    simp only at h1 h2 h3
    rw [hv, txVars_acc ps _ hlt] at h1
    cases h1
    rw [parseValue_account_roundtrip h2, hget] at h3
    simp [evalExpr, h3]
  intro p hp
  obtain ⟨ms, md⟩ := txAccounts_mem ps [] p hp
  refine ⟨?_, rfl, hacc _ ms, hacc _ md⟩
  obtain ⟨hlt, hget⟩ := indexOfMon_spec _ p.asset p.amount (txMons_mem ps [] p hp)
  obtain ⟨data, w, h1, h2, h3⟩ := hplain _ (txScript_monDecl ps force _ hlt)
  simp only at h1 h2 h3
  rw [hv, txVars_mon ps _ hlt] at h1
  cases h1
  rw [hget] at h2
  rw [parseValue_monetary_roundtrip h2] at h3
  simp [evalExpr, h3]

end Ledger.Machine
