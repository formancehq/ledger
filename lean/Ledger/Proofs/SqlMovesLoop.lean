import Ledger.Proofs.SqlMovesInsert
open Ledger Ledger.Sql Ledger.Generated Ledger.Core
namespace Ledger.Sql
open Ledger.Spec

/-- the typed table after a multi-row insert into `moves` -/
def insTbl (ln : String) : List (String × Spec.MoveRow) → List Spec.MoveRow → List (String × Spec.MoveRow)
  | tbl, [] => tbl
  | tbl, m :: ms => insTbl ln ((ln, withPcev tbl ln m) :: tbl) ms

/-- the rows as inserted (with their effective volumes) -/
def insNew (ln : String) : List (String × Spec.MoveRow) → List Spec.MoveRow → List Spec.MoveRow
  | _, [] => []
  | tbl, m :: ms => withPcev tbl ln m :: insNew ln ((ln, withPcev tbl ln m) :: tbl) ms

def SeqFrom : Int → List Spec.MoveRow → Prop
  | _, [] => True
  | v, m :: ms => (m.seq : Int) = v ∧ SeqFrom (v + 1) ms

def seqsRun (full : String) : Int → List Seq → List Spec.MoveRow → List Seq
  | _, seqs, [] => seqs
  | v, seqs, _ :: ms => seqsRun full (v + 1) (seqsSet full v seqs) ms

def insAcc : DmlAcc → List Spec.MoveRow → DmlAcc
  | acc, [] => acc
  | acc, m :: ms =>
    insAcc (DmlAcc.mk ["post_commit_volumes", "post_commit_effective_volumes"] (acc.retRows ++ [retOf m]) (acc.affected + 1)) ms


/-- the row loop of `INSERT INTO moves` on stored rows: the view becomes `insTbl`, the rows `insNew` are returned and queued -/
theorem exec_insertLoop_moves (p : Nat) (env : Env) (b ln : String) (trigs : List TriggerDef)
    (B1 B2 : List TriggerDef) (trB : TriggerDef) (A1 A2 : List TriggerDef) (trA : TriggerDef) (item wher dflt_ : Expr) (fB : PlFunc)
    (s0 : St) (hs0 : TxState s0) (hcid : s0.cid < s0.nextCid)
    (hst : MvStatic s0.w.funcs s0.w.types b ln trigs B1 B2 trB A1 A2 trA item wher dflt_ fB)
    (T0 : Table) (hT0 : s0.w.table? (mvFull b) = some T0) :
    ∀ (pm : List (WriteSql.P.MoveRow × Spec.MoveRow)), (∀ x ∈ pm, MvLit s0.w.types x.1 x.2) →
    ∀ (nr : Nat) (rows : List Ver) (seqs : List Seq) (k : Nat) (acc : DmlAcc) (Q : List PendingTrig)
      (sq : Seq), seqs.find? (·.name == mvSeqFull b) = some sq → SeqFrom sq.next (pm.map (·.2)) →
      sq.next + pm.length ≤ 9223372036854775808 → s0.nextCid + k + 2 * pm.length ≤ 1000000000 →
      MvStored (latestView s0.w s0.xid) s0.xid (s0.nextCid + k) nr sq.next rows →
      ∃ rows', ((pm.map (fun x => mvSrcRow x.1 ln)).foldlM (fun acc sr =>
            insertRowStep (p + 12) env (mvFull b) "moves" "" mvInsertCols none mvReturning sr acc) acc).exec
            ((((s0.withSeqs seqs).bump k).withTable ((mvT b trigs nr).withRows rows)).addQ Q) =
          (.ok (insAcc acc (insNew ln (mvAbs (latestView s0.w s0.xid) rows) (pm.map (·.2)))),
           ((((s0.withSeqs (seqsRun (mvSeqFull b) sq.next seqs (pm.map (·.2)))).bump (k + 2 * pm.length)).withTable
              ((mvT b trigs (nr + pm.length)).withRows rows')).addQ
              (Q ++ (insNew ln (mvAbs (latestView s0.w s0.xid) rows) (pm.map (·.2))).map (pendingOf trA.fname (mvFull b) ln)))) ∧
        MvStored (latestView s0.w s0.xid) s0.xid (s0.nextCid + k + 2 * pm.length) (nr + pm.length) (sq.next + pm.length) rows' ∧
        mvAbs (latestView s0.w s0.xid) rows' = insTbl ln (mvAbs (latestView s0.w s0.xid) rows) (pm.map (·.2)) := by
  intro pm
  induction pm with
  | nil =>
    intro _ nr rows seqs k acc Q sq _ _ _ _ h
    exact ⟨rows, by simp [insAcc, insNew, seqsRun], by simpa using h, rfl⟩
  | cons x pm' ih =>
    intro hlits nr rows seqs k acc Q sq hsq hsf hrange hnc hS
    obtain ⟨r, m⟩ := x
    simp only [List.map_cons] at hsf ⊢
    obtain ⟨hseq, hsf'⟩ := hsf
    simp only [List.length_cons] at hrange hnc ⊢
    obtain ⟨rows1, hstep, hS1, hview1⟩ := exec_insertRowStep_moves p env b ln trigs B1 B2 trB A1 A2 trA item wher dflt_ fB
      ((((s0.withSeqs seqs).bump k).withTable ((mvT b trigs nr).withRows rows)).addQ Q)
      ((((hs0.withSeqs seqs).bump k).withTable _).addQ Q) (by simp; omega) (by simp; omega)
      (by simpa using hst) nr rows (withTable_table? ((s0.withSeqs seqs).bump k) T0 _ hT0) sq (by simpa using hsq) r m
      (by simpa using hlits (r, m) (by simp)) hseq (by omega) (by simpa using hS) acc
    simp only [addQ_w, withTable_seqs, bump_w, withSeqs_seqs, addQ_xid, withTable_xid, bump_xid, withSeqs_xid, addQ_nextCid,
      withTable_nextCid, bump_nextCid, withSeqs_nextCid, withTable_latestView, withSeqs_latestView] at hstep hS1 hview1
    -- the state after the step, in the form the loop keeps it in
    rw [withSeqs_comm_addQ, withSeqs_comm_table, withSeqs_comm_bump, withSeqs_withSeqs, bump_comm_addQ, bump_comm_table, bump_bump,
      addQ_withTable, withTable_withTable _ _ _ (by rfl), addQ_addQ] at hstep
    have hnext : ({ sq with last := sq.next, called := true } : Seq).next = sq.next + 1 := by simp [Seq.next]
    obtain ⟨rows', hex, hS', hview'⟩ := ih (fun y hy => hlits y (by simp [hy])) (nr + 1) rows1 (seqsSet (mvSeqFull b) sq.next seqs) (k + 2)
      _ _ { sq with last := sq.next, called := true } (find_seqsSet _ _ seqs sq hsq) (by rw [hnext]; exact hsf') (by rw [hnext]; omega)
      (by omega) (by rw [hnext, ← Nat.add_assoc]; exact hS1)
    rw [hnext] at hex hS'
    rw [hview1] at hex hview'
    refine ⟨rows', ?_, ?_, by simpa [insTbl] using hview'⟩
    · simp only [exec_foldlM_cons, hstep]
      refine hex.trans ?_
      simp [insAcc, insNew, seqsRun, List.append_assoc, Nat.add_assoc, Nat.mul_add, Nat.add_comm, Nat.add_left_comm]
    · have e1 : s0.nextCid + (k + 2) + 2 * pm'.length = s0.nextCid + k + 2 * (pm'.length + 1) := by omega
      have e2 : nr + 1 + pm'.length = nr + (pm'.length + 1) := by omega
      have e3 : sq.next + 1 + (pm'.length : Int) = sq.next + ((pm'.length + 1 : Nat) : Int) := by omega
      rw [e1, e2, e3] at hS'
      exact hS'

end Ledger.Sql
