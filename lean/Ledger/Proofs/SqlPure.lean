import Ledger.Proofs.SqlMonad
import Ledger.Proofs.SqlValues
import Ledger.Proofs.ListBasic

/-!
# Expressions without effect: `Evals`, and the value `pv` of an expression without sub-queries and user functions

`Evals cb te env e v`: the evaluator returns `v` for `e` and leaves the state alone. The way to establish it is `pv`.
* `pv te env e`: `evalExpr` runs in the statement monad only because of its callbacks; without them the value is a function of
  the environment, built from one combinator per construct (`unopV`, `binV`, `iteV`, …) taking the results of the operands, and
  `Evals.of_pv` says the evaluator returns it. A WHERE clause, SET list, select item, check constraint or index predicate of
  generated text is evaluated by computing `pv` along whatever tree the text has: `simp only [pv, …]` with the column look-ups
  (`lookupColumn_head`, `lookupColumn_alias`), the combinators on values (`pv_ok`, `binV_ok`) and the `evalBinop_*` equations of `SqlValues`,
  then a comparison with the specification up to `eq_comm`, `Bool.and_comm`, `Int.add_comm`. Nothing is said about operand order.
  A literal is `.of_pv _ rfl`.
* The rules of the first section follow a syntax tree instead. They are for what the proof builds itself: a chain of ORs folded
  over a list (`Evals.or`, `.orFold`), a list of items given one by one (`EvalsAll.nil` / `.cons`, `Evals.row`), with `Evals.col`,
  `.binop`, `.win` for an item whose look-up is at hand as a hypothesis.
-/
namespace Ledger.Sql

/-! ### column references -/

theorem lookupColumn_head (env : Env) (sc : Scope) (rest : List Scope) (c : String) (v : Value)
    (hl : env.scopes = sc :: rest) (h : lookupIn sc.cols sc.vals c = some v) : lookupColumn env "" c = .ok v := by
  simp only [lookupColumn, hl, lookupUnqualified, h]
  rfl

theorem lookupColumn_alias (env : Env) (q c : String) (sc : Scope) (v : Value) (hq : q.isEmpty = false)
    (hf : findScope env.scopes (lastComponent q) = some sc) (h : lookupIn sc.cols sc.vals c = some v) :
    lookupColumn env q c = .ok v := by
  simp only [lookupColumn, hq, hf, h]
  rfl

/-- the alias of the row a row trigger is fired for -/
theorem lastComponent_new : lastComponent "new" = "new" := by decide

theorem lookup_local_unq (env : Env) (sc : Scope) (hl : env.locals = [sc]) (c : String) (v : Value) (h : lookupIn sc.cols sc.vals c = some v) :
    lookupColumn env "" c = .ok v :=
  lookupColumn_head env sc env.outer c v (by simp only [Env.scopes, hl, List.singleton_append]) h

/-! ### `Evals`, one rule per construct -/

def Evals (cb : Callbacks) (te : TypeEnv) (env : Env) (e : Expr) (v : Value) : Prop :=
  ∀ s : St, (evalExpr cb te env e).exec s = (.ok v, s)

def EvalsAll (cb : Callbacks) (te : TypeEnv) (env : Env) (es : List Expr) (vs : List Value) : Prop :=
  ∀ s : St, (evalExprs cb te env es).exec s = (.ok vs, s)

section
variable {cb : Callbacks} {te : TypeEnv} {env : Env}

theorem Evals.col {q c : String} {v : Value} (h : lookupColumn env q c = .ok v) : Evals cb te env (.col q c) v := by
  intro s; simp only [evalExpr, h, exec_liftR_ok]

theorem Evals.binop {op : BinOp} {l r : Expr} {a b v : Value} (hl : Evals cb te env l a) (hr : Evals cb te env r b)
    (hv : evalBinop op a b = .ok v) (hand : op ≠ .and := by decide) (hor : op ≠ .or := by decide) :
    Evals cb te env (.binop op l r) v := by
  intro s
  simp only [evalExpr, exec_bind, hl s, hr s, hv, exec_liftR_ok]

theorem Evals.or {l r : Expr} {a b : Bool} (hl : Evals cb te env l (.bool a)) (hr : Evals cb te env r (.bool b)) :
    Evals cb te env (.binop .or l r) (.bool (a || b)) := by
  intro s
  cases a <;> cases b <;> simp only [evalExpr, exec_bind, hl s, hr s, truth_bool, exec_liftR_ok, exec_pure] <;> rfl

theorem Evals.win {id : Nat} {name : String} {args part : List Expr} {order : List OrderItem} {v : Value}
    (h : env.wins.lookup id = some v) : Evals cb te env (.win id name args part order) v := fun _ => by
  simp only [evalExpr, h, exec_pure]

theorem Evals.whereHolds {e : Expr} {b : Bool} (h : Evals cb te env e (.bool b)) (s : St) :
    (do
      let v ← evalExpr cb te env e
      pure ((← liftR v.truth) == some true)).exec s = (.ok b, s) := by
  simp only [exec_bind, h s, truth_bool, exec_liftR_ok, exec_pure]
  cases b <;> rfl

/-- the truth value a WHERE clause is tested for -/
theorem Evals.truth {e : Expr} {v : Value} {t : Option Bool} (h : Evals cb te env e v) (hv : v.truth = .ok t) (s : St) :
    (evalExpr cb te env e >>= fun v => liftR v.truth).exec s = (.ok t, s) := by
  simp only [exec_bind, h s, hv, exec_liftR_ok]

theorem EvalsAll.nil : EvalsAll cb te env [] [] := fun _ => by simp only [evalExprs, exec_pure]

theorem EvalsAll.cons {e : Expr} {es : List Expr} {v : Value} {vs : List Value} (h : Evals cb te env e v) (hs : EvalsAll cb te env es vs) :
    EvalsAll cb te env (e :: es) (v :: vs) := fun s => by simp only [evalExprs, exec_bind, h s, hs s, exec_pure]

theorem Evals.row {es : List Expr} {vs : List Value} (h : EvalsAll cb te env es vs) : Evals cb te env (.row es) (.row [] vs) :=
  fun s => by simp only [evalExpr, exec_bind, h s, exec_pure]

theorem truth_ofTruth (t : Option Bool) : (ofTruth t).truth = .ok t := by
  cases t <;> rfl

theorem Evals.orFold {α : Type} (f : α → Expr) (v : α → Bool) : ∀ (xs : List α) (acc : Expr) (a : Bool),
    Evals cb te env acc (.bool a) → (∀ x ∈ xs, Evals cb te env (f x) (.bool (v x))) →
    Evals cb te env ((xs.map f).foldl (fun a d => Expr.binop BinOp.or a d) acc) (.bool (a || xs.any v))
  | [], _, _, h, _ => by simpa using h
  | x :: xs, _, _, h, hx => by
    simpa [Bool.or_assoc] using Evals.orFold f v xs _ _ (h.or (hx x (by simp))) (fun y hy => hx y (by simp [hy]))

end

/-! ### one combinator per construct -/

def unopV (op : UnOp) (x : R Value) : R Value := do
  let v ← x
  match op with
  | .not | .notLike => return ofTruth (not3 (← v.truth))
  | .neg =>
    match v with
    | .null => pure .null
    | .int n => pure (.int (-n))
    | _ => throw .fuel

/-- AND / OR skip the right operand when the left one decides; the others are strict -/
def binV (op : BinOp) (x y : R Value) : R Value := do
  let a ← x
  match op with
  | .and =>
    match ← a.truth with
    | some false => pure (.bool false)
    | ta => do
      let b ← y
      return ofTruth (and3 ta (← b.truth))
  | .or =>
    match ← a.truth with
    | some true => pure (.bool true)
    | ta => do
      let b ← y
      return ofTruth (or3 ta (← b.truth))
  | _ => do
    let b ← y
    evalBinop op a b

def isNullV (neg : Bool) (x : R Value) : R Value := do
  let v ← x
  let isN := match v with
    | .null => true
    | .row _ vs => vs.all Value.isNull
    | _ => false
  let notN := match v with
    | .null => false
    | .row _ vs => vs.all (!·.isNull)
    | _ => true
  pure (.bool (if neg then notN else isN))

def iteV (c t e : R Value) : R Value := do
  match ← (← c).truth with
  | some true => t
  | _ => e

def consV (x : R Value) (xs : R (List Value)) : R (List Value) := do
  let v ← x
  let vs ← xs
  pure (v :: vs)

def coalesceV (x rest : R Value) : R Value := do
  let v ← x
  if v.isNull then rest else pure v

/-- a built-in function without effect; anything else is outside the fragment -/
def callV (schema name : String) (xs : R (List Value)) : R Value := do
  let vs ← xs
  match (if schema.isEmpty || schema == "public" || schema == "pg_catalog" then evalPureFn name vs else none) with
  | some r => r
  | none => throw .fuel

def inListV (neg : Bool) (x : R Value) (xs : R (List Value)) : R Value := do
  let v ← x
  let ys ← xs
  let r ← inValues v ys
  pure (ofTruth (if neg then not3 r else r))

mutual
/-- the value of an expression of the fragment; `.error .fuel` outside it -/
def pv (te : TypeEnv) (env : Env) : Expr → R Value
  | .null => .ok .null
  | .bool b => .ok (.bool b)
  | .int n => .ok (.int n)
  | .str s => .ok (.text s)
  | .col q name => lookupColumn env q name
  | .unop op e => unopV op (pv te env e)
  | .binop op l r => binV op (pv te env l) (pv te env r)
  | .isNull e neg => isNullV neg (pv te env e)
  | .inList e xs neg => inListV neg (pv te env e) (pvs te env xs)
  | .ite c t (some e) _ => iteV (pv te env c) (pv te env t) (pv te env e)
  | .ite c t none _ => iteV (pv te env c) (pv te env t) (.ok .null)
  | .cast e ty => pv te env e >>= castTo te ty
  | .call schema name args =>
    if (schema.isEmpty || schema == "pg_catalog") && name == "coalesce" then pvCoalesce te env args
    else callV schema name (pvs te env args)
  | .win id _ _ _ _ => match env.wins.lookup id with | some v => .ok v | none => .error .fuel
  | .row xs => .row [] <$> pvs te env xs
  | .field e name => pv te env e >>= (rowField · name)
  | .dec _ | .dflt | .inSub .. | .exists _ | .subq _ | .agg .. | .array _ | .index .. | .slice .. => .error .fuel
def pvs (te : TypeEnv) (env : Env) : List Expr → R (List Value)
  | [] => .ok []
  | e :: es => consV (pv te env e) (pvs te env es)
def pvCoalesce (te : TypeEnv) (env : Env) : List Expr → R Value
  | [] => .ok .null
  | e :: es => coalesceV (pv te env e) (pvCoalesce te env es)
end

/-! ### the combinators on typed operands (what `simp` computes with) -/

theorem unopV_not (a : Bool) : unopV .not (.ok (.bool a)) = .ok (.bool (!a)) := rfl
theorem unopV_neg (n : Int) : unopV .neg (.ok (.int n)) = .ok (.int (-n)) := rfl
theorem binV_and (a b : Bool) : binV .and (.ok (.bool a)) (.ok (.bool b)) = .ok (.bool (a && b)) := by cases a <;> cases b <;> rfl
theorem binV_or (a b : Bool) : binV .or (.ok (.bool a)) (.ok (.bool b)) = .ok (.bool (a || b)) := by cases a <;> cases b <;> rfl
theorem binV_ok {op : BinOp} (a b : Value) (hand : op ≠ .and := by decide) (hor : op ≠ .or := by decide) :
    binV op (.ok a) (.ok b) = evalBinop op a b := by
  cases op <;> first | rfl | exact absurd rfl hand | exact absurd rfl hor
theorem iteV_ok (b : Bool) (x y : Value) : iteV (.ok (.bool b)) (.ok x) (.ok y) = .ok (if b then x else y) := by cases b <;> rfl
theorem isNullV_ok (neg : Bool) (v : Value) (hrow : ∀ c vs, v ≠ .row c vs) : isNullV neg (.ok v) = .ok (.bool (v.isNull != neg)) := by
  cases v <;> cases neg <;> first | rfl | exact absurd rfl (hrow _ _)
theorem consV_ok (v : Value) (vs : List Value) : consV (.ok v) (.ok vs) = .ok (v :: vs) := rfl
theorem coalesceV_ok (v : Value) (rest : R Value) : coalesceV (.ok v) rest = if v.isNull then rest else .ok v := rfl

/-- The combinators on operands that have values, in one statement: as a `simp` lemma it stands for all its conjuncts, so a value
    is computed by `simp only [pv, pv_ok, binV_ok, ne_eq, reduceCtorEq, not_false_eq_true, …]` (the last three discharge the side
    conditions of `binV_ok`) with the column look-ups and the `evalBinop_*` equations of the statement at hand. -/
theorem pv_ok :
    (∀ a b : Bool, binV .and (.ok (.bool a)) (.ok (.bool b)) = .ok (.bool (a && b))) ∧
    (∀ a b : Bool, binV .or (.ok (.bool a)) (.ok (.bool b)) = .ok (.bool (a || b))) ∧
    (∀ a : Bool, unopV .not (.ok (.bool a)) = .ok (.bool (!a))) ∧
    (∀ n : Int, unopV .neg (.ok (.int n)) = .ok (.int (-n))) ∧
    (∀ (b : Bool) (x y : Value), iteV (.ok (.bool b)) (.ok x) (.ok y) = .ok (if b then x else y)) ∧
    (∀ (v : Value) (vs : List Value), consV (.ok v) (.ok vs) = .ok (v :: vs)) ∧
    (∀ (v : Value) (rest : R Value), coalesceV (.ok v) rest = if v.isNull then rest else .ok v) ∧
    (∀ {α β : Type} (a : α) (f : α → R β), (Except.ok a >>= f) = f a) :=
  ⟨binV_and, binV_or, unopV_not, unopV_neg, iteV_ok, consV_ok, coalesceV_ok, fun _ _ => rfl⟩

/-! ### soundness -/

theorem exec_liftR_of {r : R α} {a : α} (h : r = .ok a) (s : St) : (liftR r : M α).exec s = (.ok a, s) := by subst h; rfl

theorem liftR_map (r : R α) (f : α → β) :
    (do let x ← (liftR r : M α); pure (f x)) = (liftR (do let x ← r; pure (f x)) : M β) := by cases r <;> rfl

mutual
theorem Evals.of_pv {cb : Callbacks} {te : TypeEnv} {env : Env} (e : Expr) {v : Value} (h : pv te env e = .ok v) :
    Evals cb te env e v := by
  intro s
  cases e
  case null => rw [pv] at h; cases h; rw [evalExpr]; rfl
  case bool b => rw [pv] at h; cases h; rw [evalExpr]; rfl
  case int n => rw [pv] at h; cases h; rw [evalExpr]; rfl
  case str x => rw [pv] at h; cases h; rw [evalExpr]; rfl
  case col q c => rw [pv] at h; rw [evalExpr]; exact exec_liftR_of h s
  case unop op e =>
    rw [pv] at h
    obtain ⟨a, ha, h⟩ := Except.bind_ok (x := pv te env e) h
    rw [evalExpr]
    refine exec_seq (Evals.of_pv e ha s) ?_
    cases op
    case neg => cases a <;> cases h <;> rfl
    all_goals exact (congrArg (·.exec s) (liftR_map a.truth (fun t => ofTruth (not3 t)))).trans (exec_liftR_of h s)
  case binop op l r =>
    rw [pv] at h
    obtain ⟨a, ha, h⟩ := Except.bind_ok (x := pv te env l) h
    rw [evalExpr]
    refine exec_seq (Evals.of_pv l ha s) ?_
    cases op
    case and =>
      obtain ⟨ta, hta, h⟩ := Except.bind_ok (x := a.truth) h
      refine exec_seq (exec_liftR_of hta s) ?_
      rcases ta with _ | _ | _
      case some.false => cases h; rfl
      all_goals
        obtain ⟨b, hb, h⟩ := Except.bind_ok (x := pv te env r) h
        refine exec_seq (Evals.of_pv r hb s) ?_
        obtain ⟨tb, htb, h⟩ := Except.bind_ok (x := b.truth) h
        refine exec_seq (exec_liftR_of htb s) ?_
        cases h; rfl
    case or =>
      obtain ⟨ta, hta, h⟩ := Except.bind_ok (x := a.truth) h
      refine exec_seq (exec_liftR_of hta s) ?_
      rcases ta with _ | _ | _
      case some.true => cases h; rfl
      all_goals
        obtain ⟨b, hb, h⟩ := Except.bind_ok (x := pv te env r) h
        refine exec_seq (Evals.of_pv r hb s) ?_
        obtain ⟨tb, htb, h⟩ := Except.bind_ok (x := b.truth) h
        refine exec_seq (exec_liftR_of htb s) ?_
        cases h; rfl
    all_goals
      obtain ⟨b, hb, h⟩ := Except.bind_ok (x := pv te env r) h
      exact exec_seq (Evals.of_pv r hb s) (exec_liftR_of h s)
  case isNull e neg =>
    rw [pv] at h
    obtain ⟨a, ha, h⟩ := Except.bind_ok (x := pv te env e) h
    rw [evalExpr]
    refine exec_seq (Evals.of_pv e ha s) ?_
    cases h; rfl
  case inList e xs neg =>
    rw [pv] at h
    obtain ⟨a, ha, h⟩ := Except.bind_ok (x := pv te env e) h
    obtain ⟨ys, hys, h⟩ := Except.bind_ok (x := pvs te env xs) h
    obtain ⟨r, hr, h⟩ := Except.bind_ok (x := inValues a ys) h
    rw [evalExpr]
    refine exec_seq (Evals.of_pv e ha s) (exec_seq (EvalsAll.of_pvs xs hys s) (exec_seq (exec_liftR_of hr s) ?_))
    cases h; rfl
  case ite c t els f =>
    cases els
    case none =>
      rw [pv] at h
      obtain ⟨a, ha, h⟩ := Except.bind_ok (x := pv te env c) h
      obtain ⟨ta, hta, h⟩ := Except.bind_ok (x := a.truth) h
      rw [evalExpr]
      refine exec_seq (Evals.of_pv c ha s) (exec_seq (exec_liftR_of hta s) ?_)
      rcases ta with _ | _ | _
      case some.true => exact Evals.of_pv t h s
      all_goals cases h; rfl
    case some e =>
      rw [pv] at h
      obtain ⟨a, ha, h⟩ := Except.bind_ok (x := pv te env c) h
      obtain ⟨ta, hta, h⟩ := Except.bind_ok (x := a.truth) h
      rw [evalExpr]
      refine exec_seq (Evals.of_pv c ha s) (exec_seq (exec_liftR_of hta s) ?_)
      rcases ta with _ | _ | _
      case some.true => exact Evals.of_pv t h s
      all_goals exact Evals.of_pv e h s
  case cast e ty =>
    rw [pv] at h
    obtain ⟨a, ha, h⟩ := Except.bind_ok h
    rw [evalExpr]
    exact exec_seq (Evals.of_pv e ha s) (exec_liftR_of h s)
  case call schema name args =>
    rw [pv] at h
    rw [evalExpr]
    split at h
    · next hc => rw [if_pos hc]; exact of_pvCoalesce args h s
    · next hc =>
      rw [if_neg hc]
      obtain ⟨vs, hvs, h⟩ := Except.bind_ok (x := pvs te env args) h
      refine exec_seq (EvalsAll.of_pvs args hvs s) ?_
      revert h
      cases (if schema.isEmpty || schema == "public" || schema == "pg_catalog" then evalPureFn name vs else none) with
      | none => intro h; cases h
      | some r => intro h; exact exec_liftR_of h s
  case win id name a p o =>
    rw [evalExpr]
    rw [pv] at h
    split at h
    · next w hw => cases h; rw [hw]; rfl
    · cases h
  case row xs =>
    rw [pv] at h
    obtain ⟨vs, hvs, h⟩ := Except.bind_ok (x := pvs te env xs) h
    cases h
    rw [evalExpr]
    exact exec_seq (EvalsAll.of_pvs xs hvs s) rfl
  case field e name =>
    rw [pv] at h
    obtain ⟨a, ha, h⟩ := Except.bind_ok h
    rw [evalExpr]
    exact exec_seq (Evals.of_pv e ha s) (exec_liftR_of h s)
  all_goals rw [pv] at h; cases h
theorem EvalsAll.of_pvs {cb : Callbacks} {te : TypeEnv} {env : Env} (es : List Expr) {vs : List Value}
    (h : pvs te env es = .ok vs) : EvalsAll cb te env es vs := by
  intro s
  cases es
  case nil => rw [pvs] at h; cases h; rw [evalExprs]; rfl
  case cons e es =>
    rw [pvs] at h
    obtain ⟨a, ha, h⟩ := Except.bind_ok (x := pv te env e) h
    obtain ⟨as, has, h⟩ := Except.bind_ok (x := pvs te env es) h
    cases h
    rw [evalExprs]
    exact exec_seq (Evals.of_pv e ha s) (exec_seq (EvalsAll.of_pvs es has s) rfl)
theorem of_pvCoalesce {cb : Callbacks} {te : TypeEnv} {env : Env} (es : List Expr) {v : Value}
    (h : pvCoalesce te env es = .ok v) (s : St) : (evalCoalesce cb te env es).exec s = (.ok v, s) := by
  cases es
  case nil => rw [pvCoalesce] at h; cases h; rw [evalCoalesce]; rfl
  case cons e es =>
    rw [pvCoalesce] at h
    obtain ⟨a, ha, h⟩ := Except.bind_ok (x := pv te env e) h
    rw [evalCoalesce]
    refine exec_seq (Evals.of_pv e ha s) ?_
    change (if a.isNull then pvCoalesce te env es else .ok a) = .ok v at h
    split at h
    · next hn => rw [if_pos hn]; exact of_pvCoalesce es h s
    · next hn => rw [if_neg hn]; cases h; rfl
end

end Ledger.Sql
