import Ledger.Base.Map

/-! Lemmas about the sorted association-list maps of `Ledger/Base/Map.lean`. -/
set_option linter.unusedSectionVars false
namespace Ledger.Base
open KeyOrd

instance : LawfulKeyOrd String where
  irrefl a := by simp [KeyOrd.lt, String.lt_irrefl]
  trans := by
    intro a b c h1 h2
    simp only [KeyOrd.lt, decide_eq_true_eq] at *
    exact String.lt_trans h1 h2
  tri := by
    intro a b h1 h2
    simp only [KeyOrd.lt, decide_eq_false_iff_not] at *
    exact String.le_antisymm (String.not_lt.mp h2) (String.not_lt.mp h1)

instance : LawfulKeyOrd Nat where
  irrefl a := by simp [KeyOrd.lt]
  trans := by
    intro a b c h1 h2
    simp only [KeyOrd.lt, decide_eq_true_eq] at *
    omega
  tri := by
    intro a b h1 h2
    simp only [KeyOrd.lt, decide_eq_false_iff_not] at *
    omega

instance {α β : Type} [KeyOrd α] [KeyOrd β] [DecidableEq α] [LawfulKeyOrd α] [LawfulKeyOrd β] :
    LawfulKeyOrd (α × β) where
  irrefl a := by simp [KeyOrd.lt, LawfulKeyOrd.irrefl]
  trans := by
    intro a b c h1 h2
    simp only [KeyOrd.lt, Bool.or_eq_true, Bool.and_eq_true, decide_eq_true_eq] at *
    rcases h1 with h1 | ⟨e1, h1⟩ <;> rcases h2 with h2 | ⟨e2, h2⟩
    · exact Or.inl (LawfulKeyOrd.trans h1 h2)
    · exact Or.inl (e2 ▸ h1)
    · exact Or.inl (e1 ▸ h2)
    · exact Or.inr ⟨e1.trans e2, LawfulKeyOrd.trans h1 h2⟩
  tri := by
    intro a b h1 h2
    simp only [KeyOrd.lt, Bool.or_eq_false_iff, Bool.and_eq_false_iff, decide_eq_false_iff_not] at *
    obtain ⟨h1a, h1b⟩ := h1
    obtain ⟨h2a, h2b⟩ := h2
    have e1 : a.1 = b.1 := LawfulKeyOrd.tri h1a h2a
    have e2 : a.2 = b.2 := by
      rcases h1b with h | h
      · exact absurd e1 h
      · rcases h2b with h' | h'
        · exact absurd e1.symm h'
        · exact LawfulKeyOrd.tri h h'
    exact Prod.ext e1 e2

theorem lt_ne {κ : Type} [KeyOrd κ] [LawfulKeyOrd κ] {a b : κ} (h : lt a b = true) : a ≠ b := by
  rintro rfl
  simp [LawfulKeyOrd.irrefl] at h

namespace Map
variable {κ ν : Type} [DecidableEq κ]

@[simp] theorem get?_nil (k : κ) : get? ([] : Map κ ν) k = none := rfl

theorem get?_cons (k' : κ) (v : ν) (r : Map κ ν) (k : κ) :
    get? ((k', v) :: r) k = if k' = k then some v else get? r k := rfl

theorem get?_isSome_iff_mem_keys {m : Map κ ν} {k : κ} : (get? m k).isSome = true ↔ k ∈ m.keys := by
  induction m with
  | nil => simp [keys]
  | cons e r ih =>
    obtain ⟨k0, v0⟩ := e
    rw [get?_cons, keys, List.map_cons, List.mem_cons, ← keys, ← ih]
    by_cases h : k0 = k <;> simp [h, Ne.symm]

theorem contains_iff_mem_keys {m : Map κ ν} {k : κ} : m.contains k = true ↔ k ∈ m.keys :=
  get?_isSome_iff_mem_keys

theorem get?_eq_none_of_not_mem_keys {m : Map κ ν} {k : κ} (h : k ∉ m.keys) : get? m k = none :=
  Option.not_isSome_iff_eq_none.mp (mt get?_isSome_iff_mem_keys.mp h)

theorem mem_of_get? {m : Map κ ν} {k : κ} {v : ν} (h : get? m k = some v) : (k, v) ∈ m := by
  induction m with
  | nil => cases h
  | cons e r ih =>
    obtain ⟨k0, v0⟩ := e
    rw [get?_cons] at h
    by_cases e : k0 = k
    · rw [if_pos e, Option.some.injEq] at h
      rw [e, h]
      exact List.mem_cons_self
    · rw [if_neg e] at h
      exact List.mem_cons_of_mem _ (ih h)

theorem get?_adjust (k : κ) (f : ν → ν) (m : Map κ ν) (k' : κ) :
    get? (adjust k f m) k' = if k' = k then (get? m k').map f else get? m k' := by
  induction m with
  | nil => simp [adjust]
  | cons e r ih =>
    obtain ⟨k0, v0⟩ := e
    by_cases h0 : k0 = k <;> by_cases h1 : k0 = k' <;> simp_all [adjust, get?_cons, eq_comm]

@[simp] theorem keys_adjust (k : κ) (f : ν → ν) (m : Map κ ν) : (adjust k f m).keys = m.keys := by
  induction m with
  | nil => rfl
  | cons e r ih => obtain ⟨k0, v0⟩ := e; by_cases h0 : k0 = k <;> simp_all [adjust, keys]

@[simp] theorem contains_adjust (k : κ) (f : ν → ν) (m : Map κ ν) (k' : κ) :
    (adjust k f m).contains k' = m.contains k' := by
  rw [Bool.eq_iff_iff, contains_iff_mem_keys, contains_iff_mem_keys, keys_adjust]

theorem adjust_adjust_same (k : κ) (f g : ν → ν) (m : Map κ ν) :
    adjust k f (adjust k g m) = adjust k (f ∘ g) m := by
  induction m with
  | nil => rfl
  | cons e r ih => obtain ⟨k0, v0⟩ := e; by_cases h0 : k0 = k <;> simp [adjust, h0, ih]

theorem adjust_id (k : κ) (f : ν → ν) (hf : ∀ v, f v = v) (m : Map κ ν) : adjust k f m = m := by
  induction m with
  | nil => rfl
  | cons e r ih => obtain ⟨k0, v0⟩ := e; by_cases h0 : k0 = k <;> simp [adjust, h0, hf, ih]

theorem adjust_cancel (k : κ) (f g : ν → ν) (h : ∀ v, f (g v) = v) (m : Map κ ν) :
    adjust k f (adjust k g m) = m := by
  rw [adjust_adjust_same]
  exact adjust_id k _ (by intro v; simp [h]) m

/-- Adjustments by commuting functions commute (whatever the keys). -/
theorem adjust_comm (k k' : κ) (f g : ν → ν) (h : ∀ v, f (g v) = g (f v)) (m : Map κ ν) :
    adjust k f (adjust k' g m) = adjust k' g (adjust k f m) := by
  induction m with
  | nil => rfl
  | cons e r ih => obtain ⟨k0, v0⟩ := e; by_cases h0 : k0 = k <;> by_cases h1 : k0 = k' <;> simp_all [adjust]

theorem sumBy_adjust (h : κ → ν → Int) (k : κ) (f : ν → ν) (m : Map κ ν) (v : ν)
    (hg : get? m k = some v) : sumBy h (adjust k f m) = sumBy h m + (h k (f v) - h k v) := by
  induction m with
  | nil => simp at hg
  | cons e r ih =>
    obtain ⟨k0, v0⟩ := e
    rw [get?_cons] at hg
    by_cases h0 : k0 = k
    · rw [if_pos h0] at hg
      cases hg
      subst h0
      simp only [adjust, if_true, sumBy]
      omega
    · rw [if_neg h0] at hg
      simp only [adjust, if_neg h0, sumBy, ih hg]
      omega

theorem get?_mapVal {μ : Type} (f : κ → ν → μ) (m : Map κ ν) (k : κ) :
    get? (mapVal f m) k = (get? m k).map (f k) := by
  induction m with
  | nil => rfl
  | cons e r ih =>
    obtain ⟨k0, v0⟩ := e
    simp only [mapVal, List.map_cons, get?_cons] at *
    by_cases h0 : k0 = k
    · subst h0; simp
    · simp [h0, ih]

@[simp] theorem keys_mapVal {μ : Type} (f : κ → ν → μ) (m : Map κ ν) : (mapVal f m).keys = m.keys := by
  simp [mapVal, keys, List.map_map, Function.comp_def]

theorem keys_map_pair (ks : List κ) (f : κ → ν) : keys (ks.map fun k => (k, f k)) = ks := by
  simp [keys, List.map_map, Function.comp_def]

theorem sumBy_eq_sum (h : κ → ν → Int) (m : Map κ ν) : sumBy h m = (m.map fun e => h e.1 e.2).sum := by
  induction m with
  | nil => rfl
  | cons x r ih => simp only [sumBy, List.map_cons, List.sum_cons, ih]

theorem sumBy_congr (h h' : κ → ν → Int) (m : Map κ ν) (e : ∀ k v, h k v = h' k v) :
    sumBy h m = sumBy h' m := by
  induction m with
  | nil => rfl
  | cons x r ih => obtain ⟨k0, v0⟩ := x; simp only [sumBy, ih, e]

theorem sumBy_add (h h' : κ → ν → Int) (m : Map κ ν) :
    sumBy (fun k v => h k v + h' k v) m = sumBy h m + sumBy h' m := by
  induction m with
  | nil => rfl
  | cons x r ih => obtain ⟨k0, v0⟩ := x; simp only [sumBy, ih]; omega

theorem sumBy_sub (h h' : κ → ν → Int) (m : Map κ ν) :
    sumBy (fun k v => h k v - h' k v) m = sumBy h m - sumBy h' m := by
  induction m with
  | nil => rfl
  | cons x r ih => obtain ⟨k0, v0⟩ := x; simp only [sumBy, ih]; omega

section ord
variable [KeyOrd κ]

/-- Σ over entries after an upsert, for a measure additive w.r.t. the combiner.
    Needs no well-formedness. -/
theorem sumBy_insertWith (h : κ → ν → Int) (f : ν → ν → ν) (k : κ) (v : ν) (m : Map κ ν)
    (hadd : ∀ o, h k (f o v) = h k o + h k v) :
    sumBy h (insertWith f k v m) = sumBy h m + h k v := by
  induction m with
  | nil => simp [insertWith, sumBy]
  | cons e r ih =>
    obtain ⟨k0, v0⟩ := e
    simp only [insertWith]
    by_cases h0 : k0 = k
    · subst h0; simp only [if_true, sumBy, hadd]; omega
    · simp only [if_neg h0]
      by_cases h1 : lt k k0 = true
      · simp only [if_pos h1, sumBy]; omega
      · simp only [if_neg h1, sumBy, ih]; omega

theorem keys_insertWith_perm_mem (f : ν → ν → ν) (k : κ) (v : ν) (m : Map κ ν) (k' : κ) :
    k' ∈ (insertWith f k v m).keys ↔ k' = k ∨ k' ∈ m.keys := by
  induction m with
  | nil => simp [insertWith, keys]
  | cons x r ih =>
    obtain ⟨k0, v0⟩ := x
    have ih' : k' ∈ List.map (·.1) (insertWith f k v r) ↔ k' = k ∨ k' ∈ List.map (·.1) r := ih
    by_cases h0 : k0 = k <;> by_cases h1 : lt k k0 = true <;>
      simp [insertWith, keys, h0, h1, ih', or_left_comm]

theorem mem_keys_insert (k : κ) (v : ν) (m : Map κ ν) (k' : κ) :
    k' ∈ (m.insert k v).keys ↔ k' = k ∨ k' ∈ m.keys := keys_insertWith_perm_mem _ k v m k'

/-- No well-formedness needed: `get?` answers the first entry with the key, which is where `insert` writes. -/
theorem get?_insert (k k2 : κ) (v : ν) (m : Map κ ν) :
    (m.insert k v).get? k2 = if k2 = k then some v else m.get? k2 := by
  induction m with
  | nil => by_cases h : k = k2 <;> simp [insert, insertWith, get?, h, Ne.symm]
  | cons e r ih =>
    obtain ⟨k', v'⟩ := e
    simp only [insert, insertWith] at ih ⊢
    split
    · subst k'; by_cases h : k = k2 <;> simp [get?, h, Ne.symm]
    · rename_i h1
      split
      · by_cases h : k = k2 <;> simp [get?, h, Ne.symm]
      · rw [get?, ih, get?]
        by_cases h : k' = k2
        · subst h; simp [h1]
        · simp [h]

theorem get?_insert_self (k : κ) (v : ν) (m : Map κ ν) : (m.insert k v).get? k = some v := by
  rw [get?_insert, if_pos rfl]

theorem get?_insert_ne (k k2 : κ) (v : ν) (m : Map κ ν) (hne : k2 ≠ k) :
    (m.insert k v).get? k2 = m.get? k2 := by
  rw [get?_insert, if_neg hne]

/-- `insert` writes the entry under the key it is given, in every branch, so a map over values commutes with it. -/
theorem mapVal_insert {μ : Type} (f : κ → ν → μ) (k : κ) (v : ν) (m : Map κ ν) :
    mapVal f (m.insert k v) = (mapVal f m).insert k (f k v) := by
  induction m with
  | nil => rfl
  | cons e r ih =>
    obtain ⟨k', v'⟩ := e
    by_cases h1 : k' = k
    · simp only [insert, insertWith, mapVal, List.map_cons, if_pos h1]
    · by_cases h2 : KeyOrd.lt k k' = true
      · simp only [insert, insertWith, mapVal, List.map_cons, if_neg h1, if_pos h2]
      · simp only [insert, insertWith, mapVal, List.map_cons, if_neg h1, if_neg h2] at ih ⊢
        rw [ih]

theorem mem_keys_foldl {α : Type} (step : Map κ ν → α → Map κ ν) (S : α → κ → Prop)
    (hstep : ∀ m x k, k ∈ (step m x).keys ↔ k ∈ m.keys ∨ S x k) (l : List α) (m : Map κ ν) (k : κ) :
    k ∈ (l.foldl step m).keys ↔ k ∈ m.keys ∨ ∃ x ∈ l, S x k := by
  induction l generalizing m with
  | nil => simp
  | cons x l ih => simp only [List.foldl_cons, ih, hstep, List.mem_cons, exists_eq_or_imp, or_assoc]

theorem mem_keys_foldl_inserts {α : Type} (ks : α → List κ) (l : List α) (m : Map κ Unit) (k : κ) :
    k ∈ (l.foldl (fun m x => (ks x).foldl (fun m k' => m.insert k' ()) m) m).keys ↔
      k ∈ m.keys ∨ ∃ x ∈ l, k ∈ ks x :=
  mem_keys_foldl _ (fun x k => k ∈ ks x) (fun m x k =>
    (mem_keys_foldl _ (fun k' k => k = k') (fun m k' k => by rw [mem_keys_insert, or_comm]) (ks x) m k).trans
      (by simp)) l m k

variable [LawfulKeyOrd κ]

theorem WF_cons {e : κ × ν} {r : Map κ ν} :
    WF (e :: r) ↔ (∀ x ∈ r, lt e.1 x.1 = true) ∧ WF r := by
  simp [WF, List.pairwise_cons]

theorem WF_nil : WF ([] : Map κ ν) := List.Pairwise.nil

theorem WF_tail {e : κ × ν} {r : Map κ ν} (h : WF (e :: r)) : WF r := (WF_cons.mp h).2

theorem lt_of_mem_tail {e : κ × ν} {r : Map κ ν} (hw : WF (e :: r)) {k : κ} (hk : k ∈ keys r) :
    lt e.1 k = true := by
  obtain ⟨x, hx, rfl⟩ := List.mem_map.mp hk
  exact (WF_cons.mp hw).1 x hx

theorem get?_tail_none {k : κ} {v : ν} {r : Map κ ν} (h : WF ((k, v) :: r)) : get? r k = none :=
  get?_eq_none_of_not_mem_keys fun hm => lt_ne (lt_of_mem_tail h hm) rfl

theorem get?_eq_none_of_lt {k k0 : κ} {v0 : ν} {r : Map κ ν} (hw : WF ((k0, v0) :: r))
    (hlt : lt k k0 = true) : get? ((k0, v0) :: r) k = none := by
  apply get?_eq_none_of_not_mem_keys
  simp only [keys, List.map_cons, List.mem_cons, not_or]
  exact ⟨lt_ne hlt, fun hm => lt_ne (LawfulKeyOrd.trans hlt (lt_of_mem_tail hw hm)) rfl⟩

theorem WF_insertWith (f : ν → ν → ν) (k : κ) (v : ν) {m : Map κ ν} (hw : WF m) :
    WF (insertWith f k v m) := by
  induction m with
  | nil => simp [insertWith, WF]
  | cons x r ih =>
    obtain ⟨k0, v0⟩ := x
    obtain ⟨hall, hr⟩ := WF_cons.mp hw
    simp only [insertWith]
    split
    · subst k0; exact WF_cons.mpr ⟨hall, hr⟩
    · rename_i h0
      split
      · rename_i h1
        refine WF_cons.mpr ⟨fun x hx => ?_, hw⟩
        rcases List.mem_cons.mp hx with rfl | hx
        · exact h1
        · exact LawfulKeyOrd.trans h1 (hall x hx)
      · rename_i h1
        refine WF_cons.mpr ⟨fun x hx => ?_, ih hr⟩
        rcases (keys_insertWith_perm_mem f k v r x.1).mp (List.mem_map_of_mem hx) with hx | hx
        · rw [hx]
          exact Decidable.by_contra fun h2 => h0 (LawfulKeyOrd.tri (by simpa using h2) (by simpa using h1))
        · exact lt_of_mem_tail hw hx

theorem keys_nodup {m : Map κ ν} (hw : WF m) : m.keys.Nodup := by
  rw [keys, List.Nodup, List.pairwise_map]
  exact hw.imp lt_ne

/-- with distinct keys every entry is the one `get?` finds -/
theorem get?_of_mem_nodup {m : Map κ ν} (h : m.keys.Nodup) {e : κ × ν} (he : e ∈ m) : get? m e.1 = some e.2 := by
  induction m with
  | nil => cases he
  | cons x r ih =>
    obtain ⟨hx, hr⟩ := List.nodup_cons.mp h
    rw [get?_cons]
    rcases List.mem_cons.mp he with rfl | he
    · exact if_pos rfl
    · rw [if_neg fun e' : x.1 = e.1 => hx (by show x.1 ∈ _; rw [e']; exact List.mem_map_of_mem (f := (·.1)) he)]; exact ih hr he

theorem get?_of_mem {m : Map κ ν} (hw : WF m) {e : κ × ν} (he : e ∈ m) : get? m e.1 = some e.2 :=
  get?_of_mem_nodup (keys_nodup hw) he

theorem WF_foldl {α : Type} (step : Map κ ν → α → Map κ ν) (hstep : ∀ m x, WF m → WF (step m x))
    (l : List α) {m : Map κ ν} (hw : WF m) : WF (l.foldl step m) := by
  induction l generalizing m with
  | nil => exact hw
  | cons x l ih => exact ih (hstep m x hw)

theorem WF_foldl_inserts {α : Type} (ks : α → List κ) (l : List α) {m : Map κ Unit} (hw : WF m) :
    WF (l.foldl (fun m x => (ks x).foldl (fun m k' => m.insert k' ()) m) m) :=
  WF_foldl _ (fun _ x h => WF_foldl _ (fun _ _ h => WF_insertWith _ _ _ h) (ks x) h) l hw

theorem get?_insertWith (f : ν → ν → ν) (k : κ) (v : ν) {m : Map κ ν} (hw : WF m) (k' : κ) :
    get? (insertWith f k v m) k' =
      if k' = k then some (match get? m k with | some o => f o v | none => v) else get? m k' := by
  induction m with
  | nil => by_cases h : k = k' <;> simp [insertWith, get?_cons, h, Ne.symm]
  | cons x r ih =>
    obtain ⟨k0, v0⟩ := x
    simp only [insertWith]
    split
    · subst k0; by_cases h : k = k' <;> simp [get?_cons, h, Ne.symm]
    · rename_i h0
      split
      · rename_i h1
        rw [get?_eq_none_of_lt hw h1]
        by_cases h : k = k' <;> simp [get?_cons, h, Ne.symm]
      · rw [get?_cons, ih (WF_tail hw), get?_cons, get?_cons, if_neg h0]
        by_cases h : k0 = k'
        · subst h; simp [h0]
        · simp [h]

/-- An upsert of a batch with distinct keys, pointwise. -/
theorem get?_foldl_insertWith (f : ν → ν → ν) {m : Map κ ν} (hm : WF m) {l : Map κ ν} (hl : l.keys.Nodup) (k : κ) :
    (l.foldl (fun m e => m.insertWith f e.1 e.2) m).get? k =
      match l.get? k with
      | some v => some (match m.get? k with | some o => f o v | none => v)
      | none => m.get? k := by
  induction l generalizing m with
  | nil => rfl
  | cons e r ih =>
    obtain ⟨k0, v0⟩ := e
    obtain ⟨h0, hr⟩ := List.nodup_cons.mp hl
    rw [List.foldl_cons, ih (WF_insertWith _ _ _ hm) hr, get?_cons, get?_insertWith _ _ _ hm]
    by_cases hk : k0 = k
    · subst hk; rw [get?_eq_none_of_not_mem_keys h0, if_pos rfl, if_pos rfl]
    · rw [if_neg hk, if_neg (Ne.symm hk)]

/-- One upsert of `v` at a key, seen from the value stored there. -/
def upsertVal (f : ν → ν → ν) (o : Option ν) (v : ν) : Option ν := some (match o with | some x => f x v | none => v)

/-- A batch of plain inserts with distinct keys, pointwise: the batch wins. -/
theorem get?_foldl_insert {m : Map κ ν} (hm : WF m) {l : Map κ ν} (hl : l.keys.Nodup) (k : κ) :
    (l.foldl (fun m e => m.insert e.1 e.2) m).get? k = (l.get? k).or (m.get? k) := by
  rw [show (fun (m : Map κ ν) (e : κ × ν) => m.insert e.1 e.2) = fun m e => m.insertWith (fun _ new => new) e.1 e.2 from rfl,
    get?_foldl_insertWith _ hm hl]
  cases l.get? k <;> cases m.get? k <;> rfl

/-- A batch of upserts (keys may repeat), pointwise: the value at `k` is the old one with the batch's
    values for `k` combined into it, in order. -/
theorem get?_foldl_upserts {α : Type} (f : ν → ν → ν) (key : α → κ) (val : α → ν) (l : List α) {m : Map κ ν}
    (hm : WF m) (k : κ) :
    (l.foldl (fun m x => m.insertWith f (key x) (val x)) m).get? k =
      ((l.filter fun x => decide (key x = k)).map val).foldl (upsertVal f) (m.get? k) := by
  induction l generalizing m with
  | nil => rfl
  | cons e r ih =>
    rw [List.foldl_cons, ih (WF_insertWith _ _ _ hm), get?_insertWith _ _ _ hm, List.filter_cons]
    by_cases hk : key e = k
    · subst hk; rw [if_pos rfl, if_pos (decide_eq_true rfl)]; rfl
    · rw [if_neg (Ne.symm hk), if_neg (by rwa [decide_eq_true_eq])]

theorem foldl_upd_keep (o : Option ν) (vs : List ν) : vs.foldl (upsertVal fun old _ => old) o = o.or vs.head? := by
  induction vs generalizing o with
  | nil => exact (Option.or_none).symm
  | cons v vs ih => rw [List.foldl_cons, ih]; cases o <;> rfl

/-- Insert-if-absent: a key keeps its value, or gets the first one offered. -/
theorem get?_foldl_insertNew {α : Type} (key : α → κ) (val : α → ν) (l : List α) {m : Map κ ν} (hm : WF m) (k : κ) :
    (l.foldl (fun m x => m.insertWith (fun old _ => old) (key x) (val x)) m).get? k =
      (m.get? k).or ((l.find? fun x => decide (key x = k)).map val) := by
  rw [get?_foldl_upserts _ _ _ _ hm, foldl_upd_keep, List.head?_map, List.head?_filter]

theorem WF_iff_keys {m : Map κ ν} : WF m ↔ m.keys.Pairwise (fun a b => lt a b = true) := by
  rw [WF, keys, List.pairwise_map]

theorem WF_adjust (k : κ) (f : ν → ν) {m : Map κ ν} (hw : WF m) : WF (adjust k f m) :=
  WF_iff_keys.mpr (keys_adjust k f m ▸ WF_iff_keys.mp hw)

theorem WF_mapVal {μ : Type} (f : κ → ν → μ) {m : Map κ ν} (hw : WF m) : WF (mapVal f m) :=
  WF_iff_keys.mpr (keys_mapVal f m ▸ WF_iff_keys.mp hw)

theorem ext_of_WF {m1 m2 : Map κ ν} (h1 : WF m1) (h2 : WF m2)
    (h : ∀ k, get? m1 k = get? m2 k) : m1 = m2 := by
  induction m1 generalizing m2 with
  | nil =>
    cases m2 with
    | nil => rfl
    | cons y r2 => obtain ⟨k2, v2⟩ := y; have := h k2; simp [get?_cons] at this
  | cons x r1 ih =>
    obtain ⟨k1, v1⟩ := x
    cases m2 with
    | nil => have := h k1; simp [get?_cons] at this
    | cons y r2 =>
      obtain ⟨k2, v2⟩ := y
      -- the smaller head key would be missing from the other map
      have hk : k1 = k2 := by
        apply LawfulKeyOrd.tri
        · cases hlt : lt k1 k2 with
          | false => rfl
          | true => have e := h k1; rw [get?_eq_none_of_lt h2 hlt] at e; simp [get?_cons] at e
        · cases hlt : lt k2 k1 with
          | false => rfl
          | true => have e := h k2; rw [get?_eq_none_of_lt h1 hlt] at e; simp [get?_cons] at e
      subst hk
      have hv : v1 = v2 := by simpa [get?_cons] using h k1
      subst hv
      congr 1
      refine ih (WF_tail h1) (WF_tail h2) fun k => ?_
      have e := h k
      rw [get?_cons, get?_cons] at e
      by_cases hk : k1 = k
      · subst hk; rw [get?_tail_none h1, get?_tail_none h2]
      · rwa [if_neg hk, if_neg hk] at e

theorem insertWith_keep {m : Map κ ν} (hw : WF m) (k : κ) (v : ν) (h : m.contains k = true) :
    m.insertWith (fun old _ => old) k v = m :=
  ext_of_WF (WF_insertWith _ _ _ hw) hw fun k' => by
    rw [get?_insertWith _ _ _ hw]
    split
    · subst k'; cases hg : m.get? k with
      | none => rw [contains, hg] at h; cases h
      | some x => rfl
    · rfl

/-- At a key without a row the combiner does not matter. -/
theorem insertWith_absent {m : Map κ ν} (hw : WF m) (f g : ν → ν → ν) (k : κ) (v : ν) (h : m.contains k = false) :
    m.insertWith f k v = m.insertWith g k v :=
  ext_of_WF (WF_insertWith _ _ _ hw) (WF_insertWith _ _ _ hw) fun k' => by
    have : m.get? k = none := by simpa [contains] using h
    rw [get?_insertWith _ _ _ hw, get?_insertWith _ _ _ hw, this]

theorem WF_insert (k : κ) (v : ν) {m : Map κ ν} (h : WF m) : WF (m.insert k v) := WF_insertWith _ k v h

theorem insert_eq_self (k : κ) (v : ν) {m : Map κ ν} (hw : WF m) (hg : m.get? k = some v) : m.insert k v = m :=
  ext_of_WF (WF_insert k v hw) hw fun k' => by
    rw [get?_insert]
    split
    · subst k'; exact hg.symm
    · rfl

theorem erase_sublist (k : κ) (m : Map κ ν) : List.Sublist (erase k m) m := by
  induction m with
  | nil => exact List.Sublist.slnil
  | cons e r ih =>
    obtain ⟨k', v⟩ := e
    unfold erase
    split
    · exact List.Sublist.cons _ (List.Sublist.refl _)
    · exact List.Sublist.cons_cons _ ih

theorem WF_erase (k : κ) {m : Map κ ν} (h : WF m) : WF (erase k m) := List.Pairwise.sublist (erase_sublist k m) h

theorem get?_erase (k : κ) {m : Map κ ν} (hw : WF m) (k' : κ) :
    (erase k m).get? k' = if k' = k then none else m.get? k' := by
  induction m with
  | nil => simp [erase]
  | cons e r ih =>
    obtain ⟨k0, v⟩ := e
    unfold erase
    by_cases h : k0 = k
    · subst h
      rw [if_pos rfl, get?_cons]
      by_cases h' : k' = k0
      · rw [if_pos h', h']; exact get?_tail_none hw
      · rw [if_neg h', if_neg (Ne.symm h')]
    · rw [if_neg h, get?_cons, get?_cons, ih (WF_tail hw)]
      by_cases h' : k0 = k'
      · rw [if_pos h', if_pos h', if_neg (h' ▸ h)]
      · rw [if_neg h', if_neg h']

theorem erase_eq_self_iff (k : κ) {m : Map κ ν} (hw : WF m) : erase k m = m ↔ m.get? k = none :=
  ⟨fun h => by rw [← h, get?_erase k hw, if_pos rfl],
   fun h => ext_of_WF (WF_erase k hw) hw fun k' => by
    rw [get?_erase k hw]
    split
    · subst k'; exact h.symm
    · rfl⟩

theorem WF_filter (p : κ × ν → Bool) {m : Map κ ν} (hw : WF m) : WF (m.filter p) := List.Pairwise.filter p hw

theorem get?_filter (p : κ × ν → Bool) {m : Map κ ν} (hw : WF m) (k : κ) :
    get? (m.filter p) k = (get? m k).filter fun v => p (k, v) := by
  induction m with
  | nil => rfl
  | cons e r ih =>
    obtain ⟨k0, v0⟩ := e
    rw [List.filter_cons, get?_cons]
    by_cases hk : k0 = k
    · subst hk
      rw [if_pos rfl]
      cases hp : p (k0, v0)
      · rw [if_neg Bool.false_ne_true, ih (WF_tail hw), get?_tail_none hw]; simp [Option.filter, hp]
      · rw [if_pos rfl, get?_cons, if_pos rfl]; simp [Option.filter, hp]
    · rw [if_neg hk, ← ih (WF_tail hw)]
      split
      · rw [get?_cons, if_neg hk]
      · rfl

end ord
end Map
end Ledger.Base
