import Ledger.Machine.VM
import Ledger.Proofs.MachineNoFaultSem

/-! Byte-code level: code segments, resolution of the resource table (`Resolved`, `resolveRes_exists`) and
    the invariants of the compile state (`Ext`, `Final`, `Good`, `AddrVal`). -/
namespace Ledger.Machine

theorem runSeg_append (resv : List Value) (a b : List Instr) (stk : Stack) (st : State) :
    runSeg resv (a ++ b) stk st =
      match runSeg resv a stk st with
      | .error e => .error e
      | .ok (stk', st') => runSeg resv b stk' st' := by
  induction a generalizing stk st with
  | nil => simp [runSeg]
  | cons i is ih =>
    simp only [List.cons_append, runSeg]
    cases step resv i stk st with
    | error e => rfl
    | ok r => obtain ⟨s1, t1⟩ := r; exact ih s1 t1

theorem execInstrs_eq_runSeg (resv : List Value) (is : List Instr) (stk : Stack) (st : State) :
    execInstrs resv is stk st =
      match runSeg resv is stk st with
      | .error e => .error e
      | .ok (stk', st') =>
        if stk'.isEmpty then .ok st' else .error (.panic "stack not empty after execution") := by
  induction is generalizing stk st with
  | nil => simp [execInstrs, runSeg]
  | cons i is ih =>
    simp only [execInstrs, runSeg]
    cases step resv i stk st with
    | error e => rfl
    | ok r => obtain ⟨s1, t1⟩ := r; exact ih s1 t1

theorem resolveRes_spec (env : Env) :
    (rs : List Res) → (acc out : List Value) → resolveRes env rs acc = .ok out →
    ∃ vs, out = acc ++ vs ∧ vs.length = rs.length ∧
      ∀ i r, rs[i]? = some r → ∃ v, vs[i]? = some v ∧ resVal env (acc ++ vs.take i) r = .ok v
  | [], acc, out, h => by
    simp only [resolveRes] at h; cases h
    exact ⟨[], by simp, rfl, by intro i r hr; simp at hr⟩
  | r :: rs, acc, out, h => by
    simp only [resolveRes] at h
    split at h
    · cases h
    · rename_i x hx
      obtain ⟨vs, e1, e2, e3⟩ := resolveRes_spec env rs (acc ++ [x]) out h
      refine ⟨x :: vs, by rw [e1]; simp, by simp [e2], ?_⟩
      intro i r' hr'
      cases i with
      | zero =>
        simp only [List.getElem?_cons_zero, Option.some.injEq] at hr'
        subst hr'
        exact ⟨x, by simp, by simpa using hx⟩
      | succ k =>
        simp only [List.getElem?_cons_succ] at hr'
        obtain ⟨v, hv, hrv⟩ := e3 k r' hr'
        refine ⟨v, by simpa using hv, ?_⟩
        simpa [List.append_assoc] using hrv

/-- The value table of a fully resolved resource table. -/
structure Resolved (env : Env) (R : List Res) (resv : List Value) : Prop where
  len : resv.length = R.length
  get : ∀ i r, R[i]? = some r → ∃ v, resv[i]? = some v ∧ resVal env (resv.take i) r = .ok v

theorem resolved_of_resolveRes {env : Env} {R : List Res} {resv : List Value}
    (h : resolveRes env R [] = .ok resv) : Resolved env R resv := by
  obtain ⟨vs, e1, e2, e3⟩ := resolveRes_spec env R [] resv h
  simp only [List.nil_append] at e1
  subst e1
  exact ⟨e2, fun i r hr => by simpa using e3 i r hr⟩

def cvalue : CValue → Value
  | .account s => .account s
  | .asset s => .asset s
  | .number n => .number n
  | .str s => .str s
  | .portion p => .portion p

theorem Resolved.const {env : Env} {R : List Res} {resv : List Value} (h : Resolved env R resv)
    {i : Nat} {c : CValue} (hi : R[i]? = some (.const c)) : resv[i]? = some (cvalue c) := by
  obtain ⟨v, hv, hr⟩ := h.get i _ hi
  cases c <;> simp [resVal] at hr <;> subst hr <;> exact hv

def resName : Res → Option String
  | .var _ n => some n
  | .varMeta _ n _ _ => some n
  | .varBalance n _ _ => some n
  | _ => none

theorem Resolved.var {env : Env} {R : List Res} {resv : List Value} (h : Resolved env R resv)
    {i : Nat} {r : Res} {x : String} (hi : R[i]? = some r) (hn : resName r = some x) :
    resv[i]? = env.lookup x := by
  obtain ⟨v, hv, hr⟩ := h.get i _ hi
  cases r <;> simp [resName] at hn <;> subst hn <;> simp only [resVal] at hr <;>
    (split at hr <;> first | (cases hr; rename_i heq; rw [hv, heq]) | cases hr)

theorem Resolved.mon {env : Env} {R : List Res} {resv : List Value} (h : Resolved env R resv)
    {i a : Nat} {amt : Int} (hi : R[i]? = some (.mon a amt)) :
    ∃ s, resv[a]? = some (.asset s) ∧ resv[i]? = some (.monetary s (some amt)) := by
  obtain ⟨v, hv, hr⟩ := h.get i _ hi
  simp only [resVal] at hr
  split at hr
  · rename_i s hs
    cases hr
    refine ⟨s, ?_, hv⟩
    rw [List.getElem?_take] at hs
    split at hs
    · exact hs
    · cases hs
  · cases hr

/-- A step of the compiler only appends, code (`seg`) and resources: what stands in `cs` stays where it is. -/
structure Ext (cs cs' : CS) (seg : List Instr) : Prop where
  code : cs'.code = cs.code ++ seg
  res : ∃ more, cs'.res = cs.res ++ more
  vars : cs'.vars = cs.vars

theorem Ext.refl (cs : CS) : Ext cs cs [] := ⟨by simp, ⟨[], by simp⟩, rfl⟩

theorem Ext.trans {a b c : CS} {s1 s2 : List Instr} (h1 : Ext a b s1) (h2 : Ext b c s2) :
    Ext a c (s1 ++ s2) := by
  obtain ⟨m1, e1⟩ := h1.res
  obtain ⟨m2, e2⟩ := h2.res
  exact ⟨by rw [h2.code, h1.code, List.append_assoc], ⟨m1 ++ m2, by rw [e2, e1, List.append_assoc]⟩,
    h2.vars.trans h1.vars⟩

theorem Ext.res_get {cs cs' : CS} {seg : List Instr} (h : Ext cs cs' seg) {i : Nat} {r : Res}
    (hi : cs.res[i]? = some r) : cs'.res[i]? = some r := by
  obtain ⟨more, e⟩ := h.res
  rw [e, List.getElem?_append_left]
  · exact hi
  · exact (List.getElem?_eq_some_iff.mp hi).1

/-- `R` may be the resource table at the end of the compilation, seen from `cs`: code emitted at `cs` runs
    under such an `R`, not under `cs.res`. -/
def Final (cs : CS) (R : List Res) : Prop := ∃ tail, R = cs.res ++ tail

theorem Final.of_ext {cs cs' : CS} {seg : List Instr} {R : List Res} (h : Ext cs cs' seg)
    (hf : Final cs' R) : Final cs R := by
  obtain ⟨more, e⟩ := h.res
  obtain ⟨tail, et⟩ := hf
  exact ⟨more ++ tail, by rw [et, e, List.append_assoc]⟩

theorem Final.get {cs : CS} {R : List Res} (hf : Final cs R) {i : Nat} {r : Res}
    (hi : cs.res[i]? = some r) : R[i]? = some r := by
  obtain ⟨tail, et⟩ := hf
  rw [et, List.getElem?_append_left]
  · exact hi
  · exact (List.getElem?_eq_some_iff.mp hi).1

def VarsInv (ds : Decls) (cs : CS) : Prop :=
  ∀ x idx, cs.vars.lookup x = some idx →
    ∃ r, cs.res[idx]? = some r ∧ resName r = some x ∧ ds.lookup x = some (resTy r)

theorem VarsInv.ext {ds : Decls} {cs cs' : CS} {seg : List Instr} (h : VarsInv ds cs) (he : Ext cs cs' seg) :
    VarsInv ds cs' := by
  intro x idx hl
  rw [he.vars] at hl
  obtain ⟨r, h1, h2, h3⟩ := h x idx hl
  exact ⟨r, he.res_get h1, h2, h3⟩

/-- What lets `resolveRes` resolve the entry at index `i` to a value of its type (`resolveRes_exists`): its
    variable is declared with that type; the asset of a monetary constant sits at an earlier index, since the
    table is resolved front to back. -/
def ResCond (ds : Decls) (R : List Res) (i : Nat) : Res → Prop
  | .const _ => True
  | .var ty n => ds.lookup n = some ty
  | .varMeta ty n _ _ => ds.lookup n = some ty
  | .varBalance n _ _ => ds.lookup n = some .monetary
  | .mon a _ => a < i ∧ ∃ r', R[a]? = some r' ∧ resTy r' = .asset

def ResInv (ds : Decls) (R : List Res) : Prop := ∀ i r, R[i]? = some r → ResCond ds R i r

theorem ResCond.mono {ds : Decls} {R : List Res} {i : Nat} {r : Res} (more : List Res)
    (h : ResCond ds R i r) : ResCond ds (R ++ more) i r := by
  cases r with
  | mon a amt =>
    obtain ⟨h1, r', h2, h3⟩ := h
    refine ⟨h1, r', ?_, h3⟩
    rw [List.getElem?_append_left (List.getElem?_eq_some_iff.mp h2).1]; exact h2
  | _ => exact h

theorem ResInv.snoc {ds : Decls} {R : List Res} (h : ResInv ds R) {r : Res}
    (hr : ResCond ds R R.length r) : ResInv ds (R ++ [r]) := by
  intro i x hx
  by_cases hi : i < R.length
  · rw [List.getElem?_append_left hi] at hx
    exact (h i x hx).mono [r]
  · have hlen := (List.getElem?_eq_some_iff.mp hx).1
    simp only [List.length_append, List.length_cons, List.length_nil] at hlen
    have : i = R.length := by omega
    subst this
    simp at hx
    subst hx
    exact hr.mono [r]

def Good (ds : Decls) (cs : CS) : Prop := VarsInv ds cs ∧ ResInv ds cs.res

theorem Good.ext {ds : Decls} {cs cs' : CS} {seg : List Instr} (h : Good ds cs) (he : Ext cs cs' seg)
    (hr : ResInv ds cs'.res) : Good ds cs' := ⟨h.1.ext he, hr⟩

structure StepOK (cs cs' : CS) (seg : List Instr) : Prop where
  ext : Ext cs cs' seg
  needed : cs'.needed = cs.needed

/-- Address `a` holds `v` at run time, whatever the compiler appends after `cs`. -/
def AddrVal (env : Env) (a : Nat) (v : Value) (cs : CS) : Prop :=
  ∀ R resv, Final cs R → Resolved env R resv → resv[a]? = some v

theorem AddrVal.ext {env : Env} {a : Nat} {v : Value} {cs cs' : CS} {seg : List Instr}
    (h : AddrVal env a v cs) (he : Ext cs cs' seg) : AddrVal env a v cs' :=
  fun R resv hf hr => h R resv (Final.of_ext he hf) hr

theorem AddrVal.const {env : Env} {a : Nat} {c : CValue} {cs : CS} (h : cs.res[a]? = some (.const c)) :
    AddrVal env a (cvalue c) cs :=
  fun _ _ hf hr => hr.const (hf.get h)

theorem AddrVal.var {env : Env} {a : Nat} {r : Res} {x : String} {v : Value} {cs : CS} (h : cs.res[a]? = some r)
    (hn : resName r = some x) (hx : env.lookup x = some v) : AddrVal env a v cs :=
  fun _ _ hf hr => (hr.var (hf.get h) hn).trans hx

theorem AddrVal.mon {env : Env} {i a : Nat} {n : Int} {s : String} {cs : CS} (h : cs.res[i]? = some (.mon a n))
    (ha : AddrVal env a (.asset s) cs) : AddrVal env i (.monetary s (some n)) cs := by
  intro R resv hf hr
  obtain ⟨s', h1, h2⟩ := hr.mon (hf.get h)
  rw [ha R resv hf hr] at h1
  cases h1
  exact h2

theorem findIdx?_some {α : Type} {p : α → Bool} {xs : List α} {i : Nat} (h : findIdx? p xs = some i) :
    ∃ x, xs[i]? = some x ∧ p x = true := by
  unfold findIdx? at h
  split at h
  · rename_i hlt
    cases h
    exact ⟨xs[List.findIdx p xs], by simp [hlt], List.findIdx_getElem⟩
  · cases h

theorem resVal_typed {ds : Decls} {env : Env} (henv : EnvTyped ds env) {R : List Res} {acc : List Value}
    (hacc : ∀ i r, i < acc.length → R[i]? = some r → ∃ v, acc[i]? = some v ∧ valueTy v = resTy r)
    {r : Res} (hc : ResCond ds R acc.length r) :
    ∃ x, resVal env acc r = .ok x ∧ valueTy x = resTy r := by
  cases r with
  | const c => cases c <;> exact ⟨_, rfl, rfl⟩
  | var ty n =>
    obtain ⟨v, hv, hty⟩ := henv n ty hc
    exact ⟨v, by simp [resVal, hv], hty⟩
  | varMeta ty n a k =>
    obtain ⟨v, hv, hty⟩ := henv n ty hc
    exact ⟨v, by simp [resVal, hv], hty⟩
  | varBalance n a c =>
    obtain ⟨v, hv, hty⟩ := henv n .monetary hc
    exact ⟨v, by simp [resVal, hv], hty⟩
  | mon a amt =>
    obtain ⟨h1, r', h2, h3⟩ := hc
    obtain ⟨v, hv, hty⟩ := hacc a r' h1 h2
    rw [h3] at hty
    obtain ⟨s, rfl⟩ := val_asset hty
    exact ⟨.monetary s (some amt), by simp [resVal, hv], rfl⟩

theorem resolveRes_exists {ds : Decls} {env : Env} (henv : EnvTyped ds env) {R : List Res} (hR : ResInv ds R) :
    (suf pre : List Res) → R = pre ++ suf → (acc : List Value) → acc.length = pre.length →
    (∀ i r, i < acc.length → R[i]? = some r → ∃ v, acc[i]? = some v ∧ valueTy v = resTy r) →
    ∃ out, resolveRes env suf acc = .ok out
  | [], _, _, acc, _, _ => ⟨acc, rfl⟩
  | r :: rest, pre, hsplit, acc, hlen, hacc => by
    have hri : R[pre.length]? = some r := by rw [hsplit]; simp
    have hc := hR _ r hri
    rw [← hlen] at hc
    obtain ⟨x, hx, hxt⟩ := resVal_typed henv hacc hc
    simp only [resolveRes, hx]
    apply resolveRes_exists henv hR rest (pre ++ [r]) (by rw [hsplit]; simp) (acc ++ [x]) (by simp [hlen])
    intro i r' hi hr'
    by_cases hlt : i < acc.length
    · obtain ⟨v, hv, hvt⟩ := hacc i r' hlt hr'
      exact ⟨v, by rw [List.getElem?_append_left hlt]; exact hv, hvt⟩
    · have : i = acc.length := by simp at hi; omega
      subst this
      rw [hlen, hri] at hr'
      cases hr'
      exact ⟨x, by simp, hxt⟩

theorem resTy_cvalue_account (s : String) : resTy (.const (.account s)) = .account := rfl

end Ledger.Machine
