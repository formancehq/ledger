/-! Facts on lists and on `Except` that more than one area uses and that mention no definition of the
    development; core Lean only. -/

/-- What a successful `do` block says of its first line. -/
theorem Except.bind_ok {ε : Type u} {α β : Type v} {x : Except ε α} {f : α → Except ε β} {b : β}
    (h : x >>= f = .ok b) : ∃ a, x = .ok a ∧ f a = .ok b := by
  cases x with
  | error e => cases h
  | ok a => exact ⟨a, rfl, h⟩

namespace Ledger

theorem pairwise_append_one {α : Type} {R : α → α → Prop} {l : List α} {x : α}
    (h : l.Pairwise R) (hx : ∀ a ∈ l, R a x) : (l ++ [x]).Pairwise R :=
  List.pairwise_append.mpr ⟨h, List.pairwise_singleton _ _, fun a ha _ hb => List.mem_singleton.mp hb ▸ hx a ha⟩

theorem pairwise_tri {α : Type} {R : α → α → Prop} {l : List α} (h : l.Pairwise R) {a b : α} (ha : a ∈ l) (hb : b ∈ l) :
    a = b ∨ R a b ∨ R b a := by
  induction l with
  | nil => simp at ha
  | cons x l ih =>
    rw [List.pairwise_cons] at h
    rcases List.mem_cons.mp ha with ha' | ha' <;> rcases List.mem_cons.mp hb with hb' | hb'
    · exact Or.inl (ha'.trans hb'.symm)
    · subst ha'; exact Or.inr (Or.inl (h.1 b hb'))
    · subst hb'; exact Or.inr (Or.inr (h.1 a ha'))
    · exact ih h.2 ha' hb'

/-- a key without duplicates determines the element -/
theorem nodup_map_inj {α β : Type} (f : α → β) : ∀ (l : List α), (l.map f).Nodup → ∀ a ∈ l, ∀ b ∈ l, f a = f b → a = b := by
  intro l
  induction l with
  | nil => intro _ a ha; simp at ha
  | cons x xs ih =>
    intro h a ha b hb e
    simp only [List.map_cons, List.nodup_cons] at h
    rcases List.mem_cons.mp ha with rfl | ha' <;> rcases List.mem_cons.mp hb with rfl | hb'
    · rfl
    · exact absurd (by rw [e]; exact List.mem_map_of_mem hb') h.1
    · exact absurd (by rw [← e]; exact List.mem_map_of_mem ha') h.1
    · exact ih h.2 a ha' b hb' e

/-- `foldl max`: above the start, above every member, and one of them -/
theorem foldl_max_spec {α : Type} [LE α] [Max α] [Std.IsLinearOrder α] [Std.LawfulOrderMax α] (l : List α) (c : α) :
    c ≤ l.foldl max c ∧ (∀ x ∈ l, x ≤ l.foldl max c) ∧ (l.foldl max c = c ∨ l.foldl max c ∈ l) := by
  induction l generalizing c with
  | nil => exact ⟨Std.le_refl c, nofun, .inl rfl⟩
  | cons y ys ih =>
    obtain ⟨h1, h2, h3⟩ := ih (max c y)
    refine ⟨Std.le_trans Std.left_le_max h1, fun x hx => ?_, ?_⟩
    · rcases List.mem_cons.mp hx with rfl | hx
      · exact Std.le_trans Std.right_le_max h1
      · exact h2 x hx
    · rcases h3 with e | e
      · rw [List.foldl_cons, e]
        rcases Std.max_eq_or (a := c) (b := y) with e' | e'
        · exact .inl e'
        · exact .inr (by rw [e']; exact List.mem_cons_self)
      · exact .inr (List.mem_cons_of_mem _ e)

end Ledger
