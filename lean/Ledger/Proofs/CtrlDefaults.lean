import Ledger.Proofs.CtrlStore

/-!
Chart defaults play a role exactly when `UpsertAccounts` CREATES the row: the
value the store leaves at an address that already had a row does not depend on the
`defaults` the controller attached (`tx.AccountsWithDefaultMetadata`,
`saveAccountMetadata`), for a single row and for a whole batch.
-/
namespace Ledger.Ctrl
open Ledger.Base Ledger.Core

theorem upsertAccount_get?_ne (now : Time) (accs : Map String Account) (r : AccIn) (a : String)
    (hne : a ≠ r.address) : (upsertAccount now accs r).get? a = accs.get? a := by
  unfold upsertAccount
  cases accs.get? r.address with
  | none => exact Map.get?_insert_ne _ _ _ _ hne
  | some x =>
    dsimp only
    split <;> split <;> first | exact Map.get?_insert_ne _ _ _ _ hne | rfl

theorem upsertAccount_get?_existing (now : Time) (accs1 accs2 : Map String Account) (r : AccIn) (D : Meta)
    (x : Account) (h1 : accs1.get? r.address = some x) (h2 : accs2.get? r.address = some x) :
    (upsertAccount now accs1 r).get? r.address = (upsertAccount now accs2 { r with defaults := D }).get? r.address ∧
    ((upsertAccount now accs1 r).get? r.address).isSome = true := by
  unfold upsertAccount
  simp only [h1, h2]
  split <;> split <;> simp [Map.get?_insert_self, h1, h2]

theorem upsertAccounts_existing_ignores_defaults (now : Time) (mk1 mk2 : String → AccIn)
    (hadr1 : ∀ a, (mk1 a).address = a)
    (hsame : ∀ a, mk2 a = { mk1 a with defaults := (mk2 a).defaults })
    (as : List String) (accs1 accs2 : Map String Account) (a : String) (x : Account)
    (h1 : accs1.get? a = some x) (h2 : accs2.get? a = some x) :
    ((as.map mk1).foldl (upsertAccount now) accs1).get? a = ((as.map mk2).foldl (upsertAccount now) accs2).get? a := by
  induction as generalizing accs1 accs2 x with
  | nil => simp only [List.map_nil, List.foldl_nil, h1, h2]
  | cons b rest ih =>
    simp only [List.map_cons, List.foldl_cons]
    by_cases hb : a = b
    · subst hb
      have ha1 : accs1.get? (mk1 a).address = some x := by rw [hadr1]; exact h1
      have ha2 : accs2.get? (mk1 a).address = some x := by rw [hadr1]; exact h2
      have hk := upsertAccount_get?_existing now accs1 accs2 (mk1 a) (mk2 a).defaults x ha1 ha2
      rw [← hsame a, hadr1] at hk
      obtain ⟨y, hy⟩ := Option.isSome_iff_exists.mp hk.2
      exact ih _ _ y hy (hk.1 ▸ hy)
    · have hn1 : a ≠ (mk1 b).address := by rw [hadr1]; exact hb
      have hn2 : a ≠ (mk2 b).address := by rw [hsame b]; exact hn1
      exact ih _ _ x ((upsertAccount_get?_ne now accs1 (mk1 b) a hn1).trans h1)
        ((upsertAccount_get?_ne now accs2 (mk2 b) a hn2).trans h2)

end Ledger.Ctrl
