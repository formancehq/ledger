import Ledger.E2e.Multi
import Ledger.Proofs.CtrlStore

/-!
Helper lemmas for `Ledger.Props.C19e`: an interleaved multi-ledger history projects, ledger by
ledger, onto the single-ledger model; the storage driver's alone-in-bucket hint is correct after
any sequence of create / open.
-/
namespace Ledger.E2e
open Ledger.Base Ledger.Core Ledger.Ctrl

theorem stepM_other (strict : Bool) (m : MState) (l l' : String) (op : Op) (f : Faults) (cf : Bool) (h : l' ≠ l) :
    (stepM strict m l op f cf).1.ledgers l' = m.ledgers l' := by
  simp [stepM, h]

theorem stepM_self (strict : Bool) (m : MState) (l : String) (op : Op) :
    (stepM strict m l op).1.ledgers l = (step strict (m.ledgers l) op).1 := by
  simp [stepM, Ledger.Ctrl.stepF, step]

theorem runM_project (strict : Bool) (m : MState) (h : List (String × Op)) (l : String) :
    (runM strict m h).ledgers l = runHist strict (m.ledgers l) (opsOf l h) := by
  induction h generalizing m with
  | nil => rfl
  | cons e r ih =>
    obtain ⟨l', op⟩ := e
    simp only [runM]
    rw [ih]
    by_cases hl : l' = l
    · subst hl
      simp only [opsOf, List.filterMap_cons, ↓reduceIte, runHist]
      rw [stepM_self]
    · have hne : l ≠ l' := fun h => hl h.symm
      simp only [opsOf, List.filterMap_cons, hl, ↓reduceIte]
      rw [stepM_other strict m l' l op [] false hne]

/-- Writing the right hint for one bucket, the counts of the others unchanged, keeps the hints right. -/
theorem hints_insert {d d' : DriverState} (bucket : String) (h : d.HintsCorrect)
    (hf : d'.flags = d.flags.insert bucket (decide (d'.count bucket = 1)))
    (hc : ∀ b, b ≠ bucket → d'.count b = d.count b) : d'.HintsCorrect := by
  intro b v hv
  rw [hf, Map.get?_insert] at hv
  split at hv
  · subst b; exact (Option.some.inj hv).symm
  · rw [hc b ‹_›]; exact h b v hv

theorem driverStep_hints (d : DriverState) (op : DriverOp) (h : d.HintsCorrect) : (driverStep d op).HintsCorrect := by
  cases op with
  | create name bucket =>
    simp only [driverStep]
    split
    · exact h
    · refine hints_insert bucket h rfl fun b hb => ?_
      have : (bucket == b) = false := by simp [Ne.symm hb]
      simp [DriverState.count, List.filter_append, this]
  | openLedger name =>
    simp only [driverStep]
    split
    · exact h
    · exact hints_insert _ h rfl fun _ _ => rfl

theorem driverRun_hints (d : DriverState) (ops : List DriverOp) (h : d.HintsCorrect) : (driverRun d ops).HintsCorrect := by
  induction ops generalizing d with
  | nil => exact h
  | cons op r ih => exact ih _ (driverStep_hints d op h)

theorem hints_empty : ({} : DriverState).HintsCorrect := fun _ _ hv => nomatch hv

end Ledger.E2e
