import Ledger.Proofs.SqlVolumes
import Ledger.Proofs.SqlNested

/-!
# `UpdateVolumes`: the generated statement under LeanPG

`updateVolumes_shape` takes the AST of `Ledger.Generated.WriteSql.P.updateVolumes` apart and
establishes `AvShape` for its pieces (column order, arbiter index, SET expressions, RETURNING list); `AvState` is what the
statement asks of the state it runs in.
-/
open Ledger.Sql Ledger.Generated
open Ledger.Generated.WriteSql.P (VolumeRow)

namespace Ledger.Sql

theorem lastComponent_av : lastComponent "accounts_volumes" = "accounts_volumes" := by decide
theorem lastComponent_excluded : lastComponent "excluded" = "excluded" := by decide

open Ledger.Generated.WriteSql in
/-- The statement rendered by `UpdateVolumes`, taken apart; `AvShape` holds for its pieces: the column list is
    that of `exec_buildRow_av`, the conflict target is the primary key, each SET expression adds the excluded value
    to the stored one. -/
theorem updateVolumes_shape (env : Env) (b l : String) (id : Nat) :
    ∃ (cols target : List String) (sets : List SetItem) (returning : List SelItem) (f : VolumeRow → List Expr)
      (g : VolumeRow → List (Option Value)),
      (∀ rows, P.updateVolumes b l id rows =
        [Stmt.insert [] b "accounts_volumes" "" cols (.values (rows.map f))
          (some (.mk target none "" (.update sets none))) returning]) ∧
      cols.isEmpty = false ∧ (∀ r m s, (evalValuesRow (m + 1) env (f r)).exec s = (.ok (g r), s)) ∧
      AvShape env b "accounts_volumes" "" l cols target sets returning g := by
  refine ⟨_, _, _, _, _, _, fun rows => rfl, rfl, fun r m s => exec_evalValuesRow_pv m env _ _ s (by simp) (by simp only [pvs, pv]; rfl), ?_⟩
  constructor
  · exact fun r m rs nr s => exec_buildRow_av m b rs nr s l r.accounts_address r.asset r.input_ r.output_
  · exact fun rs nr s => rfl
  · intro r m rs nr s i0 o0
    -- the stored row under the table's name, the proposed one under `excluded`
    have old := fun c v h => lookupColumn_alias (avConflictEnv env (if ("" : String).isEmpty then "accounts_volumes" else "") b rs nr
      [.text l, .text r.accounts_address, .text r.asset, .int i0, .int o0]
      [.text l, .text r.accounts_address, .text r.asset, .int r.input_, .int r.output_]) "accounts_volumes" c _ v rfl
      (by rw [lastComponent_av]; rfl) h
    have exc := fun c v h => lookupColumn_alias (avConflictEnv env (if ("" : String).isEmpty then "accounts_volumes" else "") b rs nr
      [.text l, .text r.accounts_address, .text r.asset, .int i0, .int o0]
      [.text l, .text r.accounts_address, .text r.asset, .int r.input_, .int r.output_]) "excluded" c _ v rfl
      (by rw [lastComponent_excluded]; rfl) h
    refine (exec_applySets_all m _ (avT b rs nr) _ _ [("input", .int (i0 + r.input_)), ("output", .int (o0 + r.output_))] s ?_).trans rfl
    refine ⟨.of_pv rfl ?_ (castTo_numeric_int _ _), .of_pv rfl ?_ (castTo_numeric_int _ _), trivial⟩ <;>
    simp only [pv, old "input" (.int i0) rfl, old "output" (.int o0) rfl, exc "input" (.int r.input_) rfl, exc "output" (.int r.output_) rfl,
      binV_ok, evalBinop_add_int, ne_eq, reduceCtorEq, not_false_eq_true, Int.add_comm]
  · rfl

/-- the hypotheses on the state in which the statement runs -/
structure AvState (s : St) (b l : String) (rs : List Ver) (nr : Nat) : Prop where
  /-- the bucket's `accounts_volumes` is the generated table with row versions `rs` -/
  table : s.w.table? (avFull b) = some (avT b rs nr)
  /-- no other transaction is in progress (the statement never waits) -/
  solo : ∀ x ∈ s.w.active, x = s.xid
  /-- the statement runs inside a transaction, below the command-id horizon of `latestView` -/
  xid : s.xid ≠ 0
  cid : s.cid < 1000000000
  inv : AvInv (latestView s.w s.xid) rs nr
  /-- the command id is fresh: nothing was written under it yet -/
  fresh : AvDone s.xid s.cid l rs []

end Ledger.Sql
