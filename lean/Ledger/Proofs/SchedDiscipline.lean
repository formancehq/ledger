import Ledger.Proofs.SchedLocks

/-!
# Lock discipline of the log inserts, under any schedule

A *monitor* follows a session's program and under-approximates what the session is known to
hold: the advisory key `K`, whether it is inside a transaction / a savepoint, and whether it may
have uncommitted logs of ledger `l₀`. `Safe d m p`: along every path of `p` (for every answer of
every statement) each log INSERT on `l₀` is issued while the key is held inside a transaction, and
the session-level unlock is issued only when no log of the session is uncommitted.
`GInv`: every session's program is safe for a monitor state that the world justifies. It is
preserved by every step of every session; hence an uncommitted log always belongs to the holder
of the key.
-/
namespace Ledger.Sched

structure Mon where
  held : Bool := false
  xact : Bool := false
  tx : Bool := false
  sp : Bool := false
  dirty : Bool := false
  deriving DecidableEq, Repr

/-- the discipline: key `K` guards the log inserts of ledger `l₀`; `strict`: moreover the inserts take
    their id from the sequence and run the hash trigger, and the sequences of `l₀` are never reset -/
structure Disc where
  K : Nat
  l₀ : Nat
  strict : Bool

/-- does the statement acquire `K`? (`some xact`) -/
def locksK (d : Disc) : Stmt → Option Bool
  | .advLockLog l => if logKey l = d.K then some true else none
  | .lockLedgerX l => if ledgerKey l = d.K then some true else none
  | .lockLedgerS l => if ledgerKey l = d.K then some false else none
  | _ => none

def monOk (d : Disc) (m : Mon) : Stmt → Prop
  | .insertLog l _ _ sy i _ => l = d.l₀ → (m.held = true ∧ m.tx = true ∧ (d.strict = true → sy = true ∧ i = none))
  | .unlockLedgerS l => ledgerKey l = d.K → m.dirty = false
  | .setval l => d.strict = true → l ≠ d.l₀
  | _ => True

def monStep (d : Disc) (m : Mon) (st : Stmt) (o : Out) : Mon :=
  match o.err with
  | some .aborted => m
  | some _ => { m with held := m.held && (!m.xact || (m.sp && d.K % 2 == 1)), dirty := false }
  | none =>
    match st with
    | .begin => { m with tx := true }
    | .commit | .rollback => { m with held := m.held && !m.xact, tx := false, sp := false, dirty := false }
    | .savepoint => { m with sp := true }
    | .release => { m with sp := false }
    | .insertLog l _ _ _ _ _ => if l = d.l₀ then { m with dirty := true } else m
    | .unlockLedgerS l => if ledgerKey l = d.K then { m with held := m.held && m.xact } else m
    | st =>
      match locksK d st with
      | some x => { m with held := true, xact := if m.held && !m.xact then false else x }
      | none => m

def Safe (d : Disc) : Mon → Prog → Prop
  | _, .done _ => True
  | m, .stmt st k => monOk d m st ∧ ∀ o, Possible st o → Safe d (monStep d m st o) (k o)

structure MonOf (d : Disc) (w : World) (s : Sid) (m : Mon) : Prop where
  held : m.held = true → ∃ a ∈ w.adv, a.key = d.K ∧ a.sid = s ∧ a.xact = m.xact
  tx : m.tx = true → (w.sess s).inTx = true
  sp : m.sp = true → (w.sess s).sp ≠ 0
  clean : m.dirty = false → ∀ e ∈ w.logs, e.l = d.l₀ → e.by_ = s → e.com = true
  dirtyTx : m.dirty = true → m.tx = true
  dirtyHeld : m.dirty = true → m.held = true

def GInv (d : Disc) (w : World) : Prop :=
  AdvWf w ∧ ∀ s, ∃ m, MonOf d w s m ∧ Safe d m (w.sess s).prog

theorem MonOf.holds {d : Disc} {w : World} {s : Sid} {m : Mon} (hm : MonOf d w s m) (hh : m.held = true) : Holds w s d.K :=
  let ⟨a, ha, hk, hs, _⟩ := hm.held hh
  ⟨a, ha, hk, hs⟩

theorem ginv_uncommitted_holds (d : Disc) (w : World) (h : GInv d w) (e : Lg) (he : e ∈ w.logs)
    (hl : e.l = d.l₀) (hc : e.com = false) : Holds w e.by_ d.K := by
  obtain ⟨m, hm, _⟩ := h.2 e.by_
  cases hd : m.dirty with
  | false =>
    have := hm.clean hd e he hl rfl
    rw [hc] at this; cases this
  | true => exact hm.holds (hm.dirtyHeld hd)

theorem ginv_init (d : Disc) (w : World) (hadv : w.adv = []) (hlogs : w.logs = [])
    (hs : ∀ s, Safe d {} (w.sess s).prog) : GInv d w :=
  ⟨fun a ha => (by rw [hadv] at ha; cases ha), fun s => ⟨{}, (by
    refine ⟨?_, ?_, ?_, fun _ e he => (by rw [hlogs] at he; cases he), ?_, ?_⟩ <;> (intro h; cases h)), hs s⟩⟩

theorem monStep_aborted (d : Disc) (m : Mon) (st : Stmt) (o : Out) (h : o.err = some .aborted) : monStep d m st o = m := by
  unfold monStep; rw [h]

theorem monStep_err (d : Disc) (m : Mon) (st : Stmt) (o : Out) (e : Err) (ho : o.err = some e) (hne : e ≠ .aborted) :
    monStep d m st o = { m with held := m.held && (!m.xact || (m.sp && d.K % 2 == 1)), dirty := false } := by
  unfold monStep
  rw [ho]
  cases e <;> first | rfl | exact absurd rfl hne

theorem monStep_plain (d : Disc) (m : Mon) (st : Stmt) (o : Out) (hp : st.plain = true) (ho : o.err = none) :
    monStep d m st o = m := by
  unfold monStep; rw [ho]
  cases st <;> first | rfl | cases hp

theorem monStep_begin (d : Disc) (m : Mon) (o : Out) (h : Possible .begin o) : monStep d m .begin o = { m with tx := true } := by
  have : o.err = none := h
  unfold monStep; rw [this]

theorem monStep_end (d : Disc) (m : Mon) {st : Stmt} (o : Out) (hst : st = .commit ∨ st = .rollback) (ho : Possible st o) :
    monStep d m st o = { m with held := m.held && !m.xact, tx := false, sp := false, dirty := false } := by
  rcases hst with rfl | rfl <;> (have : o.err = none := ho; unfold monStep; rw [this])

theorem monStep_insLog (d : Disc) (m : Mon) (l ik hash : Nat) (sync : Bool) (id : Option Nat) (tx : Nat) (o : Out)
    (ho : o.err = none) :
    monStep d m (.insertLog l ik hash sync id tx) o = if l = d.l₀ then { m with dirty := true } else m := by
  unfold monStep; rw [ho]

theorem monStep_lock (d : Disc) (m : Mon) {st : Stmt} {key : Nat} {x : Bool} (o : Out)
    (hreq : st.lockReq = some (key, x)) (ho : o.err = none) :
    monStep d m st o =
      if key = d.K then { m with held := true, xact := if m.held && !m.xact then false else x } else m := by
  unfold monStep; rw [ho]
  cases st <;> first
    | (cases hreq; done)
    | (by_cases hk : key = d.K <;> cases hreq <;> simp only [locksK, hk, if_true, if_false])

/-- what the world justifies of `s` goes over to a world that keeps the advisory entries of `s`, where `s` is as deep
    in transactions and savepoints, and where `s` has no uncommitted log that it did not have -/
theorem MonOf.transfer {d : Disc} {w w' : World} {s : Sid} {m : Mon} (h : MonOf d w s m)
    (hadv : ∀ a ∈ w.adv, a.sid = s → a ∈ w'.adv) (hin : (w'.sess s).inTx = (w.sess s).inTx)
    (hsp : (w'.sess s).sp = (w.sess s).sp) (hlogs : ∀ e ∈ w'.logs, e.by_ = s → e.com = false → e ∈ w.logs) :
    MonOf d w' s m := by
  refine ⟨fun hh => ?_, hin ▸ h.tx, hsp ▸ h.sp, fun hd e he hl hb => ?_, h.dirtyTx, h.dirtyHeld⟩
  · obtain ⟨a, ha, hk, hs, hx⟩ := h.held hh
    exact ⟨a, hadv a ha hs, hk, hs, hx⟩
  · cases hc : e.com with
    | true => rfl
    | false => exact hc ▸ h.clean hd e (hlogs e he hb hc) hl hb

theorem MonOf.same {d : Disc} {s : Sid} {w w' : World} {m : Mon} (hm : MonOf d w s m) (h : SameFor s w w') :
    MonOf d w' s m :=
  hm.transfer h.adv h.inTx h.sp h.logs

/-- session-local updates that leave the transaction and savepoint depth alone -/
theorem MonOf.setSess {d : Disc} {w : World} {s : Sid} {m : Mon} (h : MonOf d w s m) (f : Session → Session)
    (hf : ∀ x : Session, (f x).inTx = x.inTx ∧ (f x).sp = x.sp) :
    MonOf d (w.setSess s f) s m :=
  h.transfer (fun _ h _ => h) (by rw [setSess_sess_self, (hf _).1]) (by rw [setSess_sess_self, (hf _).2]) fun _ h _ _ => h

theorem undo_clean (w : World) (s : Sid) (b : Bool) : ∀ e ∈ (w.undo s b).logs, e.by_ = s → e.com = true := by
  intro e he hb
  have := (List.mem_filter.mp he).2
  simp only [Bool.or_eq_true, decide_eq_true_eq] at this
  exact this.elim id (absurd hb)

/-- the key survives the undoing when it is session-scoped, or when it is the (odd) ledger key and
    the undoing stops at a savepoint -/
theorem undo_keeps_key (d : Disc) (w : World) (s : Sid) (m : Mon) (h : MonOf d w s m) (keep c : Bool)
    (hc : c = true → keep = true) (hh : (m.held && (!m.xact || (c && d.K % 2 == 1))) = true) :
    ∃ a ∈ (w.undo s keep).adv, a.key = d.K ∧ a.sid = s ∧ a.xact = m.xact := by
  simp only [Bool.and_eq_true, Bool.or_eq_true, Bool.not_eq_true', beq_iff_eq] at hh
  obtain ⟨a, ha, hk, hs, hx⟩ := h.held hh.1
  exact ⟨a, undo_keeps_adv ha (.inr (hh.2.imp hx.trans fun ⟨hc', hodd⟩ => ⟨hc hc', hk ▸ hodd⟩)), hk, hs, hx⟩

theorem monOf_undo (d : Disc) (w : World) (s : Sid) (m : Mon) (h : MonOf d w s m) (keep c : Bool)
    (hc : c = true → keep = true) :
    MonOf d (w.undo s keep) s { m with held := m.held && (!m.xact || (c && d.K % 2 == 1)), dirty := false } :=
  ⟨undo_keeps_key d w s m h keep c hc, h.tx, h.sp, fun _ e he _ hb => undo_clean w s keep e he hb, nofun, nofun⟩

theorem monOf_rollback (d : Disc) (w : World) (s : Sid) (m : Mon) (h : MonOf d w s m) :
    MonOf d (w.rollbackTx s) s { m with held := m.held && !m.xact, tx := false, sp := false, dirty := false } :=
  ⟨fun hh => undo_keeps_key d w s m h false false (fun hc => hc) (by simpa using hh),
    nofun, nofun, fun _ e he _ hb => undo_clean w s false e he hb, nofun, nofun⟩

theorem monOf_commit (d : Disc) (w : World) (s : Sid) (m : Mon) (h : MonOf d w s m) :
    MonOf d (w.commitTx s) s { m with held := m.held && !m.xact, tx := false, sp := false, dirty := false } := by
  refine ⟨?_, nofun, nofun, ?_, nofun, nofun⟩
  · intro hh
    simp only [Bool.and_eq_true, Bool.not_eq_true'] at hh
    obtain ⟨a, ha, hk, hs, hx⟩ := h.held hh.1
    refine ⟨a, List.mem_filter.mpr ⟨ha, ?_⟩, hk, hs, hx⟩
    simp [hx, hh.2]
  · intro _ e he _ hb
    obtain ⟨x, _, hxe⟩ := List.mem_map.mp he
    by_cases hxs : x.by_ = s
    · rw [if_pos hxs] at hxe; rw [← hxe]
    · rw [if_neg hxs] at hxe; rw [← hxe] at hb; exact absurd hb hxs

theorem monOf_fail (d : Disc) (w : World) (s : Sid) (m : Mon) (h : MonOf d w s m) :
    MonOf d (w.failTx s) s { m with held := m.held && (!m.xact || (m.sp && d.K % 2 == 1)), dirty := false } := by
  unfold World.failTx
  dsimp only
  split
  · refine ((monOf_undo d w s m h _ m.sp fun hsp => ?_).same (sameFor_clear s s _)).setSess _ fun _ => ⟨rfl, rfl⟩
    exact decide_eq_true (Nat.pos_of_ne_zero (h.sp hsp))
  · rename_i hin
    have hnd : m.dirty = false := by
      cases hd : m.dirty with
      | false => rfl
      | true => exact absurd (h.tx (h.dirtyTx hd)) hin
    refine MonOf.setSess ?_ _ fun _ => ⟨rfl, rfl⟩
    exact ⟨fun hh => h.held (Bool.and_eq_true_iff.mp hh).1, h.tx, h.sp, fun _ => h.clean hnd, nofun, nofun⟩

theorem monOf_eff (d : Disc) (w : World) (s : Sid) (st : Stmt) (w' : World) (o : Out) (m : Mon)
    (hm : MonOf d w s m) (hok : monOk d m st) (ho : o.err = none)
    (he : Eff w s st w') : MonOf d w' s (monStep d m st o) := by
  cases he with
  | same st hp => rw [monStep_plain d m st o hp ho]; exact hm
  | lock st key x hreq hn =>
    rw [monStep_lock d m o hreq ho]
    split
    · rename_i hk
      refine ⟨fun _ => ?_, hm.tx, hm.sp, hm.clean, hm.dirtyTx, (fun _ => rfl)⟩
      dsimp only
      split
      · -- already held for the session: the new transaction-scoped entry changes nothing
        rename_i hh
        simp only [Bool.and_eq_true, Bool.not_eq_true'] at hh
        obtain ⟨a, ha, hak, has, hax⟩ := hm.held hh.1
        exact ⟨a, List.mem_append_left _ ha, hak, has, hax.trans hh.2⟩
      · exact ⟨_, List.mem_append_right _ (List.mem_singleton.mpr rfl), hk, rfl, rfl⟩
    · refine ⟨fun hh => ?_, hm.tx, hm.sp, hm.clean, hm.dirtyTx, hm.dirtyHeld⟩
      obtain ⟨a, ha, hrest⟩ := hm.held hh
      exact ⟨a, List.mem_append_left _ ha, hrest⟩
  | unlock l =>
    -- the wake-up of waiters aside, the world is `w` without the session-scoped entries of the key
    refine MonOf.same (w := { w with adv := w.adv.filter fun a => !(a.key = ledgerKey l && a.sid = s && !a.xact) }) ?_
      (sameFor_clear s s _)
    unfold monStep
    rw [ho]
    dsimp only
    split
    · rename_i hk
      refine ⟨fun hh => ?_, hm.tx, hm.sp, hm.clean, hm.dirtyTx, fun hd => ?_⟩
      · simp only [Bool.and_eq_true] at hh
        obtain ⟨a, ha, hak, has, hax⟩ := hm.held hh.1
        refine ⟨a, List.mem_filter.mpr ⟨ha, ?_⟩, hak, has, hax⟩
        simp [hax, hh.2]
      · rw [hok hk] at hd; cases hd
    · rename_i hk
      refine ⟨fun hh => ?_, hm.tx, hm.sp, hm.clean, hm.dirtyTx, hm.dirtyHeld⟩
      obtain ⟨a, ha, hak, has, hax⟩ := hm.held hh
      refine ⟨a, List.mem_filter.mpr ⟨ha, ?_⟩, hak, has, hax⟩
      have : ¬ a.key = ledgerKey l := by rw [hak]; exact fun h => hk h.symm
      simp [this]
  | insLog l ik hash sync id tx _ _ =>
    unfold monStep
    rw [ho]
    dsimp only
    split
    · rename_i hl
      have hk := hok hl
      exact ⟨hm.held, hm.tx, hm.sp, nofun, (fun _ => hk.2.1), (fun _ => hk.1)⟩
    · rename_i hl
      refine ⟨hm.held, hm.tx, hm.sp, fun hd e he' hel hb => ?_, hm.dirtyTx, hm.dirtyHeld⟩
      rcases List.mem_append.mp he' with he' | he'
      · exact hm.clean hd e he' hel hb
      · rw [List.mem_singleton.mp he'] at hel; exact absurd hel hl
  | _ => rw [monStep_plain d m _ o rfl ho]; exact hm.transfer (fun _ h _ => h) rfl rfl fun _ h _ _ => h

theorem monOf_turn (d : Disc) (w : World) (s : Sid) (st : Stmt) (o : Out) (w1 : World) (m : Mon)
    (hm : MonOf d w s m) (hok : monOk d m st) (ht : Turn w s st o w1) : MonOf d w1 s (monStep d m st o) := by
  cases ht with
  | refused _ _ => exact hm
  | failed _ e tq lq _ hne _ =>
    rw [monStep_err d m _ _ e rfl hne, failTx_seq]
    exact (monOf_fail d w s m hm).transfer (fun _ h _ => h) rfl rfl fun _ h _ _ => h
  | begin =>
    refine ⟨hm.held, (fun _ => by rw [setSess_sess_self]), ?_, hm.clean, (fun _ => rfl), hm.dirtyHeld⟩
    intro hsp; rw [setSess_sess_self]; exact hm.sp hsp
  | commitNoop hin =>
    have hnd : m.dirty = false := by
      cases hd : m.dirty with
      | false => rfl
      | true => have := hm.tx (hm.dirtyTx hd); rw [hin] at this; cases this
    exact ⟨fun hh => hm.held (Bool.and_eq_true_iff.mp hh).1, nofun, nofun,
      (fun _ => hm.clean hnd), nofun, nofun⟩
  | rollback _ hst => rcases hst with rfl | rfl <;> exact monOf_rollback d w s m hm
  | commit _ _ => exact monOf_commit d w s m hm
  | savepoint =>
    refine ⟨hm.held, ?_, ?_, hm.clean, hm.dirtyTx, hm.dirtyHeld⟩
    · intro ht; rw [setSess_sess_self]; exact hm.tx ht
    · intro _; rw [setSess_sess_self]; exact Nat.succ_ne_zero _
  | release _ =>
    refine ⟨hm.held, ?_, nofun, hm.clean, hm.dirtyTx, hm.dirtyHeld⟩
    intro ht; rw [setSess_sess_self]; exact hm.tx ht
  | rollbackTo _ => exact hm.setSess _ fun _ => ⟨rfl, rfl⟩
  | eff _ _ _ _ ho he => exact monOf_eff d w s _ _ _ m hm hok ho he

theorem turn_possible (w : World) (s : Sid) (st : Stmt) (o : Out) (w1 : World) (h : Turn w s st o w1) :
    Possible st o := by
  cases h with
  | refused _ hp | failed _ _ _ _ hp _ _ => exact hp
  | begin | commitNoop _ | commit _ _ => rfl
  | rollback _ hst => rcases hst with rfl | rfl <;> rfl
  | savepoint | release _ | rollbackTo _ => trivial
  | eff _ _ _ hctl _ _ => exact possible_of_notCtl _ _ hctl

theorem ginv_step (d : Disc) (w : World) (t : Sid) (h : GInv d w) : GInv d (step w t) := by
  refine ⟨advWf_step w t h.1, ?_⟩
  intro s
  obtain ⟨m, hm, hsafe⟩ := h.2 s
  by_cases hts : t = s
  · subst hts
    rcases step_cases w t with h0 | ⟨sn, wf, h1⟩ | ⟨st, k, o, w1, hp, h2, htr⟩
    · rw [h0]; exact ⟨m, hm, hsafe⟩
    · rw [h1]
      exact ⟨m, hm.setSess _ fun _ => ⟨rfl, rfl⟩, by rw [setSess_sess_self]; exact hsafe⟩
    · rw [h2]
      rw [hp] at hsafe
      refine ⟨monStep d m st o, (monOf_turn d w t st o w1 m hm hsafe.1 htr).setSess _ fun _ => ⟨rfl, rfl⟩, ?_⟩
      unfold advance
      rw [setSess_sess_self]
      exact hsafe.2 o (turn_possible w t st o w1 htr)
  · have hsame := sameFor_step hts w
    exact ⟨m, hm.same hsame, by rw [hsame.prog]; exact hsafe⟩

theorem ginv_run (d : Disc) (σ : Schedule) (w : World) (h : GInv d w) : GInv d (run σ w) :=
  run_inv (GInv d) (fun w s h => ginv_step d w s h) σ w h

end Ledger.Sched
