import Ledger.Proofs.SqlVolumesStmt
import Ledger.Proofs.CoreStore
import Ledger.Spec.Store

/-!
# `UpdateVolumes` against `Spec.upsertVolumes`

`avAbs` is the abstraction function (the rows of a ledger as the running transaction reads them, as a partial map key ↦ volumes).
The loop over the `VALUES` rows is run once, with "the table reads as `f`" as its invariant (`exec_fold_av_fn`); what comes out is
`upsertF`, the upsert on functions `Key → Option Volumes`, and `exec_updateVolumes_fn` is the statement as a whole in these terms.
`upsertF_spec` is the one pure lemma that connects `upsertF` with `Spec.upsertVolumes` on a well-formed map; with it
`updateVolumes_bridge`: running the generated statement from a state abstracting to `av` succeeds, returns the rows of
`(Spec.upsertVolumes av vu).2` and ends in a state abstracting to `(Spec.upsertVolumes av vu).1`.
-/
open Ledger.Sql Ledger.Generated
open Ledger.Generated.WriteSql.P (VolumeRow)
open Ledger.Base Ledger.Core

namespace Ledger.Sql

/-- the `VALUES` rows as the volume updates of the Spec -/
def vuOf (rows : List VolumeRow) : PCV :=
  rows.map (fun r => ((r.accounts_address, r.asset), ⟨r.input_, r.output_⟩))

/-- `accounts_volumes` of ledger `l` as the running transaction reads it: the abstraction function -/
def avView (lv : View) (rs : List Ver) (l : String) (k : Key) : Option Volumes :=
  (avGet lv rs l k.1 k.2).map (fun p => ⟨p.1, p.2⟩)

/-- the same, from a state -/
def avAbs (s : St) (b l : String) (k : Key) : Option Volumes :=
  match s.w.table? (avFull b) with
  | some t => avView (latestView s.w s.xid) t.rows l k
  | none => none

theorem avAbs_of_table {s : St} {b : String} {rs : List Ver} {nr : Nat} (h : s.w.table? (avFull b) = some (avT b rs nr))
    (l : String) (k : Key) : avAbs s b l k = avView (latestView s.w s.xid) rs l k := by
  simp [avAbs, h, avT]

/-- A write that acts on `avGet` as a function update at `(l, a, c)` acts on `avView … l` as one at `(a, c)`, and the other ledgers
    read what they read. -/
theorem avView_update {lv : View} {rs rs' : List Ver} {l a c : String} {v : Int × Int}
    (h : ∀ l' a' c', avGet lv rs' l' a' c' = if (l, a, c) = (l', a', c') then some v else avGet lv rs l' a' c') :
    (avView lv rs' l = fun k => if k = (a, c) then some ⟨v.1, v.2⟩ else avView lv rs l k) ∧
    ∀ l', l' ≠ l → ∀ k, avView lv rs' l' k = avView lv rs l' k := by
  refine ⟨funext fun k => ?_, fun l' hl k => ?_⟩ <;> obtain ⟨a', c'⟩ := k <;> simp only [avView, h]
  · by_cases hk : (a', c') = (a, c)
    · rw [if_pos hk, if_pos (by cases hk; rfl)]; rfl
    · rw [if_neg hk, if_neg (fun e => hk (by cases e; rfl))]
  · rw [if_neg (fun e => hl (by cases e; rfl))]

theorem upsertRow_insertWith (av : PCV) (hw : Map.WF av) (k k' : Key) (v v' : Volumes) (hne : k' ≠ k) :
    Spec.upsertRow (Map.insertWith Volumes.add k v av) k' v' = Spec.upsertRow av k' v' := by
  unfold Spec.upsertRow
  rw [Map.get?_insertWith _ _ _ hw, if_neg hne]

/-- `Spec.upsertVolumes` row by row: the returned volumes of the later rows may be computed after the first row is in,
    since their keys differ from its key -/
theorem upsertVolumes_cons (av : PCV) (hw : Map.WF av) (k : Key) (v : Volumes) (vu : PCV) (hk : k ∉ vu.map (·.1)) :
    Spec.upsertVolumes av ((k, v) :: vu) =
      ((Spec.upsertVolumes (Map.insertWith Volumes.add k v av) vu).1,
       (k, Spec.upsertRow av k v) :: (Spec.upsertVolumes (Map.insertWith Volumes.add k v av) vu).2) := by
  refine Prod.ext rfl (congrArg ((k, Spec.upsertRow av k v) :: ·) (List.map_congr_left fun e he => ?_))
  show (e.1, Spec.upsertRow av e.1 e.2) = (e.1, Spec.upsertRow (Map.insertWith Volumes.add k v av) e.1 e.2)
  rw [upsertRow_insertWith av hw k e.1 v e.2 fun h => hk (h ▸ List.mem_map_of_mem (f := (·.1)) he)]

/-! ### `Spec.upsertVolumes` on what a table reads, a function `Key → Option Volumes` -/

/-- what the key of `r` reads after the row `r` -/
def upsertF1 (f : Key → Option Volumes) (r : VolumeRow) : Volumes :=
  match f (avKeyOf r) with
  | some o => o.add ⟨r.input_, r.output_⟩
  | none => ⟨r.input_, r.output_⟩

/-- what is read after all rows, and the volumes returned row by row -/
def upsertF (f : Key → Option Volumes) : List VolumeRow → (Key → Option Volumes) × List Volumes
  | [] => (f, [])
  | r :: rest =>
    ((upsertF (fun k => if k = avKeyOf r then some (upsertF1 f r) else f k) rest).1,
     upsertF1 f r :: (upsertF (fun k => if k = avKeyOf r then some (upsertF1 f r) else f k) rest).2)

theorem vuOf_keys (rows : List VolumeRow) : (vuOf rows).map (·.1) = rows.map avKeyOf := by
  simp [vuOf, avKeyOf, List.map_map, Function.comp]

/-- on the readings of a well-formed map, for rows with distinct keys, it is `Spec.upsertVolumes` -/
theorem upsertF_spec : ∀ (rows : List VolumeRow) (f : Key → Option Volumes) (av : PCV), Map.WF av → (∀ k, f k = av.get? k) →
    (rows.map avKeyOf).Nodup →
    (∀ k, (upsertF f rows).1 k = (Spec.upsertVolumes av (vuOf rows)).1.get? k) ∧
    (upsertF f rows).2 = (Spec.upsertVolumes av (vuOf rows)).2.map (·.2)
  | [], f, av, _, hf, _ => ⟨hf, rfl⟩
  | r :: rest, f, av, hw, hf, hnd => by
    have hnd' := List.nodup_cons.mp hnd
    have hx : upsertF1 f r = Spec.upsertRow av (avKeyOf r) ⟨r.input_, r.output_⟩ := by unfold upsertF1; rw [hf]; rfl
    obtain ⟨h1, h2⟩ := upsertF_spec rest (fun k => if k = avKeyOf r then some (Spec.upsertRow av (avKeyOf r) ⟨r.input_, r.output_⟩) else f k)
      (Map.insertWith Volumes.add (avKeyOf r) ⟨r.input_, r.output_⟩ av) (Map.WF_insertWith _ _ _ hw)
      (fun k => by rw [Map.get?_insertWith _ _ _ hw, hf]; unfold Spec.upsertRow; cases Map.get? av (avKeyOf r) <;> rfl) hnd'.2
    rw [show vuOf (r :: rest) = (avKeyOf r, ⟨r.input_, r.output_⟩) :: vuOf rest from rfl,
      upsertVolumes_cons av hw _ _ _ (by rw [vuOf_keys]; exact hnd'.1)]
    simp only [upsertF, hx]
    exact ⟨h1, by rw [h2]; rfl⟩

section loop
variable (n : Nat) (env : Env) (b table alias l : String) (tcols target : List String) (tw : Option Expr) (cn : String)
  (sets : List SetItem) (returning : List SelItem) (g : VolumeRow → List (Option Value))
  (sh : AvShape env b table alias l tcols target sets returning g)
include sh

/-- One `VALUES` row on what the table reads: its key now reads the returned volumes, `upsertF1`; the storage invariants are kept
    and the row's key is added to those written under this command id. -/
theorem exec_insertRowStep_av_view (r : VolumeRow) (s : St) (rs : List Ver) (nr : Nat) (acc : DmlAcc) (done : List (String × String))
    (hT : s.w.table? (avFull b) = some (avT b rs nr)) (hsolo : ∀ x ∈ s.w.active, x = s.xid) (hx : s.xid ≠ 0) (hc : s.cid < 1000000000)
    (hinv : AvInv (latestView s.w s.xid) rs nr) (hdone : AvDone s.xid s.cid l rs done) (hnd : avKeyOf r ∉ done) :
    ∃ rs' nr', (insertRowStep (n + 4) env (avFull b) table alias tcols (some (.mk target tw cn (.update sets none))) returning (g r) acc).exec s =
        (.ok { retCols := ["input", "output"],
               retRows := acc.retRows ++ [[.int (upsertF1 (avView (latestView s.w s.xid) rs l) r).input,
                                           .int (upsertF1 (avView (latestView s.w s.xid) rs l) r).output]],
               affected := acc.affected + 1 }, s.withTable (avT b rs' nr')) ∧
      AvInv (latestView s.w s.xid) rs' nr' ∧ AvDone s.xid s.cid l rs' (avKeyOf r :: done) ∧
      (avView (latestView s.w s.xid) rs' l =
        fun k => if k = avKeyOf r then some (upsertF1 (avView (latestView s.w s.xid) rs l) r) else avView (latestView s.w s.xid) rs l k) ∧
      (∀ l', l' ≠ l → ∀ k, avView (latestView s.w s.xid) rs' l' k = avView (latestView s.w s.xid) rs l' k) := by
  obtain ⟨hinv1, hget1, hret⟩ := avStep_sem s.w s.xid s.cid hx hc l r.accounts_address r.asset r.input_ r.output_ rs nr hinv
  obtain ⟨hview, hoth⟩ := avView_update hget1
  have hret' : (avStep (latestView s.w s.xid) s.xid s.cid l r.accounts_address r.asset r.input_ r.output_ (rs, nr)).2 =
      ((upsertF1 (avView (latestView s.w s.xid) rs l) r).input, (upsertF1 (avView (latestView s.w s.xid) rs l) r).output) := by
    have hv : avView (latestView s.w s.xid) rs l (avKeyOf r) =
        (avGet (latestView s.w s.xid) rs l r.accounts_address r.asset).map (fun p : Int × Int => (⟨p.1, p.2⟩ : Volumes)) := rfl
    rw [hret]
    unfold upsertF1
    rw [hv]
    cases avGet (latestView s.w s.xid) rs l r.accounts_address r.asset <;> rfl
  refine ⟨_, _, ?_, hinv1, avStep_done s.xid s.cid _ l r.accounts_address r.asset r.input_ r.output_ rs nr done hdone, ?_, hoth⟩
  · have hstep := exec_insertRowStep_av n env b table alias tcols target tw cn sets returning (g r) acc l
      r.accounts_address r.asset r.input_ r.output_ rs nr s hT hsolo hinv.typed
      (sh.row r) sh.arb (sh.sets r) sh.ret (hdone.not2 _ _ _ hnd) (hinv.uniq l r.accounts_address r.asset)
    simp only [hret'] at hstep
    exact hstep
  · rw [hview, hret']; rfl

/-- The loop over the `VALUES` rows, with "the table reads as …" as its invariant: RETURNING and the final readings are `upsertF`. -/
theorem exec_fold_av_fn : ∀ (rest : List VolumeRow) (r : VolumeRow) (s : St) (rs : List Ver) (nr : Nat) (acc : DmlAcc) (done : List (String × String)),
    s.w.table? (avFull b) = some (avT b rs nr) → (∀ x ∈ s.w.active, x = s.xid) → s.xid ≠ 0 → s.cid < 1000000000 →
    AvInv (latestView s.w s.xid) rs nr → AvDone s.xid s.cid l rs done →
    ((r :: rest).map avKeyOf).Nodup → (∀ q ∈ r :: rest, avKeyOf q ∉ done) →
    ∃ rs' nr', (((r :: rest).map g).foldlM (fun acc sr =>
          insertRowStep (n + 4) env (avFull b) table alias tcols (some (.mk target tw cn (.update sets none))) returning sr acc) acc).exec s =
        (.ok { retCols := ["input", "output"],
               retRows := acc.retRows ++ (upsertF (avView (latestView s.w s.xid) rs l) (r :: rest)).2.map (fun v => [.int v.input, .int v.output]),
               affected := acc.affected + (r :: rest).length }, s.withTable (avT b rs' nr')) ∧
      AvInv (latestView s.w s.xid) rs' nr' ∧
      avView (latestView s.w s.xid) rs' l = (upsertF (avView (latestView s.w s.xid) rs l) (r :: rest)).1 ∧
      (∀ l', l' ≠ l → ∀ k, avView (latestView s.w s.xid) rs' l' k = avView (latestView s.w s.xid) rs l' k) := by
  intro rest
  induction rest with
  | nil =>
    intro r s rs nr acc done hT hsolo hx hc hinv hdone _ hnd
    obtain ⟨rs1, nr1, he, hi, _, hv, ho⟩ := exec_insertRowStep_av_view n env b table alias l tcols target tw cn sets returning g sh
      r s rs nr acc done hT hsolo hx hc hinv hdone (hnd r (by simp))
    exact ⟨rs1, nr1, by simp only [List.map_cons, List.map_nil, exec_foldlM_cons, he, exec_foldlM_nil]; rfl, hi, hv, ho⟩
  | cons r2 rest ih =>
    intro r s rs nr acc done hT hsolo hx hc hinv hdone hnodup hnd
    have hnodup' := List.nodup_cons.mp hnodup
    obtain ⟨rs1, nr1, he, hi, hd, hv, ho⟩ := exec_insertRowStep_av_view n env b table alias l tcols target tw cn sets returning g sh
      r s rs nr acc done hT hsolo hx hc hinv hdone (hnd r (by simp))
    obtain ⟨rs', nr', he', hi', hv', ho'⟩ := ih r2 (s.withTable (avT b rs1 nr1)) rs1 nr1 _ (avKeyOf r :: done)
      (withTable_av_table? s b rs rs1 nr nr1 hT) hsolo hx hc hi hd hnodup'.2
      (fun q hq hmem => by
        rcases List.mem_cons.mp hmem with e | e
        · exact hnodup'.1 (e ▸ List.mem_map_of_mem hq)
        · exact hnd q (List.mem_cons_of_mem _ hq) e)
    simp only [withTable_latestView, withTable_xid, hv] at he' hi' hv' ho'
    refine ⟨rs', nr', ?_, hi', hv', fun l' hl k => (ho' l' hl k).trans (ho l' hl k)⟩
    rw [List.map_cons, exec_foldlM_cons, he]
    refine he'.trans ?_
    rw [withTable_withTable_av]
    simp only [upsertF, List.map_cons, List.append_assoc, List.cons_append, List.nil_append, List.length_cons, Nat.add_assoc, Nat.add_comm 1]

end loop

theorem get?_upsert_notMem (vu : PCV) (av : PCV) (hw : Map.WF av) (hnd : (vu.map (·.1)).Nodup) (k : Key)
    (hk : k ∉ vu.map (·.1)) : (Spec.upsertVolumes av vu).1.get? k = av.get? k := by
  rw [Spec.upsertVolumes_fst, Spec.get?_upsertAll hw hnd, Map.get?_eq_none_of_not_mem_keys hk]

theorem get?_upsert_mem (vu : PCV) (av : PCV) (hw : Map.WF av) (hnd : (vu.map (·.1)).Nodup) (k : Key) (v : Volumes)
    (h : (k, v) ∈ vu) : (Spec.upsertVolumes av vu).1.get? k = some (Spec.upsertRow av k v) := by
  rw [Spec.upsertVolumes_fst, Spec.get?_upsertAll hw hnd, Map.get?_of_mem_nodup hnd h]

open Ledger.Generated.WriteSql in
/-- `UpdateVolumes(rows)` under LeanPG on what the table reads, for any rows with distinct keys and any table contents satisfying
    `AvState`: the statement succeeds, RETURNING and the readings of ledger `l` afterwards are `upsertF` of the readings before, the
    other ledgers read what they read, only `accounts_volumes` is written, the storage invariants are kept. -/
theorem exec_updateVolumes_fn (n : Nat) (env : Env) (b l : String) (id : Nat) (hb : b.isEmpty = false)
    (s : St) (rs : List Ver) (nr : Nat) (hs : AvState s b l rs nr)
    (rows : List VolumeRow) (hne : rows ≠ []) (hnodup : (rows.map avKeyOf).Nodup) :
    ∃ rs' nr', ((P.updateVolumes b l id rows).mapM (runStmt (n + 7) env)).exec s =
        (.ok [{ rel := { cols := ["input", "output"],
                         rows := (upsertF (avView (latestView s.w s.xid) rs l) rows).2.map (fun v => [.int v.input, .int v.output]) },
                affected := rows.length }], s.withTable (avT b rs' nr')) ∧
      AvInv (latestView s.w s.xid) rs' nr' ∧
      avView (latestView s.w s.xid) rs' l = (upsertF (avView (latestView s.w s.xid) rs l) rows).1 ∧
      (∀ l', l' ≠ l → ∀ k, avView (latestView s.w s.xid) rs' l' k = avView (latestView s.w s.xid) rs l' k) := by
  obtain ⟨cols, target, sets, returning, f, g, hstmt, hcols, hsrc, sh⟩ := updateVolumes_shape env b l id
  obtain ⟨r, rest, rfl⟩ := List.exists_cons_of_ne_nil hne
  obtain ⟨rs', nr', hfold, hinv', hview, hoth⟩ := exec_fold_av_fn n env b "accounts_volumes" "" l cols target none "" sets returning g sh
    rest r s.clearQ rs nr {} [] hs.table hs.solo hs.xid hs.cid hs.inv hs.fresh hnodup (fun _ _ => List.not_mem_nil)
  refine ⟨rs', nr', ?_, hinv', hview, hoth⟩
  rw [hstmt]
  simp only [exec_mapM_cons, exec_mapM_nil]
  rw [exec_runStmt_noAfter (n + 5) env _ s _ _ (by
    rw [execStmt_insert_noCte]
    exact exec_execInsert_values (n + 4) env b "accounts_volumes" "" cols _ _ returning hb hcols s.clearQ _ _ hs.table _ _
      (exec_mapM_map f _ g (r :: rest) s.clearQ fun x _ => hsrc x (n + 3) s.clearQ) hfold rfl)]
  simp

open Ledger.Generated.WriteSql in
/-- The bridge: `UpdateVolumes(rows)` evaluated by LeanPG on the generated AST, from any state whose
    `accounts_volumes` abstracts to `av`, is `Spec.upsertVolumes av (vuOf rows)`. -/
theorem updateVolumes_bridge (n : Nat) (env : Env) (b l : String) (id : Nat) (hb : b.isEmpty = false)
    (s : St) (rs : List Ver) (nr : Nat) (hs : AvState s b l rs nr)
    (rows : List VolumeRow) (hne : rows ≠ []) (hnodup : (rows.map avKeyOf).Nodup)
    (av : PCV) (hwf : Map.WF av) (habs : ∀ k, avAbs s b l k = av.get? k) :
    ∃ s', ((P.updateVolumes b l id rows).mapM (runStmt (n + 7) env)).exec s =
        (.ok [{ rel := { cols := ["input", "output"],
                         rows := (Spec.upsertVolumes av (vuOf rows)).2.map (fun e => [.int e.2.input, .int e.2.output]) },
                affected := rows.length }], s') ∧
      (∀ k, avAbs s' b l k = (Spec.upsertVolumes av (vuOf rows)).1.get? k) ∧
      (∀ l', l' ≠ l → ∀ k, avAbs s' b l' k = avAbs s b l' k) ∧
      (∃ rs' nr', s' = s.withTable (avT b rs' nr') ∧ AvInv (latestView s.w s.xid) rs' nr') := by
  obtain ⟨rs', nr', h, hinv', hview, hoth⟩ := exec_updateVolumes_fn n env b l id hb s rs nr hs rows hne hnodup
  obtain ⟨h1, h2⟩ := upsertF_spec rows (avView (latestView s.w s.xid) rs l) av hwf
    (fun k => by rw [← habs k]; exact (avAbs_of_table hs.table l k).symm) hnodup
  have hT' := withTable_av_table? s b rs rs' nr nr' hs.table
  refine ⟨_, ?_, fun k => (avAbs_of_table hT' l k).trans ((congrFun hview k).trans (h1 k)),
    fun l' hl k => by rw [avAbs_of_table hT', avAbs_of_table hs.table]; exact hoth l' hl k, rs', nr', rfl, hinv'⟩
  rw [h, h2, List.map_map]
  rfl

end Ledger.Sql
