import Ledger.Proofs.SqlDistinct

/-!
# Whole queries: SELECT … FOR UPDATE (locking the returned rows), LIMIT, FROM a CTE, the first row in an order
-/
namespace Ledger.Sql

theorem exec_lockSources_single (n : Nat) (env : Env) (body : SetExpr) (o : OutRow) (full : String) (t : Table) (rows : List Ver)
    (s : St) (hs : TxState s) (hT : s.w.table? full = some (t.withRows rows))
    (r : Ver) (hr : r ∈ rows) (hv : r.visible (latestView s.w s.xid) = true) (hinj : RidInj (latestView s.w s.xid) rows)
    (hsrc : o.srcs = [(full, r.rid)])
    (hloc : ∃ sc ∈ o.locals, sc.src = some (full, r.rid) ∧ sc.vals = r.vals) :
    (lockSources (n + 2) env body o o.srcs (some o)).exec s =
      (.ok (some o), s.withTable (t.withRows (rows.map (lockRow (latestView s.w s.xid) s.xid s.cid r.rid)))) := by
  have hlat := exec_latestVersion s (t.withRows rows) r hr hv hinj
  have hun : (o.locals.any (fun sc => sc.src == some (full, r.rid) && sc.vals == r.vals)) = true := by
    obtain ⟨sc, hmem, h1, h2⟩ := hloc
    exact List.any_eq_true.mpr ⟨sc, hmem, by rw [h1, h2, beq_self_eq_true, beq_self_eq_true]; rfl⟩
  rw [hsrc, lockSources]
  apply exec_seq (exec_getTable hT)
  apply exec_seq hlat
  apply exec_seq (exec_heldByOther s hs r)
  apply exec_seq (show (lockVersion full r.rid).exec s =
      (.ok (), s.withTable (t.withRows (rows.map (lockRow (latestView s.w s.xid) s.xid s.cid r.rid)))) by
    rw [exec_lockVersion hT]; rfl)
  -- the row is unchanged: no re-evaluation
  apply exec_of_eq (if_neg (by rw [hun]; decide))
  rw [lockSources]
  rfl


theorem lockRow_ne (lv : View) (xid cid rid : Nat) (r : Ver) (h : r.rid ≠ rid) : lockRow lv xid cid rid r = r := by
  unfold lockRow
  have : (r.rid == rid) = false := by simpa using h
  simp [this]

theorem RidInj_lock (lv : View) (xid cid rid : Nat) (rows : List Ver) (h : RidInj lv rows) :
    RidInj lv (rows.map (lockRow lv xid cid rid)) := by
  intro a ha b hb va vb e
  obtain ⟨a0, ha0, rfl⟩ := List.mem_map.mp ha
  obtain ⟨b0, hb0, rfl⟩ := List.mem_map.mp hb
  simp only [lockRow_visible, lockRow_rid] at va vb e
  rw [h a0 ha0 b0 hb0 va vb e]

/-- the source row id of an output row over one table -/
def srcRid (o : OutRow) : Nat := match o.srcs with | [(_, rid)] => rid | _ => 0

def lockRun (lv : View) (xid cid : Nat) (rows : List Ver) (rids : List Nat) : List Ver :=
  rids.foldl (fun rs rid => rs.map (lockRow lv xid cid rid)) rows

/-- the FOR UPDATE loop over output rows that each come from one visible version of table `t` -/
theorem exec_lockLoop (n : Nat) (env : Env) (body : SetExpr) (full : String) (t : Table)
    (s0 : St) (hs : TxState s0) (rows0 : List Ver) (hT0 : s0.w.table? full = some (t.withRows rows0)) (hname : t.name = full) :
    ∀ (os : List OutRow) (rows : List Ver) (out : List OutRow),
      (∀ o ∈ os, ∃ r ∈ rows, r.visible (latestView s0.w s0.xid) = true ∧ o.srcs = [(full, r.rid)] ∧
        ∃ sc ∈ o.locals, sc.src = some (full, r.rid) ∧ sc.vals = r.vals) →
      (os.map srcRid).Nodup → RidInj (latestView s0.w s0.xid) rows →
      (os.foldlM (fun (out : List OutRow) o => do
          match ← lockSources (n + 2) env body o o.srcs (some o) with
          | some x => pure (out ++ [x])
          | none => pure out) out).exec (s0.withTable (t.withRows rows)) =
        (.ok (out ++ os), s0.withTable (t.withRows (lockRun (latestView s0.w s0.xid) s0.xid s0.cid rows (os.map srcRid)))) := by
  intro os
  induction os with
  | nil => intro rows out _ _ _; simp [lockRun]
  | cons o rest ih =>
    intro rows out hos hnd hinj
    obtain ⟨r, hr, hv, hsrc, hloc⟩ := hos o (by simp)
    have hnd' := List.nodup_cons.mp hnd
    have hsT : TxState (s0.withTable (t.withRows rows)) := hs.withTable _
    have hT : (s0.withTable (t.withRows rows)).w.table? full = some (t.withRows rows) := by
      have := withTable_table? s0 (t.withRows rows0) (t.withRows rows) (by rw [withRows_name, hname]; exact hT0)
      simpa [hname] using this
    have hstep := exec_lockSources_single n env body o full t rows (s0.withTable (t.withRows rows)) hsT hT r hr
      (by simpa using hv) (by simpa using hinj) hsrc hloc
    simp only [withTable_latestView, withTable_xid, withTable_cid] at hstep
    have hrid : srcRid o = r.rid := by simp [srcRid, hsrc]
    simp only [exec_foldlM_cons, exec_bind, hstep, exec_pure]
    rw [withTable_withTable _ _ _ (by simp)]
    have hrest : ∀ o' ∈ rest, ∃ r' ∈ rows.map (lockRow (latestView s0.w s0.xid) s0.xid s0.cid r.rid),
        r'.visible (latestView s0.w s0.xid) = true ∧ o'.srcs = [(full, r'.rid)] ∧
        ∃ sc ∈ o'.locals, sc.src = some (full, r'.rid) ∧ sc.vals = r'.vals := by
      intro o' ho'
      obtain ⟨r', hr', hv', hsrc', hloc'⟩ := hos o' (by simp [ho'])
      have hne : r'.rid ≠ r.rid := by
        intro e
        apply hnd'.1
        have : srcRid o' = srcRid o := by simp [srcRid, hsrc', hsrc, e]
        rw [← this]; exact List.mem_map_of_mem ho'
      exact ⟨r', List.mem_map.mpr ⟨r', hr', lockRow_ne _ _ _ _ _ hne⟩, hv', hsrc', hloc'⟩
    rw [ih _ _ hrest hnd'.2 (RidInj_lock _ _ _ _ _ hinj)]
    simp [lockRun, hrid, List.append_assoc]

theorem exec_evalQuery_limit (n : Nat) (env : Env) (body : SetExpr) (order : List OrderItem) (k : Int) (hk : 0 ≤ k) (s s' : St)
    (cols : List String) (rows : List OutRow)
    (hset : (evalSetExpr (n + 1) env body order).exec s = (.ok (cols, rows), s')) :
    (evalQuery (n + 2) env (Query.mk [] body order (some (Expr.int k)) none LockMode.none)).exec s =
      (.ok { cols := cols, rows := (rows.take k.toNat).map (·.vals) }, s') := by
  have hnn : ¬ k < 0 := by omega
  rw [evalQuery]
  apply exec_seq (show (evalCtes (n + 1) env []).exec s = (.ok env, s) by rw [evalCtes_nil]; rfl)
  apply exec_seq (exec_typeEnv s)
  apply exec_seq hset
  apply exec_seq (show (evalOpt _ _ _ (some (Expr.int k))).exec s' = (.ok (some (.int k)), s') by
    simp only [evalOpt, evalExpr, exec_bind, exec_pure])
  apply exec_seq (show (evalOpt _ _ _ none).exec s' = (.ok none, s') from rfl)
  apply exec_seq (show (applyLimit rows (some (.int k)) none).exec s' = (.ok (rows.take k.toNat), s') by
    simp only [applyLimit, hnn, if_false, exec_bind, exec_pure])
  rfl

theorem exec_evalQuery_plain (n : Nat) (env : Env) (body : SetExpr) (order : List OrderItem) (s s' : St)
    (cols : List String) (rows : List OutRow)
    (hset : (evalSetExpr (n + 1) env body order).exec s = (.ok (cols, rows), s')) :
    (evalQuery (n + 2) env (Query.mk [] body order none none LockMode.none)).exec s =
      (.ok { cols := cols, rows := rows.map (·.vals) }, s') := by
  rw [evalQuery]
  apply exec_seq (show (evalCtes (n + 1) env []).exec s = (.ok env, s) by rw [evalCtes_nil]; rfl)
  apply exec_seq (exec_typeEnv s)
  apply exec_seq hset
  rfl

/-- a `SELECT` with its ORDER BY and nothing else (no CTE, LIMIT, OFFSET, lock) as a query -/
theorem exec_evalQuery_select (n : Nat) (env : Env) (sel : Select) (order : List OrderItem) (s s' : St) (cols : List String)
    (rows : List OutRow) (hsel : (evalSelect n env sel order).exec s = (.ok (cols, rows), s')) :
    (evalQuery (n + 2) env (Query.mk [] (SetExpr.select sel) order none none LockMode.none)).exec s =
      (.ok { cols := cols, rows := rows.map (·.vals) }, s') :=
  exec_evalQuery_plain n env _ order s s' cols rows (by rw [evalSetExpr_select]; exact hsel)

theorem exec_evalQuery_select_limit (n : Nat) (env : Env) (sel : Select) (order : List OrderItem) (k : Int) (hk : 0 ≤ k) (s s' : St)
    (cols : List String) (rows : List OutRow) (hsel : (evalSelect n env sel order).exec s = (.ok (cols, rows), s')) :
    (evalQuery (n + 2) env (Query.mk [] (SetExpr.select sel) order (some (Expr.int k)) none LockMode.none)).exec s =
      (.ok { cols := cols, rows := (rows.take k.toNat).map (·.vals) }, s') :=
  exec_evalQuery_limit n env _ order k hk s s' cols rows (by rw [evalSetExpr_select]; exact hsel)

/-- `SELECT e₁, … FROM <cte> [alias] [WHERE c]` as a query, the CTE holding the rows `enc x` of a list `xs`: the `x` that pass `w`,
    projected by `proj` -/
theorem exec_evalQuery_cte {β : Type} (n : Nat) (env : Env) (cte alias : String) (cols : List String) (xs : List β) (enc : β → List Value)
    (es : List (Expr × String)) (wher : Option Expr) (s : St)
    (hcte : env.ctes.lookup cte = some { cols := cols, rows := xs.map enc }) (w : β → Bool) (proj : β → List Value)
    (hwhere : ∀ c, wher = some c → ∀ x ∈ xs, (do
        let v ← evalExpr (cbs (n + 3)) s.w.types { env with locals := [cteScope (if alias.isEmpty then cte else alias) cols (enc x)] } c
        pure ((← liftR v.truth) == some true)).exec s = (.ok (w x), s))
    (hwnone : wher = none → ∀ x ∈ xs, w x = true)
    (hagg : Expr.anyHasAgg (es.map (·.1)) = false) (hwin : Expr.winsList (es.map (·.1)) = [])
    (hproj : ∀ x ∈ xs, w x = true →
      (evalExprs (cbs (n + 3)) s.w.types { env with locals := [cteScope (if alias.isEmpty then cte else alias) cols (enc x)], group := none, wins := [] }
        (es.map (·.1))).exec s = (.ok (proj x), s)) :
    (evalQuery (n + 6) env (Query.mk [] (SetExpr.select (Select.mk false [] (es.map (fun p => SelItem.expr p.1 p.2))
      [FromItem.table "" cte alias] wher [] none)) [] none none LockMode.none)).exec s =
      (.ok { cols := outNames es, rows := (xs.filter w).map proj }, s) := by
  have hsel := exec_evalSelect_of (n + 3) env es _ wher [] [] [] s xs (fun x => [cteScope (if alias.isEmpty then cte else alias) cols (enc x)]) w
    (by rw [exec_evalFromList_cte n env cte alias _ s hcte, List.map_map]; rfl) hwhere hwnone _ _ _ (.rows (by rw [hagg]; rfl)) []
    (by rw [hwin]; rfl) _ .none proj (fun x hx => hproj x (List.mem_filter.mp hx).1 (List.mem_filter.mp hx).2) _ false
    (by rw [sortOut_nil]; rfl) _ (.none _ _)
  rw [exec_evalQuery_select (n + 4) env _ [] s s _ _ hsel, List.map_map]
  rfl

/-! ### the first row in an order: `SELECT item FROM t WHERE c ORDER BY … LIMIT 1` over a table read as typed rows -/

/-- the input row of a scanned row of `t` with row id `x.1` and values `enc x.2` -/
def encScope {α : Type} (t : Table) (al : String) (enc : α → List Value) (x : Nat × α) : List Scope :=
  [{ alias := al, cols := t.colNames, vals := enc x.2, src := some (t.name, x.1) }]

theorem map_rowScopeOf_enc {α : Type} (t : Table) (al : String) (enc : α → List Value) : ∀ (rs : List Ver) (tbl : List α),
    rs.map (·.vals) = tbl.map enc →
    ∃ xs : List (Nat × α), xs.map (·.2) = tbl ∧ (rs.map (rowScopeOf t al)).map (fun sc => [sc]) = xs.map (encScope t al enc)
  | [], [], _ => ⟨[], rfl, rfl⟩
  | r :: rs, a :: tbl, h => by
    obtain ⟨xs, h1, h2⟩ := map_rowScopeOf_enc t al enc rs tbl (List.cons.inj h).2
    have e : r.vals = enc a := (List.cons.inj h).1
    exact ⟨(r.rid, a) :: xs, by rw [List.map_cons, h1], by
      rw [List.map_cons, List.map_cons, List.map_cons, h2, rowScopeOf, e]; rfl⟩
  | [], _ :: _, h => by cases h
  | _ :: _, [], h => by cases h

/-- FROM a base table whose visible rows are `tbl.map enc`: the scan hands on typed rows `xs` (a row id and a row of `tbl`), the
    table's content in scan order -/
theorem exec_evalFromList_typed {α : Type} (n : Nat) (env : Env) (schema name alias full : String) (t : Table) (s : St) (hs : TxState s)
    (hcte : (if schema.isEmpty then env.ctes.lookup name else none) = none)
    (hq : (qualify schema name).exec s = (.ok full, s)) (hT : s.w.table? full = some t)
    (enc : α → List Value) (tbl : List α) (hview : (t.rows.filter (fun r => r.visible (cv s))).map (·.vals) = tbl.map enc) :
    ∃ xs : List (Nat × α), xs.map (·.2) = tbl.reverse ∧
      (evalFromList (n + 3) env [FromItem.table schema name alias] [[]]).exec s =
        (.ok (xs.map (encScope t (if alias.isEmpty then name else alias) enc)), s) := by
  obtain ⟨xs, hxs, hsc⟩ := map_rowScopeOf_enc t (if alias.isEmpty then name else alias) enc (t.scan (cv s)) tbl.reverse
    (by rw [scan_eq, List.map_reverse, hview, List.map_reverse])
  exact ⟨xs, hxs, hsc ▸ exec_evalFromList_table n env schema name alias full t s hs hcte hq hT⟩

/-- The visible rows of `t` are `tbl.map enc` (`hview`). On a row `a` of `tbl` WHERE evaluates to `w a`, the item to `proj a` and
    the ORDER BY keys to `key a`, compared by `c`; equal keys never come with different items (`htie`). The query returns no row when
    no row of `tbl` passes WHERE, and else the item of a passing row that no passing row precedes. -/
theorem exec_evalQuery_first {α : Type} (n : Nat) (env : Env) (item wher : Expr) (order : List OrderItem) (hne : order ≠ [])
    (schema name full : String) (t : Table) (s : St) (hs : TxState s)
    (hcte : (if schema.isEmpty then env.ctes.lookup name else none) = none)
    (hq : (qualify schema name).exec s = (.ok full, s)) (hT : s.w.table? full = some t)
    (enc : α → List Value) (tbl : List α) (hview : (t.rows.filter (fun r => r.visible (cv s))).map (·.vals) = tbl.map enc)
    (w : α → Bool) (proj : α → Value) (key : α → List Value) (c : List Value → List Value → Ordering) (S : List Value → Prop)
    (hwher : ∀ x : Nat × α, x.2 ∈ tbl →
      (evalExpr (cbs (n + 3)) s.w.types { env with locals := encScope t name enc x } wher).exec s = (.ok (.bool (w x.2)), s))
    (hitem : ∀ x : Nat × α, x.2 ∈ tbl → w x.2 = true →
      (evalExpr (cbs (n + 3)) s.w.types { env with locals := encScope t name enc x, group := none, wins := [] } item).exec s =
        (.ok (proj x.2), s))
    (hagg : (Expr.anyHasAgg [item] || order.any (fun o => o.exprOf.hasAgg)) = false)
    (hwin : Expr.winsList [item] ++ Expr.winsList (order.map OrderItem.exprOf) = [])
    (hkey : ∀ x : Nat × α, x.2 ∈ tbl → w x.2 = true →
      (order.mapM (orderKeyM (cbs (n + 2)) s.w.types env (outNames [(item, "")])
        (outRowV (encScope t name enc) (fun _ => none) (fun _ => []) (fun x => [proj x.2]) x))).exec s = (.ok (key x.2), s))
    (hcmp : CmpOk (fun (a b : List Value × OutRow) => cmpOrderKeys a.1 b.1 (orderDescs order) (orderNulls order))
      (fun a b => c a.1 b.1) (fun a => S a.1))
    (hS : ∀ a ∈ tbl, w a = true → S (key a))
    (htie : ∀ l : List (List Value × OutRow),
      (l.map (fun p => (p.1, p.2.vals))).Perm ((tbl.filter w).map (fun a => (key a, [proj a]))) → hasTieR l = .ok false) :
    ∃ rows, (evalQuery (n + 6) env (Query.mk [] (SetExpr.select (Select.mk false [] [SelItem.expr item ""]
        [FromItem.table schema name ""] (some wher) [] none)) order (some (Expr.int 1)) none LockMode.none)).exec s =
        (.ok { cols := outNames [(item, "")], rows := rows }, s) ∧
      ((rows = [] ∧ ∀ a ∈ tbl, w a = false) ∨
        ∃ a ∈ tbl, w a = true ∧ rows = [[proj a]] ∧ ∀ a' ∈ tbl, w a' = true → c (key a') (key a) ≠ .lt) := by
  -- the scan, as pairs of a row id and a row of `tbl` (in reverse order)
  obtain ⟨xs, hxs, hfrom⟩ := exec_evalFromList_typed n env schema name "" full t s hs hcte hq hT enc tbl hview
  rw [show (if ("" : String).isEmpty then name else "") = name from rfl] at hfrom
  have hmem : ∀ x ∈ xs, x.2 ∈ tbl := fun x hx => List.mem_reverse.mp (hxs ▸ List.mem_map_of_mem (f := (·.2)) hx)
  have hcand : (xs.filter (fun x => w x.2)).map (·.2) = (tbl.filter w).reverse := by
    rw [← List.filter_reverse, ← hxs, List.filter_map]; rfl
  obtain ⟨zs, tie, hsort, hperm, hpw, rfl⟩ := exec_sortOut_of (n + 2) env (outNames [(item, "")]) (xs.filter (fun x => w x.2))
    (outRowV (encScope t name enc) (fun _ => none) (fun _ => []) (fun x => [proj x.2])) order hne s (fun x => key x.2) c S
    (fun x hx => hkey x (hmem x (List.mem_filter.mp hx).1) (List.mem_filter.mp hx).2) hcmp
    (fun x hx => hS x.2 (hmem x (List.mem_filter.mp hx).1) (List.mem_filter.mp hx).2) (fun b => b = false)
    (fun l hl => ⟨false, htie l ((hl.map (fun p => (p.1, p.2.vals))).trans (by
      rw [List.map_map]
      show ((xs.filter (fun x => w x.2)).map ((fun a => (key a, [proj a])) ∘ (·.2))).Perm _
      rw [← List.map_map, hcand]
      exact (List.reverse_perm _).map _)), rfl⟩)
  have hsel := exec_evalSelect_of (n + 3) env [(item, "")] [FromItem.table schema name ""] (some wher) [] [] order s xs
    (encScope t name enc) (fun x => w x.2) hfrom
    (fun c' hc x hx => by
      cases hc
      refine exec_seq (hwher x (hmem x hx)) ?_
      cases w x.2 <;> rfl)
    (fun h => nomatch h) _ _ _ (.rows hagg) [] hwin _ .none (fun x => [proj x.2])
    (fun x hx => by
      simp only [List.map_cons, List.map_nil, evalExprs, exec_bind, exec_pure,
        hitem x (hmem x (List.mem_filter.mp hx).1) (List.mem_filter.mp hx).2])
    _ false hsort _ (.none _ _)
  refine ⟨_, exec_evalQuery_select_limit (n + 4) env _ order 1 (by omega) s s _ _ hsel, ?_⟩
  -- every passing row of `tbl` is among the sorted ones
  have hall : ∀ a ∈ tbl, w a = true → ∃ z ∈ zs, z.2 = a := fun a ha hw => by
    have : a ∈ (xs.filter (fun x => w x.2)).map (·.2) := hcand ▸ List.mem_reverse.mpr (List.mem_filter.mpr ⟨ha, hw⟩)
    obtain ⟨x, hx, rfl⟩ := List.mem_map.mp this
    exact ⟨x, hperm.mem_iff.mpr hx, rfl⟩
  cases zs with
  | nil =>
    refine Or.inl ⟨rfl, fun a ha => ?_⟩
    cases hw : w a with
    | false => rfl
    | true => obtain ⟨z, hz, _⟩ := hall a ha hw; cases hz
  | cons z rest =>
    have hz := List.mem_filter.mp (hperm.mem_iff.mp (List.mem_cons_self ..))
    refine Or.inr ⟨z.2, hmem z hz.1, hz.2, rfl, fun a' ha' hw' => ?_⟩
    obtain ⟨z', hz', rfl⟩ := hall a' ha' hw'
    rcases List.mem_cons.mp hz' with rfl | hr
    · have hSz := hS z'.2 (hmem z' hz.1) hz.2
      exact fun h => hcmp.asymm (key z'.2, default) (key z'.2, default) hSz hSz h h
    · exact (List.pairwise_cons.mp hpw).1 z' hr

end Ledger.Sql
