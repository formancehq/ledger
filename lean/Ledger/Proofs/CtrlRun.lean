import Ledger.Ctrl.Controller

/-!
Generic lemmas about programs and their runner: sequencing, "whatever every store
call respects, every program respects" (by induction on the program), where an error
of a run can come from, and the success semantics `eval` (what a program that ran to
completion did, without faults and traces).
-/
namespace Ledger.Ctrl
open Ledger.Base Ledger.Core

theorem fires_nil (n : Nat) : fires [] n = none := rfl

inductive Prog.All {α : Type} (Q : Call → Prop) (E : Err → Prop) : Prog α → Prop where
  | pure (a : α) : Prog.All Q E (.pure a)
  | fail (e : Err) (he : E e) : Prog.All Q E (.fail e)
  | call (c : Call) (k : c.Ret → Prog α) (hc : Q c) (hk : ∀ r, Prog.All Q E (k r)) : Prog.All Q E (.call c k)

theorem Prog.All.bind {α β : Type} {Q : Call → Prop} {E : Err → Prop} {p : Prog α} {g : α → Prog β}
    (hp : p.All Q E) (hg : ∀ a, (g a).All Q E) : (Prog.bind p g).All Q E := by
  induction hp with
  | pure a => exact hg a
  | fail e he => exact .fail e he
  | call c k hc _ ih => exact .call c _ hc ih

theorem Prog.All.mono {α : Type} {Q Q' : Call → Prop} {E E' : Err → Prop} {p : Prog α}
    (hp : p.All Q E) (h : ∀ c, Q c → Q' c) (h' : ∀ e, E e → E' e) : p.All Q' E' := by
  induction hp with
  | pure a => exact .pure a
  | fail e he => exact .fail e (h' e he)
  | call c k hc _ ih => exact .call c k (h c hc) ih

theorem Prog.all_true {α : Type} (p : Prog α) : p.All (fun _ => True) (fun _ => True) := by
  induction p with
  | pure a => exact .pure a
  | fail e => exact .fail e trivial
  | call c k ih => exact .call c k trivial ih

theorem run_bind {α β : Type} (now : Time) (h : String) (f : Faults) (p : Prog α) (g : α → Prog β)
    (st : RunSt) :
    run now h f (Prog.bind p g) st =
      match run now h f p st with
      | (.error e, st') => (.error e, st')
      | (.ok a, st') => run now h f (g a) st' := by
  induction p generalizing st with
  | pure a => rfl
  | fail e => rfl
  | call c k ih =>
    simp only [Prog.bind, run]
    split
    · rfl
    · split
      · rfl
      · exact ih _ _

theorem run_bind_ok {α β : Type} {now : Time} {hn : String} {f : Faults} {p : Prog α} {g : α → Prog β}
    {st st' : RunSt} {b : β} (h : run now hn f (Prog.bind p g) st = (.ok b, st')) :
    ∃ a st1, run now hn f p st = (.ok a, st1) ∧ run now hn f (g a) st1 = (.ok b, st') := by
  rw [run_bind] at h
  split at h
  · cases h
  · exact ⟨_, _, ‹_›, h⟩

theorem run_bind_error {α β : Type} {now : Time} {hn : String} {f : Faults} {p : Prog α} {g : α → Prog β}
    {st st' : RunSt} {e : Err} (h : run now hn f (Prog.bind p g) st = (.error e, st')) :
    run now hn f p st = (.error e, st') ∨
    ∃ a st1, run now hn f p st = (.ok a, st1) ∧ run now hn f (g a) st1 = (.error e, st') := by
  rw [run_bind] at h
  split at h
  · cases h; exact Or.inl ‹_›
  · exact Or.inr ⟨_, _, ‹_›, h⟩

/-- A relation on (tables, sequences) that every store call satisfying `Q`
    respects — on success and on failure (a failing call may still consume a
    sequence value) — is respected by every program made of such calls. -/
theorem run_rel {α : Type} (now : Time) (h : String) (f : Faults) {Q : Call → Prop} {E : Err → Prop}
    (R : Db × Seqs → Db × Seqs → Prop) (refl : ∀ x, R x x) (trans : ∀ x y z, R x y → R y z → R x z)
    (hstep : ∀ c d sq, Q c →
      (∀ sq' e, exec now c d sq = (sq', .error e) → R (d, sq) (d, sq')) ∧
      (∀ sq' r d', exec now c d sq = (sq', .ok (r, d')) → R (d, sq) (d', sq')))
    {p : Prog α} (hp : p.All Q E) (st : RunSt) :
    R (st.db, st.seq) ((run now h f p st).2.db, (run now h f p st).2.seq) := by
  induction hp generalizing st with
  | pure a => exact refl _
  | fail e => exact refl _
  | call c k hc _ ih =>
    simp only [run]
    split
    · exact refl _
    · split
      · exact (hstep c st.db st.seq hc).1 _ _ ‹_›
      · exact trans _ _ _ ((hstep c st.db st.seq hc).2 _ _ _ ‹_›) (ih _ ⟨_, _, _, _⟩)

theorem run_n_le {α : Type} (now : Time) (h : String) (f : Faults) (p : Prog α) (st : RunSt) :
    st.n ≤ (run now h f p st).2.n := by
  induction p generalizing st with
  | pure a => exact Nat.le_refl _
  | fail e => exact Nat.le_refl _
  | call c k ih =>
    simp only [run]
    split
    · exact Nat.le_succ _
    · split
      · exact Nat.le_succ _
      · exact Nat.le_trans (Nat.le_succ _) (ih _ ⟨_, _, st.n + 1, _⟩)

/-- Where the error of a run comes from: the program raised it, a planned fault
    fired at the last call made, or the store contract answered it (at that call, on
    the tables the run ends with: a failing call writes nothing). -/
theorem run_error_cases {α : Type} {now : Time} {hn : String} {f : Faults} {Q : Call → Prop} {E : Err → Prop}
    {p : Prog α} (hp : p.All Q E) {st st' : RunSt} {e : Err} (hr : run now hn f p st = (.error e, st')) :
    E e ∨ (∃ kind, fires f st'.n = some kind ∧ e = .store kind.err ∧ st.n < st'.n) ∨
    (∃ c sq se, Q c ∧ exec now c st'.db sq = (st'.seq, .error se) ∧ e = .store se) := by
  induction hp generalizing st with
  | pure a => cases hr
  | fail e' he => cases hr; exact Or.inl he
  | call c k hc _ ih =>
    simp only [run] at hr
    split at hr
    · cases hr; exact Or.inr (Or.inl ⟨_, ‹_›, rfl, Nat.lt_succ_self _⟩)
    · split at hr
      · cases hr; exact Or.inr (Or.inr ⟨c, _, _, hc, ‹_›, rfl⟩)
      · rcases ih _ hr with h | ⟨kind, h1, h2, h3⟩ | h
        · exact Or.inl h
        · exact Or.inr (Or.inl ⟨kind, h1, h2, Nat.lt_trans (Nat.lt_succ_self _) h3⟩)
        · exact Or.inr (Or.inr h)

theorem run_call_pure {now : Time} {hn : String} {f : Faults} {c : Call} {st st' : RunSt} {res : Except Err c.Ret}
    (h : run now hn f (.call c .pure) st = (res, st')) :
    (∃ kind, fires f (st.n + 1) = some kind ∧ res = .error (.store kind.err) ∧ st'.db = st.db) ∨
    (∃ se, exec now c st.db st.seq = (st'.seq, .error se) ∧ res = .error (.store se) ∧ st'.db = st.db) ∨
    (∃ r, exec now c st.db st.seq = (st'.seq, .ok (r, st'.db)) ∧ res = .ok r) := by
  simp only [run] at h
  split at h
  · cases h; exact Or.inl ⟨_, ‹_›, rfl, rfl⟩
  · split at h <;> cases h
    · exact Or.inr (Or.inl ⟨_, ‹_›, rfl, rfl⟩)
    · exact Or.inr (Or.inr ⟨_, ‹_›, rfl⟩)

def eval {α : Type} (now : Time) : Prog α → Db → Seqs → Option (α × Db × Seqs)
  | .pure a, d, sq => some (a, d, sq)
  | .fail _, _, _ => none
  | .call c k, d, sq =>
    match exec now c d sq with
    | (_, .error _) => none
    | (sq', .ok (r, d')) => eval now (k r) d' sq'

theorem run_ok_eval {α : Type} (now : Time) (hn : String) (f : Faults) (p : Prog α) (st st' : RunSt) (a : α)
    (h : run now hn f p st = (.ok a, st')) : eval now p st.db st.seq = some (a, st'.db, st'.seq) := by
  induction p generalizing st with
  | pure x => cases h; rfl
  | fail e => cases h
  | call c k ih =>
    simp only [run] at h
    split at h
    · cases h
    · split at h
      · cases h
      · rename_i heq
        simp only [eval, heq]
        exact ih _ _ h

theorem eval_run_ok {α : Type} (now : Time) (hn : String) (p : Prog α) (st : RunSt) (a : α) (d' : Db) (sq' : Seqs)
    (h : eval now p st.db st.seq = some (a, d', sq')) :
    ∃ st', run now hn [] p st = (.ok a, st') ∧ st'.db = d' ∧ st'.seq = sq' := by
  induction p generalizing st with
  | pure x => cases h; exact ⟨st, rfl, rfl, rfl⟩
  | fail e => cases h
  | call c k ih =>
    simp only [eval] at h
    simp only [run, fires_nil]
    split at h
    · cases h
    · rename_i heq
      simp only [heq]
      exact ih _ _ h

theorem eval_bind {α β : Type} (now : Time) (p : Prog α) (g : α → Prog β) (d : Db) (sq : Seqs) :
    eval now (Prog.bind p g) d sq =
      match eval now p d sq with
      | none => none
      | some (a, d', sq') => eval now (g a) d' sq' := by
  induction p generalizing d sq with
  | pure a => rfl
  | fail e => rfl
  | call c k ih =>
    simp only [Prog.bind, eval]
    split
    · rfl
    · exact ih _ _ _

theorem eval_bind_some {α β : Type} (now : Time) (p : Prog α) (g : α → Prog β) (d : Db) (sq : Seqs)
    (x : β × Db × Seqs) (h : eval now (Prog.bind p g) d sq = some x) :
    ∃ a d' sq', eval now p d sq = some (a, d', sq') ∧ eval now (g a) d' sq' = some x := by
  rw [eval_bind] at h
  split at h
  · cases h
  · exact ⟨_, _, _, ‹_›, h⟩

theorem eval_call_some {α : Type} (now : Time) (c : Call) (k : c.Ret → Prog α) (d : Db) (sq : Seqs)
    (x : α × Db × Seqs) (h : eval now (.call c k) d sq = some x) :
    ∃ sq' r d', exec now c d sq = (sq', .ok (r, d')) ∧ eval now (k r) d' sq' = some x := by
  simp only [eval] at h
  split at h
  · cases h
  · exact ⟨_, _, _, ‹_›, h⟩

theorem eval_call_ok {α : Type} (now : Time) (c : Call) (k : c.Ret → Prog α) (d : Db) (sq sq' : Seqs) (r : c.Ret) (d' : Db)
    (h : exec now c d sq = (sq', .ok (r, d'))) : eval now (Prog.call c k) d sq = eval now (k r) d' sq' := by
  simp only [eval, h]

end Ledger.Ctrl
