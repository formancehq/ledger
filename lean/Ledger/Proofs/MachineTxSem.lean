import Ledger.Proofs.MachineTxEnv

/-! C25 at the level of `sem`: the generated script type-checks, and what `prepare` establishes for
    it (`tx_prepared`): the variables are bound and the tracked pairs cover every bounded source. -/
namespace Ledger.Machine

variable {cfg : Cfg}

theorem txScript_checkStmt (ps : List TxPosting) (force : Bool) (p : TxPosting) (hp : p ∈ ps) :
    checkStmt ((txScript ps force).vars.map (fun d => (d.name, d.ty)))
      (txStmt (txAccounts ps []) (txMons ps []) force p) = .ok () := by
  have hn := txScript_nodup ps force
  have hacc : ∀ a, a ∈ txAccounts ps [] →
      typeExpr ((txScript ps force).vars.map (fun d => (d.name, d.ty)))
        (.var (accVar (indexOfStr (txAccounts ps []) a))) = .ok .account := by
    intro a ha
    obtain ⟨hlt, _⟩ := indexOfStr_spec _ a ha
    have := lookup_map_decl _ hn _ (txScript_accDecl ps force _ hlt)
    simp only at this
    simp [typeExpr, this]
  have hmon : typeExpr ((txScript ps force).vars.map (fun d => (d.name, d.ty)))
      (.var (monVar (indexOfMon (txMons ps []) p.asset p.amount))) = .ok .monetary := by
    obtain ⟨hlt, _⟩ := indexOfMon_spec _ p.asset p.amount (txMons_mem ps [] p hp)
    have := lookup_map_decl _ hn _ (txScript_monDecl ps force _ hlt)
    simp only at this
    simp [typeExpr, this]
  obtain ⟨ms, md⟩ := txAccounts_mem ps [] p hp
  have hE : ∀ x, (x ≠ "world" → x ∈ txAccounts ps []) →
      typeExpr ((txScript ps force).vars.map (fun d => (d.name, d.ty))) (txAccE (txAccounts ps []) x) =
        .ok .account := by
    intro x hx
    unfold txAccE
    split
    · rfl
    next hw => exact hacc _ (hx hw)
  rw [txStmt_eq]
  simp only [checkStmt, expectTy, hmon, checkDest, hE _ md, checkSource, hE _ ms]
  unfold txOd txAccE
  by_cases hw : p.source = "world"
  · simp [hw, isWorldE, Except.map]
  · cases force <;> simp [hw, isWorldE, Except.map]

theorem txScript_typechecks (ps : List TxPosting) (force : Bool) :
    ∃ ds, typecheck (txScript ps force) = .ok ds := by
  have hcv := checkVars_plain (txScript ps force).vars [] (txScript_plain ps force)
    (by simpa using txScript_nodup ps force)
  simp only [List.nil_append] at hcv
  refine ⟨(txScript ps force).vars.map (fun d => (d.name, d.ty)), ?_⟩
  unfold typecheck
  rw [hcv]
  simp only
  rw [checkStmts_all]
  intro s hs
  simp only [txScript, List.mem_map] at hs
  obtain ⟨p, hp, rfl⟩ := hs
  exact txScript_checkStmt ps force p hp

theorem neededPairs_tx {env : Env} {accs : List String} {mons : List (String × Int)}
    {ps : List TxPosting} (hb : ∀ p ∈ ps, TxBound env accs mons p) {needed : List (String × String)}
    (h : neededPairs env (ps.map (txStmt accs mons false)) = .ok needed) :
    ∀ p ∈ ps, p.source ≠ "world" → (p.source, p.asset) ∈ needed := by
  intro p hp hw
  have b := hb p hp
  have hm := List.mem_map_of_mem (f := txStmt accs mons false) hp
  rw [txStmt_eq, txOd, if_neg hw] at hm
  exact neededPairs_mem h hm (by simp [txAccE, hw, Expr.isWorld]) (by simp [evalAccount, b.src])
    (by simp [leftmostAsset, b.monAtom, b.mon])

/-- The monetary variable of `p` is bound to a non-negative amount. -/
theorem TxBound.nonneg {env : Env} (hgood : EnvGood env) {accs : List String}
    {mons : List (String × Int)} {p : TxPosting} (b : TxBound env accs mons p) : 0 ≤ p.amount := by
  have hm := b.mon
  simp only [evalExpr] at hm
  split at hm <;> cases hm
  next hl => exact hgood.nonneg _ _ _ hl

/-- What `prepare` establishes for the generated script: the variables are bound, the amounts
    non-negative, and the tracked balances are the store's on pairs that, without force,
    cover every bounded source. -/
theorem tx_prepared {ps : List TxPosting} {force : Bool} {inp : Input} (hv : inp.vars = txVars ps)
    {env : Env} {bal : Balances} {pairs : List (String × String)}
    (h : prepare cfg (txScript ps force) inp = .ok (env, bal, pairs)) :
    (∀ p ∈ ps, TxBound env (txAccounts ps []) (txMons ps []) p) ∧ (∀ p ∈ ps, 0 ≤ p.amount) ∧
    ∃ T : String → String → Prop, TxInv T (initState bal) inp.balance ∧
      (force = false → ∀ p ∈ ps, p.source ≠ "world" → T p.source p.asset) := by
  have hb := txBound_of_prepare hv h
  obtain ⟨hgood, hwf, _⟩ := prepare_ok h
  obtain ⟨needed, hneeded, hget⟩ := (prepare_plain h (txScript_plain ps force)).2
  refine ⟨hb, fun p hp => (hb p hp).nonneg hgood, fun a c => (a, c) ∈ needed,
    ⟨hwf, fun a c hT => hget (a, c) hT⟩, ?_⟩
  rintro rfl
  exact neededPairs_tx hb (by simpa [txScript] using hneeded)

end Ledger.Machine
