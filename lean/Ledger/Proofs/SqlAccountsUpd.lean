import Ledger.Proofs.SqlAccountsCte
import Ledger.Proofs.SqlInsertGen

/-!
# `UpsertAccounts`: the CTE `updated_rows` (UPDATE accounts a … FROM data_batch d … RETURNING …)

The storage invariant `AcInv` (a `KeyInv` with (ledger, address) as key, and the row-id bound: `AcInv.iff_keyInv`) with what the chain
uses of it (`AcInv.view`, `acAbs_keys_nodup`, `AcInv.noKey`, kept by an update that keeps the key: `acUpdInv`); the statement through `exec_execUpdate_J` (`acUpdSem`); and what the transaction sees afterwards:
`updOf` of every row (`acAbs_acUpdRows`), the same accounts (`hasAccount_acUpdRows`).
-/
open Ledger Ledger.Sql Ledger.Generated Ledger.Core
open Ledger.Generated.WriteSql.P (AccountRow)
namespace Ledger.Sql

/-- does the batch row `d` update the account row `a` of ledger `l`? -/
def updCond (l : String) (a : AcR) (d : DbR) : Bool :=
  decide (a.address = d.address ∧ a.ledger = l) && (decide (d.fu < a.fu) || !jsonContains a.md d.md)

/-- the account row after the update by `d` -/
def updRow (a : AcR) (d : DbR) : AcR :=
  { a with md := jsonConcat a.md d.md, fu := leastOpt (some d.fu) a.fu, upd := d.upd }

/-- the account row after the statement -/
def updOf (l : String) (ds : List DbR) (a : AcR) : AcR :=
  match ds.find? (updCond l a) with
  | some d => updRow a d
  | none => a

theorem updOf_key (l : String) (ds : List DbR) (a : AcR) : (updOf l ds a).ledger = a.ledger ∧ (updOf l ds a).address = a.address := by
  unfold updOf
  cases ds.find? (updCond l a) <;> exact ⟨rfl, rfl⟩

theorem hasAccount_map_updOf (l l' : String) (ds : List DbR) (tbl : List AcR) (addr : String) :
    hasAccount l' (tbl.map (updOf l ds)) addr = hasAccount l' tbl addr := by
  simp only [hasAccount, List.any_map, Function.comp_def, (updOf_key l ds _).1, (updOf_key l ds _).2]

/-- the meaning of the pieces of `updated_rows`, on ANY account row and ANY batch row (all dates given) -/
structure UpsertUpdSem (l : String) (eMd eFu eUp wher : Expr) : Prop where
  hwher : ∀ (cb : Callbacks) (te : TypeEnv) (env : Env) (a : AcR) (d : DbR) (src : Option (String × Nat)) (s : St),
    (evalExpr cb te (upEnv env a.vals d.vals src) wher >>= fun v => liftR v.truth).exec s = (.ok (some (updCond l a d)), s)
  hMd : ∀ (cb : Callbacks) (te : TypeEnv) (env : Env) (a : AcR) (d : DbR) (src : Option (String × Nat)) (s : St),
    (evalExpr cb te (upEnv env a.vals d.vals src) eMd).exec s = (.ok (.json (jsonConcat a.md d.md)), s)
  hFu : ∀ (cb : Callbacks) (te : TypeEnv) (env : Env) (a : AcR) (d : DbR) (src : Option (String × Nat)) (s : St),
    (evalExpr cb te (upEnv env a.vals d.vals src) eFu).exec s = (.ok (.ts (leastOpt (some d.fu) a.fu)), s)
  hUp : ∀ (cb : Callbacks) (te : TypeEnv) (env : Env) (a : AcR) (d : DbR) (src : Option (String × Nat)) (s : St),
    (evalExpr cb te (upEnv env a.vals d.vals src) eUp).exec s = (.ok (.ts d.upd), s)
  ndMd : eMd ≠ Expr.dflt
  ndFu : eFu ≠ Expr.dflt
  ndUp : eUp ≠ Expr.dflt

def updReturning : List SelItem :=
  [(SelItem.expr (Expr.col "a" "address") ""), (SelItem.expr (Expr.col "a" "metadata") ""), (SelItem.expr (Expr.col "a" "first_usage") ""),
   (SelItem.expr (Expr.col "a" "updated_at") ""), (SelItem.expr (Expr.col "a" "insertion_date") ""), (SelItem.expr (Expr.col "d" "batch_index") "")]

/-- The meaning of the SET expressions `eMd`, `eFu` and of the WHERE clause of `updated_rows`, for ANY existing row `a` of ledger `la`
    and ANY batch row `d` (dates possibly NULL):
    * `first_usage` is set to `LEAST(d.first_usage, a.first_usage)`, NULL ignored;
    * `metadata` is set to `a.metadata || d.metadata` (the batch wins on a common key);
    * the WHERE clause holds iff the addresses are equal, the row is of this ledger, and the batch row lowers `first_usage` or carries
      metadata the row does not contain. -/
def UpsertUpdRaw (l : String) (eMd eFu wher : Expr) : Prop :=
  ∀ (cb : Callbacks) (te : TypeEnv) (env : Env) (la addrA : String) (aaA : JV) (insA updA : Int) (mdA : JV) (fuA : Int)
    (addrD : String) (mdD : JV) (fuD insD updD : Option Int) (aaD dmD biD : JV) (src : Option (String × Nat)) (s : St),
    (evalExpr cb te (upEnv env (acVals la addrA aaA insA updA mdA fuA) (dbVals addrD mdD fuD insD updD aaD dmD biD) src) eFu).exec s =
      (.ok (.ts (leastOpt fuD fuA)), s) ∧
    (evalExpr cb te (upEnv env (acVals la addrA aaA insA updA mdA fuA) (dbVals addrD mdD fuD insD updD aaD dmD biD) src) eMd).exec s =
      (.ok (.json (jsonConcat mdA mdD)), s) ∧
    ((evalExpr cb te (upEnv env (acVals la addrA aaA insA updA mdA fuA) (dbVals addrD mdD fuD insD updD aaD dmD biD) src) wher >>=
        fun v => liftR v.truth).exec s =
      (.ok (if addrA = addrD ∧ la = l then
              (if (match fuD with | some x => decide (x < fuA) | none => false) || !jsonContains mdA mdD then some true
               else (match fuD with | some _ => some false | none => none))
            else some false), s))

/-- on typed rows (all dates given) -/
theorem UpsertUpdRaw.typed {l : String} {eMd eFu eUp wher : Expr} (h : UpsertUpdRaw l eMd eFu wher)
    (hUp : ∀ (cb : Callbacks) (te : TypeEnv) (env : Env) (a : AcR) (d : DbR) (src : Option (String × Nat)) (s : St),
      (evalExpr cb te (upEnv env a.vals d.vals src) eUp).exec s = (.ok (.ts d.upd), s))
    (nMd : eMd ≠ Expr.dflt) (nFu : eFu ≠ Expr.dflt) (nUp : eUp ≠ Expr.dflt) : UpsertUpdSem l eMd eFu eUp wher := by
  have h' := fun cb te env (a : AcR) (d : DbR) src s =>
    h cb te env a.ledger a.address a.aa a.ins a.upd a.md a.fu d.address d.md (some d.fu) (some d.ins) (some d.upd) d.aa d.dm d.bi src s
  refine ⟨fun cb te env a d src s => ?_, fun cb te env a d src s => (h' cb te env a d src s).2.1,
    fun cb te env a d src s => (h' cb te env a d src s).1, hUp, nMd, nFu, nUp⟩
  refine (h' cb te env a d src s).2.2.trans ?_
  by_cases hk : a.address = d.address ∧ a.ledger = l <;> cases hb : (decide (d.fu < a.fu) || !jsonContains a.md d.md) <;>
    simp [updCond, hk, hb]

/-- the batch row that updates an account row (raw values) -/
def acMatch (l : String) (ds : List DbR) (vals : List Value) : Option (List Scope) :=
  match acDec vals with
  | some a => (ds.find? (updCond l a)).map (fun d => [cteScope "d" dbCols d.vals])
  | none => none

def acMatchD (l : String) (ds : List DbR) (vals : List Value) : Option DbR :=
  match acDec vals with
  | some a => ds.find? (updCond l a)
  | none => none

def acUpdF (l : String) (ds : List DbR) (vals : List Value) : List Value :=
  match acDec vals, acMatchD l ds vals with
  | some a, some d => (updRow a d).vals
  | _, _ => vals

/-! `acMatch`, `acMatchD`, `acUpdF` (and `acKeyOf` below) are written on raw values, for `exec_execUpdate_J`; on a typed row each is
    what its lemma here says, and nothing else is used of them. -/

theorem acMatch_vals (l : String) (ds : List DbR) (a : AcR) :
    acMatch l ds a.vals = (ds.find? (updCond l a)).map (fun d => [cteScope "d" dbCols d.vals]) := by
  simp [acMatch, acDec_vals]

theorem acMatchD_vals (l : String) (ds : List DbR) (a : AcR) : acMatchD l ds a.vals = ds.find? (updCond l a) := by
  simp [acMatchD, acDec_vals]

theorem acUpdF_vals (l : String) (ds : List DbR) (a : AcR) : acUpdF l ds a.vals = (updOf l ds a).vals := by
  simp only [acUpdF, acMatchD_vals, acDec_vals, updOf]
  cases ds.find? (updCond l a) <;> rfl

theorem isSome_acMatch (l : String) (ds : List DbR) (a : AcR) : (acMatch l ds a.vals).isSome = (ds.find? (updCond l a)).isSome := by
  rw [acMatch_vals, Option.isSome_map]

/-- the batch row behind a join row of `acMatch`; it satisfies `updCond`, and `updOf` is `updRow` by it -/
theorem acMatch_some {l : String} {ds : List DbR} {a : AcR} {F : List Scope} (h : acMatch l ds a.vals = some F) :
    ∃ d, ds.find? (updCond l a) = some d ∧ F = [cteScope "d" dbCols d.vals] ∧ updOf l ds a = updRow a d := by
  rw [acMatch_vals] at h
  cases hf : ds.find? (updCond l a) with
  | none => rw [hf] at h; cases h
  | some d => rw [hf] at h; exact ⟨d, rfl, (Option.some.inj h).symm, by simp only [updOf, hf]⟩

def acIdx : UniqueIdx := { name := "accounts_ledger", cols := ["ledger", "address"], pred := none, primary := true }

theorem acT_uniques (b : String) (trigs : List TriggerDef) (nr : Nat) (rows : List Ver) :
    ((acT b trigs nr).withRows rows).uniques = [acIdx] := rfl

theorem sameGroupKey_text_text (a b a' b' : String) :
    sameGroupKey [.text a, .text b] [.text a', .text b'] = .ok (decide (a = a') && decide (b = b')) := by
  simp only [sameGroupKey, compareForSort_text, bind, Except.bind, cmpStr_eq]
  by_cases h1 : a = a' <;> by_cases h2 : b = b' <;> simp [h1, h2] <;> rfl

/-- the key of an account row -/
def acKeyOf (vals : List Value) : String × String :=
  match acDec vals with
  | some a => (a.ledger, a.address)
  | none => ("", "")

@[simp] theorem acKeyOf_vals (a : AcR) : acKeyOf a.vals = (a.ledger, a.address) := by simp [acKeyOf, acDec_vals]

/-- no primary-key violation when no other visible row has the key -/
theorem exec_findConflict_ac (b : String) (trigs : List TriggerDef) (nr : Nat) (rows : List Ver) (x : AcR) (ex : Option Nat) (s : St)
    (hsolo : ∀ y ∈ s.w.active, y = s.xid) (htyped : AcTyped rows)
    (hno : ∀ q ∈ rows, q.visible (latestView s.w s.xid) = true → (some q.rid == ex) = false → acKeyOf q.vals ≠ (x.ledger, x.address)) :
    (findConflict ((acT b trigs nr).withRows rows) [acIdx] x.vals ex).exec s = (.ok none, s) := by
  have hnone : rows.find? (fun r => !(some r.rid == ex) &&
      (r.visible (latestView s.w s.xid) && decide (acKeyOf r.vals = (x.ledger, x.address)))) = none :=
    List.find?_eq_none.mpr fun q hq h => by
      simp only [Bool.and_eq_true, Bool.not_eq_true', decide_eq_true_eq] at h
      exact hno q hq h.2.1 h.1 h.2.2
  refine (exec_findConflict_single _ acIdx x.vals ex s hsolo rfl rfl (fun r => decide (acKeyOf r.vals = (x.ledger, x.address)))
    fun r hr _ _ => ?_).trans (by rw [show ((acT b trigs nr).withRows rows).rows = rows from rfl, hnone]; rfl)
  obtain ⟨a', hv⟩ := htyped r hr
  refine exec_keyMatches_noPred _ acIdx _ r s _ rfl ?_
  simp only [hv, acKeyOf_vals, Prod.mk.injEq, Bool.decide_and]
  exact sameGroupKey_text_text ..

/-- the storage invariant of `accounts` as the transaction sees it -/
structure AcInv (lv : View) (nr : Nat) (rows : List Ver) : Prop where
  typed : AcTyped rows
  ridLt : ∀ r ∈ rows, r.rid < nr
  ridNodup : ((rows.filter (fun r => r.visible lv)).map (·.rid)).Nodup
  keyNodup : ((rows.filter (fun r => r.visible lv)).map (fun r => acKeyOf r.vals)).Nodup

theorem exec_checkConstraints_ac (b : String) (trigs : List TriggerDef) (nr : Nat) (rows : List Ver) (a : AcR) (s : St) :
    (checkConstraints ((acT b trigs nr).withRows rows) a.vals).exec s = (.ok (), s) :=
  exec_checkConstraints_of _ _ s rfl rfl

theorem exec_checkForeignKeys_ac (b : String) (trigs : List TriggerDef) (nr : Nat) (rows : List Ver) (vals : List Value) (s : St) :
    (checkForeignKeys ((acT b trigs nr).withRows rows) vals).exec s = (.ok (), s) :=
  exec_checkForeignKeys_nil _ _ s rfl

theorem AcInv.view {lv : View} {nr : Nat} {rows : List Ver} (h : AcInv lv nr rows) : TView AcR.vals lv rows (acAbs lv rows) :=
  h.typed.view lv

theorem acAbs_keys_nodup (lv : View) (nr : Nat) (rows : List Ver) (h : AcInv lv nr rows) :
    ((acAbs lv rows).map (fun a => (a.ledger, a.address))).Nodup := by
  have hk : ((visVals lv rows).map acKeyOf).Nodup := by
    simpa only [visVals, List.map_map, Function.comp_def] using h.keyNodup
  rw [show visVals lv rows = _ from h.view, List.map_map] at hk
  simpa only [Function.comp_def, acKeyOf_vals] using hk

/-- no account of the ledger has the address: no visible row has the key -/
theorem AcInv.noKey {lv : View} {nr : Nat} {rows : List Ver} (h : AcInv lv nr rows) {l addr : String}
    (hno : hasAccount l (acAbs lv rows) addr = false) (q : Ver) (hq : q ∈ rows) (hv : q.visible lv = true) : acKeyOf q.vals ≠ (l, addr) := by
  obtain ⟨a, ha, e⟩ := h.view.of_row q hq hv
  rw [e, acKeyOf_vals]
  intro hk
  rw [hasAccount_iff.mpr ⟨a, ha, (Prod.mk.inj hk).1, (Prod.mk.inj hk).2⟩] at hno
  cases hno

theorem AcInv.iff_keyInv (lv : View) (nr : Nat) (rows : List Ver) :
    AcInv lv nr rows ↔ KeyInv (fun v => ∃ a : AcR, v = a.vals) acKeyOf lv rows ∧ RidLt rows nr :=
  ⟨fun h => ⟨⟨h.typed, h.ridNodup, h.keyNodup⟩, h.ridLt⟩, fun h => ⟨h.1.typed, h.2, h.1.ridNodup, h.1.keyNodup⟩⟩

/-- `updated_rows` keeps ledger and address, the key of `accounts` -/
theorem acUpdInv (b : String) (trigs : List TriggerDef) (nr : Nat) (w : World) (xid cid : Nat) (hx : xid ≠ 0) (hc : cid < 1000000000)
    (l : String) (ds : List DbR) :
    UpdInv (acT b trigs nr) (fun v => (acMatch l ds v).isSome) (acUpdF l ds) (latestView w xid) xid cid (fun r => ∃ a : AcR, r.vals = a.vals)
      (AcInv (latestView w xid) nr) :=
  ((UpdInv.of_key (acT b trigs nr) _ (acUpdF l ds) w xid cid hx hc _
    (fun r _ ⟨a, hv⟩ _ => by rw [hv, acUpdF_vals]; exact ⟨⟨_, rfl⟩, by simp [updOf_key]⟩)
    (fun rows v ex s hs hty ⟨a, hv⟩ hno => by
      rw [hv]
      exact exec_findConflict_ac b trigs nr rows a ex s hs.solo hty fun q hq hvq hex => by
        simpa [hv] using hno q hq hvq hex)).ridLt nr).congr (AcInv.iff_keyInv _ nr)


def updRetCols : List String := ["address", "metadata", "first_usage", "updated_at", "insertion_date", "batch_index"]

/-- the RETURNING row of an updated account -/
def updRetRow (a : AcR) (d : DbR) : List Value :=
  [.text a.address, .json (updRow a d).md, .ts (updRow a d).fu, .ts d.upd, .ts a.ins, .json d.bi]

def acAccStep (l : String) (ds : List DbR) (acc : DmlAcc) (r : Ver) : DmlAcc :=
  match acDec r.vals, acMatchD l ds r.vals with
  | some a, some d => { retCols := updRetCols, retRows := acc.retRows ++ [updRetRow a d], affected := acc.affected + 1 }
  | _, _ => acc

/-- the scopes in which UPDATE evaluates its WHERE clause and SET list on the target row `r` and the joined batch row `d` -/
theorem upEnv_of_row (env : Env) (t : Table) (ht : t.colNames = acCols) (r : Ver) (a : AcR) (hv : r.vals = a.vals) (d : DbR) :
    ({ env with locals := [rowScopeOf t "a" r] ++ [cteScope "d" dbCols d.vals] } : Env) = upEnv env a.vals d.vals (some (t.name, r.rid)) := by
  simp only [upEnv, rowScopeOf, hv, ht, cteScope, List.cons_append, List.nil_append]

/-- the SET list of `updated_rows` on the account row `a` joined with the batch row `d` -/
theorem exec_applySets_ac (m : Nat) (env : Env) (b l : String) (trigs : List TriggerDef) (nr : Nat) (rows : List Ver)
    (eMd eFu eUp wher : Expr) (hsem : UpsertUpdSem l eMd eFu eUp wher) (a : AcR) (d : DbR) (src : Option (String × Nat)) (s : St) :
    (applySets (m + 3) (upEnv env a.vals d.vals src) ((acT b trigs nr).withRows rows) a.vals
      [SetItem.mk "metadata" eMd, SetItem.mk "first_usage" eFu, SetItem.mk "updated_at" eUp]).exec s = (.ok (updRow a d).vals, s) :=
  exec_applySets_all (m + 2) _ ((acT b trigs nr).withRows rows) a.vals _
    [("metadata", .json (jsonConcat a.md d.md)), ("first_usage", .ts (leastOpt (some d.fu) a.fu)), ("updated_at", .ts d.upd)] s
    ⟨⟨_, _, _, rfl, hsem.ndMd, rfl, hsem.hMd _ _ env a d src s, castTo_jsonb_json _ _⟩,
     ⟨_, _, _, rfl, hsem.ndFu, rfl, hsem.hFu _ _ env a d src s, castTo_ts_ts _ _⟩,
     ⟨_, _, _, rfl, hsem.ndUp, rfl, hsem.hUp _ _ env a d src s, castTo_ts_ts _ _⟩, trivial⟩

/-- RETURNING of `updated_rows` on ANY target row `av` joined with ANY batch row `dv`: five columns of the one, `batch_index` of the other -/
theorem exec_evalReturning_upd (m : Nat) (env : Env) (t : Table) (ht : t.colNames = acCols) (av dv : List Value) (v1 v2 v3 v4 v5 bi : Value)
    (s : St) (h1 : lookupIn acCols av "address" = some v1) (h2 : lookupIn acCols av "metadata" = some v2)
    (h3 : lookupIn acCols av "first_usage" = some v3) (h4 : lookupIn acCols av "updated_at" = some v4)
    (h5 : lookupIn acCols av "insertion_date" = some v5) (h6 : lookupIn dbCols dv "batch_index" = some bi) :
    (evalReturning (m + 1) env t "a" av [{ alias := "d", cols := dbCols, vals := dv }] updReturning).exec s =
      (.ok (updRetCols, [v1, v2, v3, v4, v5, bi]), s) := by
  have ca := fun c v h => Evals.col (cb := cbs m) (te := s.w.types) (lookup_a env av dv none c v h) s
  refine exec_evalReturning_exprs m env _ "a" _ _
    [(Expr.col "a" "address", ""), (Expr.col "a" "metadata", ""), (Expr.col "a" "first_usage", ""), (Expr.col "a" "updated_at", ""),
     (Expr.col "a" "insertion_date", ""), (Expr.col "d" "batch_index", "")] _ s ?_
  rw [ht]
  exact ⟨ca _ _ h1, ca _ _ h2, ca _ _ h3, ca _ _ h4, ca _ _ h5, Evals.col (lookup_d env av dv none "batch_index" bi h6) s, trivial⟩

theorem acUpdSem (env : Env) (b l : String) (trigs : List TriggerDef) (nr : Nat) (ds : List DbR) (eMd eFu eUp wher : Expr)
    (hsem : UpsertUpdSem l eMd eFu eUp wher)
    (hnb : trigs.filter (fun tr => tr.timing == .before && tr.event == .update) = [])
    (QU : Ver → List PendingTrig)
    (hqaU : ∀ (r : Ver) (a : AcR), r.vals = a.vals → (acMatch l ds r.vals).isSome = true → ∀ (m : Nat) (rows : List Ver) (s : St),
      (queueAfter (m + 3) ((acT b trigs nr).withRows rows) .update ["metadata", "first_usage", "updated_at"]
        (some (acUpdF l ds r.vals)) (some r.vals)).exec s = (.ok (), s.addQ (QU r))) :
    UpdSemJ env (acT b trigs nr) "a" "a" [SetItem.mk "metadata" eMd, SetItem.mk "first_usage" eFu, SetItem.mk "updated_at" eUp] (some wher)
      updReturning (ds.map (fun d => [cteScope "d" dbCols d.vals])) (acMatch l ds) (acUpdF l ds) (acAccStep l ds) QU
      (fun r => ∃ a : AcR, r.vals = a.vals) := by
  have hW : ∀ (r : Ver) (a : AcR), r.vals = a.vals → ∀ (d : DbR) (m : Nat) (s : St),
      (whereHolds (m + 2) env (some wher) ([rowScopeOf (acT b trigs nr) "a" r] ++ [cteScope "d" dbCols d.vals])).exec s =
        (.ok (updCond l a d), s) := by
    intro r a hv d m s
    apply exec_whereHolds_of
    rw [upEnv_of_row env (acT b trigs nr) rfl r a hv d]
    exact hsem.hwher (cbs (m + 1)) s.w.types env a d _ s
  exact {
    hmatch := fun r ⟨a, hv⟩ m s _ => by
      rw [exec_firstJoinMatch_find (m + 2) env (some wher) (rowScopeOf (acT b trigs nr) "a" r) (fun d : DbR => [cteScope "d" dbCols d.vals])
        (updCond l a) s ds (fun d _ => hW r a hv d m s), hv, acMatch_vals]
    hwhere := fun r ⟨a, hv⟩ F hF m s _ => by
      obtain ⟨d, hfd, rfl, _⟩ := acMatch_some (hv ▸ hF)
      exact (hW r a hv d m s).trans (by rw [List.find?_some hfd])
    hsets := fun r ⟨a, hv⟩ F hF m rows s _ => by
      obtain ⟨d, _, rfl, hu⟩ := acMatch_some (hv ▸ hF)
      rw [upEnv_of_row env (acT b trigs nr) rfl r a hv d, hv, acUpdF_vals, hu]
      exact exec_applySets_ac m env b l trigs nr rows eMd eFu eUp wher hsem a d _ s
    hchecks := fun r ⟨a, hv⟩ _ rows s _ => by
      rw [hv, acUpdF_vals]
      exact exec_checkConstraints_ac b trigs nr rows _ s
    hfks := fun r _ _ rows s _ => exec_checkForeignKeys_ac b trigs nr rows _ s
    hbefore := hnb
    hafter := fun r ⟨a, hv⟩ hm k rows s _ => hqaU r a hv hm k rows s
    hacc := fun r ⟨a, hv⟩ F hF m rows s acc _ => by
      obtain ⟨d, hfd, rfl, hu⟩ := acMatch_some (hv ▸ hF)
      rw [hv, acUpdF_vals, hu, accReturning]
      refine exec_of_eq (if_neg (by simp [updReturning])) (exec_seq (exec_evalReturning_upd (m + 1) env ((acT b trigs nr).withRows rows) rfl
        (updRow a d).vals d.vals _ _ _ (.ts d.upd) _ (.json d.bi) s rfl rfl rfl rfl rfl rfl) ?_)
      simp only [acAccStep, hv, acDec_vals, acMatchD_vals, hfd]
      rfl }

/-- the hypotheses on `accounts` in the state in which `UpsertAccounts` runs -/
structure AcTblState (s : St) (b : String) (trigs : List TriggerDef) (nr : Nat) (rows : List Ver) : Prop where
  tx : TxState s
  bne : b.isEmpty = false
  table : s.w.table? (acFull b) = some ((acT b trigs nr).withRows rows)
  fresh : Fresh s.xid s.cid rows
  inv : AcInv (latestView s.w s.xid) nr rows
  noUpdB : trigs.filter (fun tr => tr.timing == .before && tr.event == .update) = []

/-- the rows of `accounts` after the UPDATE of `updated_rows` -/
def acUpdRows (lv : View) (xid cid : Nat) (l : String) (ds : List DbR) (rows : List Ver) : List Ver :=
  updRun lv xid cid (fun v => (acMatch l ds v).isSome) (acUpdF l ds) rows (rows.filter (fun r => r.visible lv)).reverse

theorem AcInv_acUpdRows (b : String) (trigs : List TriggerDef) (nr : Nat) (w : World) (xid cid : Nat) (hx : xid ≠ 0) (hc : cid < 1000000000)
    (l : String) (ds : List DbR) (rows : List Ver) (h : AcInv (latestView w xid) nr rows) :
    AcInv (latestView w xid) nr (acUpdRows (latestView w xid) xid cid l ds rows) :=
  (acUpdInv b trigs nr w xid cid hx hc l ds).runAll h.ridNodup (fun r hr _ => h.typed r hr) h

/-- after the UPDATE the transaction sees `updOf` of every row it saw, up to order -/
theorem acAbs_acUpdRows (w : World) (xid cid : Nat) (hx : xid ≠ 0) (hc : cid < 1000000000) (l : String) (ds : List DbR) (nr : Nat) (rows : List Ver)
    (hinv : AcInv (latestView w xid) nr rows) :
    (acAbs (latestView w xid) (acUpdRows (latestView w xid) xid cid l ds rows)).Perm ((acAbs (latestView w xid) rows).map (updOf l ds)) := by
  refine ((TView.updRun (dec := acDec) acDec_vals hinv.view cid hx hc hinv.ridNodup (fun v => (acMatch l ds v).isSome) (acUpdF l ds)
    (fun a => (ds.find? (updCond l a)).isSome) (updOf l ds) (fun a _ => isSome_acMatch l ds a) (fun a _ _ => acUpdF_vals l ds a)).2).trans
    (List.Perm.of_eq (List.map_congr_left fun a _ => ?_))
  cases hf : ds.find? (updCond l a) with
  | none => simp [updOf, hf]
  | some d => rfl

theorem hasAccount_acUpdRows (w : World) (xid cid : Nat) (hx : xid ≠ 0) (hc : cid < 1000000000) (l l' : String) (ds : List DbR) (nr : Nat)
    (rows : List Ver) (hinv : AcInv (latestView w xid) nr rows) (addr : String) :
    hasAccount l' (acAbs (latestView w xid) (acUpdRows (latestView w xid) xid cid l ds rows)) addr =
      hasAccount l' (acAbs (latestView w xid) rows) addr := by
  unfold hasAccount
  rw [(acAbs_acUpdRows w xid cid hx hc l ds nr rows hinv).any_eq]
  exact hasAccount_map_updOf l l' ds _ addr

/-- what `updated_rows` returns -/
def acUpdAcc (lv : View) (l : String) (ds : List DbR) (rows : List Ver) : DmlAcc :=
  updAcc (fun v => (acMatch l ds v).isSome) (acAccStep l ds) {} (rows.filter (fun r => r.visible lv)).reverse

/-- the accumulator of a RETURNING list with columns `cols`: they are its column names once a row is returned, and every row has one
    value per column -/
def RetOk (cols : List String) (acc : DmlAcc) : Prop :=
  (acc.retCols = [] ∨ acc.retCols = cols) ∧ ∀ r ∈ acc.retRows, r.length = cols.length

theorem retOk_acAccStep (l : String) (ds : List DbR) (acc : DmlAcc) (r : Ver) (h : RetOk updRetCols acc) :
    RetOk updRetCols (acAccStep l ds acc r) := by
  unfold acAccStep
  split
  · exact ⟨.inr rfl, fun x hx => (List.mem_append.mp hx).elim (h.2 x) fun hx => by rw [List.mem_singleton.mp hx]; rfl⟩
  · exact h

theorem retOk_acUpdAcc (lv : View) (l : String) (ds : List DbR) (rows : List Ver) : RetOk updRetCols (acUpdAcc lv l ds rows) := by
  unfold acUpdAcc updAcc
  generalize (rows.filter (fun r => r.visible lv)).reverse = ts
  suffices ∀ acc : DmlAcc, RetOk updRetCols acc → RetOk updRetCols
      (ts.foldl (fun a r => if (acMatch l ds r.vals).isSome = true then acAccStep l ds a r else a) acc) from
    this {} ⟨.inl rfl, fun _ h => nomatch h⟩
  induction ts with
  | nil => exact fun _ h => h
  | cons r rest ih =>
    refine fun acc h => ih _ ?_
    dsimp only
    split
    · exact retOk_acAccStep l ds acc r h
    · exact h

theorem exec_updatedRows (n : Nat) (env : Env) (b l : String) (trigs : List TriggerDef) (nr : Nat) (rows : List Ver) (ds : List DbR)
    (eMd eFu eUp wher : Expr) (hsem : UpsertUpdSem l eMd eFu eUp wher) (s : St) (hst : AcTblState s b trigs nr rows)
    (QU : Ver → List PendingTrig)
    (hqaU : ∀ (r : Ver) (a : AcR), r.vals = a.vals → (acMatch l ds r.vals).isSome = true → ∀ (m : Nat) (rows : List Ver) (s : St),
      (queueAfter (m + 3) ((acT b trigs nr).withRows rows) .update ["metadata", "first_usage", "updated_at"]
        (some (acUpdF l ds r.vals)) (some r.vals)).exec s = (.ok (), s.addQ (QU r)))
    (hcte : env.ctes.lookup "data_batch" = some (dbRel ds)) :
    (execStmt (n + 7) env (Stmt.update [] b "accounts" "a"
        [SetItem.mk "metadata" eMd, SetItem.mk "first_usage" eFu, SetItem.mk "updated_at" eUp]
        [FromItem.table "" "data_batch" "d"] (some wher) updReturning)).exec s =
      (.ok { rel := { cols := updRetCols, rows := (acUpdAcc (latestView s.w s.xid) l ds rows).retRows },
             affected := (acUpdAcc (latestView s.w s.xid) l ds rows).affected },
       (s.withTable ((acT b trigs nr).withRows (acUpdRows (latestView s.w s.xid) s.xid s.cid l ds rows))).addQ
         (updQ (fun v => (acMatch l ds v).isSome) QU ((rows.filter (fun r => r.visible (latestView s.w s.xid))).reverse))) := by
  have hq : (qualify b "accounts").exec s = (.ok (acFull b), s) := exec_qualify b "accounts" hst.bne s
  have hfrom := exec_evalFromList_cte (n + 1) env "data_batch" "d" (dbRel ds) s hcte
  have hJ : (dbRel ds).rows.map (fun v => [cteScope (if ("d" : String).isEmpty then "data_batch" else "d") (dbRel ds).cols v]) =
      ds.map (fun d => [cteScope "d" dbCols d.vals]) := by
    simp [dbRel, List.map_map, Function.comp]
  rw [hJ] at hfrom
  have hI := acUpdInv b trigs nr s.w s.xid s.cid hst.tx.xid hst.tx.cid l ds
  have hupd := exec_execUpdate_J (n + 1) env b "accounts" (acFull b) "a" "a" _ [FromItem.table "" "data_batch" "d"] _ _ (acT b trigs nr) _ _ _ _ _ _
    (fun _ => True) (fun _ _ h => h) (fun _ _ h => h) (acUpdSem env b l trigs nr ds eMd eFu eUp wher hsem hst.noUpdB QU hqaU)
    s hst.tx trivial rows hst.table rfl hq rfl hfrom hst.fresh hst.inv.ridNodup
    (fun r hr _ => hst.inv.typed r hr) (AcInv (latestView s.w s.xid) nr) hI hst.inv updRetCols
    (by
      intro _ s'
      have hp := exec_protoScopes_cte (n + 2) env "data_batch" "d" (dbRel ds) s' hcte
      refine ⟨[.null, .null, .null, .null, .null, .null], ?_⟩
      simp only [exec_bind, hp, show ("d" : String).isEmpty = false from by decide, Bool.false_eq_true, if_false, dbRel]
      exact exec_evalReturning_upd (n + 4) env ((acT b trigs nr).withRows _) rfl ((acT b trigs nr).cols.map (fun _ => Value.null))
        (dbCols.map (fun _ => Value.null)) .null .null .null .null .null .null s' rfl rfl rfl rfl rfl rfl)
  have hcols : (if ((acUpdAcc (latestView s.w s.xid) l ds rows).retCols.isEmpty && !updReturning.isEmpty) = true then updRetCols
      else (acUpdAcc (latestView s.w s.xid) l ds rows).retCols) = updRetCols := by
    rcases (retOk_acUpdAcc (latestView s.w s.xid) l ds rows).1 with h | h <;> rw [h] <;> rfl
  rw [execStmt_update_noCte, hupd]
  simp only [acUpdAcc, acUpdRows] at hcols ⊢
  congr 3
  exact congrArg (fun c => ({ cols := c, rows := _ } : Rel)) hcols

end Ledger.Sql
