import Ledger.Proofs.CoreStore
import Ledger.Spec.Pcev

/-! C04: the multi-row insert into `moves` with the triggers of migration 11 preserves the
    effective-volumes invariant, for an arbitrary (back-dated / tied / future) effective date. -/
namespace Ledger.Spec
open Ledger.Base Ledger.Core

/-! `prevMove`, `lastEffectiveMove` and `lastInsertionMove` are the selection `latest` for three
choices of candidates and order. -/

/-- Among the candidates `c` of a list, the greatest one for `lt`. -/
def latest {α : Type} (c : α → Prop) [DecidablePred c] (lt : α → α → Prop) [DecidableRel lt] : List α → Option α
  | [] => none
  | m :: r =>
    if c m then
      match latest c lt r with
      | none => some m
      | some b => some (if lt m b then b else m)
    else latest c lt r

section latest
variable {α : Type} {c : α → Prop} [DecidablePred c] {lt : α → α → Prop} [DecidableRel lt]

theorem latest_none {t : List α} (h : latest c lt t = none) : ∀ x ∈ t, ¬ c x := by
  induction t with
  | nil => intro x hx; cases hx
  | cons m r ih =>
    unfold latest at h
    split at h
    · split at h <;> cases h
    · intro x hx
      rcases List.mem_cons.mp hx with rfl | hx
      · assumption
      · exact ih h x hx

/-- `le` is a total preorder with strict part `lt`: what `LatestOrd.some` asks of the order -/
structure LatestOrd (lt le : α → α → Prop) : Prop where
  refl : ∀ a, le a a
  trans : ∀ {a b d}, le a b → le b d → le a d
  of_lt : ∀ {a b}, lt a b → le a b
  of_not_lt : ∀ {a b}, ¬ lt a b → le b a

theorem LatestOrd.some {le : α → α → Prop} (o : LatestOrd lt le) {t : List α} {p : α} (h : latest c lt t = some p) :
    p ∈ t ∧ c p ∧ ∀ x ∈ t, c x → le x p := by
  induction t generalizing p with
  | nil => cases h
  | cons m r ih =>
    unfold latest at h
    by_cases hc : c m
    · rw [if_pos hc] at h
      cases hr : latest c lt r with
      | none =>
        rw [hr] at h; cases h
        refine ⟨List.mem_cons_self, hc, fun x hx hcx => ?_⟩
        rcases List.mem_cons.mp hx with rfl | hx
        · exact o.refl _
        · exact absurd hcx (latest_none hr x hx)
      | some b =>
        rw [hr] at h
        obtain ⟨hb1, hb2, hb3⟩ := ih hr
        by_cases hlt : lt m b
        · simp only [if_pos hlt, Option.some.injEq] at h; subst h
          refine ⟨List.mem_cons_of_mem _ hb1, hb2, fun x hx hcx => ?_⟩
          rcases List.mem_cons.mp hx with rfl | hx
          · exact o.of_lt hlt
          · exact hb3 x hx hcx
        · simp only [if_neg hlt, Option.some.injEq] at h; subst h
          refine ⟨List.mem_cons_self, hc, fun x hx hcx => ?_⟩
          rcases List.mem_cons.mp hx with rfl | hx
          · exact o.refl _
          · exact o.trans (hb3 x hx hcx) (o.of_not_lt hlt)
    · rw [if_neg hc] at h
      obtain ⟨hb1, hb2, hb3⟩ := ih h
      refine ⟨List.mem_cons_of_mem _ hb1, hb2, fun x hx hcx => ?_⟩
      rcases List.mem_cons.mp hx with rfl | hx
      · exact absurd hcx hc
      · exact hb3 x hx hcx

theorem latest_eq_of_max {le : α → α → Prop} (o : LatestOrd lt le) {t : List α}
    (antisymm : ∀ x ∈ t, ∀ y ∈ t, le x y → le y x → x = y)
    {x : α} (hx : x ∈ t) (hc : c x) (hmax : ∀ y ∈ t, c y → le y x) : latest c lt t = some x := by
  cases h : latest c lt t with
  | none => exact absurd hc (latest_none h x hx)
  | some p =>
    obtain ⟨h1, h2, h3⟩ := o.some h
    rw [antisymm p h1 x hx (hmax p h1 h2) (h3 x hx hc)]

theorem latest_perm {le : α → α → Prop} (o : LatestOrd lt le) {t t' : List α} (hp : t.Perm t')
    (antisymm : ∀ x ∈ t, ∀ y ∈ t, le x y → le y x → x = y) : latest c lt t = latest c lt t' := by
  cases h : latest c lt t' with
  | none =>
    cases h' : latest c lt t with
    | none => rfl
    | some p =>
      obtain ⟨h1, h2, _⟩ := o.some h'
      exact absurd h2 (latest_none h p (hp.mem_iff.mp h1))
  | some p =>
    obtain ⟨h1, h2, h3⟩ := o.some h
    exact latest_eq_of_max o antisymm (hp.mem_iff.mpr h1) h2 fun y hy => h3 y (hp.mem_iff.mp hy)

end latest

theorem before_iff (a b : MoveRow) : a.before b = true ↔
    (a.effectiveDate < b.effectiveDate ∨ (a.effectiveDate = b.effectiveDate ∧ a.seq < b.seq)) := by
  simp [MoveRow.before]

theorem notAfter_iff (a b : MoveRow) : a.notAfter b = true ↔
    (a.effectiveDate < b.effectiveDate ∨ (a.effectiveDate = b.effectiveDate ∧ a.seq ≤ b.seq)) := by
  simp [MoveRow.notAfter]

theorem notAfter_refl (a : MoveRow) : a.notAfter a = true :=
  (notAfter_iff a a).mpr (Or.inr ⟨rfl, Nat.le_refl _⟩)

theorem notAfter_of_before {a b : MoveRow} (h : a.before b = true) : a.notAfter b = true :=
  (notAfter_iff a b).mpr (((before_iff a b).mp h).imp_right (And.imp_right Nat.le_of_lt))

/-- The two orders are one total preorder and its strict part. -/
theorem notAfter_eq_not_before (a b : MoveRow) : a.notAfter b = !b.before a := by
  rw [Bool.eq_iff_iff, Bool.not_eq_true', ← Bool.not_eq_true, notAfter_iff, before_iff]; omega

theorem notAfter_eq_before {a b : MoveRow} (h : a.seq ≠ b.seq) : a.notAfter b = a.before b := by
  unfold MoveRow.notAfter MoveRow.before
  rw [decide_eq_decide.mpr ⟨fun hle => Nat.lt_of_le_of_ne hle h, Nat.le_of_lt⟩]

theorem date_le_of_notAfter {a b : MoveRow} (h : a.notAfter b = true) : a.effectiveDate ≤ b.effectiveDate :=
  ((notAfter_iff a b).mp h).elim Int.le_of_lt fun h => Int.le_of_eq h.1

/-- Below a row of greater `seq` = dated not after it. -/
theorem before_iff_date_le {a b : MoveRow} (h : a.seq < b.seq) :
    a.before b = true ↔ a.effectiveDate ≤ b.effectiveDate := by
  rw [before_iff, Int.le_iff_lt_or_eq]; exact or_congr_right (and_iff_left h)

theorem beforeOrd : LatestOrd (fun a b : MoveRow => a.before b = true) (fun a b => a.notAfter b = true) :=
  ⟨notAfter_refl, by intro a b d; simp only [notAfter_iff]; omega, notAfter_of_before,
   fun {a b} h => by rw [notAfter_eq_not_before, Bool.eq_false_iff.mpr h]; rfl⟩

theorem seqOrd : LatestOrd (fun a b : MoveRow => a.seq < b.seq) (fun a b => a.seq ≤ b.seq) :=
  ⟨fun _ => Nat.le_refl _, Nat.le_trans, Nat.le_of_lt, fun h => Nat.le_of_not_lt h⟩

/-- two rows neither of which comes after the other in `(effective_date, seq)` have the same sequence number -/
theorem notAfter_antisymm {x y : MoveRow} (a : x.notAfter y = true) (b : y.notAfter x = true) : x.seq = y.seq := by
  rw [notAfter_iff] at a b
  omega

theorem latest_before_some {c : MoveRow → Prop} [DecidablePred c] {t : List MoveRow} {p : MoveRow}
    (h : latest c (fun a b => a.before b = true) t = some p) :
    p ∈ t ∧ c p ∧ ∀ x ∈ t, c x → x.notAfter p = true :=
  beforeOrd.some h

theorem prevMove_eq_latest (t : List MoveRow) (n : MoveRow) :
    prevMove t n = latest (fun m => m.key = n.key ∧ m.before n = true) (fun a b => a.before b = true) t := by
  induction t with
  | nil => rfl
  | cons m r ih => simp only [prevMove, latest, ih]; split <;> first | rfl | (split <;> simp only [*])

theorem prevMove_none {t : List MoveRow} {n : MoveRow} (h : prevMove t n = none) :
    ∀ c ∈ t, ¬ (c.key = n.key ∧ c.before n = true) :=
  latest_none (prevMove_eq_latest t n ▸ h)

theorem prevMove_some {t : List MoveRow} {n p : MoveRow} (h : prevMove t n = some p) :
    p ∈ t ∧ p.key = n.key ∧ p.before n = true ∧
    ∀ c ∈ t, c.key = n.key → c.before n = true → c.notAfter p = true := by
  obtain ⟨h1, h2, h3⟩ := latest_before_some (prevMove_eq_latest t n ▸ h)
  exact ⟨h1, h2.1, h2.2, fun c hc hk hb => h3 c hc ⟨hk, hb⟩⟩

/-! A column of `moves` that is a running sum of deltas along an order (`pcv` along `seq`, `pcev` along
`(effective_date, seq)`): a row put on top (`snoc`), the column read at the greatest row of a class closed
downwards (`latest_eq_sum`: the BEFORE trigger's `prevMove` and the `first_value` reads). -/

def vsum : List Volumes → Volumes
  | [] => Volumes.zero
  | v :: l => v.add (vsum l)

theorem vsum_append (a b : List Volumes) : vsum (a ++ b) = (vsum a).add (vsum b) := by
  induction a with
  | nil => exact (Volumes.zero_add _).symm
  | cons v a ih => simp only [List.cons_append, vsum, ih, Volumes.add_assoc]

theorem foldl_add_eq (l : List Volumes) (v : Volumes) : l.foldl (fun acc d => acc.add d) v = v.add (vsum l) := by
  induction l generalizing v with
  | nil => exact (Volumes.add_zero v).symm
  | cons d l ih => simp only [List.foldl_cons, ih, vsum, Volumes.add_assoc]

theorem sumDeltas_eq_vsum (l : List MoveRow) : sumDeltas l = vsum (l.map (·.delta)) := by
  rw [← Volumes.zero_add (vsum _), ← foldl_add_eq, List.foldl_map]; rfl

theorem sumDeltas_append (a b : List MoveRow) : sumDeltas (a ++ b) = (sumDeltas a).add (sumDeltas b) := by
  simp only [sumDeltas_eq_vsum, List.map_append, vsum_append]

theorem sumDeltas_cons (m : MoveRow) (l : List MoveRow) : sumDeltas (m :: l) = m.delta.add (sumDeltas l) := by
  simp only [sumDeltas_eq_vsum]; rfl

theorem sumDeltas_single (r : MoveRow) : sumDeltas [r] = r.delta := Volumes.zero_add _

theorem sumDeltas_filter_false {P : MoveRow → Bool} {l : List MoveRow} (h : ∀ m ∈ l, P m = false) :
    sumDeltas (l.filter P) = Volumes.zero := by
  rw [List.filter_eq_nil_iff.mpr fun m hm hp => by rw [h m hm] at hp; cases hp]; rfl

theorem sumDeltas_filter_map (H : MoveRow → MoveRow) (P Q : MoveRow → Bool) (l : List MoveRow)
    (hd : ∀ m ∈ l, (H m).delta = m.delta) (hP : ∀ m ∈ l, P (H m) = Q m) :
    sumDeltas ((l.map H).filter P) = sumDeltas (l.filter Q) := by
  rw [sumDeltas_eq_vsum, sumDeltas_eq_vsum, List.filter_map, List.map_map, List.filter_congr (p := P ∘ H) hP]
  exact congrArg vsum (List.map_congr_left fun m hm => hd m (List.mem_filter.mp hm).1)

/-- On the rows in `S`, the column is the sum of the deltas of the rows of the same account/asset
    that are not after the row for `le`. -/
def Running (S : MoveRow → Prop) (col : MoveRow → Volumes) (le : MoveRow → MoveRow → Bool) (t : List MoveRow) : Prop :=
  ∀ m ∈ t, S m → col m = sumDeltas (t.filter fun m' => m'.key == m.key && le m' m)

section running
variable {S : MoveRow → Prop} {col : MoveRow → Volumes} {le : MoveRow → MoveRow → Bool} {t : List MoveRow}

/-- A row put on top of the rows in `S`: it carries what is below it plus its own delta. -/
theorem Running.snoc {r : MoveRow} (h : Running S col le t)
    (htop : ∀ m ∈ t, S m → le r m = false) (hrefl : le r r = true)
    (hr : col r = (sumDeltas (t.filter fun m' => m'.key == r.key && le m' r)).add r.delta) :
    Running S col le (t ++ [r]) := by
  intro m hm hS
  rw [List.filter_append, sumDeltas_append]
  rcases List.mem_append.mp hm with hm | hm
  · rw [h m hm hS, sumDeltas_filter_false (l := [r]) (fun x hx => by
      rw [List.mem_singleton.mp hx, htop m hm hS, Bool.and_false]), Volumes.add_zero]
  · obtain rfl := List.mem_singleton.mp hm
    rw [hr, List.filter_cons_of_pos (by rw [hrefl, beq_self_eq_true]; rfl), List.filter_nil, sumDeltas_single]

/-- `first_value`: the column at the greatest row `o` of a class `d` of the account/asset `k` that is
    closed downwards is the sum of the deltas of the class. -/
theorem Running.latest_eq_sum (h : Running S col le t) {k : Key} {d : MoveRow → Prop} [DecidablePred d]
    {o : Option MoveRow} (hnone : o = none → ∀ m ∈ t, ¬ (m.key = k ∧ d m))
    (hsome : ∀ p, o = some p → p ∈ t ∧ (p.key = k ∧ d p) ∧ ∀ m ∈ t, m.key = k ∧ d m → le m p = true)
    (hS : ∀ m ∈ t, d m → S m) (hdown : ∀ a ∈ t, ∀ b ∈ t, d b → a.key = b.key → le a b = true → d a) :
    (match (generalizing := false) o with | some p => col p | none => Volumes.zero) =
      sumDeltas (t.filter fun m => m.key == k && decide (d m)) := by
  cases o with
  | none =>
    refine (sumDeltas_filter_false fun m hm => Bool.eq_false_iff.mpr fun hc => hnone rfl m hm ?_).symm
    rwa [Bool.and_eq_true, beq_iff_eq, decide_eq_true_iff] at hc
  | some p =>
    obtain ⟨hp, ⟨hpk, hdp⟩, hmax⟩ := hsome p rfl
    show col p = _
    rw [h p hp (hS p hp hdp), hpk]
    refine congrArg sumDeltas (List.filter_congr fun m hm => Bool.eq_iff_iff.mpr ?_)
    simp only [Bool.and_eq_true, beq_iff_eq, decide_eq_true_iff]
    exact ⟨fun ⟨hk, hle⟩ => ⟨hk, hdown m hm p hp hdp (hk.trans hpk.symm) hle⟩, fun hc => ⟨hc.1, hmax m hm hc⟩⟩

end running

/-- The invariant does not see a rewriting of the rows that keeps what it reads. -/
theorem Running.map_iff {S : MoveRow → Prop} {col : MoveRow → Volumes} {le : MoveRow → MoveRow → Bool}
    (H : MoveRow → MoveRow) (hS : ∀ m, S (H m) ↔ S m) (hcol : ∀ m, col (H m) = col m)
    (hkey : ∀ m, (H m).key = m.key) (hd : ∀ m, (H m).delta = m.delta) (hle : ∀ a b, le (H a) (H b) = le a b)
    (t : List MoveRow) : Running S col le (t.map H) ↔ Running S col le t := by
  have hsum : ∀ m, sumDeltas ((t.map H).filter fun m' => m'.key == (H m).key && le m' (H m)) =
      sumDeltas (t.filter fun m' => m'.key == m.key && le m' m) := fun m =>
    sumDeltas_filter_map H _ _ t (fun c _ => hd c) fun c _ => by rw [hkey, hkey, hle]
  constructor
  · intro h m hm hs
    rw [← hcol, h (H m) (List.mem_map_of_mem hm) ((hS m).mpr hs), hsum]
  · intro h x hx hs
    obtain ⟨m, hm, rfl⟩ := List.mem_map.mp hx
    rw [hcol, h m hm ((hS m).mp hs), hsum]

theorem PCEV_Inv_iff_running (t : List MoveRow) :
    PCEV_Inv t ↔ Running (fun _ => True) MoveRow.pcev MoveRow.notAfter t :=
  ⟨fun h m hm _ => h m hm, fun h m hm => h m hm trivial⟩

/-- `latest_eq_sum` for the effective order. -/
theorem Running.latestBefore_eq_sum {S : MoveRow → Prop} {t : List MoveRow} (h : Running S MoveRow.pcev MoveRow.notAfter t)
    {k : Key} {d : MoveRow → Prop} [DecidablePred d] (hS : ∀ m ∈ t, d m → S m)
    (hdown : ∀ a ∈ t, ∀ b ∈ t, d b → a.key = b.key → a.notAfter b = true → d a) :
    (match latest (fun m => m.key = k ∧ d m) (fun a b => a.before b = true) t with
      | some p => p.pcev | none => Volumes.zero) = sumDeltas (t.filter fun m => m.key == k && decide (d m)) :=
  h.latest_eq_sum latest_none (fun _ => latest_before_some) hS hdown

/-- The BEFORE trigger puts the new row on top of the rows dated `≤ e`. -/
theorem Running_setEffective {e : Int} {t : List MoveRow} {r : MoveRow}
    (h : Running (fun m => m.effectiveDate ≤ e) MoveRow.pcev MoveRow.notAfter t)
    (hr : r.effectiveDate = e) (hseq : ∀ m ∈ t, m.seq < r.seq) :
    Running (fun m => m.effectiveDate ≤ e) MoveRow.pcev MoveRow.notAfter (t ++ [setEffective t r]) := by
  -- the rows of `t` have `seq` below `r`'s: among them, those before `r` are those dated `≤ e`
  have hlow : ∀ m ∈ t, (m.before r = true ↔ m.effectiveDate ≤ e) := fun m hm => hr ▸ before_iff_date_le (hseq m hm)
  refine h.snoc (fun m hm hme => ?_) (notAfter_refl _) ?_
  · show r.notAfter m = false
    rw [notAfter_eq_not_before, (hlow m hm).mpr hme]; rfl
  · have hsum := h.latestBefore_eq_sum (k := r.key) (d := fun m => m.before r = true) (fun m hm => (hlow m hm).mp)
      (fun a ha b hb hbr _ hle => (hlow a ha).mpr (Int.le_trans (date_le_of_notAfter hle) ((hlow b hb).mp hbr)))
    have hfil : (t.filter fun m' => m'.key == (setEffective t r).key && m'.notAfter (setEffective t r)) =
        t.filter fun m => m.key == r.key && decide (m.before r = true) :=
      List.filter_congr fun m hm => congrArg (m.key == r.key && ·)
        ((notAfter_eq_before (Nat.ne_of_lt (hseq m hm))).trans Bool.decide_eq_true.symm)
    rw [hfil, ← hsum, ← prevMove_eq_latest]
    show (match prevMove t r with | some p => p.pcev.add r.delta | none => r.delta) = _
    cases prevMove t r with
    | none => exact (Volumes.zero_add _).symm
    | some p => rfl

theorem Running_phase1 {e : Int} (news : List MoveRow) {t : List MoveRow}
    (h : Running (fun m => m.effectiveDate ≤ e) MoveRow.pcev MoveRow.notAfter t) (hb : FreshBatch t news e) :
    Running (fun m => m.effectiveDate ≤ e) MoveRow.pcev MoveRow.notAfter (insertPhase1 t news) := by
  induction news generalizing t with
  | nil => exact h
  | cons n ns ih =>
    have hinc := List.pairwise_cons.mp hb.increasing
    refine ih (Running_setEffective h (hb.eff n List.mem_cons_self) fun m hm => hb.above m hm n List.mem_cons_self)
      ⟨fun r hr => hb.eff r (List.mem_cons_of_mem _ hr), fun m hm r hr => ?_, hinc.2⟩
    rcases List.mem_append.mp hm with hm | hm
    · exact hb.above m hm r (List.mem_cons_of_mem _ hr)
    · rw [List.mem_singleton.mp hm]; exact hinc.1 r hr

/-- The AFTER triggers of a batch dated `e` add, to a row dated after `e`, the deltas of the batch's
    rows of its account/asset. -/
theorem pcev_bumpAll {e : Int} (rs : List MoveRow) (hrs : ∀ r ∈ rs, r.effectiveDate = e) (m : MoveRow) :
    (bumpAll rs m).pcev =
      m.pcev.add (sumDeltas (rs.filter fun r => r.key == m.key && decide (e < m.effectiveDate))) := by
  induction rs generalizing m with
  | nil => exact (Volumes.add_zero _).symm
  | cons r rs ih =>
    have hr := hrs r List.mem_cons_self
    show (bumpAll rs (bump r m)).pcev = _
    rw [ih (fun x hx => hrs x (List.mem_cons_of_mem _ hx)), List.filter_cons]
    unfold bump
    by_cases hc : m.key = r.key ∧ r.effectiveDate < m.effectiveDate
    · rw [if_pos hc, if_pos (by simp [hc.1, ← hr, hc.2])]
      rw [sumDeltas_cons, ← Volumes.add_assoc]; rfl
    · rw [if_neg hc, if_neg (by
        simp only [Bool.and_eq_true, beq_iff_eq, decide_eq_true_eq]; exact fun h => hc ⟨h.1.symm, by omega⟩)]

theorem PCEV_Inv_insertMoves {e : Int} {table news : List MoveRow} (hinv : PCEV_Inv table)
    (hb : FreshBatch table news e) : PCEV_Inv (insertMoves table news) := by
  unfold insertMoves
  rw [insertPhase2_eq]
  generalize hR' : insertedRows table news = R'
  have ht1 : insertPhase1 table news = table ++ R' := hR' ▸ insertPhase1_eq table news
  have hlow := Running_phase1 news (fun m hm _ => hinv m hm) hb
  have hR'e : ∀ r ∈ R', r.effectiveDate = e := fun r hr => by
    obtain ⟨r0, hr0, v, rfl⟩ := mem_insertedRows (hR' ▸ hr)
    exact hb.eff r0 hr0
  intro x hx
  obtain ⟨y, hy, rfl⟩ := List.mem_map.mp hx
  -- the AFTER triggers write `pcev` only: the rows that count for `y` are those of phase 1
  have hcols : ∀ c, (bumpAll R' c).key = c.key ∧ (bumpAll R' c).delta = c.delta ∧
      ∀ z, (bumpAll R' c).notAfter z = c.notAfter z ∧ z.notAfter (bumpAll R' c) = z.notAfter c := fun c => by
    obtain ⟨w, hw⟩ := bumpAll_eq R' c; rw [hw]; exact ⟨rfl, rfl, fun z => ⟨rfl, rfl⟩⟩
  have hsum : sumDeltas (((insertPhase1 table news).map (bumpAll R')).filter (MoveRow.countsFor (bumpAll R' y))) =
      sumDeltas ((insertPhase1 table news).filter (MoveRow.countsFor y)) := by
    refine sumDeltas_filter_map _ _ _ _ (fun c _ => (hcols c).2.1) fun c _ => ?_
    simp only [MoveRow.countsFor, (hcols c).1, (hcols y).1, ((hcols c).2.2 _).1, ((hcols y).2.2 _).2]
  rw [hsum, pcev_bumpAll R' hR'e y]
  by_cases hye : y.effectiveDate ≤ e
  · rw [sumDeltas_filter_false fun r _ => by simp [show ¬ e < y.effectiveDate by omega], Volumes.add_zero]
    exact hlow y hy hye
  · have hyT : y ∈ table := by
      rw [ht1] at hy
      exact (List.mem_append.mp hy).resolve_right fun h => absurd (hR'e y h) (by omega)
    rw [ht1, List.filter_append, sumDeltas_append, hinv y hyT]
    refine congrArg _ (congrArg sumDeltas (List.filter_congr fun r hr => ?_))
    simp [MoveRow.countsFor, MoveRow.notAfter, hR'e r hr, show e < y.effectiveDate by omega]

theorem seq_toRows (s0 txId : Nat) (ins eff : Int) (ms : List Move) :
    (toRows s0 txId ins eff ms).map (·.seq) = List.range' s0 ms.length := by
  induction ms generalizing s0 with
  | nil => rfl
  | cons m ms ih => simp only [toRows, List.map_cons, List.length_cons, List.range'_succ, ih]

theorem eff_toRows (s0 txId : Nat) (ins eff : Int) (ms : List Move) :
    ∀ r ∈ toRows s0 txId ins eff ms, r.effectiveDate = eff := by
  induction ms generalizing s0 with
  | nil => intro r h; cases h
  | cons m ms ih =>
    intro r h
    rcases List.mem_cons.mp h with rfl | h
    · rfl
    · exact ih _ r h

def MoveRow.st2 (r : MoveRow) : Nat × Nat := (r.seq, r.txId)

theorem st2_toRows (s0 txId : Nat) (ins eff : Int) (ms : List Move) :
    (toRows s0 txId ins eff ms).map MoveRow.st2 = (List.range' s0 ms.length).map (fun s => (s, txId)) := by
  induction ms generalizing s0 with
  | nil => rfl
  | cons m ms ih => simp only [toRows, List.map_cons, List.length_cons, List.range'_succ, ih]; rfl

/-- list order = sequence order, transaction ids never decrease along the table -/
def ordRel (a b : Nat × Nat) : Prop := a.1 < b.1 ∧ a.2 ≤ b.2

structure TableOrd (st : Store) : Prop where
  pw : (st.moves.map MoveRow.st2).Pairwise ordRel
  bound : ∀ p ∈ st.moves.map MoveRow.st2, p.1 < st.nextSeq ∧ p.2 < st.nextTxId

theorem TableOrd_empty : TableOrd {} := ⟨List.Pairwise.nil, fun _ hp => nomatch hp⟩

theorem TableOrd_exec {st : Store} (o : StoreOp) (inv : TableOrd st) : TableOrd (o.exec st) := by
  cases o with
  | lock keys => exact ⟨inv.pw, inv.bound⟩
  | markReverted id a => exact ⟨inv.pw, inv.bound⟩
  | saveAccountMeta a at_ md => exact ⟨inv.pw, inv.bound⟩
  | commit t =>
    generalize hn : (fwdMoves (preVolumes st.accountsVolumes (volumeUpdates t.postings)) t.postings).length = n
    have hst2 : (commitStore st t).moves.map MoveRow.st2 =
        st.moves.map MoveRow.st2 ++ (List.range' st.nextSeq n).map (fun s => (s, st.nextTxId)) := by
      show (insertMoves st.moves (commitRows st t)).map MoveRow.st2 = _
      rw [map_insertMoves _ (fun _ _ => rfl), commitRows, st2_toRows, hn]
    have hnew : ∀ p ∈ (List.range' st.nextSeq n).map (fun s => (s, st.nextTxId)),
        st.nextSeq ≤ p.1 ∧ p.1 < st.nextSeq + n ∧ p.2 = st.nextTxId := by
      intro p hp
      obtain ⟨s, hs, rfl⟩ := List.mem_map.mp hp
      have := List.mem_range'_1.mp hs
      exact ⟨this.1, this.2, rfl⟩
    constructor
    · show List.Pairwise ordRel ((commitStore st t).moves.map MoveRow.st2)
      rw [hst2, List.pairwise_append]
      refine ⟨inv.pw, ?_, ?_⟩
      · rw [List.pairwise_map]
        exact (List.pairwise_lt_range' (s := st.nextSeq) (n := n)).imp (fun hab => ⟨hab, Nat.le_refl _⟩)
      · intro a ha b hb
        obtain ⟨h1, h2⟩ := inv.bound a ha
        obtain ⟨h3, _, h5⟩ := hnew b hb
        exact ⟨by omega, by omega⟩
    · intro p hp
      have hp' : p ∈ (commitStore st t).moves.map MoveRow.st2 := hp
      rw [hst2, List.mem_append] at hp'
      show p.1 < st.nextSeq + _ ∧ p.2 < st.nextTxId + 1
      rw [hn]
      rcases hp' with h1 | h1
      · obtain ⟨a, b⟩ := inv.bound p h1; exact ⟨by omega, by omega⟩
      · obtain ⟨a, b, c⟩ := hnew p h1; exact ⟨by omega, by omega⟩

theorem TableOrd_runOps {ops : List StoreOp} {st : Store} (h : runOps ops = .ok st) : TableOrd st :=
  runOpsFrom_invariant (fun _ o => TableOrd_exec o) ops TableOrd_empty h

theorem freshBatch_toRows (st : Store) (hs : ∀ m ∈ st.moves, m.seq < st.nextSeq) (txId : Nat) (ins eff : Int)
    (ms : List Move) : FreshBatch st.moves (toRows st.nextSeq txId ins eff ms) eff := by
  have hmem : ∀ r ∈ toRows st.nextSeq txId ins eff ms, st.nextSeq ≤ r.seq := by
    intro r hr
    have : r.seq ∈ (toRows st.nextSeq txId ins eff ms).map (·.seq) := List.mem_map_of_mem hr
    rw [seq_toRows] at this
    exact (List.mem_range'_1.mp this).1
  refine ⟨eff_toRows _ _ _ _ _, ?_, ?_⟩
  · intro m hm r hr
    have := hs m hm
    have := hmem r hr
    omega
  · have : List.Pairwise (· < ·) ((toRows st.nextSeq txId ins eff ms).map (·.seq)) := by
      rw [seq_toRows]; exact List.pairwise_lt_range'
    exact (List.pairwise_map.mp this)

/-- C04 in every reachable store. -/
theorem PCEV_Inv_runOps {ops : List StoreOp} {st : Store} (h : runOps ops = .ok st) : PCEV_Inv st.moves :=
  (runOpsFrom_invariant (P := fun st => TableOrd st ∧ PCEV_Inv st.moves) (fun st o inv => ⟨TableOrd_exec o inv.1, by
    cases o with
    | commit t =>
      exact PCEV_Inv_insertMoves inv.2 (freshBatch_toRows st
        (fun m hm => (inv.1.bound m.st2 (List.mem_map_of_mem hm)).1) _ _ _ _)
    | lock keys => exact inv.2
    | markReverted id a => exact inv.2
    | saveAccountMeta a at_ md => exact inv.2⟩) ops
    ⟨TableOrd_empty, fun _ hm => nomatch hm⟩ h).2

/-- Two rows of one statement with different effective dates (never produced by the ledger). -/
def mixedBatch : List MoveRow :=
  [{ seq := 1, txId := 1, account := "a", asset := "USD", amount := 3, isSource := false, insertionDate := 0, effectiveDate := 1, pcv := ⟨3, 0⟩, pcev := Volumes.zero },
   { seq := 2, txId := 1, account := "a", asset := "USD", amount := 4, isSource := false, insertionDate := 0, effectiveDate := 2, pcv := ⟨7, 0⟩, pcev := Volumes.zero }]

theorem pcevInvCheck_iff (t : List MoveRow) : pcevInvCheck t = true ↔ PCEV_Inv t := by
  unfold pcevInvCheck PCEV_Inv
  rw [List.all_eq_true]
  exact ⟨fun h m hm => beq_iff_eq.mp (h m hm), fun h m hm => beq_iff_eq.mpr (h m hm)⟩

end Ledger.Spec
