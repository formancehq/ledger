import Ledger.Proofs.SqlGroup

/-!
# Window functions: `computeWindow "first_value"` against a pure description

For rows `xs` with a row index `ix` (injective), a typed partition key `pf`, ORDER BY keys `okf` (compared by a strict weak order
`c`) and arguments `af`: every row gets the first argument of a row of its partition that no row of the partition precedes.
`WinsOf`: the window phase of `evalSelect`, which numbers its rows by position; `WinsOf.firstValue` is the only place that sees
the numbers.
-/
namespace Ledger.Sql

theorem lookup_of_mem {β : Type} : ∀ (l : List (Nat × β)) (i : Nat), (∃ v, (i, v) ∈ l) → ∃ v, l.lookup i = some v ∧ (i, v) ∈ l := by
  intro l
  induction l with
  | nil => intro i ⟨v, hv⟩; cases hv
  | cons p l ih =>
    intro i ⟨v, hv⟩
    obtain ⟨j, w⟩ := p
    by_cases h : i = j
    · subst h
      exact ⟨w, by simp [List.lookup], by simp⟩
    · have hne : (i == j) = false := by simpa using h
      have hv' : (i, v) ∈ l := by
        rcases List.mem_cons.mp hv with e | e
        · simp only [Prod.mk.injEq] at e; exact absurd e.1 h
        · exact e
      obtain ⟨v', h1, h2⟩ := ih i ⟨v, hv'⟩
      exact ⟨v', by simp [List.lookup, hne, h1], by simp [h2]⟩

theorem foldlM_ok_append {γ δ : Type} (step : List δ → γ → R (List δ)) (r : γ → List δ) : ∀ (gs : List γ) (init : List δ),
    (∀ g ∈ gs, ∀ out, step out g = .ok (out ++ r g)) → gs.foldlM step init = .ok (init ++ gs.flatMap r) := by
  intro gs
  induction gs with
  | nil => intro init _; simp [pure, Except.pure]
  | cons g gs ih =>
    intro init h
    simp only [List.foldlM_cons, h g (by simp), bind, Except.bind]
    rw [ih _ (fun g' hg' => h g' (by simp [hg']))]
    simp [List.flatMap_cons, List.append_assoc]

theorem sortValuesBy_eq {β : Type} (keys : List (List Value × β)) (descs : List Bool) (nulls : List NullsOrder) (ys : List (List Value × β))
    (h : sortKeyed keys descs nulls = .ok ys) : sortValuesBy keys descs nulls = .ok (ys.map (·.2)) := by
  unfold sortKeyed at h
  unfold sortValuesBy
  simp only [bind, Except.bind, h, pure, Except.pure]

/-- the scope in which `computeWindow` packs a row for `groupRowsBy`: ORDER BY keys, row index, arguments -/
abbrev winScope (i : Nat) (ok args : List Value) : Scope := { alias := toString i, cols := [], vals := ok ++ [Value.int i] ++ args }

theorem winItem_enc (n : Nat) (i : Nat) (ok args : List Value) (h : ok.length = n) :
    winItem n [winScope i ok args] = some (ok, (i, args)) := by
  subst h
  simp [winItem, List.append_assoc]

def winItemOf {X : Type} (ix : X → Nat) (okf af : X → List Value) (x : X) : List Value × (Nat × List Value) := (okf x, (ix x, af x))

/-- the value `first_value` takes on the partition of key `k` -/
def fvOf {X K : Type} [DecidableEq K] (xs : List X) (ix : X → Nat) (pf : X → K) (okf af : X → List Value)
    (descs : List Bool) (nulls : List NullsOrder) (k : K) : Value :=
  match sortKeyed ((xs.filter (fun x => decide (pf x = k))).map (winItemOf ix okf af)) descs nulls with
  | .ok ((_, (_, args)) :: _) => args.headD .null
  | _ => .null

/-- the `(row index, value)` pairs of the partition of key `k` -/
def partVals {X K : Type} [DecidableEq K] (xs : List X) (ix : X → Nat) (pf : X → K) (okf af : X → List Value)
    (descs : List Bool) (nulls : List NullsOrder) (k : K) : List (Nat × Value) :=
  match sortKeyed ((xs.filter (fun x => decide (pf x = k))).map (winItemOf ix okf af)) descs nulls with
  | .ok ys => ys.map (fun y => (y.2.1, fvOf xs ix pf okf af descs nulls k))
  | .error _ => []

/-- what `computeWindow "first_value"` appends for one group -/
def partOut (descs : List Bool) (nulls : List NullsOrder) (g : List Value × List (List Scope)) : List (Nat × Value) :=
  match sortValuesBy (g.2.filterMap (winItem descs.length)) descs nulls with
  | .ok sorted => sorted.map (fun y => (y.1, match sorted with | (_, args) :: _ => args.headD Value.null | [] => Value.null))
  | .error _ => []

theorem computeWindow_first_value {X K : Type} [DecidableEq K] (xs : List X) (ix : X → Nat) (pf : X → K) (kvP : K → List Value)
    (okf af : X → List Value) (descs : List Bool) (nulls : List NullsOrder)
    (hsame : ∀ a b, sameGroupKey (kvP a) (kvP b) = .ok (decide (a = b)))
    (hlen : ∀ x ∈ xs, (okf x).length = descs.length)
    (c : List Value → List Value → Ordering) (S : List Value → Prop)
    (hcmp : CmpOk (fun (a b : List Value × (Nat × List Value)) => cmpOrderKeys a.1 b.1 descs nulls) (fun a b => c a.1 b.1) (fun a => S a.1))
    (hS : ∀ x ∈ xs, S (okf x))
    (hinj : ∀ x ∈ xs, ∀ y ∈ xs, ix x = ix y → x = y) :
    ∃ (vals : List (Nat × Value)) (fvs : K → Value),
      computeWindow "first_value" (xs.map (fun x => (ix x, kvP (pf x), okf x, af x))) descs nulls = .ok vals ∧
      (∀ x ∈ xs, vals.lookup (ix x) = some (fvs (pf x))) ∧
      (∀ k ∈ xs.map pf, ∃ h ∈ xs, pf h = k ∧ fvs k = (af h).headD .null ∧ ∀ y ∈ xs, pf y = k → c (okf y) (okf h) ≠ .lt) := by
  have hsort : ∀ k, ∃ ys, sortKeyed ((xs.filter (fun x => decide (pf x = k))).map (winItemOf ix okf af)) descs nulls = .ok ys ∧
      ys.Perm ((xs.filter (fun x => decide (pf x = k))).map (winItemOf ix okf af)) ∧ ys.Pairwise (fun a b => c b.1 a.1 ≠ .lt) := by
    intro k
    apply sortKeyed_spec descs nulls c S hcmp
    intro a ha
    obtain ⟨x, hx, rfl⟩ := List.mem_map.mp ha
    exact hS x (List.mem_filter.mp hx).1
  -- the members of a partition, read back from the scopes `computeWindow` packs them into
  have hitems : ∀ k, ((xs.filter (fun x => decide (pf x = k))).map (fun x => [winScope (ix x) (okf x) (af x)])).filterMap
      (winItem descs.length) = (xs.filter (fun x => decide (pf x = k))).map (winItemOf ix okf af) := fun k => by
    have : ∀ l : List X, (∀ x ∈ l, x ∈ xs) →
        (l.map (fun x => [winScope (ix x) (okf x) (af x)])).filterMap (winItem descs.length) = l.map (winItemOf ix okf af) := by
      intro l
      induction l with
      | nil => intro _; rfl
      | cons a l ih =>
        intro h
        rw [List.map_cons, List.filterMap_cons, winItem_enc _ _ _ _ (hlen a (h a (by simp))), ih fun x hx => h x (by simp [hx])]
        rfl
    exact this _ fun x hx => (List.mem_filter.mp hx).1
  refine ⟨(firstKeys (xs.map pf)).flatMap (partVals xs ix pf okf af descs nulls), fvOf xs ix pf okf af descs nulls, ?_, ?_, ?_⟩
  · unfold computeWindow
    -- the rows as `groupRowsBy` gets them: rendered partition key, and the row's item packed into a scope
    have hk : ∀ f : Nat × List Value × List Value × List Value → List Value × List Scope,
        (∀ x, f x = (x.2.1, [winScope x.1 x.2.2.1 x.2.2.2])) → (xs.map (fun x => (ix x, kvP (pf x), okf x, af x))).map f =
          xs.map (fun x => (kvP (pf x), [winScope (ix x) (okf x) (af x)])) :=
      fun f hf => by rw [List.map_map]; exact List.map_congr_left fun x _ => hf _
    rw [hk _ (fun x => rfl)]
    simp only [bind, Except.bind, groupRowsBy_groups kvP hsame pf (fun x => [winScope (ix x) (okf x) (af x)])]
    rw [foldlM_ok_append _ (partOut descs nulls)]
    · simp only [List.nil_append, List.flatMap_map]
      rw [List.flatMap_def, List.flatMap_def]
      congr 2
      apply List.map_congr_left
      intro k hk
      obtain ⟨ys, h1, _, _⟩ := hsort k
      simp only [partOut, hitems k, sortValuesBy_eq _ _ _ ys h1, partVals, fvOf, h1, List.map_map]
      apply List.map_congr_left
      intro y _
      cases ys <;> rfl
    · intro g hg out
      obtain ⟨k, _, rfl⟩ := List.mem_map.mp hg
      obtain ⟨ys, h1, _, _⟩ := hsort k
      simp only [partOut, hitems k, sortValuesBy_eq _ _ _ ys h1, windowOfPartition, pure, Except.pure]
      cases ys <;> rfl
  · intro x hx
    have hB : ∃ v, (ix x, v) ∈ (firstKeys (xs.map pf)).flatMap (partVals xs ix pf okf af descs nulls) := by
      obtain ⟨ys, h1, h2, _⟩ := hsort (pf x)
      refine ⟨fvOf xs ix pf okf af descs nulls (pf x), ?_⟩
      rw [List.mem_flatMap]
      refine ⟨pf x, (mem_firstKeys _ _).mpr (List.mem_map.mpr ⟨x, hx, rfl⟩), ?_⟩
      simp only [partVals, h1, List.mem_map]
      refine ⟨winItemOf ix okf af x, (h2.mem_iff).mpr (List.mem_map.mpr ⟨x, List.mem_filter.mpr ⟨hx, by simp⟩, rfl⟩), rfl⟩
    obtain ⟨v, hv1, hv2⟩ := lookup_of_mem _ (ix x) hB
    rw [hv1]
    rw [List.mem_flatMap] at hv2
    obtain ⟨k, _, hk⟩ := hv2
    obtain ⟨ys, h1, h2, _⟩ := hsort k
    simp only [partVals, h1, List.mem_map] at hk
    obtain ⟨y, hy, hye⟩ := hk
    obtain ⟨x', hx', rfl⟩ := List.mem_map.mp ((h2.mem_iff).mp hy)
    have hx'm := List.mem_filter.mp hx'
    simp only [winItemOf, Prod.mk.injEq] at hye
    have : x' = x := hinj x' hx'm.1 x hx hye.1
    subst this
    have hk' : pf x' = k := by simpa using hx'm.2
    rw [hk', hye.2]
  · intro k hk
    obtain ⟨x0, hx0, hx0k⟩ := List.mem_map.mp hk
    obtain ⟨ys, h1, h2, h3⟩ := hsort k
    have hne : ys ≠ [] := by
      intro e
      have : winItemOf ix okf af x0 ∈ ys := (h2.mem_iff).mpr (List.mem_map.mpr ⟨x0, List.mem_filter.mpr ⟨hx0, by simp [hx0k]⟩, rfl⟩)
      rw [e] at this
      cases this
    cases hys : ys with
    | nil => exact absurd hys hne
    | cons a as =>
      have ha : a ∈ ys := by rw [hys]; simp
      obtain ⟨h, hh, rfl⟩ := List.mem_map.mp ((h2.mem_iff).mp ha)
      have hhm := List.mem_filter.mp hh
      refine ⟨h, hhm.1, by simpa using hhm.2, ?_, ?_⟩
      · simp [fvOf, h1, hys, winItemOf]
      · intro y hy hyk
        have hym : winItemOf ix okf af y ∈ ys := (h2.mem_iff).mpr (List.mem_map.mpr ⟨y, List.mem_filter.mpr ⟨hy, by simp [hyk]⟩, rfl⟩)
        rw [hys] at hym h3
        rcases List.mem_cons.mp hym with e | e
        · -- the head itself
          have e' : okf y = okf h := by
            have := congrArg Prod.fst e
            simpa [winItemOf] using this
          rw [e']
          intro hlt
          exact hcmp.asymm (winItemOf ix okf af h) (winItemOf ix okf af h) (hS h hhm.1) (hS h hhm.1) hlt hlt
        · exact (List.pairwise_cons.mp h3).1 _ e

/-! ### the window phase of `evalSelect` -/

/-- the window phase over the units `us`: no window function, or one (any name) whose values `computeWindow` gives; index: the
    specs and the `wins` of a unit -/
inductive WinsOf (n : Nat) (env : Env) (s : St) {υ : Type} (us : List υ) (uloc : υ → List Scope) (ugrp : υ → Option (List (List Scope))) :
    List WinSpec → (υ → List (Nat × Value)) → Prop
  | none : WinsOf n env s us uloc ugrp [] (fun _ => [])
  | one (ws : WinSpec) (pk ok args : υ → List Value)
      (hpk : ∀ u ∈ us, (evalExprs (cbs n) s.w.types { env with locals := uloc u, group := ugrp u } ws.partition).exec s = (.ok (pk u), s))
      (hok : ∀ u ∈ us, (evalOrderKeys (cbs n) s.w.types { env with locals := uloc u, group := ugrp u } ws.order).exec s = (.ok (ok u), s))
      (harg : ∀ u ∈ us, (evalExprs (cbs n) s.w.types { env with locals := uloc u, group := ugrp u } ws.args).exec s = (.ok (args u), s))
      (vals : List (Nat × Value)) (val : υ → Value)
      (hcw : computeWindow ws.name (((List.range us.length).zip us).map fun p => (p.1, pk p.2, ok p.2, args p.2)) (orderDescs ws.order)
        (orderNulls ws.order) = .ok vals)
      (hlook : ∀ p ∈ (List.range us.length).zip us, vals.lookup p.1 = some (val p.2)) :
      WinsOf n env s us uloc ugrp [ws] (fun u => [(ws.id, val u)])

theorem mem_zip_range {β : Type} (l : List β) (u : β) (hu : u ∈ l) : ∃ i, (i, u) ∈ (List.range l.length).zip l := by
  obtain ⟨i, hi, e⟩ := List.mem_iff_getElem.mp hu
  refine ⟨i, ?_⟩
  have hlen : i < ((List.range l.length).zip l).length := by simpa using hi
  have : ((List.range l.length).zip l)[i] = (i, u) := by simp [e]
  rw [← this]
  exact List.getElem_mem hlen

theorem zip_range_inj {β : Type} (l : List β) : ∀ x ∈ (List.range l.length).zip l, ∀ y ∈ (List.range l.length).zip l, x.1 = y.1 → x = y :=
  nodup_map_inj Prod.fst _ (by rw [List.map_fst_zip (by simp)]; exact List.nodup_range)

/-- one `first_value` window over the units: the values exist, and the value of a partition is the first argument of a unit of
    the partition that no unit of it precedes -/
theorem WinsOf.firstValue {υ K : Type} [DecidableEq K] (n : Nat) (env : Env) (s : St) (us : List υ) (uloc : υ → List Scope)
    (ugrp : υ → Option (List (List Scope))) (ws : WinSpec) (hname : ws.name = "first_value")
    (pf : υ → K) (kvP : K → List Value) (okf af : υ → List Value)
    (hpk : ∀ u ∈ us, (evalExprs (cbs n) s.w.types { env with locals := uloc u, group := ugrp u } ws.partition).exec s = (.ok (kvP (pf u)), s))
    (hok : ∀ u ∈ us, (evalOrderKeys (cbs n) s.w.types { env with locals := uloc u, group := ugrp u } ws.order).exec s = (.ok (okf u), s))
    (harg : ∀ u ∈ us, (evalExprs (cbs n) s.w.types { env with locals := uloc u, group := ugrp u } ws.args).exec s = (.ok (af u), s))
    (hsameP : ∀ a b, sameGroupKey (kvP a) (kvP b) = .ok (decide (a = b)))
    (hlen : ∀ u ∈ us, (okf u).length = (orderDescs ws.order).length)
    (c : List Value → List Value → Ordering) (S : List Value → Prop)
    (hcmp : CmpOk (fun (a b : List Value × (Nat × List Value)) => cmpOrderKeys a.1 b.1 (orderDescs ws.order) (orderNulls ws.order))
      (fun a b => c a.1 b.1) (fun a => S a.1))
    (hS : ∀ u ∈ us, S (okf u)) :
    ∃ fvs : K → Value, WinsOf n env s us uloc ugrp [ws] (fun u => [(ws.id, fvs (pf u))]) ∧
      ∀ k ∈ us.map pf, ∃ h ∈ us, pf h = k ∧ fvs k = (af h).headD .null ∧ ∀ y ∈ us, pf y = k → c (okf y) (okf h) ≠ .lt := by
  -- the units numbered by position, as `evalSelect` hands them to `computeWindow`
  obtain ⟨vals, fvs, hcw, hlook, hmax⟩ := computeWindow_first_value ((List.range us.length).zip us) (fun z => z.1) (fun z => pf z.2) kvP
    (fun z => okf z.2) (fun z => af z.2) (orderDescs ws.order) (orderNulls ws.order) hsameP (fun z hz => hlen z.2 (List.of_mem_zip hz).2) c S hcmp
    (fun z hz => hS z.2 (List.of_mem_zip hz).2) (zip_range_inj us)
  refine ⟨fvs, .one ws (fun u => kvP (pf u)) okf af hpk hok harg vals (fun u => fvs (pf u)) (by rw [hname]; exact hcw) hlook, ?_⟩
  intro k hk
  obtain ⟨x, hx, rfl⟩ := List.mem_map.mp hk
  obtain ⟨i, hi⟩ := mem_zip_range us x hx
  obtain ⟨h, hh, hpf, hfv, hmx⟩ := hmax (pf x) (List.mem_map.mpr ⟨_, hi, rfl⟩)
  refine ⟨h.2, (List.of_mem_zip hh).2, hpf, hfv, fun y hy hyk => ?_⟩
  obtain ⟨j, hj⟩ := mem_zip_range us y hy
  exact hmx _ hj hyk

end Ledger.Sql
