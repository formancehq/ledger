import Ledger.Proofs.SqlLive
import Ledger.Proofs.SqlState

/-!
# UPDATE over any table: the evaluator's loop against the row model of `SqlLive`

`exec_execUpdate_J` runs `UPDATE … FROM …` against `updRun`, given the meaning of the statement's pieces (`UpdSemJ`) and a table
invariant that rules out unique violations (`UpdInv`); the UPDATE without FROM (`UpdSem`, `exec_execUpdate_gen`) is the case of one
empty join row (`firstJoinMatch_single`; over join rows given by a list, `exec_firstJoinMatch_find`). What `updRun` leaves of the storage facts and of the visible content is in `SqlLive` (`Stored.updAll`, `visLookup_updAll`,
`visVals_updRun`, `TView.upd`); a table's own invariant is carried along by `UpdInv.runAll`, and for a table with one unique key (`KeyInv`) an UPDATE
that keeps type and key has its `UpdInv` from `UpdInv.of_key`.
-/
namespace Ledger.Sql

theorem exec_fireBefore_none (n : Nat) (t : Table) (ev : TrigEvent) (hev : ev ≠ .delete) (setCols : List String)
    (new : List Value) (old : Option (List Value)) (s : St)
    (h : t.triggers.filter (fun tr => tr.timing == .before && tr.event == ev) = []) :
    (fireBefore (n + 1) t ev setCols (some new) old).exec s = (.ok (some new), s) := by
  simp only [fireBefore, h, sortTriggers, List.foldl_nil, List.foldlM_nil, exec_bind, exec_pure]
  cases ev <;> simp at hev ⊢

theorem exec_queueAfter_none (n : Nat) (t : Table) (ev : TrigEvent) (setCols : List String)
    (new old : Option (List Value)) (s : St)
    (h : t.triggers.filter (fun tr => tr.timing == .after && tr.event == ev) = []) :
    (queueAfter (n + 1) t ev setCols new old).exec s = (.ok (), s) := by
  simp only [queueAfter, h, sortTriggers, List.foldl_nil, List.foldlM_nil, exec_pure]

/-- what the statement needs from its pieces, for the rows of table `t` (semantic hypotheses, established
    per statement by evaluation of its expressions) -/
structure UpdSem (env : Env) (t : Table) (alias a : String) (sets : List SetItem) (wher : Option Expr) (returning : List SelItem)
    (g : List Value → Bool) (f : List Value → List Value) (accStep : DmlAcc → Ver → DmlAcc) (Q : Ver → List PendingTrig)
    (P : Ver → Prop) (Sok : St → Prop := fun _ => True) : Prop where
  hguard : ∀ r, P r → ∀ m s, Sok s → (whereHolds (m + 2) env wher [rowScopeOf t a r]).exec s = (.ok (g r.vals), s)
  hsets : ∀ r, P r → g r.vals = true → ∀ m rows s, Sok s →
    (applySets (m + 3) { env with locals := [rowScopeOf t a r] } (t.withRows rows) r.vals sets).exec s =
      (.ok (f r.vals), s)
  hchecks : ∀ r, P r → g r.vals = true → ∀ rows s, Sok s → (checkConstraints (t.withRows rows) (f r.vals)).exec s = (.ok (), s)
  hfks : ∀ r, P r → g r.vals = true → ∀ rows s, Sok s → (checkForeignKeys (t.withRows rows) (f r.vals)).exec s = (.ok (), s)
  hbefore : t.triggers.filter (fun tr => tr.timing == .before && tr.event == .update) = []
  hafter : ∀ r, P r → g r.vals = true → ∀ m rows s, Sok s →
    (queueAfter (m + 3) (t.withRows rows) .update (sets.map (fun si => match si with | .mk c _ => c)) (some (f r.vals)) (some r.vals)).exec s =
      (.ok (), s.addQ (Q r))
  hacc : ∀ r, P r → g r.vals = true → ∀ m rows s a, Sok s →
    (accReturning (m + 3) env (t.withRows rows) alias (f r.vals) [] returning a).exec s = (.ok (accStep a r), s)


theorem firstJoinMatch_single (n : Nat) (env : Env) (wher : Option Expr) (tsc : Scope) (s : St) (b : Bool)
    (h : (whereHolds (n + 2) env wher [tsc]).exec s = (.ok b, s)) :
    (firstJoinMatch (n + 3) env wher tsc [[]]).exec s = (.ok (if b then some [] else none), s) := by
  rw [firstJoinMatch]
  simp only [List.foldlM_cons, List.foldlM_nil, exec_bind, Option.isSome_none, Bool.false_eq_true, if_false, List.append_nil, h]
  cases b <;> simp

theorem foldl_first {δ β : Type} (c : δ → Bool) (G : δ → β) (ds : List δ) (hit : Option β) :
    ds.foldl (fun hit d => if hit.isSome then hit else if c d then some (G d) else none) hit = hit.or ((ds.find? c).map G) := by
  induction ds generalizing hit with
  | nil => cases hit <;> rfl
  | cons d rest ih => cases hit <;> cases hc : c d <;> simp [ih, hc]

/-- `firstJoinMatch` over join rows indexed by `ds`: the first row on which WHERE holds -/
theorem exec_firstJoinMatch_find {δ : Type} (n : Nat) (env : Env) (wher : Option Expr) (tsc : Scope) (G : δ → List Scope) (c : δ → Bool) (s : St)
    (ds : List δ) (h : ∀ d ∈ ds, (whereHolds n env wher ([tsc] ++ G d)).exec s = (.ok (c d), s)) :
    (firstJoinMatch (n + 1) env wher tsc (ds.map G)).exec s = (.ok ((ds.find? c).map G), s) := by
  rw [firstJoinMatch, List.foldlM_map, exec_foldlM_pure _ (fun hit d => if hit.isSome then hit else if c d then some (G d) else none) s ds none
    (fun d hd hit => by cases hit <;> simp only [Option.isSome_some, Option.isSome_none, Bool.false_eq_true, if_true, if_false, exec_pure,
      exec_bind, h d hd] <;> cases c d <;> rfl), foldl_first]
  rfl

def updAcc (g : List Value → Bool) (accStep : DmlAcc → Ver → DmlAcc) (acc : DmlAcc) (ts : List Ver) : DmlAcc :=
  ts.foldl (fun a r => if g r.vals then accStep a r else a) acc

def updQ (g : List Value → Bool) (Q : Ver → List PendingTrig) (ts : List Ver) : List PendingTrig :=
  ts.flatMap (fun r => if g r.vals then Q r else [])

theorem updQ_nil (g : List Value → Bool) (ts : List Ver) : updQ g (fun _ => ([] : List PendingTrig)) ts = [] := by
  induction ts with
  | nil => rfl
  | cons r rest ih =>
    show (if g r.vals then [] else []) ++ updQ _ _ rest = []
    rw [ih]; simp

/-- a table-specific invariant that rules out unique violations by the updated rows -/
structure UpdInv (t : Table) (g : List Value → Bool) (f : List Value → List Value) (lv : View) (xid cid : Nat)
    (P : Ver → Prop) (Inv : List Ver → Prop) : Prop where
  step : ∀ rows r, Inv rows → r ∈ rows → r.visible lv = true → P r → g r.vals = true → Inv (updStep lv xid cid g f rows r)
  noConflict : ∀ rows r, Inv rows → r ∈ rows → r.visible lv = true → P r → g r.vals = true →
    ∀ s, TxState s → latestView s.w s.xid = lv → s.xid = xid →
      (findConflict (t.withRows rows) t.uniques (f r.vals) (some r.rid)).exec s = (.ok none, s)

theorem UpdInv.inv_updStep {t : Table} {g : List Value → Bool} {f : List Value → List Value} {lv : View} {xid cid : Nat} {P : Ver → Prop}
    {Inv : List Ver → Prop} (hI : UpdInv t g f lv xid cid P Inv) {rows : List Ver} {r : Ver} (hinv : Inv rows) (hr : r ∈ rows)
    (hv : r.visible lv = true) (hP : P r) : Inv (updStep lv xid cid g f rows r) := by
  cases hg : g r.vals with
  | false => rw [updStep, hg]; exact hinv
  | true => exact hI.step rows r hinv hr hv hP hg

/-- A table whose unique indexes find no conflict for a typed row whose key no other visible row has (`hfc`): an UPDATE that keeps
    type and key of the rows it writes (`hf`) keeps `KeyInv` and violates no index. -/
theorem UpdInv.of_key {κ : Type} {Ty : List Value → Prop} {K : List Value → κ} (t : Table) (g : List Value → Bool)
    (f : List Value → List Value) (w : World) (xid cid : Nat) (hx : xid ≠ 0) (hc : cid < 1000000000) (P : Ver → Prop)
    (hf : ∀ r, P r → Ty r.vals → g r.vals = true → Ty (f r.vals) ∧ K (f r.vals) = K r.vals)
    (hfc : ∀ (rows : List Ver) (v : List Value) (ex : Option Nat) (s : St), TxState s → (∀ r ∈ rows, Ty r.vals) → Ty v →
      (∀ q ∈ rows, q.visible (latestView s.w s.xid) = true → (some q.rid == ex) = false → K q.vals ≠ K v) →
      (findConflict (t.withRows rows) t.uniques v ex).exec s = (.ok none, s)) :
    UpdInv t g f (latestView w xid) xid cid P (KeyInv Ty K (latestView w xid)) where
  step rows r hinv hr hv hP hg := hinv.updStep hx hc hr hv hg (hf r hP (hinv.typed r hr) hg).1 (hf r hP (hinv.typed r hr) hg).2
  noConflict rows r hinv hr hv hP hg s hs hlv _ := by
    refine hfc rows _ _ s hs hinv.typed (hf r hP (hinv.typed r hr) hg).1 fun q hq hvq hex he => ?_
    rw [hinv.other hr hv hq (hlv ▸ hvq) (he.trans (hf r hP (hinv.typed r hr) hg).2)] at hex
    simp at hex

theorem UpdInv.congr {t : Table} {g : List Value → Bool} {f : List Value → List Value} {lv : View} {xid cid : Nat} {P : Ver → Prop}
    {Inv Inv' : List Ver → Prop} (h : UpdInv t g f lv xid cid P Inv) (e : ∀ rows, Inv' rows ↔ Inv rows) : UpdInv t g f lv xid cid P Inv' where
  step rows r hinv hr hv hP hg := (e _).mpr (h.step rows r ((e _).mp hinv) hr hv hP hg)
  noConflict rows r hinv := h.noConflict rows r ((e _).mp hinv)

/-- the row ids stay below the table's counter -/
theorem UpdInv.ridLt {t : Table} {g : List Value → Bool} {f : List Value → List Value} {lv : View} {xid cid : Nat} {P : Ver → Prop}
    {Inv : List Ver → Prop} (h : UpdInv t g f lv xid cid P Inv) (nr : Nat) :
    UpdInv t g f lv xid cid P (fun rows => Inv rows ∧ RidLt rows nr) where
  step rows r hinv hr hv hP hg := ⟨h.step rows r hinv.1 hr hv hP hg, fun q hq =>
    let ⟨q0, hq0, e⟩ := rid_updStep lv xid cid g f rows r hr q hq; e ▸ hinv.2 q0 hq0⟩
  noConflict rows r hinv := h.noConflict rows r hinv.1

/-- what an `UPDATE t … FROM …` needs from its pieces: `J` are the rows of the FROM list (fixed during the loop), `mt` picks the
    first of them that joins with a target row -/
structure UpdSemJ (env : Env) (t : Table) (alias a : String) (sets : List SetItem) (wher : Option Expr) (returning : List SelItem)
    (J : List (List Scope)) (mt : List Value → Option (List Scope)) (f : List Value → List Value)
    (accStep : DmlAcc → Ver → DmlAcc) (Q : Ver → List PendingTrig) (P : Ver → Prop) (Sok : St → Prop := fun _ => True) : Prop where
  hmatch : ∀ r, P r → ∀ m s, Sok s → (firstJoinMatch (m + 3) env wher (rowScopeOf t a r) J).exec s = (.ok (mt r.vals), s)
  hwhere : ∀ r, P r → ∀ F, mt r.vals = some F → ∀ m s, Sok s →
    (whereHolds (m + 2) env wher ([rowScopeOf t a r] ++ F)).exec s = (.ok true, s)
  hsets : ∀ r, P r → ∀ F, mt r.vals = some F → ∀ m rows s, Sok s →
    (applySets (m + 3) { env with locals := [rowScopeOf t a r] ++ F } (t.withRows rows) r.vals sets).exec s = (.ok (f r.vals), s)
  hchecks : ∀ r, P r → (mt r.vals).isSome = true → ∀ rows s, Sok s → (checkConstraints (t.withRows rows) (f r.vals)).exec s = (.ok (), s)
  hfks : ∀ r, P r → (mt r.vals).isSome = true → ∀ rows s, Sok s → (checkForeignKeys (t.withRows rows) (f r.vals)).exec s = (.ok (), s)
  hbefore : t.triggers.filter (fun tr => tr.timing == .before && tr.event == .update) = []
  hafter : ∀ r, P r → (mt r.vals).isSome = true → ∀ m rows s, Sok s →
    (queueAfter (m + 3) (t.withRows rows) .update (sets.map (fun si => match si with | .mk c _ => c)) (some (f r.vals)) (some r.vals)).exec s =
      (.ok (), s.addQ (Q r))
  hacc : ∀ r, P r → ∀ F, mt r.vals = some F → ∀ m rows s a, Sok s →
    (accReturning (m + 3) env (t.withRows rows) alias (f r.vals) F returning a).exec s = (.ok (accStep a r), s)

theorem exec_updateRowStep_J (n : Nat) (env : Env) (full alias a : String) (sets : List SetItem) (wher : Option Expr)
    (returning : List SelItem) (t : Table) (J : List (List Scope)) (mt : List Value → Option (List Scope)) (f : List Value → List Value)
    (accStep : DmlAcc → Ver → DmlAcc) (Q : Ver → List PendingTrig) (P : Ver → Prop)
    (Sok : St → Prop) (hSokT : ∀ s t, Sok s → Sok (s.withTable t)) (hSokQ : ∀ s q, Sok s → Sok (s.addQ q))
    (sem : UpdSemJ env t alias a sets wher returning J mt f accStep Q P Sok)
    (s : St) (hs : TxState s) (hS : Sok s) (rows : List Ver) (hT : s.w.table? full = some (t.withRows rows)) (hname : t.name = full)
    (r : Ver) (hr : r ∈ rows) (hv : r.visible (latestView s.w s.xid) = true) (hP : P r)
    (hinj : RidInj (latestView s.w s.xid) rows)
    (hnc : (mt r.vals).isSome = true → (findConflict (t.withRows rows) t.uniques (f r.vals) (some r.rid)).exec s = (.ok none, s))
    (acc : DmlAcc) :
    (updateRowStep (n + 4) env full alias sets J wher returning (rowScopeOf t a r) acc).exec s =
      (.ok (if (mt r.vals).isSome then accStep acc r else acc),
       (s.withTable (t.withRows (updStep (latestView s.w s.xid) s.xid s.cid (fun v => (mt v).isSome) f rows r))).addQ
         (if (mt r.vals).isSome then Q r else [])) := by
  have hlat := exec_latestVersion s (t.withRows rows) r hr hv hinj
  have hfire := exec_fireBefore_none (n + 2) (t.withRows rows) .update (by simp) (sets.map (fun si => match si with | .mk c _ => c))
  rw [updateRowStep]
  apply exec_seq (sem.hmatch r hP n s hS)
  cases hg : mt r.vals with
  | none =>
    -- no write: `updStep` leaves the rows, and writing the table back as it is changes nothing
    simp only [updStep, hg, Option.isSome_none, Bool.false_eq_true, if_false, addQ_nil]
    rw [withTable_self s _ (by rw [withRows_name, hname]; exact hT) hs.names]
    rfl
  | some F =>
    have hgs : (mt r.vals).isSome = true := by rw [hg]; rfl
    have hstepEq : updStep (latestView s.w s.xid) s.xid s.cid (fun v => (mt v).isSome) f rows r =
        newVer s.xid s.cid r.rid (f r.vals) :: rows.map (closeRow (latestView s.w s.xid) s.xid s.cid r.rid) := by
      simp [updStep, hg]
    have hT2 := withTable_table? s (t.withRows rows) (t.withRows (updStep (latestView s.w s.xid) s.xid s.cid (fun v => (mt v).isSome) f rows r))
      (by rw [withRows_name, hname]; exact hT)
    rw [withRows_name, hname] at hT2
    have hS2 := hSokT s (t.withRows (updStep (latestView s.w s.xid) s.xid s.cid (fun v => (mt v).isSome) f rows r)) hS
    rw [Option.isSome_some, if_pos rfl, if_pos rfl]
    apply exec_seq (exec_getTable hT)
    apply exec_seq hlat
    apply exec_seq (exec_heldByOther s hs r)
    -- the row is its own latest version: no EvalPlanQual re-check of WHERE
    apply exec_of_eq (if_pos (beq_self_eq_true r.vals))
    apply exec_seq (exec_pure true s)
    apply exec_seq (sem.hsets r hP F hg n rows s hS)
    apply exec_seq (hfire _ _ s sem.hbefore)
    apply exec_seq (exec_getTable hT)
    apply exec_seq (sem.hchecks r hP hgs rows s hS)
    apply exec_seq (hnc hgs)
    apply exec_seq (sem.hfks r hP hgs rows s hS)
    apply exec_seq (show (updateVersion full r.rid (f r.vals)).exec s =
        (.ok (), s.withTable (t.withRows (updStep (latestView s.w s.xid) s.xid s.cid (fun v => (mt v).isSome) f rows r))) by
      rw [exec_updateVersion hT, hstepEq]; rfl)
    apply exec_seq (exec_getTable hT2)
    apply exec_seq (sem.hafter r hP hgs n _ _ hS2)
    exact sem.hacc r hP F hg n _ _ acc (hSokQ _ (Q r) hS2)

theorem exec_updLoop_J (n : Nat) (env : Env) (full alias a : String) (sets : List SetItem) (wher : Option Expr)
    (returning : List SelItem) (t : Table) (J : List (List Scope)) (mt : List Value → Option (List Scope)) (f : List Value → List Value)
    (accStep : DmlAcc → Ver → DmlAcc) (Q : Ver → List PendingTrig) (P : Ver → Prop)
    (Sok : St → Prop) (hSokT : ∀ s t, Sok s → Sok (s.withTable t)) (hSokQ : ∀ s q, Sok s → Sok (s.addQ q))
    (sem : UpdSemJ env t alias a sets wher returning J mt f accStep Q P Sok)
    (s0 : St) (hs : TxState s0) (hS0 : Sok s0) (rows0 : List Ver) (hT0 : s0.w.table? full = some (t.withRows rows0)) (hname : t.name = full)
    (Inv : List Ver → Prop) (hI : UpdInv t (fun v => (mt v).isSome) f (latestView s0.w s0.xid) s0.xid s0.cid P Inv) :
    ∀ (ts : List Ver) (rows : List Ver) (acc : DmlAcc) (q : List PendingTrig),
      (∀ r ∈ ts, r ∈ rows ∧ r.visible (latestView s0.w s0.xid) = true ∧ P r) → (ts.map (·.rid)).Nodup →
      ((rows.filter (fun r => r.visible (latestView s0.w s0.xid))).map (·.rid)).Nodup → Inv rows →
      ((ts.map (rowScopeOf t a)).foldlM (fun acc tsc =>
          updateRowStep (n + 4) env full alias sets J wher returning tsc acc) acc).exec ((s0.withTable (t.withRows rows)).addQ q) =
        (.ok (updAcc (fun v => (mt v).isSome) accStep acc ts),
         (s0.withTable (t.withRows (updRun (latestView s0.w s0.xid) s0.xid s0.cid (fun v => (mt v).isSome) f rows ts))).addQ
           (q ++ updQ (fun v => (mt v).isSome) Q ts)) := by
  intro ts
  induction ts with
  | nil => intro rows acc q _ _ _ _; simp [updAcc, updRun, updQ]
  | cons r rest ih =>
    intro rows acc q hts hnd hinj hinv
    obtain ⟨hr, hv, hP⟩ := hts r (by simp)
    have hsT : TxState ((s0.withTable (t.withRows rows)).addQ q) := (hs.withTable _).addQ q
    have hT : ((s0.withTable (t.withRows rows)).addQ q).w.table? full = some (t.withRows rows) := by
      have := withTable_table? s0 (t.withRows rows0) (t.withRows rows) (by rw [withRows_name, hname]; exact hT0)
      simpa [hname] using this
    have hstep := exec_updateRowStep_J n env full alias a sets wher returning t J mt f accStep Q P Sok hSokT hSokQ sem
      ((s0.withTable (t.withRows rows)).addQ q) hsT (hSokQ _ q (hSokT _ _ hS0)) rows hT hname r hr (by simpa using hv) hP (by simpa using RidInj.of_nodup hinj)
      (fun hg => hI.noConflict rows r hinv hr hv hP hg _ hsT (by simp) (by simp)) acc
    simp only [addQ_w, withTable_latestView, addQ_xid, withTable_xid, addQ_cid, withTable_cid] at hstep
    simp only [List.map_cons, exec_foldlM_cons, hstep]
    rw [addQ_withTable, withTable_withTable _ _ _ (by simp), addQ_addQ,
      ih _ _ _ (targets_updStep hts hnd) (List.nodup_cons.mp hnd).2 (nodup_updStep s0.w s0.xid s0.cid hs.xid hs.cid _ f rows r hinj hr hv)
        (hI.inv_updStep hinv hr hv hP)]
    simp only [updAcc, updRun, updQ, List.foldl_cons, List.flatMap_cons, List.append_assoc]

/-- RETURNING items with the expressions blanked (column names of an UPDATE that wrote no row) -/
def protoReturning (returning : List SelItem) : List SelItem :=
  returning.map (fun it => match it with
    | .expr _ al => if al.isEmpty then it else SelItem.expr .null al
    | it => it)

/-- `UPDATE t [alias] SET … FROM <items> WHERE … RETURNING …`, the FROM items evaluating (without effect) to the rows `J` -/
theorem exec_execUpdate_J (n : Nat) (env : Env) (schema table full alias a : String) (sets : List SetItem) (from_ : List FromItem)
    (wher : Option Expr) (returning : List SelItem) (t : Table) (J : List (List Scope)) (mt : List Value → Option (List Scope))
    (f : List Value → List Value) (accStep : DmlAcc → Ver → DmlAcc) (Q : Ver → List PendingTrig) (P : Ver → Prop)
    (Sok : St → Prop) (hSokT : ∀ s t, Sok s → Sok (s.withTable t)) (hSokQ : ∀ s q, Sok s → Sok (s.addQ q))
    (sem : UpdSemJ env t alias a sets wher returning J mt f accStep Q P Sok)
    (s : St) (hs : TxState s) (hS : Sok s) (rows : List Ver) (hT : s.w.table? full = some (t.withRows rows)) (hname : t.name = full)
    (hq : (qualify schema table).exec s = (.ok full, s)) (ha : a = if alias.isEmpty then table else alias)
    (hfrom : (evalFromList (n + 4) env from_ [[]]).exec s = (.ok J, s))
    (hfresh : Fresh s.xid s.cid rows)
    (hnd : ((rows.filter (fun r => r.visible (latestView s.w s.xid))).map (·.rid)).Nodup)
    (hP : ∀ r ∈ rows, r.visible (latestView s.w s.xid) = true → P r)
    (Inv : List Ver → Prop) (hI : UpdInv t (fun v => (mt v).isSome) f (latestView s.w s.xid) s.xid s.cid P Inv) (hinv : Inv rows)
    (protoCols : List String)
    (hproto : returning.isEmpty = false → ∀ s', ∃ pv, (do
        let protoF ← protoScopes (n + 4) env from_
        evalReturning (n + 4) env (t.withRows
          (updRun (latestView s.w s.xid) s.xid s.cid (fun v => (mt v).isSome) f rows (rows.filter (fun r : Ver => r.visible (latestView s.w s.xid))).reverse))
          alias (t.cols.map (fun _ => Value.null)) protoF (protoReturning returning)).exec s' = (.ok (protoCols, pv), s')) :
    (execUpdate (n + 5) env schema table alias sets from_ wher returning).exec s =
      (let ts := (rows.filter (fun r => r.visible (latestView s.w s.xid))).reverse
       let acc := updAcc (fun v => (mt v).isSome) accStep {} ts
       (.ok { rel := { cols := if acc.retCols.isEmpty && !returning.isEmpty then protoCols else acc.retCols, rows := acc.retRows },
              affected := acc.affected },
        (s.withTable (t.withRows (updRun (latestView s.w s.xid) s.xid s.cid (fun v => (mt v).isSome) f rows ts))).addQ
          (updQ (fun v => (mt v).isSome) Q ts))) := by
  subst ha
  have hscanEq : (t.withRows rows).scan (cv s) = (rows.filter (fun r => r.visible (latestView s.w s.xid))).reverse := by
    rw [scan_eq]
    congr 1
    apply List.filter_congr
    intro r hr
    exact visible_cv_latest s hs rows hfresh r hr
  have hself : s.withTable (t.withRows rows) = s := withTable_self s _ (by rw [withRows_name, hname]; exact hT) hs.names
  have hloop := exec_updLoop_J n env full alias _ sets wher returning t J mt f accStep Q P Sok hSokT hSokQ sem s hs hS rows hT hname Inv hI
    _ rows {} [] (targets_all_of hP) (targets_all hnd).2 hnd hinv
  rw [hself, addQ_nil, List.nil_append] at hloop
  have hsc := exec_scanTable s hs (t.withRows rows) (if alias.isEmpty then table else alias)
  rw [hscanEq] at hsc
  have hT2 := withTable_table? s (t.withRows rows) (t.withRows (updRun (latestView s.w s.xid) s.xid s.cid (fun v => (mt v).isSome) f rows
      (rows.filter (fun r => r.visible (latestView s.w s.xid))).reverse)) (by rw [withRows_name, hname]; exact hT)
  rw [withRows_name, hname] at hT2
  rw [execUpdate]
  apply exec_seq hq
  apply exec_seq (exec_getTable hT)
  apply exec_seq hsc
  apply exec_seq hfrom
  apply exec_seq hloop
  cases hcase : ((updAcc (fun v => (mt v).isSome) accStep {} (rows.filter (fun r => r.visible (latestView s.w s.xid))).reverse).retCols.isEmpty &&
      !returning.isEmpty) with
  | false => simp only [hcase]; rfl
  | true =>
    -- no row was written: the column names come from RETURNING over a row of NULLs
    have hre : returning.isEmpty = false := by
      simpa using (Bool.and_eq_true_iff.mp hcase).2
    obtain ⟨pv, hpv⟩ := hproto hre ((s.withTable (t.withRows (updRun (latestView s.w s.xid) s.xid s.cid (fun v => (mt v).isSome) f rows
      (rows.filter (fun r => r.visible (latestView s.w s.xid))).reverse))).addQ (updQ (fun v => (mt v).isSome) Q (rows.filter (fun r => r.visible (latestView s.w s.xid))).reverse))
    simp only [hcase, if_true]
    apply exec_seq (exec_getTable (by exact hT2))
    rw [exec_bind] at hpv ⊢
    revert hpv
    cases (protoScopes (n + 4) env from_).exec _ with
    | mk res S1 =>
      cases res with
      | error e => intro hpv; cases hpv
      | ok F => intro hpv; exact exec_seq hpv rfl

/-- the guard `g` as a join with the one empty row of an empty FROM list -/
def joinOfGuard (g : List Value → Bool) (v : List Value) : Option (List Scope) := if g v then some [] else none

theorem isSome_joinOfGuard (g : List Value → Bool) : (fun v => (joinOfGuard g v).isSome) = g := by
  funext v
  unfold joinOfGuard
  cases g v <;> rfl

theorem UpdSem.toJ {env : Env} {t : Table} {alias a : String} {sets : List SetItem} {wher : Option Expr} {returning : List SelItem}
    {g : List Value → Bool} {f : List Value → List Value} {accStep : DmlAcc → Ver → DmlAcc} {Q : Ver → List PendingTrig}
    {P : Ver → Prop} {Sok : St → Prop} (sem : UpdSem env t alias a sets wher returning g f accStep Q P Sok) :
    UpdSemJ env t alias a sets wher returning [[]] (joinOfGuard g) f accStep Q P Sok := by
  have hg : ∀ {v : List Value}, (joinOfGuard g v).isSome = true → g v = true := fun h => by
    rw [← isSome_joinOfGuard g]; exact h
  have hF : ∀ {v : List Value} {F : List Scope}, joinOfGuard g v = some F → g v = true ∧ F = [] := by
    intro v F h
    unfold joinOfGuard at h
    cases hv : g v <;> simp [hv] at h
    exact ⟨rfl, h⟩
  refine ⟨?_, ?_, ?_, ?_, ?_, sem.hbefore, ?_, ?_⟩
  · intro r hP m s hS
    exact firstJoinMatch_single m env wher _ s _ (sem.hguard r hP m s hS)
  · intro r hP F h m s hS
    obtain ⟨h1, rfl⟩ := hF h
    have := sem.hguard r hP m s hS
    rw [h1] at this
    exact this
  · intro r hP F h m rows s hS
    obtain ⟨h1, rfl⟩ := hF h
    exact sem.hsets r hP h1 m rows s hS
  · exact fun r hP h => sem.hchecks r hP (hg h)
  · exact fun r hP h => sem.hfks r hP (hg h)
  · exact fun r hP h => sem.hafter r hP (hg h)
  · intro r hP F h m rows s a' hS
    obtain ⟨h1, rfl⟩ := hF h
    exact sem.hacc r hP h1 m rows s a' hS

theorem exec_execUpdate_gen (n : Nat) (env : Env) (schema table full alias a : String) (sets : List SetItem) (wher : Option Expr)
    (returning : List SelItem) (t : Table) (g : List Value → Bool) (f : List Value → List Value)
    (accStep : DmlAcc → Ver → DmlAcc) (Q : Ver → List PendingTrig) (P : Ver → Prop)
    (Sok : St → Prop) (hSokT : ∀ s t, Sok s → Sok (s.withTable t)) (hSokQ : ∀ s q, Sok s → Sok (s.addQ q))
    (sem : UpdSem env t alias a sets wher returning g f accStep Q P Sok)
    (s : St) (hs : TxState s) (hS : Sok s) (rows : List Ver) (hT : s.w.table? full = some (t.withRows rows)) (hname : t.name = full)
    (hq : (qualify schema table).exec s = (.ok full, s)) (ha : a = if alias.isEmpty then table else alias)
    (hfresh : Fresh s.xid s.cid rows)
    (hnd : ((rows.filter (fun r => r.visible (latestView s.w s.xid))).map (·.rid)).Nodup)
    (hP : ∀ r ∈ rows, r.visible (latestView s.w s.xid) = true → P r)
    (Inv : List Ver → Prop) (hI : UpdInv t g f (latestView s.w s.xid) s.xid s.cid P Inv) (hinv : Inv rows)
    (protoCols : List String)
    (hproto : returning.isEmpty = false → ∀ s', ∃ pv, (evalReturning (n + 4) env (t.withRows
        (updRun (latestView s.w s.xid) s.xid s.cid g f rows (rows.filter (fun r => r.visible (latestView s.w s.xid))).reverse))
        alias (t.cols.map (fun _ => Value.null)) [] (protoReturning returning)).exec s' = (.ok (protoCols, pv), s')) :
    (execUpdate (n + 5) env schema table alias sets [] wher returning).exec s =
      (let ts := (rows.filter (fun r => r.visible (latestView s.w s.xid))).reverse
       let acc := updAcc g accStep {} ts
       (.ok { rel := { cols := if acc.retCols.isEmpty && !returning.isEmpty then protoCols else acc.retCols, rows := acc.retRows },
              affected := acc.affected },
        (s.withTable (t.withRows (updRun (latestView s.w s.xid) s.xid s.cid g f rows ts))).addQ (updQ g Q ts))) := by
  have hfrom : (evalFromList (n + 4) env [] [[]]).exec s = (.ok [[]], s) := by rw [evalFromList_nil]; rfl
  have h := exec_execUpdate_J n env schema table full alias a sets [] wher returning t [[]] (joinOfGuard g) f accStep Q P Sok hSokT hSokQ
    sem.toJ s hs hS rows hT hname hq ha hfrom hfresh hnd hP Inv
  rw [isSome_joinOfGuard g] at h
  refine h hI hinv protoCols (fun hre s' => ?_)
  obtain ⟨pv, hpv⟩ := hproto hre s'
  exact ⟨pv, exec_seq (a := []) (s' := s') (by rw [protoScopes_nil]; rfl) hpv⟩

theorem UpdInv.run {t : Table} {g : List Value → Bool} {f : List Value → List Value} {lv : View} {xid cid : Nat} {P : Ver → Prop}
    {Inv : List Ver → Prop} (hI : UpdInv t g f lv xid cid P Inv) :
    ∀ (ts cur : List Ver), (∀ r ∈ ts, r ∈ cur ∧ r.visible lv = true ∧ P r) → (ts.map (·.rid)).Nodup → Inv cur →
      Inv (updRun lv xid cid g f cur ts) := by
  intro ts
  induction ts with
  | nil => intro cur _ _ h; exact h
  | cons r rest ih =>
    intro cur hts hnd hinv
    obtain ⟨hr, hv, hP⟩ := hts r (by simp)
    exact ih _ (targets_updStep hts hnd) (List.nodup_cons.mp hnd).2 (hI.inv_updStep hinv hr hv hP)

theorem UpdInv.runAll {t : Table} {g : List Value → Bool} {f : List Value → List Value} {lv : View} {xid cid : Nat} {P : Ver → Prop}
    {Inv : List Ver → Prop} (hI : UpdInv t g f lv xid cid P Inv) {rows : List Ver}
    (hnd : ((rows.filter (fun q => q.visible lv)).map (·.rid)).Nodup) (hP : ∀ r ∈ rows, r.visible lv = true → P r) (hinv : Inv rows) :
    Inv (updRun lv xid cid g f rows (rows.filter (fun q => q.visible lv)).reverse) :=
  hI.run _ rows (targets_all_of hP) (targets_all hnd).2 hinv

/-- the statements of the CTEs of a query statement (they run through `execStmt`, see `evalCtes`) -/
def cteStmts : Stmt → List Stmt
  | .query (.mk ctes _ _ _ _ _) => ctes.map (fun c => match c with | .mk _ _ st => st)
  | _ => []

end Ledger.Sql
