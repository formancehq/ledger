import Ledger.Proofs.SqlMovesUpdate

/-!
# `update_effective_volumes` as an AFTER INSERT ROW trigger, and the drain of the queue
-/
open Ledger Ledger.Sql Ledger.Generated Ledger.Core
namespace Ledger.Sql
open Ledger.Spec

/-- `update_effective_volumes` run as AFTER INSERT ROW trigger for the NEW row `n` of ledger `ln` on stored rows: the view is mapped by
    `bumpP`; two command ids are used up. -/
theorem exec_runTrigger_updEff (k : Nat) (b ln fname : String) (n : Spec.MoveRow)
    (setE wher : Expr) (hsem : UpdEffSem setE wher)
    (f : PlFunc) (hdecls : f.decls = []) (hbody : f.body = updEffBody setE wher)
    (s : St) (hs : TxState s) (hf : s.w.funcs.lookup fname = some f) (hschema : schemaOf fname = b)
    (hnc : s.nextCid + 2 ≤ 1000000000) (hvt : VolTypes s.w.types)
    (trigs : List TriggerDef) (nr : Nat) (rows : List Ver) (t : Table) (htc : t.cols = Schema.tbl_moves.cols)
    (hnb : trigs.filter (fun tr => tr.timing == .before && tr.event == .update) = [])
    (hna : trigs.filter (fun tr => tr.timing == .after && tr.event == .update) = [])
    (hT : s.w.table? (mvFull b) = some ((mvT b trigs nr).withRows rows))
    (bound : Int) (hS : MvStored (latestView s.w s.xid) s.xid s.nextCid nr bound rows) :
    ∃ rows', (runTrigger (k + 11) fname t (some (mvVals ln n)) none).exec s =
        (.ok (some (mvVals ln n)), (s.bump 2).withTable ((mvT b trigs nr).withRows rows')) ∧
      MvStored (latestView s.w s.xid) s.xid (s.nextCid + 2) nr bound rows' ∧
      (mvAbs (latestView s.w s.xid) rows').Perm ((mvAbs (latestView s.w s.xid) rows).map (bumpP ln n)) := by
  have hs1 : TxState (s.withSP b).enter.clearQ := ((hs.withSP b).enter (by simp; omega)).clearQ
  obtain ⟨res, rows', hupd, hS', hperm⟩ := mv_update_exec k b ln n false trigs nr setE wher hsem hnb hna (s.withSP b).enter.clearQ hs1 rfl hvt
    rows hT bound hS
  refine ⟨rows', ?_, hS'.mono (Nat.le_succ _), hperm⟩
  have hcmd := exec_withNewCid _ (s.withSP b) _ _ (exec_runStmt_noAfter (k + 6) _ _ (s.withSP b).enter _ _ hupd)
  have hstmt := exec_execPlStmt_exec (k + 8) { vars := [], tcols := t.cols, new := some (mvVals ln n) } _ (s.withSP (schemaOf fname)) _ _
    (by rw [plSt_env_moves t htc, hschema]; exact hcmd)
  exact exec_runTrigger_retNew (k + 7) fname t f _ hdecls hbody s _ hf _ none _ mvCols _ hstmt (by rw [htc]; rfl)

/-- the typed table after `update_effective_volumes` ran for `news`, in order -/
def drainTbl (ln : String) (tbl : List (String × Spec.MoveRow)) (news : List Spec.MoveRow) : List (String × Spec.MoveRow) :=
  news.foldl (fun t n => t.map (bumpP ln n)) tbl

theorem drainTbl_perm (ln : String) : ∀ (news : List Spec.MoveRow) (t t' : List (String × Spec.MoveRow)), t.Perm t' →
    (drainTbl ln t news).Perm (drainTbl ln t' news) := by
  intro news
  induction news with
  | nil => intro t t' h; exact h
  | cons n ns ih =>
    intro t t' h
    exact ih _ _ (h.map _)

/-- the drain of the queued `update_effective_volumes` triggers on stored rows: the view becomes `drainTbl`, up to order -/
theorem exec_drainFold_moves (k : Nat) (b ln fname : String) (setE wher : Expr) (hsem : UpdEffSem setE wher)
    (f : PlFunc) (hdecls : f.decls = []) (hbody : f.body = updEffBody setE wher)
    (s0 : St) (hs0 : TxState s0) (hf : s0.w.funcs.lookup fname = some f) (hschema : schemaOf fname = b) (hvt : VolTypes s0.w.types)
    (trigs : List TriggerDef) (nr : Nat)
    (hnb : trigs.filter (fun tr => tr.timing == .before && tr.event == .update) = [])
    (hna : trigs.filter (fun tr => tr.timing == .after && tr.event == .update) = [])
    (T0 : Table) (hT0 : s0.w.table? (mvFull b) = some T0) (bound : Int) :
    ∀ (news : List Spec.MoveRow) (rows : List Ver) (j : Nat), s0.nextCid + j + 2 * news.length ≤ 1000000000 →
      MvStored (latestView s0.w s0.xid) s0.xid (s0.nextCid + j) nr bound rows →
      ∃ rows', ((news.map (pendingOf fname (mvFull b) ln)).foldlM (drainStep (k + 11)) ()).exec
            ((s0.bump j).withTable ((mvT b trigs nr).withRows rows)) =
          (.ok (), (s0.bump (j + 2 * news.length)).withTable ((mvT b trigs nr).withRows rows')) ∧
        MvStored (latestView s0.w s0.xid) s0.xid (s0.nextCid + j + 2 * news.length) nr bound rows' ∧
        (mvAbs (latestView s0.w s0.xid) rows').Perm (drainTbl ln (mvAbs (latestView s0.w s0.xid) rows) news) := by
  intro news
  induction news with
  | nil => intro rows j _ h; exact ⟨rows, by simp, by simpa using h, List.Perm.refl _⟩
  | cons n ns ih =>
    intro rows j hnc hS
    simp only [List.length_cons] at hnc
    have hT : ((s0.bump j).withTable ((mvT b trigs nr).withRows rows)).w.table? (mvFull b) = some ((mvT b trigs nr).withRows rows) :=
      withTable_table? (s0.bump j) T0 _ hT0
    obtain ⟨rows1, hrun, hS1, hperm1⟩ := exec_runTrigger_updEff k b ln fname n setE wher hsem f hdecls hbody
      ((s0.bump j).withTable ((mvT b trigs nr).withRows rows)) ((hs0.bump j).withTable _) (by simpa using hf) hschema (by simp; omega)
      (by simpa using hvt) trigs nr rows ((mvT b trigs nr).withRows rows) rfl hnb hna hT bound (by simpa using hS)
    simp only [withTable_latestView, bump_w, withTable_xid, bump_xid, withTable_nextCid, bump_nextCid] at hS1 hperm1
    obtain ⟨rows', hex, hS', hperm'⟩ := ih rows1 (j + 2) (by omega) (by rw [← Nat.add_assoc]; exact hS1)
    refine ⟨rows', ?_, by rw [List.length_cons, show s0.nextCid + j + 2 * (ns.length + 1) = s0.nextCid + (j + 2) + 2 * ns.length by omega]; exact hS',
      hperm'.trans (drainTbl_perm ln ns _ _ hperm1)⟩
    simp only [List.map_cons, exec_foldlM_cons, drainStep, pendingOf, exec_bind, exec_getTable hT, hrun, exec_pure]
    rw [bump_comm_table, bump_bump, withTable_withTable _ _ _ (by rfl), List.length_cons,
      show j + 2 * (ns.length + 1) = j + 2 + 2 * ns.length by omega]
    exact hex

end Ledger.Sql
