import Ledger.Proofs.CtrlStep
import Ledger.Proofs.CtrlExamples

/-!
Lemmas about `Import`, the sequence resynchronisation of the state tracker, and
the one place where the import path and the live path differ (account metadata
saves).
-/
namespace Ledger.Ctrl
open Ledger.Base Ledger.Core

def maxStep (m : Option Nat) (x : Nat) : Option Nat :=
  match m with
  | none => some x
  | some y => some (if y < x then x else y)

theorem foldl_max_ge (l : List Nat) (acc : Option Nat) (x : Nat) (hx : (∃ a, acc = some a ∧ x ≤ a) ∨ x ∈ l) :
    ∃ m, l.foldl maxStep acc = some m ∧ x ≤ m := by
  induction l generalizing acc with
  | nil =>
    rcases hx with hx | hx
    · exact hx
    · cases hx
  | cons y r ih =>
    refine ih _ ?_
    rcases hx with ⟨a, rfl, hle⟩ | hx
    · exact Or.inl ⟨_, rfl, by split <;> omega⟩
    · rcases List.mem_cons.mp hx with rfl | hx
      · cases acc with
        | none => exact Or.inl ⟨_, rfl, Nat.le_refl _⟩
        | some a => exact Or.inl ⟨_, rfl, by split <;> omega⟩
      · exact Or.inr hx

/-- `setval(seq, max(id))`, or the sequence left alone on an empty table: no id of the table is above it. -/
theorem le_foldl_max {α : Type} (id : α → Nat) (l : List α) (t : α) (ht : t ∈ l) (dflt : Nat) :
    id t ≤ (match l.foldl (fun m x => maxStep m (id x)) none with | some m => m | none => dflt) := by
  obtain ⟨m, hm, hle⟩ := foldl_max_ge (l.map id) none (id t) (Or.inr (List.mem_map.mpr ⟨t, ht, rfl⟩))
  rw [List.foldl_map] at hm
  rw [hm]; exact hle

/-- After `setval(seq, max(id))` every id in the tables is at or below its sequence. -/
theorem resync_bounds (s : State) :
    (∀ t ∈ (resync s).db.txs, t.id ≤ (resync s).seq.tx) ∧ (∀ l ∈ (resync s).db.logs, l.id ≤ (resync s).seq.log) := by
  constructor
  · intro t ht
    show t.id ≤ (match maxTxId s.db with | some m => m | none => s.seq.tx)
    exact le_foldl_max (·.id) _ t ht _
  · intro l hl
    show l.id ≤ (match maxLogId s.db with | some m => m | none => s.seq.log)
    exact le_foldl_max (·.id) _ l hl _

theorem resync_inv (s : State)
    (h1 : s.db.logs.Pairwise (fun a b => a.id < b.id)) (h2 : s.db.txs.Pairwise (fun a b => a.id < b.id))
    (h3 : s.db.logs.Pairwise (fun a b => b.ik = "" ∨ a.ik ≠ b.ik))
    (h4 : s.db.txs.Pairwise (fun a b => b.reference = "" ∨ a.reference ≠ b.reference)) :
    Inv (resync s).db (resync s).seq :=
  ⟨(resync_bounds s).2, h1, (resync_bounds s).1, h2, h3, h4⟩

theorem importFrom_reject_first (now : Time) (s : State) (m : Nat) (l : Log) (r : List Log) (h : l.id ≤ m) :
    importFrom now s (some m) (l :: r) = (s, some (.alreadyExists l.id)) := by
  simp only [importFrom, decide_eq_true_eq, if_pos h]

/-- The live path (`UpsertAccounts` with NULL dates and chart defaults `D`) and the import
    path (`UpdateAccountsMetadata(…, date)`) write the same row when the chart defaults add
    nothing to a NEW account and an EXISTING one either holds the metadata already or was
    not first used after the save. -/
theorem savedMeta_paths_agree (w : Time) (accounts : Map String Account) (a : String) (m D : Meta)
    (hnone : accounts.get? a = none → metaMerge D m = metaMerge [] m)
    (hsome : ∀ acc, accounts.get? a = some acc → metaContains acc.metadata m = true ∨ ¬ w < acc.firstUsage) :
    upsertAccount w accounts { address := a, metadata := m, defaults := D } = updateAccountMeta w accounts (a, m) := by
  unfold updateAccountMeta upsertAccount
  cases hg : accounts.get? a with
  | none => simp only [hnone hg]
  | some acc =>
    simp only [Bool.false_or]
    by_cases hc : metaContains acc.metadata m = true
    · simp only [hc, ↓reduceIte, Bool.not_true, Bool.false_eq_true]
    · rcases hsome acc hg with hs | hs
      · exact absurd hs hc
      · simp only [hc, Bool.false_eq_true, ↓reduceIte, Bool.not_false, if_neg hs]

open Examples in
/-- An export imported into an empty ledger, on the one-transaction witness: accepted, and the tables are the source's. -/
theorem import_of_export_exact :
    (importLogs 0 {} (exportLogs s1)).2 = none ∧ (importLogs 0 {} (exportLogs s1)).1.db = s1.db := by decide +kernel

end Ledger.Ctrl
