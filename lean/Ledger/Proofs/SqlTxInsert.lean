import Ledger.Proofs.SqlRevert
import Ledger.Proofs.SqlInsertRow
import Ledger.Proofs.SqlTrigSched
import Ledger.Proofs.SqlPurePhases
import Ledger.Generated.WriteSql
import Ledger.Core.Types

/-!
# `InsertTransaction` on any `transactions` table

The statement is an instance of `exec_execStmt_insertRow`; what the AFTER INSERT row triggers of the table do is a parameter of
`exec_runStmt_insertTx`. Without such a trigger (TRANSACTION_METADATA_HISTORY off) nothing more happens
(`exec_runStmt_insertTx_noAfter`); the metadata-history trigger is in `SqlTxMeta.lean`.
-/
open Ledger Ledger.Sql Ledger.Generated Ledger.Core
namespace Ledger.Sql

def tyVarchar : SqlType := SqlType.mk "" "varchar" "" false
def tyText : SqlType := SqlType.mk "" "text" "" false

/-- the rendered literals of one `InsertTransaction` -/
structure TxLits where
  postings : String
  metadata : String
  timestamp : String
  reference : String
  inserted_at : String
  updated_at : String
  post_commit_volumes : String
  template : String
  sources : String
  destinations : String
  sources_arrays : String
  destinations_arrays : String

/-- the literals denote the typed row `x` (everything but the id, which comes from the sequence) -/
structure TxLit (te : TypeEnv) (ledger : String) (L : TxLits) (x : TxR) : Prop where
  ledger : x.ledger = ledger
  postings : x.postings = L.postings
  reference : x.reference = some L.reference
  template : x.template = some L.template
  revertedAt : x.revertedAt = none
  metadata : castTo te tyJsonb (.text L.metadata) = .ok (.json x.metadata)
  sources : castTo te tyJsonb (.text L.sources) = .ok (.json x.sources)
  destinations : castTo te tyJsonb (.text L.destinations) = .ok (.json x.destinations)
  sourcesArrays : castTo te tyJsonb (.text L.sources_arrays) = .ok (.json x.sourcesArrays)
  destinationsArrays : castTo te tyJsonb (.text L.destinations_arrays) = .ok (.json x.destinationsArrays)
  pcv : ∃ j, x.pcv = some j ∧ castTo te tyJsonb (.text L.post_commit_volumes) = .ok (.json j)
  timestamp : castTo te tyTimestamp (.text L.timestamp) = .ok (.ts x.timestamp)
  insertedAt : ∃ t, x.insertedAt = some t ∧ castTo te tyTimestamp (.text L.inserted_at) = .ok (.ts t)
  updatedAt : castTo te tyTimestamp (.text L.updated_at) = .ok (.ts x.updatedAt)

def txInsertCols : List String :=
  ["postings", "metadata", "timestamp", "reference", "id", "inserted_at", "updated_at", "reverted_at", "post_commit_volumes", "template",
   "sources", "destinations", "sources_arrays", "destinations_arrays", "ledger"]

def txReturning : List SelItem :=
  [SelItem.expr (Expr.col "" "id") "", SelItem.expr (Expr.col "" "timestamp") "", SelItem.expr (Expr.col "" "inserted_at") "",
   SelItem.expr (Expr.col "" "updated_at") ""]

/-- the statement of `InsertTransaction` -/
def insertTxStmt (b ledger : String) (id : Nat) (L : TxLits) : Stmt :=
  Stmt.insert [] b "transactions" "" txInsertCols (InsertSrc.values [[(Expr.str L.postings), (Expr.str L.metadata), (Expr.str L.timestamp),
    (Expr.str L.reference), (Expr.call "" "nextval" [(Expr.str ("\"" ++ b ++ "\".\"transaction_id_" ++ toString id ++ "\""))]),
    (Expr.str L.inserted_at), (Expr.str L.updated_at), Expr.dflt, (Expr.str L.post_commit_volumes), (Expr.str L.template), (Expr.str L.sources),
    (Expr.str L.destinations), (Expr.str L.sources_arrays), (Expr.str L.destinations_arrays), (Expr.str ledger)]]) none txReturning

theorem insertTransaction_shape (b ledger : String) (id : Nat) (L : TxLits) :
    WriteSql.P.insertTransaction b ledger id L.postings L.metadata L.timestamp L.reference L.inserted_at L.updated_at L.post_commit_volumes
      L.template L.sources L.destinations L.sources_arrays L.destinations_arrays = [insertTxStmt b ledger id L] := rfl

/-- the evaluated VALUES row (the id taken from the sequence) -/
def txSrcRow (ledger : String) (L : TxLits) (v : Int) : List (Option Value) :=
  [some (.text L.postings), some (.text L.metadata), some (.text L.timestamp), some (.text L.reference), some (.int v),
   some (.text L.inserted_at), some (.text L.updated_at), none, some (.text L.post_commit_volumes), some (.text L.template),
   some (.text L.sources), some (.text L.destinations), some (.text L.sources_arrays), some (.text L.destinations_arrays), some (.text ledger)]

def txSeqLit (b : String) (id : Nat) : String := "\"" ++ b ++ "\".\"transaction_id_" ++ toString id ++ "\""

/-- the name the sequence literal of the statement denotes -/
structure SeqLit (lit full : String) : Prop where
  unq : unquoteQualified lit = full
  dotted : (firstDotted full).isEmpty = false

theorem SeqLit.seqName {lit full : String} (hl : SeqLit lit full) (s : St) : (seqName lit).exec s = (.ok full, s) := by
  simp [Ledger.Sql.seqName, hl.unq, hl.dotted]

theorem exec_evalValuesRow_tx (n : Nat) (env : Env) (b ledger : String) (id : Nat) (L : TxLits) (full : String)
    (hl : SeqLit (txSeqLit b id) full) (s : St) (sq : Seq) (hsq : s.w.seqs.find? (·.name == full) = some sq) :
    (evalValuesRow (n + 3) env [(Expr.str L.postings), (Expr.str L.metadata), (Expr.str L.timestamp),
      (Expr.str L.reference), (Expr.call "" "nextval" [(Expr.str ("\"" ++ b ++ "\".\"transaction_id_" ++ toString id ++ "\""))]),
      (Expr.str L.inserted_at), (Expr.str L.updated_at), Expr.dflt, (Expr.str L.post_commit_volumes), (Expr.str L.template), (Expr.str L.sources),
      (Expr.str L.destinations), (Expr.str L.sources_arrays), (Expr.str L.destinations_arrays), (Expr.str ledger)]).exec s =
      (.ok (txSrcRow ledger L sq.next), s.withSeqs (seqsSet full sq.next s.w.seqs)) := by
  rw [evalValuesRow]
  have hnv := exec_nextval n s.w.types env (txSeqLit b id) full s sq (hl.seqName s) hsq
  simp only [txSeqLit] at hnv
  have hstr : ∀ (x : String) (s' : St), (evalExpr (cbs (n + 2)) s.w.types env (Expr.str x)).exec s' = (.ok (.text x), s') :=
    fun x => Evals.of_pv _ rfl
  simp only [exec_bind, exec_typeEnv, exec_mapM_cons, hstr, exec_pure, hnv, List.mapM_nil]
  rfl

theorem castTo_text_text (te : TypeEnv) (x : String) : castTo te (SqlType.mk "" "text" "" false) (.text x) = .ok (.text x) := rfl

theorem exec_buildRow_tx (n : Nat) (b ledger : String) (trigs : List TriggerDef) (nr : Nat) (rows : List Ver) (L : TxLits) (x : TxR) (s : St)
    (hlit : TxLit s.w.types ledger L x) :
    (buildRow (n + 1) ((txT b trigs nr).withRows rows) txInsertCols (txSrcRow ledger L x.id)).exec s = (.ok (txVals x), s) := by
  obtain ⟨pj, hpj, hpc⟩ := hlit.pcv
  obtain ⟨it, hit, hic⟩ := hlit.insertedAt
  have hx : txVals x = [.text ledger, .int x.id, .ts x.timestamp, .text L.reference, .null, .ts x.updatedAt, .text L.postings,
      .json x.sources, .json x.destinations, .json x.sourcesArrays, .json x.destinationsArrays, .json x.metadata, .json pj, .ts it,
      .text L.template] := by
    simp only [txVals, hlit.ledger, hlit.postings, hlit.reference, hlit.template, hlit.revertedAt, hpj, hit, optText, optTs, optJson]
  rw [hx]
  exact exec_buildRow_pure n _ _ _ s _ rfl (show txInsertCols.find? (fun c => !(txCols.contains c)) = none by decide) <|
    .cast rfl (castTo_varchar_text _ _) <| .cast rfl (castTo_numeric_int _ _) <| .cast rfl hlit.timestamp <|
    .cast rfl (castTo_varchar_text _ _) <| .null rfl (.inl rfl) <| .cast rfl hlit.updatedAt <| .cast rfl (castTo_varchar_text _ _) <|
    .cast rfl hlit.sources <| .cast rfl hlit.destinations <| .cast rfl hlit.sourcesArrays <| .cast rfl hlit.destinationsArrays <|
    .cast rfl hlit.metadata <| .cast rfl hpc <| .cast rfl hic <| .cast rfl (castTo_text_text _ _) .nil

/-- the WHEN clause of `set_transaction_updated_at` -/
def updatedAtIsNull : Expr := Expr.isNull (Expr.col "new" "updated_at") false

theorem exec_triggerApplies_updNull (n : Nat) (t : Table) (tr : TriggerDef) (nv : List Value) (s : St) (u : Int)
    (hev : tr.event = .insert) (hw : tr.when_ = some updatedAtIsNull) (hl : lookupIn t.colNames nv "updated_at" = some (.ts u)) :
    (triggerApplies (n + 1) t tr [] (some nv) none).exec s = (.ok false, s) := by
  rw [triggerApplies]
  have hev' : (tr.event == TrigEvent.update) = false := by rw [hev]; rfl
  have hin : Evals (cbs n) s.w.types { outer := [({ alias := "new", cols := t.colNames, vals := nv } : Scope)] } updatedAtIsNull
      (.bool false) :=
    .of_pv _ (by
      rw [updatedAtIsNull, pv, pv, lookupColumn_alias _ "new" _ { alias := "new", cols := t.colNames, vals := nv } _ rfl
        (by rw [lastComponent_new]; rfl) hl]
      rfl)
  have := exec_withSearchPath (schemaOf t.name) _ s _ _ (hin (s.withSP (schemaOf t.name)))
  rw [withSP_withSP_self] at this
  simp only [hev', Bool.false_and, Bool.false_eq_true, if_false, hw, exec_bind, exec_typeEnv, List.append_nil, this, truth_bool,
    exec_liftR_ok, exec_pure]
  rfl

theorem insertTrigger_perm (tr : TriggerDef) : ∀ l, (insertTrigger tr l).Perm (tr :: l)
  | [] => .refl _
  | x :: xs => by
    rw [insertTrigger]
    split
    · exact .refl _
    · exact ((insertTrigger_perm tr xs).cons x).trans (.swap tr x xs)

theorem sortTriggers_perm (ts : List TriggerDef) : (sortTriggers ts).Perm ts := by
  suffices ∀ (l acc : List TriggerDef), (l.foldl (fun acc tr => insertTrigger tr acc) acc).Perm (l ++ acc) by
    simpa [sortTriggers] using this ts []
  intro l
  induction l with
  | nil => exact fun acc => .refl _
  | cons a as ih => exact fun acc => (ih _).trans (((insertTrigger_perm a acc).append_left as).trans List.perm_middle)

theorem exec_accReturning_txIns (k : Nat) (env : Env) (b : String) (trigs : List TriggerDef) (nr : Nat) (rows : List Ver) (x : TxR)
    (acc : DmlAcc) (s : St) :
    (accReturning (k + 2) env ((txT b trigs nr).withRows rows) "" (txVals x) [] txReturning acc).exec s =
      (.ok { retCols := ["id", "timestamp", "inserted_at", "updated_at"],
             retRows := acc.retRows ++ [[.int x.id, .ts x.timestamp, optTs x.insertedAt, .ts x.updatedAt]], affected := acc.affected + 1 }, s) :=
  exec_accReturning_cols k env _ "" (txVals x) ["id", "timestamp", "inserted_at", "updated_at"]
    [.int x.id, .ts x.timestamp, optTs x.insertedAt, .ts x.updatedAt] acc s rfl rfl

structure TxInsState (s : St) (b ledger : String) (trigs : List TriggerDef) (nr : Nat) (rows : List Ver) (full : String) (sq : Seq) : Prop where
  tx : TxState s
  q0 : s.afterQ = []
  bne : b.isEmpty = false
  table : s.w.table? (txFull b) = some ((txT b trigs nr).withRows rows)
  inv : TxInv (latestView s.w s.xid) rows
  /-- the only BEFORE INSERT row triggers are `set_transaction_updated_at`-like (fire when `updated_at` is NULL) -/
  beforeTrigs : ∀ tr ∈ trigs, tr.timing = .before → tr.event = .insert → tr.when_ = some updatedAtIsNull
  seq : s.w.seqs.find? (·.name == full) = some sq
  /-- ids of the ledger's visible transactions are below the sequence -/
  idBound : ∀ r ∈ rows, r.visible (latestView s.w s.xid) = true → ∀ x', r.vals = txVals x' → x'.ledger = ledger → x'.id < sq.next

theorem exec_fireBefore_noneApply (n : Nat) (t : Table) (nv : List Value) (s : St)
    (h : ∀ tr ∈ sortTriggers (t.triggers.filter (fun x => x.timing == .before && x.event == .insert)),
      (triggerApplies n t tr [] (some nv) none).exec s = (.ok false, s)) :
    (fireBefore (n + 1) t .insert [] (some nv) none).exec s = (.ok (some nv), s) := by
  rw [fireBefore_eq]
  simp only [exec_bind, exec_beforeFold_none n t .insert [] nv none s _ h, Bool.false_eq_true, if_false, exec_pure]

/-- **`InsertTransaction`** on ANY `transactions` table satisfying the storage invariant: one row is added, whose id is the next value of
    the ledger's sequence and whose other columns are the values the literals denote; RETURNING reports id and the three dates. What the
    AFTER INSERT row triggers of the table do is a parameter: they queue `Q` for the new row (`hqa`), and running the queue at the end of
    the statement leaves `S'` (`hfold`). -/
theorem exec_runStmt_insertTx (p : Nat) (env : Env) (b ledger : String) (id : Nat) (L : TxLits) (trigs : List TriggerDef) (nr : Nat)
    (rows : List Ver) (full : String) (sq : Seq) (s : St) (hst : TxInsState s b ledger trigs nr rows full sq)
    (hl : SeqLit (txSeqLit b id) full) (x : TxR) (hlit : TxLit s.w.types ledger L x) (hid : x.id = sq.next)
    (href : ∀ r ∈ rows, r.visible (latestView s.w s.xid) = true → ∀ x', r.vals = txVals x' → txConf2 x x' = false)
    (Q : List PendingTrig) (S' : St)
    (hqa : (queueAfter (p + 2) ((txT b trigs (nr + 1)).withRows (newVer s.xid s.cid nr (txVals x) :: rows)) .insert [] (some (txVals x)) none).exec
        ((s.withSeqs (seqsSet full sq.next s.w.seqs)).withTable ((txT b trigs (nr + 1)).withRows (newVer s.xid s.cid nr (txVals x) :: rows))) =
      (.ok (), ((s.withSeqs (seqsSet full sq.next s.w.seqs)).withTable
        ((txT b trigs (nr + 1)).withRows (newVer s.xid s.cid nr (txVals x) :: rows))).addQ Q))
    (hfold : (Q.foldlM (drainStep (p + 4)) ()).exec ((s.withSeqs (seqsSet full sq.next s.w.seqs)).withTable
        ((txT b trigs (nr + 1)).withRows (newVer s.xid s.cid nr (txVals x) :: rows))) = (.ok (), S'))
    (hS' : S'.afterQ = []) :
    (runStmt (p + 6) env (insertTxStmt b ledger id L)).exec s =
      (.ok { rel := { cols := ["id", "timestamp", "inserted_at", "updated_at"],
                      rows := [[.int x.id, .ts x.timestamp, optTs x.insertedAt, .ts x.updatedAt]] }, affected := 1 }, S') := by
  have hvals := exec_evalValuesRow_tx p env b ledger id L full hl s sq hst.seq
  rw [← hid] at hvals hqa hfold
  have hfire : (fireBefore (p + 2) ((txT b trigs nr).withRows rows) .insert [] (some (txVals x)) none).exec
      (s.withSeqs (seqsSet full x.id s.w.seqs)) = (.ok (some (txVals x)), s.withSeqs (seqsSet full x.id s.w.seqs)) := by
    apply exec_fireBefore_noneApply
    intro tr htr
    have hmem := List.mem_filter.mp ((sortTriggers_perm _).mem_iff.mp htr)
    have hte : tr.timing = .before ∧ tr.event = .insert := by
      have := hmem.2
      simp only [Bool.and_eq_true, beq_iff_eq] at this
      exact this
    exact exec_triggerApplies_updNull p _ tr (txVals x) _ x.updatedAt hte.2 (hst.beforeTrigs tr hmem.1 hte.1 hte.2) rfl
  -- the primary key is new because the id is (`idBound`), the reference by `href`
  have hconf := exec_findConflict_tx_none b trigs nr rows x none (s.withSeqs (seqsSet full x.id s.w.seqs)) hst.tx.solo hst.inv.typed
    (by
      intro r hr hv _ x' hx'
      refine ⟨?_, href r hr hv x' hx'⟩
      simp only [txConf1, Bool.and_eq_false_iff]
      by_cases hle : x'.ledger = x.ledger
      · right
        have := hst.idBound r hr hv x' hx' (by rw [hle, hlit.ledger])
        rw [← hid] at this
        have : x'.id ≠ x.id := by omega
        simpa using this
      · left; simpa using hle)
  have hstmt := exec_execStmt_insertRow (p + 1) env b "transactions" "" txInsertCols _ txReturning (txFull b) ((txT b trigs nr).withRows rows)
    _ (txVals x) _ s (s.withSeqs (seqsSet full x.id s.w.seqs)) (s.withSeqs (seqsSet full x.id s.w.seqs)) _ (by simp [hst.bne]) (by simp [qualify, hst.bne, txFull]) rfl hst.table hst.table hst.table rfl hvals
    (exec_buildRow_tx (p + 1) b ledger trigs nr rows L x _ (by simpa using hlit)) hfire (exec_checkConstraints_tx ..) hconf rfl hqa
    (exec_accReturning_txIns p env b trigs (nr + 1) _ x {} _) rfl
  refine (exec_runStmt_queue (p + 3) env _ s _ S' _ Q ((congrArg _ (clearQ_of_empty s hst.q0)).trans hstmt) hst.q0 hS' hfold).trans ?_
  rw [hst.q0]
  exact congrArg (Prod.mk _) (clearQ_of_empty S' hS')

/-- no AFTER INSERT row trigger (TRANSACTION_METADATA_HISTORY off) -/
theorem exec_runStmt_insertTx_noAfter (p : Nat) (env : Env) (b ledger : String) (id : Nat) (L : TxLits) (trigs : List TriggerDef) (nr : Nat)
    (rows : List Ver) (full : String) (sq : Seq) (s : St) (hst : TxInsState s b ledger trigs nr rows full sq)
    (noAfter : trigs.filter (fun tr => tr.timing == .after && tr.event == .insert) = [])
    (hl : SeqLit (txSeqLit b id) full) (x : TxR) (hlit : TxLit s.w.types ledger L x) (hid : x.id = sq.next)
    (href : ∀ r ∈ rows, r.visible (latestView s.w s.xid) = true → ∀ x', r.vals = txVals x' → txConf2 x x' = false) :
    (runStmt (p + 6) env (insertTxStmt b ledger id L)).exec s =
      (.ok { rel := { cols := ["id", "timestamp", "inserted_at", "updated_at"],
                      rows := [[.int x.id, .ts x.timestamp, optTs x.insertedAt, .ts x.updatedAt]] }, affected := 1 },
       (s.withSeqs (seqsSet full sq.next s.w.seqs)).withTable ((txT b trigs (nr + 1)).withRows (newVer s.xid s.cid nr (txVals x) :: rows))) := by
  refine exec_runStmt_insertTx p env b ledger id L trigs nr rows full sq s hst hl x hlit hid href [] _ ?_ rfl hst.q0
  rw [addQ_nil]; exact exec_queueAfter_none _ _ _ _ _ _ _ noAfter

end Ledger.Sql
