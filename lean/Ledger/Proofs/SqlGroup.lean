import Ledger.Proofs.SqlSelect

/-!
# GROUP BY: LeanPG's grouping (`groupRowsBy`) against pure list functions

Keys are typed: a key type `K` with decidable equality and a rendering `kv : K → List Value` on which the evaluator's grouping
equality `sameGroupKey` decides equality of `K`. The groups of a list are then, in first-appearance order of the keys, the
sub-lists of the rows with that key (`groupsOf`). `UnitsOf`: what `evalSelect` projects, every row or every group.
-/
namespace Ledger.Sql

def firstKeysAux {K : Type} [DecidableEq K] (acc : List K) (k : K) : List K := if k ∈ acc then acc else acc ++ [k]

def firstKeys {K : Type} [DecidableEq K] (l : List K) : List K := l.foldl firstKeysAux []

theorem firstKeys_append_single {K : Type} [DecidableEq K] (l : List K) (k : K) :
    firstKeys (l ++ [k]) = if k ∈ firstKeys l then firstKeys l else firstKeys l ++ [k] := by
  unfold firstKeys
  rw [List.foldl_append]
  rfl

theorem mem_firstKeysAux {K : Type} [DecidableEq K] (k x : K) (acc : List K) : k ∈ firstKeysAux acc x ↔ k ∈ acc ∨ k = x := by
  unfold firstKeysAux
  split
  · next hx => exact ⟨Or.inl, fun h => h.elim id (· ▸ hx)⟩
  · simp

theorem foldl_firstKeysAux_mem {K : Type} [DecidableEq K] (k : K) : ∀ (l acc : List K),
    k ∈ l.foldl firstKeysAux acc ↔ (k ∈ acc ∨ k ∈ l) := by
  intro l
  induction l with
  | nil => intro acc; simp
  | cons x xs ih => intro acc; rw [List.foldl_cons, ih, mem_firstKeysAux, List.mem_cons, or_assoc]

theorem mem_firstKeys {K : Type} [DecidableEq K] (k : K) (l : List K) : k ∈ firstKeys l ↔ k ∈ l := by
  unfold firstKeys
  rw [foldl_firstKeysAux_mem]
  simp

theorem foldl_firstKeysAux_nodup {K : Type} [DecidableEq K] : ∀ (l acc : List K), acc.Nodup → (l.foldl firstKeysAux acc).Nodup := by
  intro l
  induction l with
  | nil => intro acc h; exact h
  | cons x xs ih =>
    intro acc h
    rw [List.foldl_cons]
    apply ih
    unfold firstKeysAux
    by_cases hx : x ∈ acc
    · simp [hx, h]
    · simp only [hx, if_false]
      rw [List.nodup_append]
      refine ⟨h, by simp, ?_⟩
      intro a ha b hb
      simp only [List.mem_singleton] at hb
      subst hb
      intro e
      subst e
      exact hx ha

theorem nodup_firstKeys {K : Type} [DecidableEq K] (l : List K) : (firstKeys l).Nodup :=
  foldl_firstKeysAux_nodup l [] List.nodup_nil

/-- the accumulated groups after a prefix `P`: keys in first-appearance order, members newest first -/
def accOf {K α : Type} [DecidableEq K] (P : List (K × α)) : List (K × List α) :=
  (firstKeys (P.map (·.1))).map (fun k => (k, ((P.filter (fun p => decide (p.1 = k))).map (·.2)).reverse))

theorem accOf_keys {K α : Type} [DecidableEq K] (P : List (K × α)) : (accOf P).map (·.1) = firstKeys (P.map (·.1)) := by
  simp [accOf, List.map_map, Function.comp_def]

theorem accOf_snoc {K α : Type} [DecidableEq K] (P : List (K × α)) (k : K) (row : α) :
    accOf (P ++ [(k, row)]) = (accOf P).map (fun g => if g.1 = k then (g.1, row :: g.2) else g) ++
      (if k ∈ firstKeys (P.map (·.1)) then [] else [(k, [row])]) := by
  have hold : (firstKeys (P.map (·.1))).map (fun k' => (k', (((P ++ [(k, row)]).filter (fun p => decide (p.1 = k'))).map (·.2)).reverse)) =
      (accOf P).map (fun g => if g.1 = k then (g.1, row :: g.2) else g) := by
    unfold accOf
    rw [List.map_map]
    apply List.map_congr_left
    intro k' _
    by_cases e : k' = k
    · subst e; simp [List.filter_append]
    · have e' : ¬ k = k' := fun h => e h.symm
      simp [List.filter_append, e, e']
  rw [accOf, List.map_append, List.map_cons, List.map_nil, firstKeys_append_single]
  split
  · rw [hold, List.append_nil]
  · next hk =>
    -- a new key: no row of `P` has it
    have hP : P.filter (fun p => decide (p.1 = k)) = [] :=
      List.filter_eq_nil_iff.mpr fun p hp e => hk ((mem_firstKeys _ _).mpr (List.mem_map.mpr ⟨p, hp, of_decide_eq_true e⟩))
    rw [List.map_append, hold]
    simp [List.filter_append, hP]

/-- the groups of `rs` by `kf`: first-appearance order of the keys, members in input order -/
def groupsOf {K α : Type} [DecidableEq K] (kf : α → K) (rs : List α) : List (List α) :=
  (firstKeys (rs.map kf)).map (fun k => rs.filter (fun r => decide (kf r = k)))

theorem groupsOf_mem {K α : Type} [DecidableEq K] (kf : α → K) (rs : List α) (G : List α) (hG : G ∈ groupsOf kf rs) :
    ∃ k, k ∈ rs.map kf ∧ G = rs.filter (fun r => decide (kf r = k)) ∧ G ≠ [] := by
  obtain ⟨k, hk, rfl⟩ := List.mem_map.mp hG
  rw [mem_firstKeys] at hk
  refine ⟨k, hk, rfl, ?_⟩
  obtain ⟨r, hr, e⟩ := List.mem_map.mp hk
  intro h
  have : r ∈ rs.filter (fun r => decide (kf r = k)) := List.mem_filter.mpr ⟨hr, by simp [e]⟩
  rw [h] at this
  cases this

def encG {K : Type} (kv : K → List Value) (g : K × List (List Scope)) : List Value × List (List Scope) := (kv g.1, g.2)

theorem groupRowsBy_ins_eq {K : Type} [DecidableEq K] (kv : K → List Value)
    (hsame : ∀ a b, sameGroupKey (kv a) (kv b) = .ok (decide (a = b))) (k : K) (row : List Scope) :
    ∀ (acc : List (K × List (List Scope))), (acc.map (·.1)).Nodup →
      groupRowsBy.ins (kv k) row (acc.map (encG kv)) =
        .ok ((acc.map (fun g => if g.1 = k then (g.1, row :: g.2) else g)).map (encG kv), decide (k ∈ acc.map (·.1))) := by
  intro acc
  induction acc with
  | nil => intro _; rfl
  | cons g rest ih =>
    intro hnd
    obtain ⟨k', rows⟩ := g
    simp only [List.map_cons, List.nodup_cons] at hnd
    simp only [List.map_cons, encG, groupRowsBy.ins, hsame, bind, Except.bind, pure, Except.pure]
    by_cases hk : k = k'
    · subst hk
      have hid : rest.map (fun g => if g.1 = k then (g.1, row :: g.2) else g) = rest :=
        (List.map_congr_left fun g hg => if_neg fun (e : g.1 = k) => hnd.1 (e ▸ List.mem_map_of_mem hg)).trans (List.map_id' _)
      simp [hid]
    · have hk' : ¬ k' = k := fun e => hk e.symm
      rw [if_neg (by simpa using hk), ih hnd.2]
      simp [hk, hk']

theorem groupRowsBy_pairs {K : Type} [DecidableEq K] (kv : K → List Value)
    (hsame : ∀ a b, sameGroupKey (kv a) (kv b) = .ok (decide (a = b))) (tk : List (K × List Scope)) :
    groupRowsBy (tk.map (fun p => (kv p.1, p.2))) =
      .ok ((firstKeys (tk.map (·.1))).map (fun k => (kv k, (tk.filter (fun p => decide (p.1 = k))).map (·.2)))) := by
  -- the loop, started after any prefix `P` of the rows
  have hfold : ∀ (tk P : List (K × List Scope)),
      (tk.map (fun p => (kv p.1, p.2))).foldlM (fun (acc : List (List Value × List (List Scope))) (x : List Value × List Scope) =>
        match x with
        | (k, row) => do
          let __x ← groupRowsBy.ins k row acc
          match __x with
            | (acc', found) => pure (if found = true then acc' else acc' ++ [(k, [row])])) ((accOf P).map (encG kv)) =
        (.ok ((accOf (P ++ tk)).map (encG kv)) : R _) := by
    intro tk
    induction tk with
    | nil => intro P; rw [List.append_nil]; rfl
    | cons x xs ih =>
      intro P
      obtain ⟨k, row⟩ := x
      have hnd : ((accOf P).map (·.1)).Nodup := by rw [accOf_keys]; exact nodup_firstKeys _
      have := ih (P ++ [(k, row)])
      rw [List.append_assoc, List.singleton_append] at this
      simp only [List.map_cons, List.foldlM_cons, groupRowsBy_ins_eq kv hsame k row _ hnd, bind, Except.bind, pure, Except.pure]
      rw [← this, accOf_snoc, ← accOf_keys]
      congr 1
      by_cases hk : k ∈ (accOf P).map (·.1) <;> simp [hk, encG]
  unfold groupRowsBy
  have := hfold tk []
  simp only [bind, Except.bind, pure, Except.pure] at this ⊢
  rw [show (accOf ([] : List (K × List Scope))).map (encG kv) = [] from rfl] at this
  rw [this]
  simp [accOf, encG, List.map_map, Function.comp_def]

/-- the groups of the rows `sc x` keyed by `kf x`: first-appearance order of the keys, members in input order -/
theorem groupRowsBy_groups {K β : Type} [DecidableEq K] (kv : K → List Value)
    (hsame : ∀ a b, sameGroupKey (kv a) (kv b) = .ok (decide (a = b))) (kf : β → K) (sc : β → List Scope) (xs : List β) :
    groupRowsBy (xs.map (fun x => (kv (kf x), sc x))) =
      .ok ((firstKeys (xs.map kf)).map (fun k => (kv k, (xs.filter (fun x => decide (kf x = k))).map sc))) := by
  have h := groupRowsBy_pairs kv hsame (xs.map (fun x => (kf x, sc x)))
  simp only [List.map_map, Function.comp_def] at h
  rw [h]
  congr 2
  funext k
  rw [List.filter_map, List.map_map]
  rfl

theorem applyAggregate_sum_int {β : Type} (f : β → Int) (xs : List β) (hne : xs ≠ []) :
    applyAggregate "sum" false false (xs.map (fun x => [Value.int (f x)])) = .ok (.int ((xs.map f).foldl (· + ·) 0)) := by
  have hfold : ∀ (F : Int → Value → R Int), (∀ acc n, F acc (.int n) = .ok (acc + n)) → ∀ (ys : List β) (acc : Int),
      (ys.map (fun x => Value.int (f x))).foldlM F acc = .ok ((ys.map f).foldl (· + ·) acc) := by
    intro F hF ys
    induction ys with
    | nil => intro acc; rfl
    | cons y ys ih =>
      intro acc
      simp only [List.map_cons, List.foldlM_cons, List.foldl_cons, hF, bind, Except.bind]
      exact ih _
  unfold applyAggregate
  have h1 : (("sum" : String) == "count") = false := by decide
  have hmap : (xs.map (fun x => [Value.int (f x)])).map (fun r => r.headD Value.null) = xs.map (fun x => Value.int (f x)) := by
    simp [List.map_map, Function.comp]
  have hflt : (xs.map (fun x => Value.int (f x))).filter (fun v => !v.isNull) = xs.map (fun x => Value.int (f x)) := by
    apply List.filter_eq_self.mpr
    intro v hv
    obtain ⟨x, _, rfl⟩ := List.mem_map.mp hv
    rfl
  have hemp : (xs.map (fun x => Value.int (f x))).isEmpty = false := by
    cases xs with
    | nil => exact absurd rfl hne
    | cons a as => rfl
  simp only [h1, Bool.false_eq_true, if_false, hmap, hflt, hemp, bind, Except.bind, pure, Except.pure]
  rw [hfold _ (fun acc n => rfl)]

theorem map_eq_map_keys {α β κ : Type} {l : List α} {val : α → β} (key : α → κ) (f : κ → β) (h : ∀ o ∈ l, val o = f (key o)) :
    l.map val = (l.map key).map f := by
  rw [List.map_map]; exact List.map_congr_left h

theorem headD_filter_key {K α : Type} [DecidableEq K] (kf : α → K) (rs : List α) (d : α) {k : K} (hk : k ∈ rs.map kf) :
    kf ((rs.filter (fun r => decide (kf r = k))).headD d) = k := by
  obtain ⟨r, hr, rfl⟩ := List.mem_map.mp hk
  have hmem : r ∈ rs.filter (fun r' => decide (kf r' = kf r)) := List.mem_filter.mpr ⟨hr, decide_eq_true rfl⟩
  cases h : rs.filter (fun r' => decide (kf r' = kf r)) with
  | nil => rw [h] at hmem; cases hmem
  | cons x _ => exact of_decide_eq_true (List.mem_filter.mp (h ▸ List.mem_cons_self : x ∈ rs.filter _)).2

theorem groupsOf_map_head {K α : Type} [DecidableEq K] (kf : α → K) (rs : List α) (d : α) :
    (groupsOf kf rs).map (fun G => kf (G.headD d)) = firstKeys (rs.map kf) := by
  rw [groupsOf, List.map_map]
  exact (List.map_congr_left (g := id) fun k hk => headD_filter_key kf rs d ((mem_firstKeys _ _).mp hk)).trans (List.map_id _)

/-- the units that a SELECT projects, made from the rows of `xs` that pass `w`: every row (no aggregate anywhere), or the groups of
    a GROUP BY over input columns. Indices: the GROUP BY list, the type of a unit, the units, and the input row and the group that
    the items of a unit are evaluated on. -/
inductive UnitsOf (n : Nat) (env : Env) (s : St) (es : List (Expr × String)) (order : List OrderItem) {β : Type} (sc : β → List Scope)
    (xs : List β) (w : β → Bool) : List Expr → (υ : Type) → List υ → (υ → List Scope) → (υ → Option (List (List Scope))) → Prop
  | rows (hagg : (Expr.anyHasAgg (es.map (·.1)) || order.any (fun o => o.exprOf.hasAgg)) = false) :
      UnitsOf n env s es order sc xs w [] β (xs.filter w) sc (fun _ => none)
  | groups {K : Type} [DecidableEq K] (gcols : List String) (hg : gcols ≠ []) (kf : β → K) (kv : K → List Value)
      (hgin : ∀ x ∈ xs, ∀ c ∈ gcols, (lookupUnqualified (sc x ++ env.outer) c).isSome = true)
      (hkey : ∀ x ∈ xs, w x = true →
        (evalExprs (cbs n) s.w.types { env with locals := sc x } (gcols.map (Expr.col ""))).exec s = (.ok (kv (kf x)), s))
      (hsame : ∀ a b, sameGroupKey (kv a) (kv b) = .ok (decide (a = b))) :
      UnitsOf n env s es order sc xs w (gcols.map (Expr.col "")) (List β) (groupsOf kf (xs.filter w))
        (fun G => (G.map sc).headD []) (fun G => some (G.map sc))

end Ledger.Sql
