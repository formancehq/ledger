import Ledger.Machine.Check
import Ledger.Proofs.MachineResolve
import Ledger.Proofs.Allotment

/-! `VisitAllotment` + `NewAllotment`: an allotment that passed the compiler's
    checks and was built at run time sums to exactly one, and has one portion per item: its
    shares sum to the amount (`allocate_take_sum`). -/
namespace Ledger.Machine

/-- The share `VisitAllotment` can add up at compile time: that of a literal; a variable or `remaining`
    counts 0. -/
def litVal : PortionE → Rat
  | .lit t =>
    match parsePortionGo t with
    | .ok (.specific r) => r
    | _ => 0
  | _ => 0

def PortionE.isRemaining : PortionE → Bool
  | .remaining => true
  | _ => false

def PortionE.isVar : PortionE → Bool
  | .var _ => true
  | _ => false

def litSum (ps : List PortionE) : Rat := (ps.map litVal).sum

def remCount (ps : List PortionE) : Nat := ps.countP (·.isRemaining)

def hasVarP (ps : List PortionE) : Bool := ps.any (·.isVar)

theorem litSum_cons (p : PortionE) (ps : List PortionE) : litSum (p :: ps) = litVal p + litSum ps := by
  simp [litSum]

theorem remCount_cons (p : PortionE) (ps : List PortionE) :
    remCount (p :: ps) = remCount ps + if p.isRemaining then 1 else 0 := by
  simp [remCount, List.countP_cons]

theorem hasVarP_cons (p : PortionE) (ps : List PortionE) :
    hasVarP (p :: ps) = (p.isVar || hasVarP ps) := by
  simp [hasVarP]

/-- A portion the compiler accepts: a literal that parses, a variable declared as a portion. -/
def PortionOK (ds : Decls) : PortionE → Prop
  | .lit t => ∃ v, parsePortionGo t = .ok v
  | .var x => ds.lookup x = some .portion
  | .remaining => True

/-- One step of the loop of `VisitAllotment`. -/
theorem checkPortion_spec {ds : Decls} {acc acc1 : AllotAcc} {p : PortionE}
    (h : checkPortion ds acc p = .ok acc1) :
    acc1.total = litVal p + acc.total ∧
    acc1.hasVariable = (acc.hasVariable || p.isVar) ∧
    acc1.hasRemaining = (acc.hasRemaining || p.isRemaining) ∧
    (p.isRemaining = true → acc.hasRemaining = false) ∧ PortionOK ds p := by
  cases p with
  | lit t =>
    simp only [checkPortion] at h
    split at h <;> cases h <;> simp_all [litVal, PortionE.isVar, PortionE.isRemaining, PortionOK]
  | var x =>
    simp only [checkPortion] at h
    split at h
    · cases h
    next t ht =>
      split at h <;> cases h
      next htp => simp [litVal, PortionE.isVar, PortionE.isRemaining, PortionOK, ht, htp]
  | remaining =>
    simp only [checkPortion] at h
    split at h <;> cases h
    simp_all [litVal, PortionE.isVar, PortionE.isRemaining, PortionOK]

/-- What the loop of `VisitAllotment` computes. -/
theorem checkPortionsRev_spec (ds : Decls) :
    (l : List PortionE) → (acc acc' : AllotAcc) → checkPortionsRev ds l acc = .ok acc' →
    acc'.total = acc.total + litSum l ∧
    (acc'.hasVariable = (acc.hasVariable || hasVarP l)) ∧
    (acc'.hasRemaining = (acc.hasRemaining || decide (0 < remCount l))) ∧
    (remCount l + (if acc.hasRemaining then 1 else 0) ≤ 1) ∧ ∀ p ∈ l, PortionOK ds p
  | [], acc, acc', h => by
    cases h
    simp only [litSum, hasVarP, remCount, List.map_nil, List.sum_nil, List.any_nil, List.countP_nil,
      add_zero, Bool.or_false, Nat.lt_irrefl, decide_false, Nat.zero_add, true_and]
    exact ⟨by split <;> omega, nofun⟩
  | p :: ps, acc, acc', h => by
    simp only [checkPortionsRev] at h
    split at h
    · cases h
    next acc1 h1 =>
    obtain ⟨i1, i2, i3, i4, i5⟩ := checkPortionsRev_spec ds ps acc1 acc' h
    obtain ⟨s1, s2, s3, s4, s5⟩ := checkPortion_spec h1
    rw [litSum_cons, remCount_cons, hasVarP_cons, i1, i2, i3, s1, s2, s3]
    rw [s3] at i4
    refine ⟨by ring, by rw [Bool.or_assoc], ?_, ?_, List.forall_mem_cons.mpr ⟨s5, i5⟩⟩ <;>
      cases hr : p.isRemaining
    · simp
    · simp
    · simpa [hr] using i4
    · -- a `remaining` here: none before, none after
      simpa [hr, s4 hr] using i4

theorem checkAllotment_ok {ds : Decls} {ps : List PortionE} (h : checkAllotment ds ps = .ok ()) :
    ∀ p ∈ ps, PortionOK ds p := by
  unfold checkAllotment at h
  split at h
  · cases h
  next acc hacc =>
    exact fun p hp => (checkPortionsRev_spec ds ps.reverse {} acc hacc).2.2.2.2 p (List.mem_reverse.mpr hp)

theorem evalPortions_forall₂ {env : Env} : {ps : List PortionE} → {vs : List Portion} →
    evalPortions env ps = .ok vs → List.Forall₂ (evalPortion env · = .ok ·) ps vs
  | [], _, h => by cases h; exact .nil
  | p :: ps, vs, h => by
    rw [evalPortions] at h
    split at h
    · cases h
    next v hv =>
    split at h <;> cases h
    next vs' hvs => exact .cons hv (evalPortions_forall₂ hvs)

theorem evalPortions_spec {env : Env} (henv : EnvGood env) {ps : List PortionE} {vs : List Portion}
    (h : List.Forall₂ (evalPortion env · = .ok ·) ps vs) :
    countRemaining vs = remCount ps ∧ (hasVarP ps = false → specificTotal vs = litSum ps) := by
  induction h with
  | nil => simp [countRemaining, remCount, specificTotal, litSum]
  | @cons p v ps vs hv _ ih =>
    obtain ⟨i1, i2⟩ := ih
    rw [remCount_cons, hasVarP_cons, litSum_cons]
    cases p with
    | lit t =>
      simp only [evalPortion] at hv
      split at hv <;> cases hv
      next q hq =>
      obtain ⟨r, rfl⟩ := parsePortionGo_specific hq
      simp only [countRemaining, specificTotal, litVal, hq, PortionE.isRemaining, PortionE.isVar,
        Bool.false_or, Bool.false_eq_true, if_false, Nat.add_zero]
      exact ⟨i1, fun hnv => by rw [i2 hnv]⟩
    | var x =>
      simp only [evalPortion] at hv
      split at hv <;> cases hv
      next q hl =>
      obtain ⟨r, rfl⟩ := henv.portion hl
      exact ⟨i1, nofun⟩
    | remaining =>
      cases hv
      simp only [countRemaining, specificTotal, litVal, PortionE.isRemaining, PortionE.isVar,
        Bool.false_or, if_true, zero_add]
      exact ⟨by rw [i1], i2⟩

theorem litSum_reverse (a : List PortionE) : litSum a.reverse = litSum a := by
  simp only [litSum, List.map_reverse, List.sum_reverse]

theorem remCount_reverse (a : List PortionE) : remCount a.reverse = remCount a := List.countP_reverse

theorem hasVarP_reverse (a : List PortionE) : hasVarP a.reverse = hasVarP a := List.any_reverse

/-- An allotment accepted by `VisitAllotment` and built by OP_MAKE_ALLOTMENT sums to one
    (`C22.compiler_only_accepts_sum_one`). -/
theorem makeAllotment_sum_one {env : Env} (henv : EnvGood env) {ds : Decls} {ps : List PortionE}
    {a : List Rat} (hc : checkAllotment ds ps = .ok ()) (hm : makeAllotment env ps = .ok a) :
    a.sum = 1 := by
  unfold checkAllotment at hc
  split at hc
  · cases hc
  next acc hacc =>
  obtain ⟨c1, c2, c3, c4, _⟩ := checkPortionsRev_spec ds ps.reverse {} acc hacc
  simp only [litSum_reverse, remCount_reverse, hasVarP_reverse, zero_add, Bool.false_or,
    Bool.false_eq_true, if_false, Nat.add_zero] at c1 c2 c3 c4
  -- a test of `VisitAllotment` that fires makes `hc` an error: left is the path where all four are false
  split_ifs at hc with h1 h2 h3 h4
  unfold makeAllotment at hm
  split at hm
  · cases hm
  next vs hvs =>
  obtain ⟨e1, e2⟩ := evalPortions_spec henv (evalPortions_forall₂ hvs)
  split at hm
  next a' hna =>
    cases hm
    by_cases hrem : remCount ps = 1
    · rw [newAllotment_sum hna, e1, hrem]; push_cast; ring
    · -- no `remaining`: the known portions sum to one and there is no variable
      have hr0 : remCount ps = 0 := by omega
      have hnr : acc.hasRemaining = false := by rw [c3, hr0]; rfl
      have ht : acc.total = 1 :=
        le_antisymm (not_lt.mp h1) (not_lt.mp fun hlt => h2 ⟨hlt, by simp [hnr]⟩)
      have hnv : hasVarP ps = false := by
        rw [← c2]
        exact Bool.eq_false_iff.mpr fun hv => h3 ⟨ht, hv⟩
      rw [newAllotment_sum hna, e1, hr0, e2 hnv, ← c1, ht]; push_cast; ring
  · split at hm <;> cases hm

theorem evalPortions_length {env : Env} (ps : List PortionE) (vs : List Portion)
    (h : evalPortions env ps = .ok vs) : vs.length = ps.length :=
  (evalPortions_forall₂ h).length_eq.symm

theorem makeAllotment_length {env : Env} {ps : List PortionE} {a : List Rat}
    (h : makeAllotment env ps = .ok a) : a.length = ps.length := by
  unfold makeAllotment at h
  split at h
  · cases h
  · rename_i vs hvs
    split at h
    · rename_i a' hna
      cases h
      rw [newAllotment_length hna, evalPortions_length ps vs hvs]
    · split at h <;> cases h

theorem allocate_length_of_make {env : Env} {ps : List PortionE} {al : List Rat}
    (hma : makeAllotment env ps = .ok al) (amt : Int) : (allocate al amt).length = ps.length := by
  rw [allocate_length, makeAllotment_length hma]

theorem AllotSrcList.portions_length (items : AllotSrcList) : items.portions.length = items.length := by
  induction items with
  | nil => rfl
  | cons p s r ih => simp [AllotSrcList.portions, AllotSrcList.length, ih]

theorem AllotDstList.portions_length : (items : AllotDstList) → items.portions.length = items.length
  | .nil => rfl
  | .cons _ _ r => by simp [AllotDstList.portions, AllotDstList.length, AllotDstList.portions_length r]

/-- The shares of an accepted allotment, one per item, sum to the amount. -/
theorem allocate_take_sum {env : Env} (henv : EnvGood env) {ds : Decls} {ps : List PortionE}
    {al : List Rat} (hc : checkAllotment ds ps = .ok ()) (hm : makeAllotment env ps = .ok al)
    (amt : Int) {n : Nat} (hn : ps.length = n) : ((allocate al amt).take n).sum = amt := by
  rw [← hn, ← allocate_length_of_make hm amt, List.take_length,
    allocate_sum al amt (makeAllotment_sum_one henv hc hm)]

end Ledger.Machine
