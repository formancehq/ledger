import Ledger.Sql.Eval

/-!
# The evaluator's functions out of fuel, and what a statement unfolds to

Every function of LeanPG's mutual evaluator block counts its fuel down and fails at `0`.

Trap: the first `rw [f]` / `unfold f` with one of these functions makes Lean derive the equations of `f` from the compiled mutual
block, in the module where it happens, and that derivation is slow. Stating the fuel-`0` case of each function here derives them
once, in a module below every user of the evaluator.
-/
namespace Ledger.Sql

theorem evalQuery_zero (a : Env) (b : Query) : evalQuery 0 a b = throw .fuel := by rw [evalQuery]
theorem lockSources_zero (a : Env) (b : SetExpr) (c : OutRow) (d : List (String × Nat)) (e : Option OutRow) : lockSources 0 a b c d e = throw .fuel := by rw [lockSources]
theorem evalCtes_zero (a : Env) (b : List Cte) : evalCtes 0 a b = throw .fuel := by rw [evalCtes]
theorem evalSetExpr_zero (a : Env) (b : SetExpr) (c : List OrderItem) : evalSetExpr 0 a b c = throw .fuel := by rw [evalSetExpr]
theorem sortOut_zero (a : Env) (b : List String) (c : List OutRow) (d : List OrderItem) : sortOut 0 a b c d = throw .fuel := by rw [sortOut]
theorem evalFromList_zero (a : Env) (b : List FromItem) (c : List (List Scope)) : evalFromList 0 a b c = throw .fuel := by rw [evalFromList]
theorem evalFrom_zero (a : Env) (b : List Scope) (c : FromItem) : evalFrom 0 a b c = throw .fuel := by rw [evalFrom]
theorem evalPrimary_zero (a : Env) (b : List Scope) (c : FromItem) : evalPrimary 0 a b c = throw .fuel := by rw [evalPrimary]
theorem evalSelect_zero (a : Env) (b : Select) (c : List OrderItem) : evalSelect 0 a b c = throw .fuel := by rw [evalSelect]
theorem protoScopes_zero (a : Env) (b : List FromItem) : protoScopes 0 a b = throw .fuel := by rw [protoScopes]
theorem execStmt_zero (a : Env) (b : Stmt) : execStmt 0 a b = throw .fuel := by rw [execStmt]
theorem evalReturning_zero (a : Env) (b : Table) (c : String) (d : List Value) (e : List Scope) (f : List SelItem) : evalReturning 0 a b c d e f = throw .fuel := by rw [evalReturning]
theorem fireBefore_zero (a : Table) (b : TrigEvent) (c : List String) (d : Option (List Value)) (e : Option (List Value)) : fireBefore 0 a b c d e = throw .fuel := by rw [fireBefore]
theorem triggerApplies_zero (a : Table) (b : TriggerDef) (c : List String) (d : Option (List Value)) (e : Option (List Value)) : triggerApplies 0 a b c d e = throw .fuel := by rw [triggerApplies]
theorem queueAfter_zero (a : Table) (b : TrigEvent) (c : List String) (d : Option (List Value)) (e : Option (List Value)) : queueAfter 0 a b c d e = throw .fuel := by rw [queueAfter]
theorem drainAfter_zero : drainAfter 0 = throw .fuel := by rw [drainAfter]
theorem runStmt_zero (a : Env) (b : Stmt) : runStmt 0 a b = throw .fuel := by rw [runStmt]
theorem buildRow_zero (a : Table) (b : List String) (c : List (Option Value)) : buildRow 0 a b c = throw .fuel := by rw [buildRow]
theorem accReturning_zero (a : Env) (b : Table) (c : String) (d : List Value) (e : List Scope) (f : List SelItem) (g : DmlAcc) : accReturning 0 a b c d e f g = throw .fuel := by rw [accReturning]
theorem insertRowStep_zero (a : Env) (b : String) (c : String) (d : String) (e : List String) (f : Option OnConflict) (g : List SelItem) (h : List (Option Value)) (i : DmlAcc) : insertRowStep 0 a b c d e f g h i = throw .fuel := by rw [insertRowStep]
theorem execInsert_zero (a : Env) (b : String) (c : String) (d : String) (e : List String) (f : InsertSrc) (g : Option OnConflict) (h : List SelItem) : execInsert 0 a b c d e f g h = throw .fuel := by rw [execInsert]
theorem evalValuesRow_zero (a : Env) (b : List Expr) : evalValuesRow 0 a b = throw .fuel := by rw [evalValuesRow]
theorem applySets_zero (a : Env) (b : Table) (c : List Value) (d : List SetItem) : applySets 0 a b c d = throw .fuel := by rw [applySets]
theorem whereHolds_zero (a : Env) (b : Option Expr) (c : List Scope) : whereHolds 0 a b c = throw .fuel := by rw [whereHolds]
theorem firstJoinMatch_zero (a : Env) (b : Option Expr) (c : Scope) (d : List (List Scope)) : firstJoinMatch 0 a b c d = throw .fuel := by rw [firstJoinMatch]
theorem updateRowStep_zero (a : Env) (b : String) (c : String) (d : List SetItem) (e : List (List Scope)) (f : Option Expr) (g : List SelItem) (h : Scope) (i : DmlAcc) : updateRowStep 0 a b c d e f g h i = throw .fuel := by rw [updateRowStep]
theorem execUpdate_zero (a : Env) (b : String) (c : String) (d : String) (e : List SetItem) (f : List FromItem) (g : Option Expr) (h : List SelItem) : execUpdate 0 a b c d e f g h = throw .fuel := by rw [execUpdate]
theorem callFunc_zero (a : String) (b : String) (c : List Value) : callFunc 0 a b c = throw .fuel := by rw [callFunc]
theorem runTrigger_zero (a : String) (b : Table) (c : Option (List Value)) (d : Option (List Value)) : runTrigger 0 a b c d = throw .fuel := by rw [runTrigger]
theorem execPl_zero (a : PlSt) (b : List PlStmt) : execPl 0 a b = throw .fuel := by rw [execPl]
theorem execPlStmt_zero (a : PlSt) (b : PlStmt) : execPlStmt 0 a b = throw .fuel := by rw [execPlStmt]

theorem evalCtes_nil (n : Nat) (env : Env) : evalCtes (n + 1) env [] = pure env := by
  rw [evalCtes]
  intro h; omega

theorem evalFromList_nil (n : Nat) (env : Env) (acc : List (List Scope)) : evalFromList (n + 1) env [] acc = pure acc := by
  rw [evalFromList]
  intro h; omega

theorem protoScopes_nil (n : Nat) (env : Env) : protoScopes (n + 1) env [] = pure [] := by
  rw [protoScopes]
  intro h; omega

theorem sortOut_nil (n : Nat) (env : Env) (cols : List String) (rows : List OutRow) : sortOut (n + 1) env cols rows [] = pure (cols, rows) := by
  rw [sortOut]
  intro h; omega

theorem execPl_nil (n : Nat) (pst : PlSt) : execPl (n + 1) pst [] = pure (pst, .normal) := by
  rw [execPl]
  intro h; omega

theorem execStmt_query (n : Nat) (env : Env) (q : Query) :
    execStmt (n + 1) env (.query q) = (do
      let rel ← evalQuery n env q
      pure { rel := rel, affected := rel.rows.length }) := by
  rw [execStmt]

theorem execStmt_insert (n : Nat) (env : Env) (ctes : List Cte) (schema table alias : String) (cols : List String) (src : InsertSrc)
    (conflict : Option OnConflict) (returning : List SelItem) :
    execStmt (n + 1) env (.insert ctes schema table alias cols src conflict returning) = (do
      let env ← evalCtes n env ctes
      execInsert n env schema table alias cols src conflict returning) := by
  rw [execStmt]

theorem execStmt_update (n : Nat) (env : Env) (ctes : List Cte) (schema table alias : String) (sets : List SetItem) (from_ : List FromItem)
    (wher : Option Expr) (returning : List SelItem) :
    execStmt (n + 1) env (.update ctes schema table alias sets from_ wher returning) = (do
      let env ← evalCtes n env ctes
      execUpdate n env schema table alias sets from_ wher returning) := by
  rw [execStmt]

theorem execStmt_insert_noCte (n : Nat) (env : Env) (schema table alias : String) (cols : List String) (src : InsertSrc)
    (conflict : Option OnConflict) (returning : List SelItem) :
    execStmt (n + 2) env (.insert [] schema table alias cols src conflict returning) =
      execInsert (n + 1) env schema table alias cols src conflict returning := by
  rw [execStmt_insert, evalCtes_nil]; rfl

theorem execStmt_update_noCte (n : Nat) (env : Env) (schema table alias : String) (sets : List SetItem) (from_ : List FromItem)
    (wher : Option Expr) (returning : List SelItem) :
    execStmt (n + 2) env (.update [] schema table alias sets from_ wher returning) =
      execUpdate (n + 1) env schema table alias sets from_ wher returning := by
  rw [execStmt_update, evalCtes_nil]; rfl

theorem execStmt_delete (n : Nat) (env : Env) (ctes : List Cte) (schema table alias : String) (using_ : List FromItem)
    (wher : Option Expr) (returning : List SelItem) :
    execStmt (n + 1) env (.delete ctes schema table alias using_ wher returning) = (do
      let env ← evalCtes n env ctes
      execDelete n env schema table alias using_ wher returning) := by
  rw [execStmt]

theorem evalSetExpr_select (n : Nat) (env : Env) (sel : Select) (order : List OrderItem) :
    evalSetExpr (n + 1) env (.select sel) order = evalSelect n env sel order := by
  rw [evalSetExpr]

end Ledger.Sql
