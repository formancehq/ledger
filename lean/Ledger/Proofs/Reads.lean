import Ledger.Reads.Select
import Ledger.Proofs.CoreVolumes

/-!
Helper lemmas for `Ledger/Props/C0{1,2,5}r.lean`, `C17r`, `C20r`, `C21r`: the key set of a volumes
table and its conservation, the revision lookup on an appended history, three-valued evaluation.
-/
namespace Ledger.Reads
open Ledger.Base Ledger.Core Ledger.Spec Ledger.Query

theorem mem_touchedKeys (txs : List TxRec) (k : Key) :
    k ∈ touchedKeys txs ↔ ∃ t ∈ txs, touches k t.postings = true :=
  (Map.mem_keys_foldl _ (fun (t : TxRec) k => touches k t.postings = true) (fun m t k =>
    (Map.mem_keys_foldl_inserts (fun p : Posting => [p.srcKey, p.dstKey]) t.postings m k).trans
      (by simp only [touches_iff, List.mem_cons, List.not_mem_nil, or_false, @eq_comm _ k])) txs [] k).trans
    (by simp [Map.keys])

theorem touchedKeys_nodup (txs : List TxRec) : (touchedKeys txs).Nodup :=
  Map.keys_nodup (Map.WF_foldl _ (fun _ t h =>
    Map.WF_foldl_inserts (fun p : Posting => [p.srcKey, p.dstKey]) t.postings h) txs Map.WF_nil)

theorem touches_allPostings (txs : List TxRec) (k : Key) :
    touches k (allPostings txs) = true ↔ ∃ t ∈ txs, touches k t.postings = true := by
  induction txs with
  | nil => simp [allPostings, touches]
  | cons t ts ih =>
    simp only [allPostings, touches_append, Bool.or_eq_true, ih, List.mem_cons, exists_eq_or_imp]

theorem volumesTable_row (txs : List TxRec) (w : Window) (mode : DateMode) (e : Key × Volumes)
    (h : e ∈ volumesTable txs w mode) : e.2 = volumesAt txs w mode e.1 := by
  obtain ⟨k, _, rfl⟩ := List.mem_map.mp h
  rfl

theorem mem_volumesTable_keys (txs : List TxRec) (w : Window) (mode : DateMode) (k : Key) :
    k ∈ (volumesTable txs w mode).keys ↔ ∃ t ∈ txsIn txs w mode, touches k t.postings = true := by
  rw [volumesTable, Map.keys_map_pair, mem_touchedKeys]

theorem currentVolumes_row (txs : List TxRec) (e : Key × Volumes) (h : e ∈ currentVolumes txs) :
    e.2 = volumesOf txs e.1 := by
  obtain ⟨k, _, rfl⟩ := List.mem_map.mp h
  rfl

theorem mem_currentVolumes_keys (txs : List TxRec) (k : Key) :
    k ∈ (currentVolumes txs).keys ↔ touches k (allPostings txs) = true := by
  rw [currentVolumes, Map.keys_map_pair, mem_touchedKeys, touches_allPostings]

theorem mem_currentVolumes_iff (txs : List TxRec) (e : Key × Volumes) :
    e ∈ currentVolumes txs ↔ touches e.1 (allPostings txs) = true ∧ e.2 = volumesOf txs e.1 := by
  rw [touches_allPostings, ← mem_touchedKeys, currentVolumes, List.mem_map]
  constructor
  · rintro ⟨k, hk, rfl⟩; exact ⟨hk, rfl⟩
  · rintro ⟨hk, hv⟩; exact ⟨e.1, hk, by rw [← hv]⟩

/-- The accounts listed at `t`: those of the journal with a row and a first usage at or before `t`. -/
theorem mem_accountsAt {feat : Features} {l : Ledger} {t : Int} {v : AccountView} :
    v ∈ accountsAt feat l (some t) ↔
      ∃ a ∈ l.accounts, ∃ r fu ins, acctRowOf l a = some r ∧ firstUsage l a = some fu ∧ insertionDate l a = some ins ∧
        fu ≤ t ∧ v = { address := a, metadata := accountMetaRead feat l a (some t), firstUsage := fu,
                       insertionDate := ins, updatedAt := r.updatedAt } := by
  unfold accountsAt
  rw [List.mem_filterMap]
  refine exists_congr fun a => and_congr_right fun _ => ?_
  constructor
  · intro h
    split at h
    · rename_i r fu ins hr hf hi
      dsimp only at h
      split at h
      · cases h; exact ⟨r, fu, ins, hr, hf, hi, of_decide_eq_true ‹_›, rfl⟩
      · cases h
    · cases h
  · rintro ⟨r, fu, ins, hr, hf, hi, hle, rfl⟩
    simp only [hr, hf, hi, hle, decide_true, if_true]

theorem touchedTable_conserved (txs : List TxRec) (s : String) :
    netIn s ((touchedKeys txs).map fun k => (k, volumesOf txs k)) = 0 := by
  obtain ⟨h1, h2⟩ := table_sums (m := (touchedKeys txs).map fun k => (k, volumesOf txs k)) (ps := allPostings txs)
    (by rw [Map.keys_map_pair]; exact touchedKeys_nodup txs)
    (fun x hx => by obtain ⟨k, _, rfl⟩ := List.mem_map.mp hx; rfl)
    (fun p hp => by
      rw [Map.keys_map_pair, mem_touchedKeys, mem_touchedKeys, ← touches_allPostings, ← touches_allPostings]
      exact ⟨touches_srcKey hp, touches_dstKey hp⟩) s
  rw [netIn_eq, h1, h2]; omega

theorem revisionAt_append (revs : List Revision) (d : Int) (m : Metadata) (t : Int) :
    revisionAt (revs ++ [(d, m)]) t = if d ≤ t then m else revisionAt revs t := by
  unfold revisionAt
  rw [List.filter_append]
  by_cases h : d ≤ t
  · simp [h]
  · simp [h]

theorem and3_some (a b : Bool) : and3 (some a) (some b) = some (a && b) := by
  cases a <;> cases b <;> rfl

theorem or3_some (a b : Bool) : or3 (some a) (some b) = some (a || b) := by
  cases a <;> cases b <;> rfl

/-- Every leaf is defined (its SQL value is not NULL). -/
def DefinedOn (isNull : Query.Op → String → Val → Bool) (f : Filter) : Prop :=
  ∀ l ∈ f.leaves, isNull l.1 l.2.1 l.2.2 = false

mutual
theorem eval3_defined (isNull : Query.Op → String → Val → Bool) (sem : Query.Op → String → Val → Bool) :
    ∀ (f : Filter), (∀ l ∈ f.leaves, isNull l.1 l.2.1 l.2.2 = false) →
      eval3 (fun op k v => if isNull op k v then none else some (sem op k v)) f = some (Filter.eval sem f)
  | .leaf op k v, h => by
    have := h (op, k, v) (by simp only [Filter.leaves, List.mem_singleton])
    simp only [eval3, Filter.eval, this, Bool.false_eq_true, if_false]
  | .not g, h => by
    rw [eval3, eval3_defined isNull sem g (by simpa only [Filter.leaves] using h), Filter.eval]; rfl
  | .and fs, h => by
    rw [eval3, evalAll3_defined isNull sem fs (by simpa only [Filter.leaves] using h), Filter.eval]
  | .or fs, h => by
    rw [eval3, evalAny3_defined isNull sem fs (by simpa only [Filter.leaves] using h), Filter.eval]
    cases fs.isEmpty <;> rfl
theorem evalAll3_defined (isNull : Query.Op → String → Val → Bool) (sem : Query.Op → String → Val → Bool) :
    ∀ (fs : List Filter), (∀ l ∈ Filter.leavesList fs, isNull l.1 l.2.1 l.2.2 = false) →
      evalAll3 (fun op k v => if isNull op k v then none else some (sem op k v)) fs = some (Filter.evalAll sem fs)
  | [], _ => rfl
  | g :: gs, h => by
    rw [Filter.leavesList] at h
    rw [evalAll3, eval3_defined isNull sem g (fun l hl => h l (List.mem_append_left _ hl)),
      evalAll3_defined isNull sem gs (fun l hl => h l (List.mem_append_right _ hl)), and3_some, Filter.evalAll]
theorem evalAny3_defined (isNull : Query.Op → String → Val → Bool) (sem : Query.Op → String → Val → Bool) :
    ∀ (fs : List Filter), (∀ l ∈ Filter.leavesList fs, isNull l.1 l.2.1 l.2.2 = false) →
      evalAny3 (fun op k v => if isNull op k v then none else some (sem op k v)) fs = some (Filter.evalAny sem fs)
  | [], _ => rfl
  | g :: gs, h => by
    rw [Filter.leavesList] at h
    rw [evalAny3, eval3_defined isNull sem g (fun l hl => h l (List.mem_append_left _ hl)),
      evalAny3_defined isNull sem gs (fun l hl => h l (List.mem_append_right _ hl)), or3_some, Filter.evalAny]
end

theorem foldl_congr_mem {α β : Type} (f g : β → α → β) (l : List α) (b : β)
    (h : ∀ b, ∀ a ∈ l, f b a = g b a) : l.foldl f b = l.foldl g b := by
  induction l generalizing b with
  | nil => rfl
  | cons a as ih =>
    simp only [List.foldl_cons]
    rw [h b a List.mem_cons_self]
    exact ih _ (fun b a' ha' => h b a' (List.mem_cons_of_mem _ ha'))

end Ledger.Reads
