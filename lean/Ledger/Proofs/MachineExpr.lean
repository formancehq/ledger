import Ledger.Machine.Sem

/-! The machine's expression evaluators: the arithmetic case named (`evalBin`, `arithV`), and
    success inverted — of `+` / `-`, and of the three typed evaluators. -/
namespace Ledger.Machine

/-- `a + b` and `a - b` on values, as `evalExpr` and the VM compute them: `f` is the integer
    operation, `k` the error kind on an asset mismatch. -/
def arithV (f : Int → Int → Int) (k w : String) : Value → Value → Except Err Value
  | .number x, .number y => .ok (.number (f x y))
  | .monetary a1 x, .monetary a2 y =>
    if a1 ≠ a2 then .error (.run "exec" k) else .ok (.monetary a1 (some (f (nilAsZero x) (nilAsZero y))))
  | _, _ => .error (.fault w)

def evalBin (env : Env) (l r : Expr) (k : Value → Value → Except Err Value) : Except Err Value :=
  match evalExpr env l with
  | .error e => .error e
  | .ok a =>
    match evalExpr env r with
    | .error e => .error e
    | .ok b => k a b

theorem evalExpr_add (env : Env) (l r : Expr) :
    evalExpr env (.add l r) = evalBin env l r (arithV (· + ·) "add-asset" "add: operand types") := rfl

theorem evalExpr_sub (env : Env) (l r : Expr) :
    evalExpr env (.sub l r) = evalBin env l r (arithV (· - ·) "sub-asset" "sub: operand types") := rfl

theorem evalBin_ok {env : Env} {l r : Expr} {k : Value → Value → Except Err Value} {v : Value}
    (h : evalBin env l r k = .ok v) :
    ∃ a b, evalExpr env l = .ok a ∧ evalExpr env r = .ok b ∧ k a b = .ok v := by
  unfold evalBin at h
  split at h
  · cases h
  split at h
  · cases h
  exact ⟨_, _, ‹_›, ‹_›, h⟩

theorem arithV_ok {f : Int → Int → Int} {k w : String} {a b v : Value} (h : arithV f k w a b = .ok v) :
    (∃ x y, a = .number x ∧ b = .number y ∧ v = .number (f x y)) ∨
    (∃ c x y, a = .monetary c x ∧ b = .monetary c y ∧
      v = .monetary c (some (f (nilAsZero x) (nilAsZero y)))) := by
  unfold arithV at h
  split at h
  · cases h; exact .inl ⟨_, _, rfl, rfl, rfl⟩
  · split at h <;> cases h
    obtain rfl := Decidable.not_not.mp ‹_›
    exact .inr ⟨_, _, _, rfl, rfl, rfl⟩
  · cases h

theorem evalAccount_ok {env : Env} {e : Expr} {a : String} (h : evalAccount env e = .ok a) :
    evalExpr env e = .ok (.account a) := by
  unfold evalAccount at h
  split at h <;> cases h
  assumption

theorem evalMonetary_ok {env : Env} {e : Expr} {a : String} {v : Option Int}
    (h : evalMonetary env e = .ok (a, v)) : evalExpr env e = .ok (.monetary a v) := by
  unfold evalMonetary at h
  split at h <;> cases h
  assumption

theorem evalAssetE_ok {env : Env} {e : Expr} {a : String} (h : evalAssetE env e = .ok a) :
    evalExpr env e = .ok (.asset a) := by
  unfold evalAssetE at h
  split at h <;> cases h
  assumption

end Ledger.Machine
