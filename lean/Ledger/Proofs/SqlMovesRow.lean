import Ledger.Proofs.SqlMovesTrig
import Ledger.Proofs.SqlText
import Ledger.Generated.WriteSql
open Ledger Ledger.Sql Ledger.Generated Ledger.Core
namespace Ledger.Sql
open Ledger.Spec

theorem castTo_null (te : TypeEnv) (ty : SqlType) : castTo te ty .null = .ok .null := rfl

theorem castTo_bool (te : TypeEnv) (x : Bool) : castTo te (SqlType.mk "" "bool" "" false) (.bool x) = .ok (.bool x) := by
  simp [castTo, castNonArray, castScalar, isIntType, pure, Except.pure]

def mvInsertCols : List String :=
  ["transactions_id", "is_source", "accounts_address", "amount", "asset", "insertion_date", "effective_date", "post_commit_volumes", "ledger"]

/-- the literals of one VALUES row of `InsertMoves` denote the Spec move `m` (all columns but `seq` and the effective volumes):
    the rendered timestamps and composite literal parse to `m`'s dates and volumes. -/
structure MvLit (te : TypeEnv) (r : WriteSql.P.MoveRow) (m : Spec.MoveRow) : Prop where
  txId : r.transactions_id = (m.txId : Int)
  txRange : (m.txId : Int) ≤ 9223372036854775807
  isSource : r.is_source = m.isSource
  account : r.accounts_address = m.account
  amount : r.amount = m.amount
  asset : r.asset = m.asset
  ins : castTo te tyTimestamp (.text r.insertion_date) = .ok (.ts m.insertionDate)
  eff : castTo te tyTimestamp (.text r.effective_date) = .ok (.ts m.effectiveDate)
  pcv : castTo te tyVolumes (.text r.post_commit_volumes) = .ok (volVal m.pcv)

/-- the evaluated VALUES row -/
def mvSrcRow (r : WriteSql.P.MoveRow) (ledger : String) : List (Option Value) :=
  [some (.int r.transactions_id), some (.bool r.is_source), some (.text r.accounts_address), some (.text (toString r.amount)),
   some (.text r.asset), some (.text r.insertion_date), some (.text r.effective_date), some (.text r.post_commit_volumes), some (.text ledger)]

def mvSeqFull (b : String) : String := b ++ "." ++ "moves_seq_seq"

theorem exec_buildRow_moves (n : Nat) (b l : String) (trigs : List TriggerDef) (nr : Nat) (rows : List Ver) (s : St)
    (hsch : schemaOf (mvFull b) = b) (sq : Seq) (hsq : s.w.seqs.find? (·.name == mvSeqFull b) = some sq)
    (r : WriteSql.P.MoveRow) (m : Spec.MoveRow) (hlit : MvLit s.w.types r m) (hseq : (m.seq : Int) = sq.next)
    (hrange : sq.next ≤ 9223372036854775807) :
    (buildRow (n + 3) ((mvT b trigs nr).withRows rows) mvInsertCols (mvSrcRow r l)).exec s =
      (.ok (mvValsX l m .null), s.withSeqs (seqsSet (mvSeqFull b) sq.next s.w.seqs)) := by
  have hm : (0 : Int) ≤ sq.next := by rw [← hseq]; omega
  have htx := hlit.txRange
  rw [exec_buildRow_serial n ((mvT b trigs nr).withRows rows) mvInsertCols (mvSrcRow r l) s _ _ "moves_seq_seq" sq _ _ rfl
    (show mvInsertCols.find? (fun c => !(mvCols.contains c)) = none by decide) rfl rfl rfl (by decide) (by decide) (by rw [show schemaOf ((mvT b trigs nr).withRows rows).name = b from hsch]; exact hsq)
    (castTo_int8 _ _ (by omega) hrange)
    (.cast rfl (castTo_varchar_text _ l) <| .cast rfl (castTo_varchar_text _ _) <| .cast rfl (castTo_varchar_text _ _) <|
     .cast rfl (castTo_numeric_text _ _) <| .cast rfl hlit.ins <| .cast rfl hlit.eff <| .cast rfl hlit.pcv <| .null rfl (.inr rfl) <|
     .cast rfl (castTo_bool _ _) <| .cast rfl (castTo_int8 _ _ (by rw [hlit.txId]; omega) (by rw [hlit.txId]; exact htx)) .nil),
    show schemaOf ((mvT b trigs nr).withRows rows).name = b from hsch, ← hseq, hlit.account, hlit.asset, hlit.amount, hlit.isSource, hlit.txId]
  rfl

end Ledger.Sql
