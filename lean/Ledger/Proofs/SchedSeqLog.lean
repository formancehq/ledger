import Ledger.Proofs.SchedRegion

/-!
# Under the strict discipline the log of a ledger is a sequential log

`logSt l₀ w`: the rows of the ledger in insertion order, its sequence, its ids in commit order. `seq_sim`:
whoever moves, a step under `GInv ⟨K, l₀, true⟩` is a step of a single-writer log — nothing, COMMIT of all
that is in progress, its removal, or the append of the row after the last one. Invariants of the log
(`ChainSt`, `BlockSt`) are then proved on lists; the concurrency is dealt with here, once.
-/
namespace Ledger.Sched

structure LogSt where
  rows : List Lg
  seq : Nat
  coms : List Nat

def logSt (l₀ : Nat) (w : World) : LogSt :=
  ⟨Lof l₀ w, w.logSeq l₀, (w.logCommits.filter (fun c => c.1 = l₀)).map (·.2.1)⟩

/-- `n`: where the sequence stands afterwards (a failed INSERT keeps its `nextval`) -/
inductive SeqStep (a : LogSt) : LogSt → Prop
  | frame (n : Nat) : a.seq ≤ n → SeqStep a ⟨a.rows, n, a.coms⟩
  | commit (n : Nat) : a.seq ≤ n →
      SeqStep a ⟨a.rows.map (fun e => { e with com := true }), n, a.coms ++ (a.rows.filter (fun e => !e.com)).map (·.id)⟩
  | undo (n : Nat) : a.seq ≤ n → SeqStep a ⟨a.rows.filter (·.com), n, a.coms⟩
  | append (e : Lg) (n : Nat) : a.seq + 1 ≤ n → e.com = false → e.id = a.seq + 1 → e.prev = maxId (a.rows.map (·.id)) →
      SeqStep a ⟨a.rows ++ [e], n, a.coms⟩

theorem SeqStep.later {a b : LogSt} (h : SeqStep a b) (n : Nat) (hn : b.seq ≤ n) : SeqStep a ⟨b.rows, n, b.coms⟩ := by
  cases h with
  | frame m hm => exact .frame n (Nat.le_trans hm hn)
  | commit m hm => exact .commit n (Nat.le_trans hm hn)
  | undo m hm => exact .undo n (Nat.le_trans hm hn)
  | append e m hm h1 h2 h3 => exact .append e n (Nat.le_trans hm hn) h1 h2 h3

/-- `T` is settled: the sequence has reached it and every row still in progress lies above it -/
def Mark (a : LogSt) (T : Nat) : Prop := T ≤ a.seq ∧ ∀ e ∈ a.rows, e.com = false → T < e.id

/-- what is settled stays settled, and so do the committed ids up to it -/
theorem Mark.step {a b : LogSt} {T : Nat} (h : Mark a T) (hs : SeqStep a b) :
    Mark b T ∧ ∀ i, i ≤ T → (i ∈ (b.rows.filter (·.com)).map (·.id) ↔ i ∈ (a.rows.filter (·.com)).map (·.id)) := by
  cases hs with
  | frame n hn => exact ⟨⟨Nat.le_trans h.1 hn, h.2⟩, fun _ _ => Iff.rfl⟩
  | undo n hn =>
    refine ⟨⟨Nat.le_trans h.1 hn, fun e he hec => ?_⟩, fun i _ => ?_⟩
    · rw [(List.mem_filter.mp he).2] at hec; cases hec
    · show i ∈ ((a.rows.filter (·.com)).filter (·.com)).map (·.id) ↔ _
      simp only [List.filter_filter, Bool.and_self]
  | commit n hn =>
    refine ⟨⟨Nat.le_trans h.1 hn, fun e he hec => ?_⟩, fun i hi => ⟨fun hm => ?_, fun hm => ?_⟩⟩
    · obtain ⟨_, _, rfl⟩ := List.mem_map.mp he; cases hec
    · -- a row committed now lies above the mark
      obtain ⟨e', he', rfl⟩ := List.mem_map.mp hm
      obtain ⟨e, he, rfl⟩ := List.mem_map.mp (List.mem_filter.mp he').1
      cases hc : e.com with
      | true => exact List.mem_map.mpr ⟨e, List.mem_filter.mpr ⟨he, hc⟩, rfl⟩
      | false => exact absurd (h.2 e he hc) (Nat.not_lt.mpr hi)
    · obtain ⟨e, he, rfl⟩ := List.mem_map.mp hm
      exact List.mem_map.mpr ⟨{ e with com := true },
        List.mem_filter.mpr ⟨List.mem_map.mpr ⟨e, (List.mem_filter.mp he).1, rfl⟩, rfl⟩, rfl⟩
  | append e n hn hc hid hprev =>
    refine ⟨⟨Nat.le_trans h.1 (Nat.le_of_succ_le hn), ?_⟩, fun i _ => ?_⟩
    · rw [List.forall_mem_append, List.forall_mem_singleton]
      exact ⟨h.2, fun _ => hid ▸ Nat.lt_succ_of_le h.1⟩
    · show i ∈ ((a.rows ++ [e]).filter (·.com)).map (·.id) ↔ _
      rw [List.filter_append, List.filter_cons_of_neg (by rw [hc]; nofun), List.filter_nil, List.append_nil]

variable {l₀ : Nat} {w : World} {t : Sid}

/-- the writer's COMMIT commits every row in progress -/
theorem seqStep_commit (hW : Writer l₀ w t) : SeqStep (logSt l₀ w) (logSt l₀ (w.commitTx t)) := by
  have hrows : (Lof l₀ w).map (flipCom t) = (Lof l₀ w).map (fun e => { e with com := true }) :=
    List.map_congr_left fun e he => by
      unfold flipCom
      split
      · rfl
      · rename_i hb
        cases hc : e.com with
        | false => exact absurd (hW e he hc) hb
        | true => rw [← hc]
  have hnew : (Lof l₀ w).filter (fun e => e.by_ = t && !e.com) = (Lof l₀ w).filter (fun e => !e.com) :=
    List.filter_congr fun e he => by cases hc : e.com <;> simp [hW e he, hc]
  unfold logSt
  rw [lof_commit, coms_commit, hrows, hnew, List.map_append, List.map_map]
  exact .commit _ (Nat.le_refl _)

theorem seqStep_undo (b : Bool) (hW : Writer l₀ w t) : SeqStep (logSt l₀ w) (logSt l₀ (w.undo t b)) := by
  have : (Lof l₀ w).filter (fun e => e.com || e.by_ ≠ t) = (Lof l₀ w).filter (·.com) :=
    List.filter_congr fun e he => by cases hc : e.com <;> simp [hW e he, hc]
  unfold logSt
  rw [lof_undo, this]
  exact .undo _ (Nat.le_refl _)

/-- the writer sees every row, so the trigger chains from the last id of the ledger -/
theorem seqStep_insLog (hW : Writer l₀ w t) (ik hash tx : Nat) :
    SeqStep (logSt l₀ w) (logSt l₀ (w.afterInsLog t l₀ ik hash true none tx)) := by
  unfold logSt
  rw [lof_insLog, if_pos rfl]
  refine .append _ _ (Nat.le_of_eq (by simp [World.afterInsLog, bump])) rfl rfl ?_
  show (if true = true then maxId ((w.logs.filter (fun e => e.l = l₀ && visLog t e)).map (·.id)) else 0) = _
  rw [if_pos rfl, hW.sees_all]

theorem seq_sim {d : Disc} (hstrict : d.strict = true) (hg : GInv d w) (t : Sid) :
    SeqStep (logSt d.l₀ w) (logSt d.l₀ (step w t)) :=
  log_step_inv (P := fun w' => SeqStep (logSt d.l₀ w) (logSt d.l₀ w')) hg (.frame _ (Nat.le_refl _))
    (fun w1 w2 hs h => by
      unfold logSt at h ⊢
      rw [hs.lof, hs.coms]; exact h.later _ hs.seq)
    seqStep_commit (fun b => seqStep_undo b)
    (fun ik hash sync id tx hW hst => by
      obtain ⟨rfl, rfl⟩ := hst hstrict
      exact seqStep_insLog hW ik hash tx)
    (fun hs => by rw [hstrict] at hs; cases hs)

/-- what every transition of the sequential log keeps holds of the ledger's log along every schedule -/
theorem seq_inv_run {I : LogSt → Prop} (hI : ∀ {a b}, I a → SeqStep a b → I b) {d : Disc} (hstrict : d.strict = true)
    (σ : Schedule) (hg : GInv d w) (h : I (logSt d.l₀ w)) : GInv d (run σ w) ∧ I (logSt d.l₀ (run σ w)) :=
  run_inv₂ (Q := fun w => I (logSt d.l₀ w)) (ginv_step d) (fun _ s hg h => hI h (seq_sim hstrict hg s)) σ w hg h

end Ledger.Sched
