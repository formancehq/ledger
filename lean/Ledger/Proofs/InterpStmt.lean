import Ledger.Proofs.InterpSrc
import Ledger.Proofs.InterpDst

/-!
Statements: one send of the fragment (`send_sim`, `sendAll_sim`: from a source tree;
`send_allot_sim`: from an allotment of sources) run by both models from related states ends in
related states, or fails on both sides.
-/
namespace Ledger.Interp
open Ledger.Machine

/-- The relation between the two states between statements. -/
structure SRel (P : List (String × String)) (st : State) (ist : IState) : Prop where
  rel : Rel P st.bal ist.bal
  wf : st.bal.WF
  posts : unitsP st.postings = unitsP ist.postings
  nnM : ∀ p ∈ st.postings, 0 ≤ p.amount
  okI : ∀ p ∈ ist.postings, badPosting p = false
  tx : st.txMeta = ist.txMeta
  acc : st.accMeta.map (fun x => (x.1, x.2.1, valStr x.2.2)) = ist.accMeta
  queue : ist.queue = []

def StmtAgree (P : List (String × String)) (r : Except Err State) (ri : Except String IState) : Prop :=
  match r, ri with
  | .error _, .error _ => True
  | .ok st, .ok ist => SRel P st ist
  | _, _ => False

theorem leavesIn_spec {P : List (String × String)} {env : Env} {c : String} {es : List Expr}
    (h : leavesIn P env c es = true) : LeavesIn P env c es := by
  intro e he
  have := List.all_eq_true.mp h e he
  split at this
  · rename_i a ha
    exact ⟨a, ha, by simpa using this⟩
  · cases this

theorem stmtWf_send {env : Env} {mon : Expr} {s : Source} {d : Dest}
    (h : stmtWf env (.send mon (.src s) d) = true) :
    ∃ c amt, litsOK mon = true ∧ evalMonetary env mon = .ok (c, some amt) ∧ validAsset c = true ∧
      srcWf env c s = true ∧ dstWf env c d = true := by
  simp only [stmtWf, Bool.and_eq_true] at h
  obtain ⟨hl, h2⟩ := h
  split at h2
  · rename_i c amt hmon
    simp only [Bool.and_eq_true] at h2
    exact ⟨c, amt, hl, hmon, h2.1.1, h2.1.2, h2.2⟩
  · cases h2

theorem stmtWf_sendAllot {env : Env} {mon : Expr} {items : AllotSrcList} {d : Dest}
    (h : stmtWf env (.send mon (.allot items) d) = true) :
    ∃ c amt, litsOK mon = true ∧ evalMonetary env mon = .ok (c, some amt) ∧ 0 ≤ amt ∧
      validAsset c = true ∧ allotOK env items.portions = true ∧ allotSrcWf env c items = true ∧
      dstWf env c d = true := by
  simp only [stmtWf, Bool.and_eq_true] at h
  obtain ⟨hl, h2⟩ := h
  split at h2
  · rename_i c amt hmon
    simp only [Bool.and_eq_true, decide_eq_true_eq] at h2
    exact ⟨c, amt, hl, hmon, h2.1.1.1.1, h2.1.1.1.2, h2.1.1.2, h2.1.2, h2.2⟩
  · cases h2

theorem stmtWf_sendAll {env : Env} {ae : Expr} {s : Source} {d : Dest}
    (h : stmtWf env (.sendAll ae (.src s) d) = true) :
    ∃ c, litsOK ae = true ∧ evalAssetE env ae = .ok c ∧ validAsset c = true ∧ srcWf env c s = true ∧
      s.fallback = none ∧ dstWf env c d = true := by
  simp only [stmtWf, Bool.and_eq_true] at h
  obtain ⟨hl, h2⟩ := h
  split at h2
  · rename_i c hc
    simp only [Bool.and_eq_true, Option.isNone_iff_eq_none] at h2
    exact ⟨c, hl, hc, h2.1.1.1, h2.1.1.2, h2.1.2, h2.2⟩
  · cases h2

theorem leftmost_monetary {env : Env} : ∀ (e : Expr) (a : String) (x : Option Int),
    Machine.evalExpr env e = .ok (.monetary a x) →
    ∃ x', Machine.evalExpr env e.leftmost = .ok (.monetary a x') := by
  intro e
  induction e with
  | portion t =>
    intro a x h
    simp only [Machine.evalExpr] at h
    split at h <;> cases h
  | mon a' n _ => exact fun a x h => ⟨x, h⟩
  | var y => exact fun a x h => ⟨x, h⟩
  | add l r ihl _ | sub l r ihl _ =>
    intro a x h
    obtain ⟨va, vb, ha, _, ⟨_, _, _, _, hv⟩ | ⟨c, _, _, rfl, _, hv⟩⟩ := Arith.ok (by constructor) h
    · cases hv
    · cases hv; exact ihl _ _ ha
  | _ => intro a x h; cases h

theorem leftmostAsset_of_monetary {env : Env} {mon : Expr} {c : String} {x : Option Int}
    (h : evalMonetary env mon = .ok (c, x)) : leftmostAsset env mon = .ok c := by
  obtain ⟨x', hx'⟩ := leftmost_monetary mon _ _ (evalMonetary_ok h)
  simp [leftmostAsset, hx']

theorem take_neg (ps : List Part) {amt : Int} (h : amt < 0) : take ps amt = none := by
  have : (takeLoop ps amt).2.2 = amt := by
    cases ps with
    | nil => rfl
    | cons p ps => unfold takeLoop; rw [if_neg (by omega)]
  simp [take, this]; omega

theorem takeFromSource_neg (env : Env) (fb : Option Expr) (f : Funding) (c : String) {amt : Int}
    (h : amt < 0) (b : Balances) : ∃ e, takeFromSource env fb f (c, some amt) b = .error e := by
  cases fb with
  | some e => exact ⟨.run "exec" "negative-max", by simp [takeFromSource, takeMaxStep, needAmt, h]⟩
  | none =>
    by_cases hc : f.asset = c
    · exact ⟨.run "exec" "insufficient", by simp [takeFromSource, hc, needAmt, take_neg f.parts h]⟩
    · exact ⟨.run "exec" "take-asset", by simp [takeFromSource, hc]⟩

/-- `evalSource` + `takeFromSource amt` against `tryTakingExact amt`: both fail (insufficient
    funds), or the machine's funding and the interpreter's pushed senders are the same units
    and the balances stay related. -/
theorem exact_sim {env ienv : Env} (heq : EnvEq env ienv) (henv : EnvOK env)
    {P : List (String × String)} {c : String} (s : Source) (hws : srcWf env c s = true)
    (hin : LeavesIn P env c s.neededAccts) (b : Balances) (ist : IState) (amt : Int)
    (hamt : 0 ≤ amt) (hc : ist.asset = c) (hbwf : b.WF) (hrel : Rel P b ist.bal) :
    ∃ f b1, evalSource Cfg.fixed env c s b = .ok (f, b1) ∧
      ((∃ e e', takeFromSource env s.fallback f (c, some amt) b1 = .error e ∧
          tryExact ienv s amt ist = .error e') ∨
       (∃ r b2 ist1, takeFromSource env s.fallback f (c, some amt) b1 = .ok (r, b2) ∧
          r.asset = c ∧ partsNonneg r.parts ∧ total r.parts = amt ∧
          tryExact ienv s amt ist = .ok ist1 ∧ Pushed c ist ist1 (units r.parts) ∧
          (∀ x ∈ units r.parts, validAccount x = true) ∧ Rel P b2 ist1.bal ∧ b2.WF)) := by
  obtain ⟨f, b1, h1, h2, h3, hval, sent, ist1, h4, h5, h6⟩ :=
    src_sim heq henv s hws hin b ist amt hamt hc hbwf hrel.hasP (fun _ => hrel)
  have hn := (evalSource_ok Cfg.fixed env c s b f b1 h1).toSrcOK.nonneg f (by simp)
  have hlen := total_eq_length f.parts hn
  refine ⟨f, b1, h1, ?_⟩
  -- what the machine takes from the funding, as units
  have key : (∃ e, takeFromSource env s.fallback f (c, some amt) b1 = .error e ∧ sent ≠ amt) ∨
      (∃ r b2, takeFromSource env s.fallback f (c, some amt) b1 = .ok (r, b2) ∧
        units r.parts = takeExt amt.toNat (units f.parts) (fbOf env s.fallback) ∧ sent = amt) := by
    cases hfb : s.fallback with
    | some e =>
      obtain ⟨g, b2, g1, _, g3⟩ := takeMaxStep_units (b := b1) hn h2 hamt (fb := some e)
        (fun e' he' => h3 e' (by rw [hfb]; exact he'))
      obtain ⟨w, hw⟩ := h3 e hfb
      rw [hfb] at h6
      simp only [fbOf, hw, takeExt_length_some] at h6
      exact .inr ⟨g, b2, by simpa [takeFromSource] using g1, g3, by omega⟩
    | none =>
      rw [hfb] at h6
      simp only [fbOf, takeExt_none, List.length_take] at h6
      cases ht : take f.parts amt with
      | some x =>
        have := (take_isSome_iff f.parts hn amt hamt).mp (by simp [ht])
        exact .inr ⟨⟨f.asset, x.1⟩, repay b1 f.asset x.2, by simp [takeFromSource, h2, needAmt, ht],
          by simp [fbOf, takeExt_none, (take_units hn ht).1], by omega⟩
      | none =>
        have := mt (take_isSome_iff f.parts hn amt hamt).mpr (by simp [ht])
        exact .inl ⟨.run "exec" "insufficient", by simp [takeFromSource, h2, needAmt, ht], by omega⟩
  rcases key with ⟨e, ke, kne⟩ | ⟨r, b2, k1, k3, rfl⟩
  · exact .inl ⟨e, "MissingFundsErr", ke, by simp [tryExact, h4, kne]⟩
  · obtain ⟨hok, k2, k4⟩ := evalSource_take h1 k1
    rw [← k3] at h5 hval
    exact .inr ⟨r, b2, ist1, k1, k2, hok.nonneg r (by simp), (Option.some.inj k4).symm,
      by simp [tryExact, h4], h5, hval, rel_after_full hrel hbwf k2 hok.toSrcOK h5, hok.delta.wf hbwf⟩

/-- The item loop of an allotment source: `evalSource` + `takeFromSource share` per item
    against `tryTakingExact share` per item. `c` twice: the asset of the statement and that of the
    shares, the same in the fragment. -/
theorem allotsrc_sim {env ienv : Env} (heq : EnvEq env ienv) (henv : EnvOK env)
    {P : List (String × String)} {c : String} : (items : AllotSrcList) →
    allotSrcWf env c items = true → LeavesIn P env c items.neededAccts →
    ∀ (ps : List Int) (b : Balances) (ist : IState), ps.length = items.length →
      (∀ p ∈ ps, 0 ≤ p) → ist.asset = c → b.WF → Rel P b ist.bal →
    ((∃ e e', evalAllotSrc Cfg.fixed env c c items ps b = .error e ∧
        takeAllot ienv items ps ist = .error e') ∨
     (∃ fs b1 ist1, evalAllotSrc Cfg.fixed env c c items ps b = .ok (fs, b1) ∧
        (∀ f ∈ fs, f.asset = c ∧ partsNonneg f.parts) ∧ fs.length = items.length ∧
        ((unitsAll fs).length : Int) = ps.sum ∧
        takeAllot ienv items ps ist = .ok ist1 ∧ Pushed c ist ist1 (unitsAll fs) ∧
        (∀ x ∈ unitsAll fs, validAccount x = true) ∧ Rel P b1 ist1.bal ∧ b1.WF))
  | .nil, _, _, ps, b, ist, hlen, _, _, hbwf, hrel => by
    have hps : ps = [] := List.eq_nil_of_length_eq_zero (by simpa [AllotSrcList.length] using hlen)
    subst hps
    right
    exact ⟨[], b, ist, rfl, by simp, rfl, by simp [unitsAll], rfl,
      by simpa [unitsAll] using Pushed.refl c ist, by simp [unitsAll], hrel, hbwf⟩
  | .cons _ s rest, hwf, hin, ps, b, ist, hlen, hnn, hc, hbwf, hrel => by
    simp only [allotSrcWf, Bool.and_eq_true] at hwf
    have hin' : LeavesIn P env c (s.neededAccts ++ rest.neededAccts) := by
      simpa [AllotSrcList.neededAccts] using hin
    cases ps with
    | nil => simp [AllotSrcList.length] at hlen
    | cons p ps =>
      have hp0 : 0 ≤ p := hnn p (by simp)
      obtain ⟨f, b1, h1, hcase⟩ := exact_sim heq henv s hwf.1 hin'.left b ist p hp0 hc hbwf hrel
      rcases hcase with ⟨e, e', k1, k2⟩ | ⟨r, b2, ist1, k1, k2, k3, k4, k5, k6, k7, k8, k9⟩
      · left
        exact ⟨e, e', by simp [evalAllotSrc, h1, k1], by simp [takeAllot, k2]⟩
      · have ih := allotsrc_sim heq henv rest hwf.2 hin'.right ps b2 ist1
          (by simpa [AllotSrcList.length] using hlen) (fun q hq => hnn q (by simp [hq]))
          (k6.asset.trans hc) k9 k8
        rcases ih with ⟨e, e', i1, i2⟩ | ⟨fs, b3, ist2, i1, i2, i3, i4, i5, i6, i7, i8, i9⟩
        · left
          exact ⟨e, e', by simp [evalAllotSrc, h1, k1, i1], by simp [takeAllot, k5, i2]⟩
        · right
          refine ⟨r :: fs, b3, ist2, by simp [evalAllotSrc, h1, k1, i1],
            List.forall_mem_cons.mpr ⟨⟨k2, k3⟩, i2⟩, by simp [AllotSrcList.length, i3], ?_,
            by simp [takeAllot, k5, i5], k6.trans i6, List.forall_mem_append.mpr ⟨k7, i7⟩, i8, i9⟩
          · simp only [unitsAll, List.length_append, List.sum_cons]
            have := total_eq_length r.parts k3
            push_cast; omega

theorem SRel.toDRel {P : List (String × String)} {st : State} {ist : IState} (h : SRel P st ist)
    (c : String) : DRel P c st { ist with asset := c } :=
  ⟨h.rel, h.wf, h.posts, h.nnM, h.okI, h.tx, h.acc, rfl, by simp [h.queue, Pos.nil],
    by simp [h.queue]⟩

/-- After the sources: the interpreter has pushed the units `X` on an empty queue. -/
theorem drel_after_sources {P : List (String × String)} {c : String} {st : State} {ist ist1 : IState}
    {b2 : Balances} {X : List String} (h : SRel P st ist) (hrel : Rel P b2 ist1.bal) (hwf : b2.WF)
    (hp : Pushed c { ist with asset := c } ist1 X) (hval : ∀ x ∈ X, validAccount x = true) :
    DRel P c { st with bal := b2 } ist1 ∧ units ist1.queue = X := by
  obtain ⟨Q, q1, q2, q3⟩ := hp.queue
  have hq : ist1.queue = Q := by simpa [h.queue] using q1
  refine ⟨⟨hrel, hwf, ?_, h.nnM, ?_, ?_, ?_, hp.asset, ?_, ?_⟩, ?_⟩
  · rw [hp.postings]; exact h.posts
  · rw [hp.postings]; exact h.okI
  · rw [hp.txMeta]; exact h.tx
  · rw [hp.accMeta]; exact h.acc
  · rw [hq]; exact q3
  · rw [hq, q2]; exact hval
  · rw [hq, q2]

/-- After the destination: the remainder the machine repays holds no unit. -/
theorem srel_after_dest {P : List (String × String)} {c : String} {st1 : State} {ist2 : IState}
    {rem : List Part} (h : DRel P c st1 ist2) (hq : units ist2.queue = []) (hn : partsNonneg rem)
    (hu : units rem = []) : SRel P { st1 with bal := repay st1.bal c rem } ist2 := by
  have hd := repay_delta st1.bal c rem
  refine ⟨?_, hd.wf h.wf, h.posts, h.nnM, h.okI, h.tx, h.acc, h.pos.units_nil hq⟩
  refine h.rel.delta h.wf hd ?_
  intro a c' _ _
  rw [fl_eq_count a c' ⟨c, rem⟩ hn]
  simp [hu]

theorem dest_phase {env ienv : Env} (heq : EnvEq env ienv) (henv : EnvOK env)
    {P : List (String × String)} {c : String} (hvc : validAsset c = true) {dst : Dest}
    (hwd : dstWf env c dst = true) {st : State} {ist ist1 : IState} {b2 : Balances} {f : List Part}
    (h : SRel P st ist) (hrel : Rel P b2 ist1.bal) (hwf : b2.WF)
    (hp : Pushed c { ist with asset := c } ist1 (units f)) (hn : partsNonneg f)
    (hval : ∀ x ∈ units f, validAccount x = true) :
    ∃ st2 ist2, finishSend env dst ⟨c, f⟩ { st with bal := b2 } = .ok st2 ∧
      Interp.sendTo ienv dst (total f) ist1 = .ok ist2 ∧ SRel P st2 ist2 := by
  obtain ⟨hd1, hq1⟩ := drel_after_sources h hrel hwf hp hval
  obtain ⟨rem, st1, ist2, d1, d2, d3, d4, d5, d6⟩ :=
    dst_sim heq henv hvc dst hwd f [] { st with bal := b2 } ist1 hn hd1 (by simp [hq1])
  exact ⟨_, ist2, by simp only [finishSend, d1], d4, srel_after_dest d5 d6 d2 d3⟩

theorem send_sim {env ienv : Env} (heq : EnvEq env ienv) (henv : EnvOK env)
    {P : List (String × String)} {mon : Expr} {s : Source} {dst : Dest} {st : State} {ist : IState}
    (hwf : stmtWf env (.send mon (.src s) dst) = true)
    (hin : stmtLeavesIn P env (.send mon (.src s) dst) = true) (h : SRel P st ist) :
    StmtAgree P (Machine.evalStmt Cfg.fixed env (.send mon (.src s) dst) st)
      (Interp.evalStmt ienv (.send mon (.src s) dst) ist) := by
  obtain ⟨c, amt, hlm, hmon, hvc, hws, hwd⟩ := stmtWf_send hwf
  have hin' : LeavesIn P env c s.neededAccts := by
    simp only [stmtLeavesIn, hmon] at hin
    exact leavesIn_spec hin
  have hla := leftmostAsset_of_monetary hmon
  have himon := evalMon_agree heq henv hlm hmon
  by_cases hneg : amt < 0
  · -- negative amount: both fail; `exact_sim` at 0 serves only to get the machine past `evalSource`, to the take
    obtain ⟨f, b1, h1, _⟩ := exact_sim heq henv s hws hin' st.bal { ist with asset := c } 0
      (Int.le_refl 0) rfl h.wf h.rel
    obtain ⟨e, he⟩ := takeFromSource_neg env s.fallback f c hneg b1
    simp [Machine.evalStmt, hla, h1, hmon, he, Interp.evalStmt, himon, hneg, StmtAgree]
  · obtain ⟨f, b1, h1, hcase⟩ := exact_sim heq henv s hws hin' st.bal { ist with asset := c } amt
      (by omega) rfl h.wf h.rel
    rcases hcase with ⟨e, e', k1, k2⟩ | ⟨r, b2, ist1, k1, k2, k3, k4, k5, k6, k7, k8, k9⟩
    · simp [Machine.evalStmt, hla, h1, hmon, k1, Interp.evalStmt, himon, hneg, k2, StmtAgree]
    · obtain ⟨r, rfl⟩ : ∃ p, r = ⟨c, p⟩ := ⟨r.parts, by rw [← k2]⟩
      obtain ⟨st2, ist2, d1, d2, d3⟩ := dest_phase heq henv hvc hwd h k8 k9 k6 k3 k7
      rw [k4] at d2
      simpa [Machine.evalStmt, hla, h1, hmon, k1, d1, Interp.evalStmt, himon, hneg, k5, d2,
        StmtAgree] using d3

theorem sendAll_sim {env ienv : Env} (heq : EnvEq env ienv) (henv : EnvOK env)
    {P : List (String × String)} {ae : Expr} {s : Source} {dst : Dest} {st : State} {ist : IState}
    (hwf : stmtWf env (.sendAll ae (.src s) dst) = true)
    (hin : stmtLeavesIn P env (.sendAll ae (.src s) dst) = true) (h : SRel P st ist) :
    StmtAgree P (Machine.evalStmt Cfg.fixed env (.sendAll ae (.src s) dst) st)
      (Interp.evalStmt ienv (.sendAll ae (.src s) dst) ist) := by
  obtain ⟨c, hlae, hc, hvc, hws, hfb, hwd⟩ := stmtWf_sendAll hwf
  have hin' : LeavesIn P env c s.neededAccts := by
    simp only [stmtLeavesIn, hc] at hin
    exact leavesIn_spec hin
  have hia := evalAsset_agree heq henv hlae hc
  obtain ⟨f, b1, h1, h2, hval, ist1, h4, h5⟩ :=
    all_sim heq henv s hws hfb hin' st.bal { ist with asset := c } rfl h.wf h.rel
  have hok := (evalSource_ok Cfg.fixed env c s st.bal f b1 h1).toSrcOK
  have hn := hok.nonneg f (by simp)
  obtain ⟨f, rfl⟩ : ∃ p, f = ⟨c, p⟩ := ⟨f.parts, by rw [← h2]⟩
  obtain ⟨st2, ist2, d1, d2, d3⟩ := dest_phase heq henv hvc hwd h
    (rel_after_full (ist := { ist with asset := c }) h.rel h.wf rfl hok h5) (hok.delta.wf h.wf) h5 hn hval
  simpa [Machine.evalStmt, hc, h1, d1, Interp.evalStmt, hia, h4, d2, StmtAgree] using d3

theorem send_allot_sim {env ienv : Env} (heq : EnvEq env ienv) (henv : EnvOK env)
    {P : List (String × String)} {mon : Expr} {items : AllotSrcList} {dst : Dest} {st : State}
    {ist : IState} (hwf : stmtWf env (.send mon (.allot items) dst) = true)
    (hin : stmtLeavesIn P env (.send mon (.allot items) dst) = true) (h : SRel P st ist) :
    StmtAgree P (Machine.evalStmt Cfg.fixed env (.send mon (.allot items) dst) st)
      (Interp.evalStmt ienv (.send mon (.allot items) dst) ist) := by
  obtain ⟨c, amt, hlm, hmon, hamt, hvc, hao, hws, hwd⟩ := stmtWf_sendAllot hwf
  have hin' : LeavesIn P env c items.neededAccts := by
    simp only [stmtLeavesIn, hmon] at hin
    exact leavesIn_spec hin
  have hla := leftmostAsset_of_monetary hmon
  have himon := evalMon_agree heq henv hlm hmon
  obtain ⟨a, hm, hsum, hpos, hi⟩ := makeAllotment_agree ienv hao
  have hlen : (allocate a amt).length = items.length := by
    rw [allocate_length_eq, makeAllotment_length hm, AllotSrcList.portions_length]
  have hneg : ¬ amt < 0 := by omega
  have hsim := allotsrc_sim heq henv items hws hin' (allocate a amt) st.bal { ist with asset := c }
    hlen (allocate_mem_nonneg a amt hsum hamt hpos) rfl h.wf h.rel
  rcases hsim with ⟨e, e', k1, k2⟩ | ⟨fs, b1, ist1, k1, k2, k3, k4, k5, k6, k7, k8, k9⟩
  · have hmE : Machine.evalStmt Cfg.fixed env (.send mon (.allot items) dst) st = .error e := by
      simp only [Machine.evalStmt, hmon, hm, needAmt, hla, k1]
    rw [hmE]
    simp [Interp.evalStmt, himon, hneg, hi, k2, StmtAgree]
  · -- `assemble`: there is at least one item, since the shares sum to 1
    have hne : fs ≠ [] := by
      intro hfs
      rw [hfs] at k3
      have ha0 : a.length = 0 := by
        rw [makeAllotment_length hm, AllotSrcList.portions_length]; simpa using k3.symm
      rw [List.eq_nil_of_length_eq_zero ha0] at hsum; simp at hsum
    have hall : ∀ f ∈ fs, f.asset = c := fun f hf => (k2 f hf).1
    have hnn : ∀ f ∈ fs, partsNonneg f.parts := fun f hf => (k2 f hf).2
    have hcu := concatAll_units fs hnn
    obtain ⟨st2, ist2, d1, d2, d3⟩ := dest_phase heq henv hvc hwd h k8 k9
      (by rwa [hcu]) (concatAll_nonneg hnn) (by rwa [hcu])
    have htot : total (concatAll fs) = amt := by
      rw [total_eq_length _ (concatAll_nonneg hnn), hcu, k4, allocate_sum_eq a amt hsum]
    rw [htot] at d2
    simpa [Machine.evalStmt, hmon, hm, needAmt, hla, k1, assemble_same hne hall, d1,
      Interp.evalStmt, himon, hneg, hi, k5, d2, StmtAgree] using d3

end Ledger.Interp
