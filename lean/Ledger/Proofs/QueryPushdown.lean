import Ledger.Query.Pushdown
import Ledger.Proofs.QueryAddress
import Ledger.Proofs.QueryFilter

/-! Soundness of the lateral pushdown of address filters (C20). -/
namespace Ledger.Query

theorem containsAddrAny_eq_any (fs : List Filter) : containsAddrAny fs = fs.any containsAddr := by
  induction fs with
  | nil => rfl
  | cons g gs ih => rw [containsAddrAny, List.any_cons, ih]

theorem safeLateralAll_eq (fs : List Filter) (n : Bool) :
    safeLateralAll fs n = fs.all (safeLateral · n) := by
  induction fs with
  | nil => rfl
  | cons g gs ih => rw [safeLateralAll, List.all_cons, ih]

/-- An address filter under a `$not` makes the filter unsafe: a filter that is safe
    *inside a not* contains no address filter at all. -/
theorem safe_insideNot_noAddr : ∀ (f : Filter), safeLateral f true = true → containsAddr f = false := by
  intro f
  induction f using Filter.ind with
  | leaf _ k _ =>
    intro h
    rw [safeLateral, Bool.true_and, Bool.not_eq_true'] at h
    exact h
  | not g ih => exact ih
  | and fs ih =>
    intro h
    rw [safeLateral, safeLateralAll_eq, List.all_eq_true] at h
    rw [containsAddr, containsAddrAny_eq_any, List.any_eq_false]
    exact fun g hg => Bool.eq_false_iff.mp (ih g hg (h g hg))
  | or fs _ =>
    intro h
    rw [safeLateral, Bool.not_eq_true'] at h
    exact h

theorem safeAll_insideNot_noAddr : ∀ (fs : List Filter),
    safeLateralAll fs true = true → containsAddrAny fs = false :=
  fun fs h => safe_insideNot_noAddr (.and fs) h

def TrueAddrLeaf (sem : Op → String → Val → Bool) (l : Op × String × Val) : Prop :=
  isAddressKey l.2.1 = true ∧ sem l.1 l.2.1 l.2.2 = true

/-- In a `$or` that may be pushed and mentions an address, every branch mentions one: a
    single branch cannot mix, and longer ones are checked by `isNodeSafeForLateral`. -/
theorem or_all_containsAddr (fs : List Filter)
    (hs : (!(decide (fs.length > 1) && mixesAddr fs)) = true) (hc : containsAddrAny fs = true) :
    ∀ g ∈ fs, containsAddr g = true := by
  have hmix : mixesAddr fs = false := by
    match fs, hs with
    | [], _ => rfl
    | [x], _ => simp [mixesAddr]
    | _ :: _ :: _, hs => simpa using hs
  rw [containsAddrAny_eq_any] at hc
  rw [mixesAddr, hc, Bool.true_and, List.any_eq_false] at hmix
  exact fun g hg => by simpa using hmix g hg

/-- In a filter that may be pushed, is true on the row and mentions an address,
    some *address leaf* is true on the row. -/
theorem true_addr_leaf (sem : Op → String → Val → Bool) : ∀ (f : Filter),
    safeLateral f false = true → Filter.eval sem f = true → containsAddr f = true →
    ∃ l ∈ f.leaves, TrueAddrLeaf sem l := by
  intro f
  induction f using Filter.ind with
  | leaf op k v => exact fun _ he hc => ⟨(op, k, v), List.mem_singleton.mpr rfl, hc, he⟩
  | not g _ =>
    intro hs _ hc
    rw [safeLateral] at hs
    rw [containsAddr, safe_insideNot_noAddr g hs] at hc
    cases hc
  | and fs ih =>
    -- a true `$and` mentioning an address: the branch that mentions it is true too
    intro hs he hc
    rw [safeLateral, safeLateralAll_eq, List.all_eq_true] at hs
    rw [Filter.eval, evalAll_eq, List.all_eq_true] at he
    rw [containsAddr, containsAddrAny_eq_any, List.any_eq_true] at hc
    obtain ⟨g, hg, hcg⟩ := hc
    obtain ⟨l, hl, ht⟩ := ih g hg (hs g hg) (he g hg) hcg
    exact ⟨l, mem_leavesList.2 ⟨g, hg, hl⟩, ht⟩
  | or fs ih =>
    -- a true `$or`: the true branch mentions an address, since all branches do
    intro hs he hc
    rw [safeLateral, Bool.and_eq_true, safeLateralAll_eq, List.all_eq_true] at hs
    rw [containsAddr] at hc
    rw [Filter.eval, Bool.or_eq_true, evalAny_eq, List.any_eq_true] at he
    obtain ⟨g, hg, heg⟩ := he.resolve_left fun h => by rw [List.isEmpty_iff.mp h] at hc; cases hc
    obtain ⟨l, hl, ht⟩ := ih g hg (hs.2 g hg) heg (or_all_containsAddr fs hs.1 hc g hg)
    exact ⟨l, mem_leavesList.2 ⟨g, hg, hl⟩, ht⟩

theorem true_addr_leaf_all (sem : Op → String → Val → Bool) : ∀ (fs : List Filter),
    safeLateralAll fs false = true → Filter.evalAll sem fs = true → containsAddrAny fs = true →
    ∃ l ∈ Filter.leavesList fs, TrueAddrLeaf sem l :=
  fun fs => true_addr_leaf sem (.and fs)

theorem true_addr_leaf_any (sem : Op → String → Val → Bool) : ∀ (fs : List Filter),
    safeLateralAll fs false = true → Filter.evalAny sem fs = true →
    (∀ g ∈ fs, containsAddr g = true) →
    ∃ l ∈ Filter.leavesList fs, TrueAddrLeaf sem l := by
  intro fs hs he hall
  rw [safeLateralAll_eq, List.all_eq_true] at hs
  rw [evalAny_eq, List.any_eq_true] at he
  obtain ⟨g, hg, heg⟩ := he
  obtain ⟨l, hl, ht⟩ := true_addr_leaf sem g (hs g hg) heg (hall g hg)
  exact ⟨l, mem_leavesList.2 ⟨g, hg, hl⟩, ht⟩

theorem noAddr_leaves : ∀ (f : Filter), containsAddr f = false →
    ∀ l ∈ f.leaves, isAddressKey l.2.1 = false := by
  intro f
  induction f using Filter.ind with
  | leaf op k v =>
    intro h l hl
    rw [Filter.leaves, List.mem_singleton] at hl
    subst hl; exact h
  | not g ih => exact ih
  | and fs ih | or fs ih =>
    intro h l hl
    rw [containsAddr, containsAddrAny_eq_any, List.any_eq_false] at h
    obtain ⟨g, hg, hl⟩ := mem_leavesList.1 hl
    exact ih g hg (Bool.eq_false_iff.mpr (h g hg)) l hl

theorem noAddr_leavesList : ∀ (fs : List Filter), containsAddrAny fs = false →
    ∀ l ∈ Filter.leavesList fs, isAddressKey l.2.1 = false :=
  fun fs => noAddr_leaves (.and fs)

theorem mem_addrsWith (ci : Bool) (f : Filter) (s : String) :
    s ∈ addrsWith ci f ↔ ∃ l ∈ f.leaves, isAddressKey l.2.1 = true ∧ s ∈ leafAddrs ci l.2.2 := by
  unfold addrsWith
  simp only [List.mem_flatten, List.mem_map]
  constructor
  · rintro ⟨L, ⟨l, hl, rfl⟩, hs⟩
    obtain ⟨op, k, v⟩ := l
    by_cases hk : isAddressKey k = true
    · exact ⟨(op, k, v), hl, hk, by simpa [hk] using hs⟩
    · simp [hk] at hs
  · rintro ⟨⟨op, k, v⟩, hl, hk, hs⟩
    exact ⟨_, ⟨(op, k, v), hl, rfl⟩, by simpa [hk] using hs⟩

theorem addrsWith_nil_of_noAddr (ci : Bool) (f : Filter) (h : containsAddr f = false) :
    addrsWith ci f = [] := by
  apply List.eq_nil_iff_forall_not_mem.mpr
  intro s hs
  obtain ⟨l, hl, hk, _⟩ := (mem_addrsWith ci f s).mp hs
  rw [noAddr_leaves f h l hl] at hk
  cases hk

/-- The general soundness statement: whenever the meaning of the filter's address leaves is
    "one of the collected strings matches the row's account" (`hsem`), a pushable
    filter that is true on a row either collected nothing or collected an address
    matching the row. -/
theorem pushdown_sound_core (ci : Bool) (sem : Op → String → Val → Bool) (acct : List Seg)
    (f : Filter)
    (hsem : ∀ l ∈ f.leaves, isAddressKey l.2.1 = true → sem l.1 l.2.1 l.2.2 = true →
      ∃ s ∈ leafAddrs ci l.2.2, matchesAddress (Pattern.ofString s) acct = true)
    (hpush : safeLateral f false = true) (heval : Filter.eval sem f = true) :
    addrsWith ci f = [] ∨ ∃ s ∈ addrsWith ci f, matchesAddress (Pattern.ofString s) acct = true := by
  by_cases hc : containsAddr f = true
  · right
    obtain ⟨l, hl, hk, ht⟩ := true_addr_leaf sem f hpush heval hc
    obtain ⟨s, hs, hm⟩ := hsem l hl hk ht
    exact ⟨s, (mem_addrsWith ci f s).mpr ⟨l, hl, hk, hs⟩, hm⟩
  · left
    exact addrsWith_nil_of_noAddr ci f (by simpa using hc)

/-- The documented meaning of an address leaf on an account row (`addrLeaf`) is of
    that form for the current `collectAddressFilters` (which includes `$in` members). -/
theorem addrLeaf_witness (v : Val) (acct : List Seg) (h : addrLeaf false v [acct] = true) :
    ∃ s ∈ leafAddrs true v, matchesAddress (Pattern.ofString s) acct = true := by
  unfold addrLeaf at h
  match v, h with
  | .sc (.str s), h =>
    refine ⟨s, by simp [leafAddrs], ?_⟩
    simpa [matchesAny] using h
  | .arr l, h =>
    simp only [List.any_eq_true] at h
    obtain ⟨x, hx, hx'⟩ := h
    match x, hx, hx' with
    | .str s, hx, hx' =>
      simp only [List.any_cons, List.any_nil, Bool.or_false, beq_iff_eq] at hx'
      refine ⟨s, ?_, ?_⟩
      · simp only [leafAddrs, ↓reduceIte, List.mem_filterMap]
        exact ⟨.str s, hx, rfl⟩
      · unfold Pattern.ofString
        rw [← hx']
        exact matches_self _

/-- Only `$in` arrays are collected differently before and after the fix. -/
theorem leafAddrs_of_not_arr (ci : Bool) (v : Val) (hv : ∀ l, v ≠ .arr l) :
    leafAddrs ci v = leafAddrs true v := by
  match v, hv with
  | .sc s, _ => cases s <;> rfl
  | .arr l, hv => exact absurd rfl (hv l)

/-- Without `$in` arrays the same holds for the pre-fix collection. -/
theorem addrLeaf_witness_preFix (v : Val) (acct : List Seg) (hv : ∀ l, v ≠ .arr l)
    (h : addrLeaf false v [acct] = true) :
    ∃ s ∈ leafAddrs false v, matchesAddress (Pattern.ofString s) acct = true :=
  leafAddrs_of_not_arr false v hv ▸ addrLeaf_witness v acct h

end Ledger.Query
