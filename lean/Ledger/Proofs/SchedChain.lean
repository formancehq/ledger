import Ledger.Proofs.SchedSeqLog

/-!
# HASH_LOGS=SYNC: the log chain is linear and log ids follow commit order, under any schedule

Discipline `⟨logKey l₀, l₀, strict⟩`: every log INSERT on ledger `l₀` happens inside a transaction
holding `pg_advisory_xact_lock(l₀)`, takes its id from `log_id_l₀` and runs the `set_log_hash`
trigger, and the sequence is never reset. Then, at every reachable world, the rows of `logs` for `l₀`
(in insertion order) have strictly increasing ids, each chains from the row before it, the
uncommitted ones form a suffix owned by the lock holder, and the commit order of the ledger's logs
is their id order. `ChainInv` is read off the sequential log of `SchedSeqLog` (`chainInv_iff`) and
kept by each of its transitions (`ChainSt.step`).
-/
namespace Ledger.Sched

/-- each row chains from the id of the row before it (`p` for the first) -/
def ChainedFrom : Nat → List Lg → Prop
  | _, [] => True
  | p, e :: r => e.prev = p ∧ ChainedFrom e.id r

def lastId : Nat → List Lg → Nat
  | p, [] => p
  | _, e :: r => lastId e.id r

theorem chainedFrom_append (p : Nat) (l : List Lg) (e : Lg) :
    ChainedFrom p (l ++ [e]) ↔ ChainedFrom p l ∧ e.prev = lastId p l := by
  induction l generalizing p with
  | nil => simp [ChainedFrom, lastId]
  | cons a r ih => simp only [List.cons_append, ChainedFrom, ih, lastId, and_assoc]

theorem chainedFrom_map (f : Lg → Lg) (hf : ∀ e, (f e).prev = e.prev ∧ (f e).id = e.id) (p : Nat) (l : List Lg)
    (h : ChainedFrom p l) : ChainedFrom p (l.map f) := by
  induction l generalizing p with
  | nil => trivial
  | cons a r ih =>
    simp only [List.map_cons, ChainedFrom] at h ⊢
    exact ⟨(hf a).1.trans h.1, by rw [(hf a).2]; exact ih _ h.2⟩

theorem chainedFrom_takeWhile (q : Lg → Bool) (p : Nat) (l : List Lg) (h : ChainedFrom p l) :
    ChainedFrom p (l.takeWhile q) := by
  induction l generalizing p with
  | nil => trivial
  | cons a r ih =>
    simp only [List.takeWhile_cons]
    split
    · exact ⟨h.1, ih _ h.2⟩
    · trivial

def ComPrefix (l : List Lg) : Prop := l.Pairwise (fun a b => b.com = true → a.com = true)

theorem filter_eq_takeWhile_of_prefix (l : List Lg) (q : Lg → Bool)
    (h : l.Pairwise (fun a b => q b = true → q a = true)) : l.filter q = l.takeWhile q := by
  induction l with
  | nil => rfl
  | cons a r ih =>
    rw [List.pairwise_cons] at h
    simp only [List.filter_cons, List.takeWhile_cons]
    split
    · rw [ih h.2]
    · rename_i hq
      rw [List.filter_eq_nil_iff.mpr]
      intro b hb hqb
      exact hq (h.1 b hb hqb)

theorem maxId_eq_lastId (l : List Lg) (h : l.Pairwise (fun a b => a.id < b.id)) : maxId (l.map (·.id)) = lastId 0 l := by
  suffices ∀ acc, (∀ e ∈ l, acc ≤ e.id) → (l.map (·.id)).foldl max acc = lastId acc l from
    this 0 fun _ _ => Nat.zero_le _
  induction l with
  | nil => intro _ _; rfl
  | cons a r ih =>
    intro acc hacc
    rw [List.pairwise_cons] at h
    rw [List.map_cons, List.foldl_cons, Nat.max_eq_right (hacc a (List.mem_cons_self ..))]
    exact ih h.2 a.id fun e he => Nat.le_of_lt (h.1 e he)

structure ChainInv (d : Disc) (w : World) : Prop where
  inc : (Lof d.l₀ w).Pairwise (fun a b => a.id < b.id)
  le : ∀ e ∈ Lof d.l₀ w, e.id ≤ w.logSeq d.l₀
  chain : ChainedFrom 0 (Lof d.l₀ w)
  pre : ComPrefix (Lof d.l₀ w)
  cinc : ((w.logCommits.filter (fun c => c.1 = d.l₀)).map (·.2.1)).Pairwise (· < ·)
  cle : ∀ c ∈ w.logCommits, c.1 = d.l₀ → c.2.1 ≤ w.logSeq d.l₀
  clt : ∀ c ∈ w.logCommits, c.1 = d.l₀ → ∀ e ∈ Lof d.l₀ w, e.com = false → c.2.1 < e.id
  pos : ∀ e ∈ Lof d.l₀ w, 0 < e.id

theorem chainInv_init (d : Disc) (w : World) (hlogs : w.logs = []) (hcom : w.logCommits = []) : ChainInv d w := by
  have hL : Lof d.l₀ w = [] := by rw [Lof, hlogs]; rfl
  constructor <;> simp [hL, hcom, ChainedFrom, ComPrefix]

/-- `ChainInv` read off the region; `cmark` is `cle` and `clt` -/
structure ChainSt (a : LogSt) : Prop where
  inc : a.rows.Pairwise (fun x y => x.id < y.id)
  le : ∀ e ∈ a.rows, e.id ≤ a.seq
  chain : ChainedFrom 0 a.rows
  pre : ComPrefix a.rows
  cinc : a.coms.Pairwise (· < ·)
  cmark : ∀ i ∈ a.coms, Mark a i
  pos : ∀ e ∈ a.rows, 0 < e.id

theorem chainInv_iff (d : Disc) (w : World) : ChainInv d w ↔ ChainSt (logSt d.l₀ w) := by
  have hc : ∀ {Q : Nat → Prop}, (∀ i ∈ (logSt d.l₀ w).coms, Q i) ↔ ∀ c ∈ w.logCommits, c.1 = d.l₀ → Q c.2.1 := by
    simp only [logSt, List.forall_mem_map, List.mem_filter, decide_eq_true_eq, and_imp, implies_true]
  exact ⟨fun h => ⟨h.inc, h.le, h.chain, h.pre, h.cinc, hc.mpr fun c hm hl => ⟨h.cle c hm hl, h.clt c hm hl⟩, h.pos⟩,
    fun h => ⟨h.inc, h.le, h.chain, h.pre, h.cinc, fun c hm hl => (hc.mp h.cmark c hm hl).1,
      fun c hm hl => (hc.mp h.cmark c hm hl).2, h.pos⟩⟩

theorem ChainSt.step {a b : LogSt} (h : ChainSt a) (hs : SeqStep a b) : ChainSt b := by
  have hm : ∀ i ∈ a.coms, Mark b i := fun i hi => ((h.cmark i hi).step hs).1
  cases hs with
  | frame n hn => exact ⟨h.inc, fun e he => Nat.le_trans (h.le e he) hn, h.chain, h.pre, h.cinc, hm, h.pos⟩
  | undo n hn =>
    have hsub : (a.rows.filter (·.com)).Sublist a.rows := List.filter_sublist
    refine ⟨h.inc.sublist hsub, fun e he => Nat.le_trans (h.le e (hsub.subset he)) hn, ?_, h.pre.sublist hsub, h.cinc, hm,
      fun e he => h.pos e (hsub.subset he)⟩
    -- the committed rows are a prefix
    show ChainedFrom 0 (a.rows.filter (·.com))
    rw [filter_eq_takeWhile_of_prefix _ _ h.pre]
    exact chainedFrom_takeWhile _ 0 _ h.chain
  | commit n hn =>
    refine ⟨List.pairwise_map.mpr h.inc, List.forall_mem_map.mpr fun e he => Nat.le_trans (h.le e he) hn,
      chainedFrom_map (fun e => { e with com := true }) (fun _ => ⟨rfl, rfl⟩) 0 _ h.chain,
      List.pairwise_map.mpr (h.pre.imp fun _ _ => rfl), ?_, List.forall_mem_append.mpr ⟨hm, fun i hi => ?_⟩,
      List.forall_mem_map.mpr h.pos⟩
    · -- the rows committed now come, in id order, after everything committed before
      refine List.pairwise_append.mpr ⟨h.cinc, List.pairwise_map.mpr (h.inc.sublist List.filter_sublist), fun x hx y hy => ?_⟩
      obtain ⟨e, he, rfl⟩ := List.mem_map.mp hy
      obtain ⟨he, hec⟩ := List.mem_filter.mp he
      exact (h.cmark x hx).2 e he (by simpa using hec)
    · obtain ⟨e, he, rfl⟩ := List.mem_map.mp hi
      refine ⟨Nat.le_trans (h.le e (List.mem_filter.mp he).1) hn, fun e' he' hec => ?_⟩
      obtain ⟨_, _, rfl⟩ := List.mem_map.mp he'
      cases hec
  | append e n hn hc hid hprev =>
    refine ⟨pairwise_append_one h.inc fun x hx => hid ▸ Nat.lt_succ_of_le (h.le x hx), ?_,
      (chainedFrom_append 0 _ e).mpr ⟨h.chain, hprev.trans (maxId_eq_lastId _ h.inc)⟩,
      pairwise_append_one h.pre (fun _ _ hbc => by rw [hc] at hbc; cases hbc), h.cinc, hm, ?_⟩
    · rw [List.forall_mem_append, List.forall_mem_singleton]
      exact ⟨fun x hx => Nat.le_trans (h.le x hx) (Nat.le_of_succ_le hn), hid ▸ hn⟩
    · rw [List.forall_mem_append, List.forall_mem_singleton]
      exact ⟨h.pos, hid ▸ Nat.succ_pos _⟩

theorem chainInv_run (d : Disc) (hstrict : d.strict = true) (σ : Schedule) (w : World) (hg : GInv d w) (h : ChainInv d w) :
    GInv d (run σ w) ∧ ChainInv d (run σ w) :=
  (seq_inv_run ChainSt.step hstrict σ hg ((chainInv_iff d w).mp h)).imp_right (chainInv_iff d _).mpr

theorem prevs_increasing (p : Nat) (l : List Lg) (hc : ChainedFrom p l) (hi : l.Pairwise (fun a b => a.id < b.id))
    (hp : ∀ e ∈ l, p < e.id) : l.Pairwise (fun a b => a.prev < b.prev) ∧ ∀ b ∈ l, p ≤ b.prev := by
  induction l generalizing p with
  | nil => exact ⟨.nil, nofun⟩
  | cons a r ih =>
    rw [List.pairwise_cons] at hi
    obtain ⟨ha, hr⟩ := hc
    obtain ⟨ih1, ih2⟩ := ih a.id hr hi.2 hi.1
    have hpa := hp a (List.mem_cons_self ..)
    refine ⟨List.pairwise_cons.mpr ⟨fun b hb => ha ▸ Nat.lt_of_lt_of_le hpa (ih2 b hb), ih1⟩, fun b hb => ?_⟩
    rcases List.mem_cons.mp hb with rfl | hb
    · exact Nat.le_of_eq ha.symm
    · exact Nat.le_trans (Nat.le_of_lt hpa) (ih2 b hb)

end Ledger.Sched
