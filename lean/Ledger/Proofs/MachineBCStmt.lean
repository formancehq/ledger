import Ledger.Proofs.MachineBCDest
import Ledger.Proofs.MachineStmt

/-! Byte-code level: the source allotment of `send`, every statement, and
    `exec (compile s) = sem s` for all programs. -/
namespace Ledger.Machine

/-- Stack shape inside the per-source loop: the fundings taken so far (the last on top), the remaining
    allocated amounts. -/
def SrcP (c : String) (n j : Nat) : Stack → Prop := fun stk =>
  ∃ (fs : List Funding) (ps : List Int) (rest : Stack),
    stk = fs.map SVal.funding ++ (ps.map (monV c) ++ rest) ∧ fs.length = j ∧ ps.length = n

def allotsrcK (env : Env) (asset c : String) (items : AllotSrcList) (j : Nat) : Kl := fun stk st =>
  match popMons items.length (stk.drop j) with
  | some (ps, rest) =>
    match evalAllotSrc Cfg.fixed env asset c items ps st.bal with
    | .error e => .error e
    | .ok (fs, b) => .ok (fs.reverse.map SVal.funding ++ (stk.take j ++ rest), { st with bal := b })
  | none => .error (.fault "stack")

theorem allotsrcK_at (env : Env) (asset c : String) (items : AllotSrcList) (fs : List Funding) (ps : List Int)
    (tl : Stack) (st : State) (hl : ps.length = items.length) :
    allotsrcK env asset c items fs.length (fs.map SVal.funding ++ (ps.map (monV c) ++ tl)) st =
      match evalAllotSrc Cfg.fixed env asset c items ps st.bal with
      | .error e => .error e
      | .ok (gs, b) => .ok (gs.reverse.map SVal.funding ++ (fs.map SVal.funding ++ tl), { st with bal := b }) := by
  rw [allotsrcK, List.drop_left' (by simp), List.take_left' (by simp), ← hl, popMons_all]

theorem bumpK_loop (c : String) (F : Funding) (fs : List Funding) (p : Int) (ps : List Int) (tl : Stack)
    (st : State) :
    bumpK (fs.length + 1) (.funding F :: (fs.map SVal.funding ++ (monV c p :: (ps.map (monV c) ++ tl)))) st =
      .ok (monV c p :: .funding F :: (fs.map SVal.funding ++ (ps.map (monV c) ++ tl)), st) := by
  simpa using bumpK_append (.funding F :: fs.map SVal.funding) (monV c p) (ps.map (monV c) ++ tl) st

theorem allotsrc_runs {ds : Decls} {env : Env} (henv : EnvTyped ds env) (C : CS → Prop) (hC : Stable C)
    {pushAsset : Act} {asset : String} (hpa : Sim ds env C pushAsset T (pushK (.asset asset)))
    (monAddr : Nat) (c : String) :
    (items : AllotSrcList) → items.WT ds → ∀ j,
    Runs ds env C (cAllotSources pushAsset monAddr items (j + 1)) (SrcP c items.length j)
      (allotsrcK env asset c items j)
  | .nil, _, j => ⟨_, sim_skip ds env C, by
      rintro _ st ⟨fs, ps, rest, rfl, rfl, hl⟩
      rw [allotsrcK_at _ _ _ _ _ _ _ _ hl]
      cases ps with
      | cons p ps => simp [AllotSrcList.length] at hl
      | nil => simp [Kl.id, evalAllotSrc]⟩
  | .cons pe s rest, ⟨hcs, hrest⟩, j => by
    obtain ⟨gT, eT, rT⟩ := take_runs (ds := ds) henv s.fallback (fallback_typed s hcs)
    obtain ⟨gR, eR, rR⟩ := allotsrc_runs henv C hC hpa monAddr c rest hrest (j + 1)
    refine ⟨(srcK env asset s).comp (Kl.id.comp ((bumpK (j + 1)).comp (gT.comp gR))),
      .of_emit fun cs cs' hg hc ha => ?_, ?_⟩
    · simp only [cAllotSources] at ha
      split at ha
      · cases ha
      · rename_i accs fb cs1 hsub
        obtain ⟨e1, hfb⟩ := cSource_gen henv C hC hpa s hcs cs cs1 accs fb hg hc hsub
        have hC' : Stable fun x => C x ∧ FbOK env fb s.fallback x := hC.and (FbOK.stable env fb s.fallback)
        exact e1.trans <| (Sim.seq hC' (sim_setNeeded ds env _ accs monAddr)
          (Sim.seq hC' (sim_bump ds env _ hC' (j + 1)) (Sim.seq hC' ((eT fb).strengthen fun _ h => h.2)
          (Sim.single hC' (eR.strengthen fun _ h => h.1))))).emit e1.good ⟨e1.stable hC hc, hfb⟩ ha
    · rintro _ st ⟨fs, ps, tl, rfl, rfl, hl⟩
      cases ps with
      | nil => simp [AllotSrcList.length] at hl
      | cons p ps =>
        have hl' : ps.length = rest.length := by simpa [AllotSrcList.length] using hl
        rw [allotsrcK_at _ _ _ _ _ _ _ _ hl]
        simp only [Kl.comp, srcK, evalAllotSrc]
        cases evalSource Cfg.fixed env asset s st.bal with
        | error err => rfl
        | ok q =>
          obtain ⟨F, b1⟩ := q
          simp only [Kl.id, List.map_cons, List.cons_append, bumpK_loop, rT _ _ ⟨_, _, _, _, rfl⟩, takeK, monV]
          cases takeFromSource env s.fallback F (c, some p) b1 with
          | error err => rfl
          | ok w =>
            obtain ⟨r, b2⟩ := w
            refine ((rR _ _ ⟨r :: fs, ps, tl, rfl, rfl, hl'⟩).trans
              (allotsrcK_at env asset c rest (r :: fs) ps tl _ hl')).trans ?_
            simp only
            cases evalAllotSrc Cfg.fixed env asset c rest ps b2 with
            | error err => rfl
            | ok z => simp

/-- The statements that move no funds. -/
def Stmt.covered : Stmt → Bool
  | .print _ => true
  | .fail => true
  | .setTxMeta _ _ => true
  | .setAccountMeta _ _ _ => true
  | .save _ _ => true
  | .saveAll _ _ => true
  | _ => false

def stmtK (env : Env) (s : Stmt) : Kl := fun stk st =>
  match evalStmt Cfg.fixed env s st with
  | .ok st' => .ok (stk, st')
  | .error err => .error err

theorem sim_pushAddrOf {ds : Decls} {env : Env} (henv : EnvTyped ds env) (C : CS → Prop) {e : Expr} {ty : Ty}
    {v : Value} (ht : typeExpr ds e = .ok ty) (hv : evalExpr env e.leftmost = .ok v) :
    Sim ds env C (pushAddrOf e) T (pushK v) :=
  .of_emit fun cs cs' hg _ ha => by
    simp only [pushAddrOf] at ha
    split at ha
    · cases ha
    · rename_i a cs1 hca
      obtain ⟨e0, _, hav⟩ := cExprAddr_emit henv ht hg hca
      exact (e0.trans ((sim_emitPush ds env a v).emit e0.good (hav v hv) ha)).congr fun _ _ => rfl

theorem sim_stmt_simple {ds : Decls} {env : Env} (henv : EnvTyped ds env) (s : Stmt) (hcov : s.covered = true)
    (hc : checkStmt ds s = .ok ()) : Sim ds env (fun _ => True) (cStmt s) T (stmtK env s) := by
  have hT : Stable (fun _ : CS => True) := Stable.true
  cases s with
  | print e =>
    obtain ⟨ty, ht⟩ := checkStmt_inv hc
    refine (Sim.seq hT (sim_pushExpr henv _ ht) (Sim.single hT (sim_emitOp ds env _ OP_PRINT))).congr ?_
    intro stk st _
    simp only [Kl.comp, exprK, stmtK, evalStmt]
    cases evalExpr env e <;> rfl
  | fail =>
    refine (sim_emitOp ds env _ OP_FAIL).congr ?_
    intro stk st _
    rfl
  | setTxMeta k e =>
    obtain ⟨ty, ht⟩ := checkStmt_inv hc
    refine (Sim.seq hT (sim_pushExpr henv _ ht) (Sim.seq hT (sim_pushConst ds env _ (.str k))
      (Sim.single hT (sim_emitOp ds env _ OP_TX_META)))).congr ?_
    intro stk st _
    simp only [Kl.comp, exprK, stmtK, evalStmt]
    cases evalExpr env e <;> rfl
  | setAccountMeta acc k e =>
    obtain ⟨⟨ty, ht⟩, hta⟩ := checkStmt_inv hc
    have hat := atom_of_type hta (by simp) (by simp)
    obtain ⟨a, hea, hacc⟩ := evalAccount_of_typed henv hta
    refine (Sim.seq hT (sim_pushExpr henv _ ht) (Sim.seq hT (sim_pushConst ds env _ (.str k))
      (Sim.seq hT (sim_pushAddrOf henv _ hta (hat.leftmost.symm ▸ hea))
      (Sim.single hT (sim_emitOp ds env _ OP_ACCOUNT_META))))).congr ?_
    intro stk st _
    simp only [Kl.comp, exprK, stmtK, evalStmt, hacc]
    cases evalExpr env e <;> rfl
  | save mon acc =>
    obtain ⟨htm, hta⟩ := checkStmt_inv hc
    have hat := atom_of_type hta (by simp) (by simp)
    obtain ⟨a, hea, hacc⟩ := evalAccount_of_typed henv hta
    obtain ⟨ma, mv, hlm⟩ := leftmost_monetary_eval henv htm
    refine (Sim.seq hT (sim_pushAddrOf henv _ htm hlm)
      (Sim.seq hT (sim_pushAddrOf henv _ hta (hat.leftmost.symm ▸ hea))
      (Sim.single hT (sim_emitOp ds env _ OP_SAVE)))).congr ?_
    intro stk st _
    simp only [Kl.comp, pushK, opK_SAVE_mon, stmtK, evalStmt, evalMonetary, hlm, hacc]
    cases st.bal.get a ma <;> rfl
  | saveAll assetE acc =>
    obtain ⟨htm, hta⟩ := checkStmt_inv hc
    have hat := atom_of_type hta (by simp) (by simp)
    have hat' := atom_of_type htm (by simp) (by simp)
    obtain ⟨a, hea, hacc⟩ := evalAccount_of_typed henv hta
    obtain ⟨asset, hv, hae⟩ := evalAssetE_of_typed henv htm
    refine (Sim.seq hT (sim_pushAddrOf henv _ htm (hat'.leftmost.symm ▸ hv))
      (Sim.seq hT (sim_pushAddrOf henv _ hta (hat.leftmost.symm ▸ hea))
      (Sim.single hT (sim_emitOp ds env _ OP_SAVE)))).congr ?_
    intro stk st _
    simp only [Kl.comp, pushK, opK_SAVE_asset, stmtK, evalStmt, hae, hacc]
    cases st.bal.get a asset with
    | none => rfl
    | some bal => simp only; split <;> rfl
  | send _ _ _ => cases hcov
  | sendAll _ _ _ => cases hcov

theorem sim_pushAssetOf (ds : Decls) (env : Env) (monAddr : Nat) (a : String) (v : Option Int) :
    Sim ds env (AddrVal env monAddr (.monetary a v)) (seqA [emitPush monAddr, emitOp OP_ASSET]) T
      (pushK (.asset a)) := by
  have hC := AddrVal.stable env monAddr (.monetary a v)
  refine (Sim.seq hC (sim_emitPush ds env monAddr _) (Sim.single hC (sim_emitOp ds env _ OP_ASSET))).congr ?_
  intro stk st _
  rfl

theorem stmt_send_emit {ds : Decls} {env : Env} (henv : EnvTyped ds env) {mon : Expr} {s : Source} {dst : Dest}
    (hc : checkStmt ds (.send mon (.src s) dst) = .ok ()) {cs cs' : CS} (hg : Good ds cs)
    (h : cStmt (.send mon (.src s) dst) cs = .ok cs') : Emit ds env cs cs' (stmtK env (.send mon (.src s) dst)) := by
  obtain ⟨htm, hcs, hdst⟩ := checkStmt_inv hc
  simp only [cStmt] at h
  split at h
  · cases h
  · rename_i monAddr cs1 hca
    obtain ⟨a, v, hlm⟩ := leftmost_monetary_eval henv htm
    obtain ⟨e0, _, hav⟩ := cExprAddr_emit henv htm hg hca
    replace hav := hav _ hlm
    have hla : leftmostAsset env mon = .ok a := by simp [leftmostAsset, hlm]
    split at h
    · cases h
    · rename_i accs fb cs2 hsrcC
      obtain ⟨e1, hfb⟩ := cSource_gen henv _ (AddrVal.stable env monAddr (.monetary a v))
        (sim_pushAssetOf ds env monAddr a v) s hcs cs1 cs2 accs fb e0.good hav hsrcC
      obtain ⟨gT, eT, rT⟩ := take_runs (ds := ds) henv s.fallback (fallback_typed s hcs)
      have hC := FbOK.stable env fb s.fallback
      obtain ⟨gD, eD, rD⟩ := dest_runs henv _ hC dst hdst
      have e2 := (Sim.seq hC (sim_setNeeded ds env _ accs monAddr)
        (Sim.seq hC (sim_pushExpr henv _ htm) (Sim.seq hC (eT fb)
        (Sim.single hC (Sim.seq hC eD (Sim.single hC (sim_emitOp ds env _ OP_REPAY))))))).emit e1.good hfb h
      refine ((e0.trans e1).trans e2).congr fun stk st => ?_
      simp only [Kl.comp, Kl.id, srcK, stmtK, evalStmt, hla]
      cases evalSource Cfg.fixed env a s st.bal with
      | error err => rfl
      | ok p =>
        simp only [exprK_monetary henv htm]
        cases evalMonetary env mon with
        | error err => rfl
        | ok m =>
          simp only [rT _ _ ⟨_, _, _, _, rfl⟩, takeK]
          cases takeFromSource env s.fallback p.1 (m.1, m.2) p.2 with
          | error err => rfl
          | ok q =>
            simp only [rD _ _ ⟨_, _, rfl⟩, destK, finishSend]
            cases evalDest env q.1.asset dst q.1.parts { st with bal := q.2 } <;> rfl

theorem stmt_sendAll_emit {ds : Decls} {env : Env} (henv : EnvTyped ds env) {assetE : Expr} {s : Source} {dst : Dest}
    (hc : checkStmt ds (.sendAll assetE (.src s) dst) = .ok ()) {cs cs' : CS} (hg : Good ds cs)
    (h : cStmt (.sendAll assetE (.src s) dst) cs = .ok cs') :
    Emit ds env cs cs' (stmtK env (.sendAll assetE (.src s) dst)) := by
  obtain ⟨hta, hcs, hdst⟩ := checkStmt_inv hc
  simp only [cStmt] at h
  split at h
  · cases h
  · rename_i assetAddr cs1 hca
    have hat := atom_of_type hta (by simp) (by simp)
    obtain ⟨a, hev, hae⟩ := evalAssetE_of_typed henv hta
    obtain ⟨e0, _, hav⟩ := cExprAddr_emit henv hta hg hca
    replace hav := hav _ (hat.leftmost.symm ▸ hev)
    split at h
    · cases h
    · rename_i accs fb cs2 hsrcC
      obtain ⟨e1, _⟩ := cSource_gen henv _ (AddrVal.stable env assetAddr (.asset a))
        (sim_emitPush ds env assetAddr (.asset a)) s hcs cs1 cs2 accs fb e0.good hav hsrcC
      have hT : Stable (fun _ : CS => True) := Stable.true
      obtain ⟨gD, eD, rD⟩ := dest_runs henv _ hT dst hdst
      have e2 := (Sim.seq hT (sim_setNeeded ds env _ accs assetAddr)
        (Sim.single hT (Sim.seq hT eD (Sim.single hT (sim_emitOp ds env _ OP_REPAY))))).emit e1.good trivial h
      refine ((e0.trans e1).trans e2).congr fun stk st => ?_
      simp only [Kl.comp, Kl.id, srcK, stmtK, evalStmt, hae]
      cases evalSource Cfg.fixed env a s st.bal with
      | error err => rfl
      | ok p =>
        simp only [rD _ _ ⟨_, _, rfl⟩, destK, finishSend]
        cases evalDest env p.1.asset dst p.1.parts { st with bal := p.2 } <;> rfl

theorem stmt_send_allot_emit {ds : Decls} {env : Env} (henv : EnvTyped ds env) {mon : Expr} {items : AllotSrcList}
    {dst : Dest} (hc : checkStmt ds (.send mon (.allot items) dst) = .ok ()) {cs cs' : CS} (hg : Good ds cs)
    (h : cStmt (.send mon (.allot items) dst) cs = .ok cs') :
    Emit ds env cs cs' (stmtK env (.send mon (.allot items) dst)) := by
  obtain ⟨htm, hal, hsrcs, hdst⟩ := checkStmt_inv hc
  simp only [cStmt] at h
  split at h
  · cases h
  · rename_i monAddr cs1 hca
    obtain ⟨a, v, hlm⟩ := leftmost_monetary_eval henv htm
    obtain ⟨e0, _, hav⟩ := cExprAddr_emit henv htm hg hca
    replace hav := hav _ hlm
    have hla : leftmostAsset env mon = .ok a := by simp [leftmostAsset, hlm]
    have hC := AddrVal.stable env monAddr (.monetary a v)
    -- the asset of the allocated amounts; if the amount has no value the run stops before the loop
    obtain ⟨c, hcm⟩ : ∃ c : String, ∀ m, evalMonetary env mon = .ok m → m.1 = c := by
      cases evalMonetary env mon with
      | error e => exact ⟨"", by intro m hm'; cases hm'⟩
      | ok m => exact ⟨m.1, by intro m' hm'; cases hm'; rfl⟩
    obtain ⟨gS, eS, rS⟩ := allotsrc_runs henv _ hC (sim_pushAssetOf ds env monAddr a v) monAddr c items hsrcs 0
    obtain ⟨gD, eD, rD⟩ := dest_runs henv _ hC dst hdst
    have e2 := (Sim.seq hC (sim_pushExpr henv _ htm)
      (Sim.seq hC (sim_allotment henv _ hC items.portions (checkAllotment_ok hal))
      (Sim.seq hC (sim_emitOp ds env _ OP_ALLOC) (Sim.seq hC eS
      (Sim.seq hC (sim_pushInteger ds env _ items.length) (Sim.seq hC (sim_emitOp ds env _ OP_FUNDING_ASSEMBLE)
      (Sim.single hC (Sim.seq hC eD (Sim.single hC (sim_emitOp ds env _ OP_REPAY)))))))))).emit e0.good hav h
    refine (e0.trans e2).congr fun stk st => ?_
    simp only [Kl.comp, Kl.id, exprK_monetary henv htm, stmtK, evalStmt]
    cases hme : evalMonetary env mon with
    | error e => rfl
    | ok m =>
      obtain rfl := hcm m hme
      simp only [allotK]
      cases hma : makeAllotment env items.portions with
      | error e => rfl
      | ok al =>
        simp only [opK_ALLOC]
        cases needAmt m.2 with
        | error e => rfl
        | ok amt =>
          have hlen : (allocate al amt).length = items.length :=
            (allocate_length_of_make hma amt).trans items.portions_length
          have hS : gS ((allocate al amt).map (monV m.1) ++ stk) st = _ :=
            (rS _ st ⟨[], _, stk, rfl, rfl, hlen⟩).trans (allotsrcK_at env a m.1 items [] _ stk st hlen)
          simp only [hla, hS]
          cases hes : evalAllotSrc Cfg.fixed env a m.1 items (allocate al amt) st.bal with
          | error e => rfl
          | ok w =>
            have hfl : w.1.length = items.length := by
              simpa [hlen] using congrArg List.length (evalAllotSrc_ok _ _ _ _ _ _ _ _ _ hes).2.2
            simp only [pushK, List.map_nil, List.nil_append, ← hfl, opK_ASSEMBLE]
            cases assemble w.1 with
            | error e => rfl
            | ok f =>
              simp only [rD _ _ ⟨f, stk, rfl⟩, destK, finishSend]
              cases evalDest env f.asset dst f.parts { st with bal := w.2 } <;> rfl

theorem cStmt_emit {ds : Decls} {env : Env} (henv : EnvTyped ds env) (s : Stmt)
    (hc : checkStmt ds s = .ok ()) {cs cs' : CS} (hg : Good ds cs) (h : cStmt s cs = .ok cs') :
    Emit ds env cs cs' (stmtK env s) := by
  have plain : s.covered = true → Emit ds env cs cs' (stmtK env s) :=
    fun hcv => (sim_stmt_simple henv s hcv hc).emit hg trivial h
  cases s with
  | send mon src dst =>
    cases src with
    | src so => exact stmt_send_emit henv hc hg h
    | allot items => exact stmt_send_allot_emit henv hc hg h
  | sendAll a src dst =>
    cases src with
    | src so => exact stmt_sendAll_emit henv hc hg h
    | allot items => simp [cStmt] at h; split at h <;> cases h
  | print e => exact plain rfl
  | fail => exact plain rfl
  | setTxMeta k e => exact plain rfl
  | setAccountMeta a k e => exact plain rfl
  | save m a => exact plain rfl
  | saveAll m a => exact plain rfl

def stmtsK (env : Env) (ss : List Stmt) : Kl := fun stk st =>
  match runStmts Cfg.fixed env ss st with
  | .ok st' => .ok (stk, st')
  | .error err => .error err

theorem cStmts_emit {ds : Decls} {env : Env} (henv : EnvTyped ds env) :
    (ss : List Stmt) → (∀ s ∈ ss, checkStmt ds s = .ok ()) →
    ∀ cs cs', Good ds cs → cStmts ss cs = .ok cs' → Emit ds env cs cs' (stmtsK env ss)
  | [], _, cs, cs', hg, h => by
    simp only [cStmts] at h; cases h
    exact (Emit.refl hg).congr fun stk st => by simp [Kl.id, stmtsK, runStmts]
  | s :: ss, hchk, cs, cs', hg, h => by
    simp only [cStmts] at h
    split at h
    · cases h
    · rename_i cs1 h1
      have e1 := cStmt_emit henv s (hchk s (by simp)) hg h1
      refine (e1.trans (cStmts_emit henv ss (fun x hx => hchk x (by simp [hx])) cs1 cs' e1.good h)).congr
        fun stk st => ?_
      simp only [Kl.comp, stmtK, stmtsK, runStmts]
      cases evalStmt Cfg.fixed env s st <;> rfl

theorem exec_compile {s : Script} {ds : Decls} (htc : typecheck s = .ok ds)
    {p : Program} (hc : compile s = .ok p) {env : Env} (henv : EnvTyped ds env) (bal : Balances) :
    exec p env bal = runStmts Cfg.fixed env s.stmts (initState bal) := by
  obtain ⟨hcv, hcs⟩ := typecheck_inv htc
  unfold compile at hc
  rw [htc] at hc
  simp only at hc
  split at hc
  · cases hc
  · rename_i cs1 hv1
    split at hc
    · cases hc
    · rename_i stf hst
      cases hc
      have vinv := cVars_ok henv s.vars [] hcv {} cs1
        ⟨⟨by intro x j h; simp at h, by intro i r h; simp at h⟩, rfl⟩ hv1
      obtain ⟨seg, e1, g1, hrun⟩ := cStmts_emit henv s.stmts (checkStmts_inv s.stmts hcs) cs1 stf vinv.1 hst
      obtain ⟨resv, hresv⟩ := resolveRes_exists henv g1.2 stf.res [] (by simp) [] rfl
        (by intro i r hi; simp at hi)
      have hr := resolved_of_resolveRes hresv
      have hcode : stf.code = seg := by rw [e1.code, vinv.2]; simp
      simp only [exec, hresv, hcode]
      rw [execInstrs_eq_runSeg, hrun stf.res resv ⟨[], by simp⟩ hr [] (initState bal), stmtsK]
      cases runStmts Cfg.fixed env s.stmts (initState bal) with
      | error e => rfl
      | ok st' => simp

/-- Compiler correctness: for EVERY program that compiles, the byte-code pipeline (`compile`, then
    `exec` on the real opcodes) gives exactly what `sem` gives. -/
theorem semBytecode_eq_sem_full {s : Script} {p : Program} (hc : compile s = .ok p)
    (inp : Input) : semBytecode Cfg.fixed s inp = sem Cfg.fixed s inp := by
  obtain ⟨ds, htc⟩ := compile_typechecks hc
  unfold semBytecode sem
  rw [hc, htc]
  simp only
  cases hp : prepare Cfg.fixed s inp with
  | error e => rfl
  | ok r =>
    obtain ⟨env, bal, pairs⟩ := r
    simp only
    obtain ⟨henv, _⟩ := (prepare_nfp htc inp).2 _ hp
    rw [exec_compile htc hc henv bal]
    cases runStmts Cfg.fixed env s.stmts (initState bal) <;> rfl

/-- The programs whose statements move no funds: every statement is `print`, `fail`,
    `set_tx_meta`, `set_account_meta`, `save`; variables of any kind (plain, `meta()`,
    `balance()`), expressions of any shape. -/
def CompileCovered (s : Script) : Prop := ∀ st ∈ s.stmts, st.covered = true

/-- Compiler correctness for the programs without funds: a special case of `semBytecode_eq_sem_full`. -/
theorem semBytecode_eq_sem {s : Script} (hcov : CompileCovered s) {p : Program} (hc : compile s = .ok p)
    (inp : Input) : semBytecode Cfg.fixed s inp = sem Cfg.fixed s inp :=
  semBytecode_eq_sem_full hc inp

end Ledger.Machine
