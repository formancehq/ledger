import Ledger.Log.PayloadCanon

/-!
C08 (payload part) helper lemmas: the leaves are fixed points on canonical values,
sorted maps survive `sortByKey` and `buildMap`, and every component decoder inverts
its encoder.
-/
namespace Ledger.Log

theorem sanitizeAux_valid (n : Nat) (s : Bytes) (h : validUtf8Aux n s = true) : sanitizeAux n s = s := by
  fun_induction validUtf8Aux n s <;> simp_all [-UInt8.not_lt, sanitizeAux]

theorem sanitize_valid {s : Bytes} (h : validUtf8 s = true) : sanitize s = s := sanitizeAux_valid 0 s h

theorem bytesLt_asymm (a b : Bytes) (h : bytesLt a b = true) : bytesLt b a = false := by
  fun_induction bytesLt a b <;> simp_all [bytesLt, UInt8.lt_asymm]

theorem bytesLt_irrefl (a : Bytes) : bytesLt a a = false := by
  induction a with
  | nil => rfl
  | cons x s ih => simp [bytesLt, UInt8.lt_irrefl, ih]

theorem bytesLt_ne {a b : Bytes} (h : bytesLt a b = true) : a ≠ b := by
  intro e; subst e; simp [bytesLt_irrefl] at h

theorem insertByKey_above {α : Type} (k : Bytes) (v : α) (m : List (Bytes × α)) (h : keysAbove k m = true) :
    insertByKey (k, v) m = (k, v) :: m := by
  cases m with
  | nil => rfl
  | cons x r =>
    obtain ⟨a, w⟩ := x
    simp only [keysAbove, Bool.and_eq_true] at h
    simp [insertByKey, h.1]

theorem sortByKey_strict {α : Type} (m : List (Bytes × α)) (h : strictKeys m = true) : sortByKey m = m := by
  induction m with
  | nil => rfl
  | cons x r ih =>
    obtain ⟨k, v⟩ := x
    simp only [strictKeys, Bool.and_eq_true] at h
    simp only [sortByKey, ih h.2]
    exact insertByKey_above k v r h.1

theorem mapSet_above {α : Type} (k : Bytes) (v : α) (acc : List (Bytes × α))
    (h : ∀ a ∈ acc, bytesLt a.1 k = true) : mapSet k v acc = acc ++ [(k, v)] := by
  induction acc with
  | nil => rfl
  | cons x r ih =>
    obtain ⟨a, w⟩ := x
    have ha : bytesLt a k = true := h (a, w) (by simp)
    have h1 : bytesLt k a = false := bytesLt_asymm a k ha
    have h2 : a ≠ k := bytesLt_ne ha
    simp only [mapSet, h1, Bool.false_eq_true, if_false, h2]
    rw [ih (fun b hb => h b (by simp [hb]))]
    rfl

theorem keysAbove_iff {α : Type} (k : Bytes) (m : List (Bytes × α)) :
    keysAbove k m = true ↔ ∀ b ∈ m, bytesLt k b.1 = true := by
  induction m with
  | nil => exact ⟨fun _ _ hb => (nomatch hb), fun _ => rfl⟩
  | cons x r ih => rw [keysAbove, Bool.and_eq_true, ih, List.forall_mem_cons]

theorem buildMap_strict {α : Type} (rest : List (Bytes × α)) : ∀ (acc : List (Bytes × α)),
    (∀ a ∈ acc, ∀ b ∈ rest, bytesLt a.1 b.1 = true) → strictKeys rest = true →
    buildMap acc rest = acc ++ rest := by
  induction rest with
  | nil => intro acc _ _; simp [buildMap]
  | cons x r ih =>
    obtain ⟨k, v⟩ := x
    intro acc h1 h2
    simp only [strictKeys, Bool.and_eq_true, keysAbove_iff] at h2
    rw [buildMap, mapSet_above k v acc (fun a ha => h1 a ha _ List.mem_cons_self), ih _ ?_ h2.2,
      List.append_assoc, List.singleton_append]
    intro a ha b hb
    rcases List.mem_append.mp ha with ha | ha
    · exact h1 a ha b (List.mem_cons_of_mem _ hb)
    · cases List.mem_singleton.mp ha; exact h2.1 b hb

theorem buildMap_nil_strict {α : Type} (m : List (Bytes × α)) (h : strictKeys m = true) : buildMap [] m = m := by
  have := buildMap_strict m [] (fun a ha => by cases ha) h
  simpa using this

theorem jlookup_append (k : Bytes) (a b : List (Bytes × JVal)) :
    jlookup k (a ++ b) = (jlookup k b).or (jlookup k a) := by
  induction a with
  | nil => cases h : jlookup k b <;> simp [jlookup, h]
  | cons x r ih =>
    obtain ⟨c, v⟩ := x
    simp only [List.cons_append, jlookup, ih]
    cases jlookup k b <;> cases jlookup k r <;> simp

theorem jlookup_cons (k a : Bytes) (v : JVal) (r : List (Bytes × JVal)) :
    jlookup k ((a, v) :: r) = (jlookup k r).or (if a = k then some v else none) := by
  simp only [jlookup]
  cases jlookup k r <;> simp

theorem jlookup_nil (k : Bytes) : jlookup k [] = none := rfl

theorem jlookup_optField (k k' : Bytes) (v : Option JVal) :
    jlookup k (optField k' v) = if k' = k then v else none := by
  cases v <;> simp [optField, jlookup]

theorem jlookup_ite (k k' : Bytes) (c : Prop) [Decidable c] (v : JVal) :
    jlookup k (if c then [] else [(k', v)]) = if c then none else (if k' = k then some v else none) := by
  split <;> simp [jlookup]

theorem decStr_enc (s : Bytes) (h : validUtf8 s = true) : decStr (encStr s) = .ok s := by
  simp [decStr, encStr, sanitize_valid h]

theorem decMetadataKvs_enc (m : List (Bytes × Bytes)) (h : canonMetaEntries m = true) :
    decMetadataKvs (m.map fun (k, v) => (sanitize k, encStr v)) = .ok m := by
  induction m with
  | nil => rfl
  | cons x r ih =>
    obtain ⟨k, v⟩ := x
    simp only [canonMetaEntries, Bool.and_eq_true] at h
    rw [List.map_cons]
    simp only [decMetadataKvs]
    rw [ih h.2]
    simp only [encStr, decStr, sanitize_valid h.1.1, sanitize_valid h.1.2]

theorem decMetadata_enc (md : Metadata) (h : canonMetadata md = true) : decMetadata (encMetadataJ md) = .ok md := by
  cases md with
  | none => rfl
  | some m =>
    simp only [canonMetadata, Bool.and_eq_true] at h
    simp [encMetadataJ, decMetadata, sortByKey_strict m h.1, decMetadataKvs_enc m h.2, buildMap_nil_strict m h.1]

theorem decAccountMetadataKvs_enc (m : List (Bytes × Metadata)) (h : canonAcctEntries m = true) :
    decAccountMetadataKvs (m.map fun (k, v) => (sanitize k, encMetadataJ v)) = .ok m := by
  induction m with
  | nil => rfl
  | cons x r ih =>
    obtain ⟨k, v⟩ := x
    simp only [canonAcctEntries, Bool.and_eq_true] at h
    simp [decAccountMetadataKvs, sanitize_valid h.1.1, decMetadata_enc v h.1.2, ih h.2]

theorem decAccountMetadata_enc (am : AccountMetadata) (h : canonAccountMetadata am = true) :
    decAccountMetadata (encAccountMetadataJ am) = .ok am := by
  cases am with
  | none => rfl
  | some m =>
    simp only [canonAccountMetadata, Bool.and_eq_true] at h
    simp [encAccountMetadataJ, decAccountMetadata, sortByKey_strict m h.1, decAccountMetadataKvs_enc m h.2,
      buildMap_nil_strict m h.1]

theorem decVolumes_enc (v : Volumes) : decVolumes (encVolumesJ v) = .ok v := by
  simp [decVolumes, encVolumesJ, fieldOr, jlookup]

theorem decVolumesKvs_enc (m : List (Bytes × Volumes)) (h : canonVolEntries m = true) :
    decVolumesKvs (m.map fun (k, v) => (sanitize k, encVolumesJ v)) = .ok m := by
  induction m with
  | nil => rfl
  | cons x r ih =>
    obtain ⟨k, v⟩ := x
    simp only [canonVolEntries, Bool.and_eq_true] at h
    simp [decVolumesKvs, sanitize_valid h.1, decVolumes_enc, ih h.2]

theorem decVolumesByAssets_enc (m : VolumesByAssets) (h : canonVolumesByAssets m = true) :
    decVolumesByAssets (encVolumesByAssetsJ m) = .ok m := by
  simp only [canonVolumesByAssets, Bool.and_eq_true] at h
  simp [encVolumesByAssetsJ, decVolumesByAssets, sortByKey_strict m h.1, decVolumesKvs_enc m h.2,
    buildMap_nil_strict m h.1]

theorem decPcvKvs_enc (m : List (Bytes × VolumesByAssets)) (h : canonPcvEntries m = true) :
    decPcvKvs (m.map fun (k, v) => (sanitize k, encVolumesByAssetsJ v)) = .ok m := by
  induction m with
  | nil => rfl
  | cons x r ih =>
    obtain ⟨k, v⟩ := x
    simp only [canonPcvEntries, Bool.and_eq_true] at h
    simp [decPcvKvs, sanitize_valid h.1.1, decVolumesByAssets_enc v h.1.2, ih h.2]

theorem decPcv_enc (p : PostCommitVolumes) (h : canonPcv p = true) : decPcv (encPcvJ p) = .ok p := by
  cases p with
  | none => rfl
  | some m =>
    cases m with
    | nil => simp [canonPcv] at h
    | cons x r =>
      simp only [canonPcv, Bool.and_eq_true] at h
      simp only [encPcvJ, decPcv, sortByKey_strict _ h.1, decPcvKvs_enc _ h.2, buildMap_nil_strict _ h.1]

theorem decPosting_enc (p : Posting) (h : canonPosting p = true) : decPosting (encPostingJ p) = .ok p := by
  simp only [canonPosting, Bool.and_eq_true] at h
  obtain ⟨s, d, a, as⟩ := p
  simp (config := { decide := true }) only [decPosting, encPostingJ, fieldOr, jlookup_cons, jlookup_nil, ↓reduceIte,
    Option.or_none, Option.or_some, Option.getD_none, Option.getD_some]
  simp only [decStr_enc _ h.1.1, decStr_enc _ h.1.2, decStr_enc _ h.2]
  cases a <;> rfl

theorem decPostings_enc (ps : List Posting) (h : canonPostings ps = true) :
    decPostings (ps.map encPostingJ) = .ok ps := by
  induction ps with
  | nil => rfl
  | cons p r ih =>
    simp only [canonPostings, Bool.and_eq_true] at h
    simp [decPostings, decPosting_enc p h.1, ih h.2]

theorem decTime_canon (d : Date) (h : canonDate d = true) : decTime (.time d) = .ok d := by
  simp only [canonDate, decide_eq_true_eq] at h
  simp [decTime, h]

theorem decPostingsOpt_enc (ps : Option (List Posting))
    (h : (match ps with | none => true | some ps => canonPostings ps) = true) :
    decPostingsOpt (encPostingsJ ps) = .ok ps := by
  cases ps with
  | none => rfl
  | some ps => simp [encPostingsJ, decPostingsOpt, decPostings_enc ps h]

theorem decUint64_enc (id : Option Nat)
    (h : (match id with | none => true | some n => decide (n < 18446744073709551616)) = true) :
    decUint64 (encOptNatJ id) = .ok id := by
  cases id with
  | none => rfl
  | some n =>
    have : (n : Int) < 18446744073709551616 := by have := of_decide_eq_true h; omega
    simp [decUint64, encOptNatJ, this]

theorem decOptTime_enc (d : Option Date) (h : (match d with | none => true | some d => canonDate d) = true) :
    decOptTime (d.map JVal.time) = .ok d := by
  cases d with
  | none => rfl
  | some d => simp [decOptTime, decTime_canon d h]

/-- an `omitempty` string member: absent when empty, and then decoded as empty -/
theorem decStr_omitempty (s : Bytes) (h : validUtf8 s = true) :
    decStr ((if s = [] then none else some (encStr s)).getD .null) = .ok s := by
  split
  · next hs => rw [hs]; rfl
  · exact decStr_enc s h

theorem decTransaction_enc (tx : Transaction) (h : canonTransaction tx = true) :
    decTransaction (encTransactionJ tx) = .ok tx := by
  obtain ⟨postings, metadata, timestamp, reference, id, insertedAt, updatedAt, revertedAt, pcv, pcev, template⟩ := tx
  simp only [canonTransaction, Bool.and_eq_true] at h
  obtain ⟨⟨⟨⟨⟨⟨⟨⟨⟨⟨hp, hmd⟩, hts⟩, href⟩, hid⟩, hia⟩, hua⟩, hra⟩, hpcv⟩, hpcev⟩, htpl⟩ := h
  -- the members have pairwise different (literal) keys: each lookup finds its own member
  simp (config := { decide := true }) only [encTransactionJ, decTransaction, fieldOr, jlookup_append,
    jlookup_optField, jlookup_ite, jlookup_cons, jlookup_nil, ↓reduceIte, Option.or_none, Option.none_or,
    Option.or_some, ite_self, Option.getD_none, Option.getD_some]
  simp only [decPostingsOpt_enc _ hp, decMetadata_enc _ hmd, decTime_canon _ hts, decStr_omitempty _ href,
    decUint64_enc _ hid, decTime_canon _ hia, decTime_canon _ hua, decOptTime_enc _ hra, decPcv_enc _ hpcv,
    decPcv_enc _ hpcev, decStr_omitempty _ htpl]

theorem decTarget_enc (tt : Bytes) (tid : TargetId) (h : canonTarget tt tid = true) :
    decTarget tt (encTargetIdJ tid) = .ok tid := by
  cases tid with
  | account a =>
    simp only [canonTarget, Bool.and_eq_true, decide_eq_true_eq] at h
    simp [decTarget, encTargetIdJ, encStr, h.1, sanitize_valid h.2]
  | transaction n =>
    simp only [canonTarget, Bool.and_eq_true, decide_eq_true_eq] at h
    have hne : asciiUpper tt ≠ b!"ACCOUNT" := by rw [h.1]; decide
    have : (n : Int) < 18446744073709551616 := by omega
    simp [decTarget, encTargetIdJ, h.1, this]

theorem decodePayload_encodePayload (p : Payload) (h : canonicalPayload p = true) :
    decodePayload p.type (encodePayload p) = .ok p := by
  cases p <;> simp only [canonicalPayload, Bool.and_eq_true] at h <;>
    simp (config := { decide := true }) only [decodePayload, encodePayload, Payload.type, fieldOr, jlookup_cons,
      jlookup_nil, ↓reduceIte, Option.or_none, Option.or_some, Option.getD_none, Option.getD_some]
  case createdTransaction tx am => simp only [decTransaction_enc tx h.1, decAccountMetadata_enc am h.2]
  case revertedTransaction a b => simp only [decTransaction_enc a h.1, decTransaction_enc b h.2]
  case savedMetadata tt tid md =>
    simp only [decStr_enc tt h.1.1, decTarget_enc tt tid h.1.2, decMetadata_enc md h.2]
  case deletedMetadata tt tid key =>
    simp only [decStr_enc tt h.1.1, decTarget_enc tt tid h.1.2, decStr_enc key h.2]

end Ledger.Log
