/-! Decimal text of a natural number as the library prints it (`Nat.toDigits 10`, of which `Nat.repr`
    and `toString` on `Nat` / `Int` are made): what a parser of such text needs beyond the library's
    `Nat.ofDigitChars_ten_toDigits` (the digits read back give the number). -/
namespace Ledger.Decimal

theorem isDigit_of_mem_toDigits {n : Nat} {c : Char} (h : c ∈ Nat.toDigits 10 n) : c.isDigit = true :=
  Nat.isDigit_of_mem_toDigits (by decide) (by decide) h

/-- The text is not empty and starts with a digit (so with no sign or space), with `'0'` only for 0. -/
theorem toDigits_head (n : Nat) :
    ∃ c rest, Nat.toDigits 10 n = c :: rest ∧ c.isDigit = true ∧ (c = '0' → n = 0) := by
  induction n using Nat.strongRecOn with | _ n ih =>
  by_cases h : n < 10
  · have e := Nat.toDigits_of_lt_base h
    exact ⟨_, [], e, isDigit_of_mem_toDigits (e ▸ List.mem_singleton_self _),
      (by decide : ∀ d < 10, Nat.digitChar d = '0' → d = 0) n h⟩
  · obtain ⟨c, rest, e, hd, hc⟩ := ih (n / 10) (Nat.div_lt_self (by omega) (by decide))
    refine ⟨c, rest ++ [(n % 10).digitChar], ?_, hd,
      fun h0 => absurd (Nat.lt_of_div_eq_zero (by decide) (hc h0)) h⟩
    rw [Nat.toDigits_of_base_le (by decide) (Nat.le_of_not_lt h), e, List.cons_append]

/-- The text of an integer is the text of its absolute value, after `-` if it is negative. -/
theorem toString_int_toList (n : Int) : (toString n).toList =
    match n with
    | .ofNat m => Nat.toDigits 10 m
    | .negSucc m => '-' :: Nat.toDigits 10 (m + 1) := by
  cases n with
  | ofNat m => exact Nat.toList_repr
  | negSucc m =>
    show ("-" ++ Nat.repr (m + 1)).toList = _
    rw [String.toList_append, Nat.toList_repr]; rfl

/-- Reading a list member by member succeeds where reading each member does. -/
theorem mapM_eq_map {α β : Type} {f : α → Option β} {g : α → β} {l : List α}
    (h : ∀ a ∈ l, f a = some (g a)) : l.mapM f = some (l.map g) := by
  induction l with
  | nil => rfl
  | cons a as ih =>
    rw [List.mapM_cons, h a List.mem_cons_self, ih fun x hx => h x (List.mem_cons_of_mem a hx)]
    rfl

end Ledger.Decimal
