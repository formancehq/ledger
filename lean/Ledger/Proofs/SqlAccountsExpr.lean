import Ledger.Generated.Schema
import Ledger.Core.Types
import Ledger.Proofs.SqlValues
import Ledger.Proofs.SqlPure
import Ledger.Generated.WriteSql

/-!
# `UpsertAccounts`: rows, scopes and expression rules

The shape of a row of `accounts` and of a row of the `data_batch` CTE, the environment in which `UPDATE accounts a … FROM data_batch d`
evaluates its expressions (`upEnv`) with its column look-ups, and the equations of `pv`, `evalBinop` and `evalPureFn` by which the
expressions of the statement (`LEAST(d.first_usage, a.first_usage)`, `a.metadata || d.metadata`, the three-valued WHERE clause of
`updated_rows`, the COALESCEs of `inserted_rows`) are evaluated in `SqlAccountsIns.upsertAccounts_shape4`. Not proved: the
correspondence between jsonb objects (`jsonConcat`, `jsonContains`) and `Ledger.Spec.metaMerge` / `metaContains` on sorted maps
(that is `SqlJsonMeta`, used by `SqlAccountsRefine`).
-/

open Ledger Ledger.Sql Ledger.Generated Ledger.Core
open Ledger.Generated.WriteSql.P (AccountRow)

namespace Ledger.Sql

/-- a row of `accounts` (column order of `Schema.tbl_accounts`) -/
def acVals (l addr : String) (aa : JV) (ins upd : Int) (md : JV) (fu : Int) : List Value :=
  [.text l, .text addr, .json aa, .ts ins, .ts upd, .json md, .ts fu]

def acCols : List String := Schema.tbl_accounts.cols.map (·.name)

/-- a row of the `data_batch` CTE of `UpsertAccounts` -/
def dbVals (addr : String) (md : JV) (fu ins upd : Option Int) (aa dm bi : JV) : List Value :=
  [.text addr, .json md, optTs fu, optTs ins, optTs upd, .json aa, .json dm, .json bi]

def dbCols : List String := ["address", "metadata", "first_usage", "insertion_date", "updated_at", "address_array", "default_metadata", "batch_index"]

/-- the environment of `UPDATE accounts a … FROM data_batch d`: the target row, then the joined row -/
def upEnv (env : Env) (av dv : List Value) (src : Option (String × Nat)) : Env :=
  { env with locals := [{ alias := "a", cols := acCols, vals := av, src := src }, { alias := "d", cols := dbCols, vals := dv }] }

theorem lastComponent_a : lastComponent "a" = "a" := by decide
theorem lastComponent_d : lastComponent "d" = "d" := by decide

theorem lookup_a (env : Env) (av dv : List Value) (src : Option (String × Nat)) (c : String) (v : Value)
    (h : lookupIn acCols av c = some v) : lookupColumn (upEnv env av dv src) "a" c = .ok v :=
  lookupColumn_alias _ "a" c { alias := "a", cols := acCols, vals := av, src := src } v rfl (by rw [lastComponent_a]; rfl) h

theorem lookup_d (env : Env) (av dv : List Value) (src : Option (String × Nat)) (c : String) (v : Value)
    (h : lookupIn dbCols dv c = some v) : lookupColumn (upEnv env av dv src) "d" c = .ok v :=
  lookupColumn_alias _ "d" c { alias := "d", cols := dbCols, vals := dv } v rfl (by rw [lastComponent_d]; rfl) h

theorem lookup_unq_a (env : Env) (av dv : List Value) (src : Option (String × Nat)) (c : String) (v : Value)
    (h : lookupIn acCols av c = some v) : lookupColumn (upEnv env av dv src) "" c = .ok v :=
  lookupColumn_head _ { alias := "a", cols := acCols, vals := av, src := src } _ c v rfl h

/-! ### three-valued operands of `pv`: every truth value is written `ofTruth t` (`bool_ofTruth`), and AND / OR / NOT compute on `t` -/

theorem bool_ofTruth (b : Bool) : Value.bool b = ofTruth (some b) := rfl

theorem binV_and3 (ta tb : Option Bool) : binV .and (.ok (ofTruth ta)) (.ok (ofTruth tb)) = .ok (ofTruth (and3 ta tb)) := by
  rcases ta with _ | _ | _ <;> rcases tb with _ | _ | _ <;> rfl

theorem binV_or3 (ta tb : Option Bool) : binV .or (.ok (ofTruth ta)) (.ok (ofTruth tb)) = .ok (ofTruth (or3 ta tb)) := by
  rcases ta with _ | _ | _ <;> rcases tb with _ | _ | _ <;> rfl

theorem unopV_not3 (t : Option Bool) : unopV .not (.ok (ofTruth t)) = .ok (ofTruth (not3 t)) := by
  rcases t with _ | _ | _ <;> rfl

/-! ### which branch of `pv` a call without schema takes -/

theorem builtinSchema_empty : (("" : String).isEmpty || "" == "public" || "" == "pg_catalog") = true := by decide
theorem isCoalesce_least : ((("" : String).isEmpty || "" == "pg_catalog") && "least" == "coalesce") = false := by decide
theorem isCoalesce_coalesce : ((("" : String).isEmpty || "" == "pg_catalog") && "coalesce" == "coalesce") = true := by decide

/-- `LEAST` over two timestamps, NULLs ignored -/
def leastOpt (d : Option Int) (a : Int) : Int :=
  match d with
  | some x => if a < x then a else x
  | none => a

theorem evalBinop_lt_optTs (d : Option Int) (a : Int) : evalBinop .lt (optTs d) (.ts a) = .ok (ofTruth (d.map fun x => decide (x < a))) := by
  cases d with
  | none => rfl
  | some x => exact evalBinop_lt_ts x a

theorem evalBinop_gt_ts_optTs (a : Int) (d : Option Int) : evalBinop .gt (.ts a) (optTs d) = .ok (ofTruth (d.map fun x => decide (x < a))) := by
  cases d with
  | none => rfl
  | some x => exact evalBinop_gt_ts a x

/-- LEAST ignores NULL arguments (documentation 9.18.4) and keeps the smallest of the others -/
theorem evalPureFn_least (args : List Value) : evalPureFn "least" args = some (do
      match args.filter (!·.isNull) with
      | [] => pure .null
      | x :: rest =>
        rest.foldlM (fun acc y => do
          let o ← compareForSort y acc
          pure (if ("least" == "least" && o == .lt) || ("least" == "greatest" && o == .gt) then y else acc)) x) := rfl

theorem least_ts_ts (x y : Int) : evalPureFn "least" [.ts x, .ts y] = some (.ok (.ts (if y < x then y else x))) := by
  have e : ∀ o : Ordering, (("least" == "least" && o == .lt) || ("least" == "greatest" && o == .gt)) = (o == .lt) := by decide
  rw [evalPureFn_least]
  show some (Except.ok (if ("least" == "least" && cmpInt y x == .lt) || ("least" == "greatest" && cmpInt y x == .gt) then Value.ts y else .ts x)) = _
  rw [e, cmpInt_lt]
  by_cases h : y < x <;> simp [h]

theorem least_optTs_ts (d : Option Int) (a : Int) : evalPureFn "least" [optTs d, .ts a] = some (.ok (.ts (leastOpt d a))) := by
  cases d with
  | none => rfl
  | some x => exact least_ts_ts x a

theorem least_ts_optTs (d : Option Int) (a : Int) : evalPureFn "least" [.ts a, optTs d] = some (.ok (.ts (leastOpt d a))) := by
  cases d with
  | none => rfl
  | some x =>
    rw [show optTs (some x) = .ts x from rfl, least_ts_ts, leastOpt]
    by_cases h : a < x <;> by_cases h' : x < a <;> simp [h, h'] <;> omega

end Ledger.Sql
