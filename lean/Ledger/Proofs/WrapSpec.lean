import Ledger.Wrap.Trace

/-!
Facts about the specification fold `Spec` of `Ledger/Wrap/Trace.lean` alone
(no wrapper model involved), used to spell out what `c31Ok` means.
-/
namespace Ledger.Wrap
open List

theorem bad_sticky (σ : Spec) (tr : List Item) (h : σ.bad = true) : (Spec.run σ tr).bad = true := by
  induction tr generalizing σ with
  | nil => exact h
  | cons it tr ih =>
    apply ih
    unfold Spec.step
    split <;> (try split) <;> simp [h]

/-- Everything durable or pending in `σ` stems from a successful non-dry write of `tr`. -/
def Src (σ : Spec) (tr : List Item) : Prop :=
  (∀ x ∈ σ.dur, ∃ t, Item.write t x.1 false x.2 .ok ∈ tr) ∧
  (∀ t, ∀ x ∈ σ.pend t, ∃ t', Item.write t' x.1 false x.2 .ok ∈ tr)

theorem Src.mono {σ : Spec} {tr : List Item} (h : Src σ tr) (it : Item) : Src σ (tr ++ [it]) :=
  ⟨fun x hx => (h.1 x hx).imp fun _ hm => List.mem_append_left _ hm,
   fun t x hx => (h.2 t x hx).imp fun _ hm => List.mem_append_left _ hm⟩

theorem mem_upd_nil {f : Nat → List Ev} {t t' : Nat} {x : Ev} (h : x ∈ upd f t [] t') : x ∈ f t' := by
  unfold upd at h
  split at h
  · cases h
  · exact h

theorem src_step (σ : Spec) (tr : List Item) (it : Item) (h : Src σ tr) :
    Src (σ.step it) (tr ++ [it]) := by
  have hm := h.mono it
  cases it with
  | begin t p r =>
    cases r
    · exact ⟨hm.1, fun t' x hx => by
        simp only [Spec.step] at hx
        exact hm.2 t' x (mem_upd_nil hx)⟩
    · exact hm
    · exact hm
  | lock t r => exact hm
  | release t => exact hm
  | commit t r =>
    cases r
    · simp only [Spec.step]
      split
      · refine ⟨fun x hx => ?_, fun t' x hx => hm.2 t' x (mem_upd_nil hx)⟩
        rcases List.mem_append.1 hx with hx | hx
        · exact hm.1 x hx
        · exact hm.2 t x hx
      · refine ⟨hm.1, fun t' x hx => ?_⟩
        simp only [] at hx
        have hx' := mem_upd_nil hx
        unfold upd at hx'
        split at hx'
        · rcases List.mem_append.1 hx' with hx' | hx'
          · exact hm.2 _ x hx'
          · exact hm.2 t x hx'
        · exact hm.2 t' x hx'
    · exact ⟨hm.1, fun t' x hx => hm.2 t' x (mem_upd_nil hx)⟩
    · exact hm
  | rollback t r =>
    cases r
    · exact ⟨hm.1, fun t' x hx => hm.2 t' x (mem_upd_nil hx)⟩
    · exact ⟨hm.1, fun t' x hx => hm.2 t' x (mem_upd_nil hx)⟩
    · exact hm
  | write t k dry w r =>
    cases r <;> cases dry <;> try exact hm
    simp only [Spec.step]
    have hnew : ∃ t', Item.write t' k false w .ok ∈ tr ++ [Item.write t k false w .ok] :=
      ⟨t, List.mem_append_right _ (List.mem_singleton.2 rfl)⟩
    split
    · refine ⟨fun x hx => ?_, hm.2⟩
      rcases List.mem_append.1 hx with hx | hx
      · exact hm.1 x hx
      · rw [List.mem_singleton.1 hx]; exact hnew
    · refine ⟨hm.1, fun t' x hx => ?_⟩
      simp only [] at hx
      unfold upd at hx
      split at hx
      · rcases List.mem_append.1 hx with hx | hx
        · exact hm.2 t x hx
        · rw [List.mem_singleton.1 hx]; exact hnew
      · exact hm.2 t' x hx
  | sql t tag r => exact hm
  | publish k w => exact ⟨hm.1, hm.2⟩

theorem src_run (σ : Spec) (tr0 tr : List Item) (h : Src σ tr0) : Src (Spec.run σ tr) (tr0 ++ tr) := by
  induction tr generalizing σ tr0 with
  | nil => simpa [Spec.run] using h
  | cons it tr ih =>
    have := ih (σ.step it) (tr0 ++ [it]) (src_step σ tr0 it h)
    simpa [Spec.run] using this

end Ledger.Wrap
