import Ledger.Proofs.ReplWF

/-! Safety invariant `Inv` of the replication model: preserved by every step in the
configurations `Good c` (candidate fix, or no `ResetPipeline`). Then the step-level
facts: when a reset takes effect, what an exporter call delivers and acknowledges. -/
namespace Ledger.Repl

theorem Chain.covers {bs : List (Nat × Nat)} {hw k : Nat} (h : Chain bs hw) (h1 : 1 ≤ k) (h2 : k ≤ hw) :
    ∃ b ∈ bs, b.1 < k ∧ k ≤ b.2 := by
  induction h with
  | nil => omega
  | @cons bs hw lo hi _ hlo hlt ih =>
    by_cases hk : k ≤ hw
    · obtain ⟨b, hb, hb'⟩ := ih hk
      exact ⟨b, List.mem_cons_of_mem _ hb, hb'⟩
    · exact ⟨(lo, hi), List.mem_cons_self, by simp; omega, by simp; omega⟩

theorem Chain.hw_of_nil {hw : Nat} (h : Chain [] hw) : hw = 0 := by
  cases h; rfl

variable {c : Cfg} {s s' : State} {h h' : Handler} {l : Label}

/-- the candidate fix is in force whenever a reset can happen -/
theorem Good.sync_of_reset (g : Good c) (h : c.allowReset = true) : c.sync = true :=
  g.resolve_right (by rw [h]; nofun)

theorem inv_init : Inv c State.init :=
  ⟨fun _ => rfl, fun _ => nofun, Nat.le_refl _, fun _ => nofun, fun _ => nofun, fun _ => nofun, Nat.le_refl _,
    Nat.le_refl _, (fun k h1 h2 => by cases h2; cases h1), fun _ => nofun, fun _ => Chain.nil⟩

theorem inv_setHandler (i : Inv c s) (hl : h.last ≤ s.ackHW) (he : ExpOk c h) : Inv c { s with handler := some h } :=
  { i with last_le := fun _ e => by cases e; exact hl, expOk := fun _ e => by cases e; exact he }

theorem inv_startHandler {last : Nat} (i : Inv c s) (hl : last ≤ s.ackHW) : Inv c (startHandler s last) :=
  { i with last_le := fun _ e => by cases e; exact hl, expOk := fun _ e => by cases e; trivial }

/-- the state right after `UpdatePipeline(last_log_id = NULL)`, with or without a new handler -/
theorem inv_resetRow (g : Good c) (i : Inv c s) (ha : c.allowReset = true)
    (hc : s.cur = none) (e : s' = resetRow s ∨ s' = startHandler (resetRow s) 0) (hn : s.handler = none) :
    Inv c s' := by
  have ho := i.syncOrph (g.sync_of_reset ha)
  have i0 : Inv c (resetRow s) :=
    { i with persisted_le := Nat.le_refl _, cur_le := fun _ e => (nomatch hc.symm.trans e),
             orph_le := fun _ e => (by rw [show (resetRow s).orphans = [] from ho] at e; cases e),
             last_le := fun _ e => (nomatch hn.symm.trans e), ack_le := Nat.le_refl _, deliv_le := Nat.zero_le _,
             ackedPre := fun k h1 h2 => (by cases h2; cases h1), expOk := fun _ e => (nomatch hn.symm.trans e),
             chain := fun _ => Chain.nil }
  rcases e with rfl | rfl
  · exact i0
  · exact inv_startHandler i0 (Nat.le_refl _)

theorem inv_finishOp (g : Good c) (i : Inv c s) (hh : s.handler = none) (hc : s.cur = none) : Inv c (finishOp s) := by
  unfold finishOp
  split
  · exact i
  · exact { i with noResetPending := fun _ => nofun }
  · rename_i hp
    refine inv_resetRow (s := { s with pending := none }) g { i with noResetPending := fun _ => nofun } ?_ hc
      (.inr rfl) hh
    cases ha : c.allowReset
    · exact absurd hp (i.noResetPending ha)
    · rfl
  · exact { i with noResetPending := fun _ => nofun }

theorem inv_exit (g : Good c) (i : Inv c s) : Inv c (exitHandler c s) := by
  have i0 : Inv c { s with handler := none } := { i with last_le := fun _ => nofun, expOk := fun _ => nofun }
  unfold exitHandler
  split
  · exact inv_finishOp g i0 rfl ‹_›
  · rename_i v hcur
    have hv := i.cur_le v hcur
    split
    · have hp : (if s.created = true then v else s.persisted) ≤ s.ackHW := by
        split
        · exact hv
        · exact i.persisted_le
      exact inv_finishOp g { i0 with cur_le := fun _ => nofun, persisted_le := hp } rfl rfl
    · rename_i hns
      refine inv_finishOp g
        { i0 with cur_le := fun _ => nofun, syncOrph := fun h => absurd h hns, orph_le := fun w hw => ?_ } rfl rfl
      rcases List.mem_append.mp hw with hw | hw
      · exact i.orph_le w hw
      · cases List.mem_singleton.mp hw; exact hv

theorem Cont.inv (k : Cont c s h' s') (g : Good c) (i : Inv c s) (hl : h'.last ≤ s.ackHW) (he : ExpOk c h') :
    Inv c s' := by
  cases k with
  | on => exact inv_setHandler i hl he
  | exit => exact inv_exit g i

theorem inv_exporterCall {a b : Nat} (r : AcceptRes) (i : Inv c s)
    (h1 : SingleChunk c → a ≤ s.delivHW) (h2 : a < b) (h3 : b ≤ s.nLogs) : Inv c (exporterCall s a b r) := by
  have d : Inv c (deliver s a b) :=
    { i with ack_le := Nat.le_trans i.ack_le (Nat.le_max_left ..), deliv_le := Nat.max_le.mpr ⟨i.deliv_le, h3⟩,
             chain := fun sc => Chain.cons (i.chain sc) (h1 sc) h2 }
  cases r with
  | fail => exact i
  | lost => exact d
  | _ => exact { d with ackedPre := fun k h1 h2 => List.mem_append_right _ (i.ackedPre k h1 h2) }

/-- `Accept` reported the page up to `hi` as acknowledged -/
theorem inv_ack {hi : Nat} (i : Inv c s) (hd : hi ≤ s.delivHW) (ha : AckedUpTo s hi) : Inv c (ack s hi) :=
  { i with persisted_le := Nat.le_trans i.persisted_le (Nat.le_max_left ..),
           cur_le := fun v hv => Nat.le_trans (i.cur_le v hv) (Nat.le_max_left ..),
           orph_le := fun v hv => Nat.le_trans (i.orph_le v hv) (Nat.le_max_left ..),
           last_le := fun h' hh => Nat.le_trans (i.last_le h' hh) (Nat.le_max_left ..),
           ack_le := Nat.max_le.mpr ⟨i.ack_le, hd⟩,
           ackedPre := fun k h1 h2 => by
             by_cases hk : k ≤ s.ackHW
             · exact i.ackedPre k h1 hk
             · exact ha k h1 (by simp only [ack] at h2; omega) }

theorem singleChunk_end {lo hi : Nat} (sc : SingleChunk c) (h : hi ≤ lo + c.ps) : chunkEnd c lo hi = hi := by
  unfold chunkEnd
  split
  · rfl
  · rcases sc with h0 | h0
    · contradiction
    · omega

theorem PcOk.lo_eq {n lo hi pos : Nat} {m b g : Bool} (p : PcOk n h)
    (hpc : h.pc = .exporting lo hi m pos b g) : lo = h.last := by
  simp only [PcOk, hpc] at p
  exact p.1

/-- The exporter call of an `accept` step keeps `Inv`: the chunk lies in the page, the
    page in the logs, and with a single chunk per page it starts at the cursor. -/
theorem inv_accept {lo hi pos : Nat} {more bad gate : Bool} (w : WF s)
    (i : Inv c s) (hh : s.handler = some h) (hpc : h.pc = .exporting lo hi more pos bad gate) (r : AcceptRes) :
    Inv c (exporterCall s pos (chunkEnd c pos hi) r) ∧ h.last ≤ (exporterCall s pos (chunkEnd c pos hi) r).ackHW ∧
      hi ≤ lo + c.ps ∧ (SingleChunk c → pos = lo) := by
  have hok := w.pcOk h hh
  simp only [PcOk, hpc] at hok
  have he := i.expOk h hh
  simp only [ExpOk, hpc] at he
  have hb := chunkEnd_bounds (c := c) hok.2.2.2.2
  have hl := i.last_le h hh
  have := i.ack_le
  refine ⟨inv_exporterCall r i (fun sc => ?_) hb.1 (by omega), by rw [exporterCall_ackHW]; exact hl, he⟩
  have := he.2 sc
  omega

theorem inv_step (g : Good c) (w : WF s) (cl : Clean s) (i : Inv c s) (hs : step c s l = some s') : Inv c s' := by
  cases Step.of_step hs with
  | skip => exact i
  | append n => exact { i with deliv_le := Nat.le_trans i.deliv_le (Nat.le_add_right ..) }
  | create => exact inv_startHandler { i with persisted_le := Nat.zero_le _ } (Nat.zero_le _)
  | restart => exact inv_startHandler i i.persisted_le
  | @halt h _ _ op _ _ hop hh k =>
    exact k.inv g { i with noResetPending := fun ha e => by cases e; cases ha.symm.trans (hop rfl) }
      (i.last_le h hh) (i.expOk h hh)
  | resetIdle ha hn => exact inv_resetRow g i ha (w.curNone hn) (.inl rfl) hn
  | mgrStopIdle => exact { i with }
  | mgrStartRun => exact inv_startHandler (s := { s with mgrUp := true }) { i with } i.persisted_le
  | mgrStartIdle => exact { i with }
  | @fetchPage h _ _ more hh _ _ _ h3 k => exact k.inv g i (i.last_le h hh) ⟨h3, fun _ => rfl⟩
  | @fetchNone h _ _ _ _ hh _ hn k => exact k.inv g i (i.last_le h hh) (by rcases hn with rfl | rfl <;> trivial)
  | @acceptChunk h lo hi more pos bad r hh hpc hlt =>
    obtain ⟨i1, hl, hps, hsc⟩ := inv_accept w i hh hpc r
    refine inv_setHandler i1 hl ⟨hps, fun sc => ?_⟩
    have := singleChunk_end sc hps
    rw [← hsc sc] at this
    omega
  | acceptFailed r hh hpc k =>
    obtain ⟨i1, hl, hps, _⟩ := inv_accept w i hh hpc r
    exact k.inv g i1 hl hps
  | @acceptDone h lo hi more pos pc z cur' _ hh hpc hend hq hc _ k =>
    obtain ⟨i1, _, _, _⟩ := inv_accept w i hh hpc .ok
    have hlo := (w.pcOk h hh).lo_eq hpc
    have i2 : Inv c (ack _ hi) := inv_ack i1 (Nat.le_trans hend (Nat.le_max_right ..)) fun k h1 h2 => by
      by_cases hk : k ≤ lo
      · exact exporterCall_acked_mono s _ _ _ k (i.ackedPre k h1 (Nat.le_trans hk (hlo ▸ i.last_le h hh)))
      · exact cl.page_acked hh hpc (by omega) (Nat.le_trans h2 hend)
    refine k.inv g { i2 with cur_le := fun v e => ?_ } (Nat.le_max_right ..) (by rcases hq with rfl | rfl | rfl <;> trivial)
    rcases hc with rfl | rfl
    · cases e; exact Nat.le_max_right ..
    · exact i2.cur_le v e
  | persistOrphan ok coin hi hp =>
    exact { i with syncOrph := fun hs => by rw [show s.orphans = [] from i.syncOrph hs]; rfl,
                   orph_le := fun v hv => i.orph_le v (List.mem_of_mem_eraseIdx hv),
                   persisted_le := hp.elim (· ▸ i.orph_le _ (List.getElem_mem hi)) (· ▸ i.persisted_le) }
  | persistCur ok coin hc _ hp =>
    exact { i with cur_le := fun _ => nofun, persisted_le := hp.elim (· ▸ i.cur_le _ hc) (· ▸ i.persisted_le) }
  | @persistSend v _ h more _ _ _ ok coin hc hh _ hp hq k =>
    have hl := i.last_le h hh
    exact k.inv g { i with cur_le := fun _ e => by cases e; exact hl,
                           persisted_le := hp.elim (· ▸ i.cur_le _ hc) (· ▸ i.persisted_le) } hl
      (by rcases hq with rfl | rfl <;> trivial)
  | @tickWake h _ hh _ hn =>
    exact inv_setHandler i (i.last_le h hh) (by rcases hn with rfl | rfl <;> trivial)
  | @tickRetry h _ _ _ hh hpc =>
    have he := i.expOk h hh
    simp only [ExpOk, hpc] at he
    exact inv_setHandler i (i.last_le h hh) ⟨he, fun _ => rfl⟩
  | @tickFlush h _ _ _ _ _ hh hpc =>
    have he := i.expOk h hh
    simp only [ExpOk, hpc] at he
    exact inv_setHandler i (i.last_le h hh) he

theorem inv_reach (g : Good c) (r : Reach c s) : Inv c s := by
  induction r with
  | init => exact inv_init
  | step l r hs ih => exact inv_step g (wf_reach r) (clean_reach r) ih hs

def ResetEffect (s s' : State) : Prop :=
  s'.resets = s.resets ∨ (s'.resets = s.resets + 1 ∧ Fresh s')

theorem ResetEffect.of_eq {s0 s s' : State} (e : s.resets = s0.resets) (h : ResetEffect s s') : ResetEffect s0 s' := by
  unfold ResetEffect at *
  rw [← e]; exact h

theorem finishOp_resets (_ : s.handler = none) (hc : s.cur = none) : ResetEffect s (finishOp s) := by
  unfold finishOp
  split
  · exact .inl rfl
  · exact .inl rfl
  · exact .inr ⟨rfl, rfl, rfl, rfl, rfl, rfl, hc, fun _ e => by cases e; exact ⟨rfl, rfl, rfl⟩⟩
  · exact .inl rfl

theorem exit_resets (c : Cfg) (s : State) : ResetEffect s (exitHandler c s) := by
  unfold exitHandler
  split
  · exact finishOp_resets (s := { s with handler := none }) rfl ‹_›
  · split
    · exact finishOp_resets (s := { s with handler := none, cur := none, persisted := _ }) rfl rfl
    · exact finishOp_resets (s := { s with handler := none, cur := none, orphans := _ }) rfl rfl

theorem Cont.resets (k : Cont c s h' s') : ResetEffect s s' := by
  cases k with
  | on => exact .inl rfl
  | exit => exact exit_resets c s

theorem step_resets (w : WF s) (hs : step c s l = some s') : ResetEffect s s' := by
  cases Step.of_step hs with
  | skip | append | create | restart | mgrStopIdle | mgrStartRun | mgrStartIdle | tickWake | tickRetry
  | tickFlush | persistOrphan | persistCur => exact .inl rfl
  | halt _ _ _ _ _ k => exact k.resets.of_eq rfl
  | resetIdle _ hn => exact .inr ⟨rfl, rfl, rfl, rfl, rfl, rfl, w.curNone hn, fun _ e => nomatch hn.symm.trans e⟩
  | fetchPage _ _ _ _ _ _ k | fetchNone _ _ _ _ _ k => exact k.resets
  | acceptChunk => exact .inl (exporterCall_resets ..)
  | acceptFailed _ _ _ k | acceptDone _ _ _ _ _ _ k => exact k.resets.of_eq (exporterCall_resets ..)
  | persistSend _ _ _ _ _ _ _ k => exact k.resets.of_eq rfl

/-- An exporter call, with what `WF` knows: the handler is not being stopped, so the call
    changes the ghost fields and then the handler either stays on its page (next chunk, or
    `retry`) or, after the last chunk of a page without failure, has its cursor at the page's end. -/
theorem accept_result {r : AcceptRes} (w : WF s) (hs : step c s (.accept r) = some s') :
    ∃ h lo hi m pos bad h' cur' hw, s.handler = some h ∧ h.pc = .exporting lo hi m pos bad true ∧
      s' = { exporterCall s pos (chunkEnd c pos hi) r with handler := some h', cur := cur', ackHW := hw } ∧
      (h'.last = h.last ∨ r = .ok ∧ bad = false ∧ hi ≤ chunkEnd c pos hi ∧ h'.last = hi) := by
  cases Step.of_step hs with
  | skip hl | restart hl => simp at hl
  | halt op hl => cases op <;> cases hl
  | acceptChunk _ hh hpc => exact ⟨_, _, _, _, _, _, _, _, _, hh, hpc, rfl, .inl rfl⟩
  | acceptFailed _ hh hpc k =>
    have hns := w.running hh hpc nofun (fun _ => nofun)
    exact ⟨_, _, _, _, _, _, _, _, _, hh, hpc, k.run hns, .inl rfl⟩
  | acceptDone hh hpc hend _ _ _ k =>
    have hns := w.running hh hpc nofun (fun _ => nofun)
    exact ⟨_, _, _, _, _, _, _, _, _, hh, hpc, k.run hns, .inr ⟨rfl, rfl, hend, rfl⟩⟩

/-- **The batcher's acknowledgement rule** (every configuration): the cursor moves
    only when `Accept` reported the whole page as acknowledged, and then every log
    of the page was acknowledged by the exporter item by item. -/
theorem cursor_advance_acked {r : AcceptRes} (w : WF s) (cl : Clean s)
    (hs : step c s (.accept r) = some s') (hh : s.handler = some h) (hh' : s'.handler = some h')
    (hadv : h.last < h'.last) : ∀ k, h.last < k → k ≤ h'.last → Acked s' k := by
  obtain ⟨_, lo, hi, m, pos, bad, _, _, _, hh0, hpc, rfl, hl⟩ := accept_result w hs
  cases hh.symm.trans hh0
  cases hh'
  rcases hl with hl | ⟨rfl, rfl, hend, hl⟩
  · omega
  · exact fun k h1 h2 =>
      cl.page_acked hh hpc (((w.pcOk h hh).lo_eq hpc).symm ▸ h1) (Nat.le_trans (hl ▸ h2) hend)

end Ledger.Repl
