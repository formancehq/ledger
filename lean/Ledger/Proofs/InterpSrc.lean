import Ledger.Proofs.InterpPush

/-!
Sources: the machine's "withdraw everything, `TakeMax`, repay the rest" and the
interpreter's "pull just what is needed, source after source" take the same units.

`src_sim`: for a well-formed source `s`, any amount `amt ≥ 0`, related balances: the
machine's `evalSource` succeeds with a funding `f`, and the interpreter's
`tryTakingUpTo s amt` pushes exactly the first `amt` units of `f` (topped up from the
unbounded fallback account of `s`, if it has one) — which are also the units the machine's
`TakeMax amt` keeps (`takeMaxStep_units`).
-/
namespace Ledger.Interp
open Ledger.Machine

theorem takeMaxStep_units {env : Env} {fb : Option Expr} {f : Funding} {c : String} {amt : Int}
    {b : Balances} (hn : partsNonneg f.parts) (hc : f.asset = c) (hamt : 0 ≤ amt)
    (hfb : ∀ e, fb = some e → ∃ w, evalAccount env e = .ok w) :
    ∃ g b2, takeMaxStep env fb f (c, some amt) b = .ok (g, b2) ∧ g.asset = c ∧
      units g.parts = takeExt amt.toNat (units f.parts) (fbOf env fb) := by
  have htot := total_eq_length f.parts hn
  have htm := (takeMax_units f.parts hn amt).1
  subst hc
  simp only [takeMaxStep, needAmt, if_neg (Int.not_lt.mpr hamt), ne_eq, not_true_eq_false, if_false]
  cases fb with
  | none => exact ⟨_, _, rfl, rfl, by simp [fbOf, takeExt_none, htm]⟩
  | some e =>
    obtain ⟨w, hw⟩ := hfb e rfl
    simp only [hw, withdrawAlways_fst]
    refine ⟨_, _, rfl, rfl, ?_⟩
    rw [concatParts_units _ _ (takeMax_nonneg _ amt hn).1
      (partsNonneg_cons.mpr ⟨by dsimp only; split <;> omega, partsNonneg_nil⟩)]
    simp only [fbOf, hw, takeExt, htm, units_cons, units_nil, List.append_nil]
    congr 2
    split
    · rw [htot, Int.toNat_sub']
    · rename_i h
      rw [htot] at h
      exact (Nat.sub_eq_zero_of_le (Int.toNat_le.mpr (Int.not_lt.mp h))).symm

theorem withdrawAll_ok {b : Balances} {a c : String} {o bal : Int} (hb : b.get a c = some bal) :
    ∃ b1, withdrawAll b a c (some o) = .ok (⟨a, max (bal + o) 0⟩, b1) :=
  withdrawAll_tracked hb

theorem isWorld_eq {e : Expr} (h : e.isWorld = true) : e = .acct "world" := by
  cases e with
  | acct s => simp [Expr.isWorld] at h; subst h; rfl
  | _ => simp [Expr.isWorld] at h

theorem evalAccount_world (env : Env) : evalAccount env (.acct "world") = .ok "world" := rfl

theorem fromAccount_free {env ienv : Env} (heq : EnvEq env ienv) (henv : EnvOK env) {e : Expr}
    {a : String} (hl : litsOK e = true) (ha : evalAccount env e = .ok a) (ist : IState) (amt : Int)
    (od : Option Int) (hod : a = "world" ∨ od = none) :
    fromAccount ienv e amt od ist = .ok (amt, pushSender a amt ist) := by
  simp only [fromAccount, evalAcct_agree heq henv hl ha]
  rcases hod with rfl | rfl <;> simp

theorem fromAccount_bounded {env ienv : Env} (heq : EnvEq env ienv) (henv : EnvOK env) {e : Expr}
    {a : String} (hl : litsOK e = true) (ha : evalAccount env e = .ok a) (hw : a ≠ "world") (ist : IState)
    (amt o : Int) :
    fromAccount ienv e amt (some o) ist =
      .ok (min (max (ist.bal a ist.asset + o) 0) amt,
        pushSender a (min (max (ist.bal a ist.asset + o) 0) amt) ist) := by
  simp only [fromAccount, evalAcct_agree heq henv hl ha, if_neg hw]

/-- A leaf no balance limits (`@world`, or unbounded overdraft): the machine's funding is
    empty and `a` is the fallback account. -/
structure FreeLeaf (env ienv : Env) (c : String) (s : Source) (a : String) : Prop where
  fallback : ∃ e, s.fallback = some e ∧ evalAccount env e = .ok a
  needed : s.neededAccts = []
  machine : ∀ b, evalSource Cfg.fixed env c s b = .ok (⟨c, [⟨a, 0⟩]⟩, (withdrawAlways b a c 0).2)
  upTo : ∀ amt ist, tryUpTo ienv s amt ist = .ok (amt, pushSender a amt ist)
  queries : srcQueries ienv c s = .ok []

/-- A leaf of account `a` that yields its balance plus the overdraft `o`, and no more. -/
structure BoundedLeaf (env ienv : Env) (c : String) (s : Source) (a : String) (o : Int) : Prop where
  notWorld : a ≠ "world"
  fallback : s.fallback = none
  needed : ∃ e, s.neededAccts = [e] ∧ evalAccount env e = .ok a
  machine : ∀ b bal, b.get a c = some bal →
    ∃ b1, evalSource Cfg.fixed env c s b = .ok (⟨c, [⟨a, max (bal + o) 0⟩]⟩, b1)
  upTo : ∀ amt ist, ist.asset = c → tryUpTo ienv s amt ist =
    .ok (min (max (ist.bal a c + o) 0) amt, pushSender a (min (max (ist.bal a c + o) 0) amt) ist)
  all : ∀ ist, ist.asset = c → takeAll ienv s ist =
    .ok (max (ist.bal a c + o) 0, pushSender a (max (ist.bal a c + o) 0) ist)
  queries : srcQueries ienv c s = .ok [(a, c)]

theorem leaf_cases {env ienv : Env} (heq : EnvEq env ienv) (henv : EnvOK env) {c : String} {e : Expr}
    {od : Overdraft} (hwf : leafWf env c e od = true) :
    ∃ a, validAccount a = true ∧
      (FreeLeaf env ienv c (.account e od) a ∨ ∃ o, BoundedLeaf env ienv c (.account e od) a o) := by
  simp only [leafWf, Bool.and_eq_true] at hwf
  obtain ⟨hl, a, ha, hva⟩ := okAcct_spec hwf.1
  have hia := evalAcct_agree heq henv hl ha
  have hwf2 := hwf.2
  refine ⟨a, hva, ?_⟩
  by_cases hw : e.isWorld = true
  · rw [if_pos hw] at hwf2
    obtain rfl := isWorld_eq hw
    cases ha
    have ha := evalAccount_world env
    cases od with
    | none =>
      exact .inl ⟨⟨_, rfl, ha⟩, rfl, fun b => by simp [evalSource, ha, Expr.isWorld, withdrawAlways_fst b "world" c 0], fun amt ist => by simp only [tryUpTo]; exact fromAccount_free heq henv hl ha ist amt _ (.inl rfl),
        by simp [srcQueries, hia, batch]⟩
    | upTo x => cases hwf2
    | unbounded => cases hwf2
  · rw [if_neg hw] at hwf2
    simp only [Bool.and_eq_true, notWorld, ha, decide_eq_true_eq] at hwf2
    obtain ⟨hne, hod⟩ := hwf2
    have hwB : e.isWorld = false := by simpa using hw
    cases od with
    | unbounded =>
      exact .inl ⟨⟨_, rfl, ha⟩, rfl, fun b => by simp [evalSource, ha, withdrawAlways_fst b a c 0],
        fun amt ist => by simp only [tryUpTo]; exact fromAccount_free heq henv hl ha ist amt none (.inr rfl),
        by simp [srcQueries]⟩
    | none =>
      refine .inr ⟨0, hne, by simp [Source.fallback, hwB], ⟨e, by simp [Source.neededAccts, hwB], ha⟩,
        ?_, ?_, ?_, by simp [srcQueries, hia, batch, hne]⟩
      · intro b bal hb
        obtain ⟨b1, h1⟩ := withdrawAll_ok (o := 0) hb
        exact ⟨b1, by simp [evalSource, ha, hwB, h1]⟩
      · intro amt ist hc; simp only [tryUpTo]; rw [fromAccount_bounded heq henv hl ha hne, hc]
      · intro ist hc; simp [takeAll, allFromAccount, hia, hne, hc]
    | upTo x =>
      obtain ⟨hlx, v, hv, hv0⟩ := okCap_spec (by simpa [odWf] using hod)
      have hmo := evalMonOf_agree heq henv hlx hv
      have hmax : max v 0 = v := Int.max_eq_left hv0
      refine .inr ⟨v, hne, rfl, ⟨e, by simp [Source.neededAccts, hwB], ha⟩,
        ?_, ?_, ?_, by simp [srcQueries, hia, batch, hne]⟩
      · intro b bal hb
        obtain ⟨b1, h1⟩ := withdrawAll_ok (o := v) hb
        exact ⟨b1, by simp [evalSource, ha, hv, checkOverdraft, Cfg.fixed, nilAsZero, h1]⟩
      · intro amt ist hc
        simp only [tryUpTo, hc, hmo, hmax]; rw [fromAccount_bounded heq henv hl ha hne, hc]
      · intro ist hc; simp [takeAll, allFromAccount, hia, hne, hc, hmo, hmax]

theorem leaf_unbounded {env ienv : Env} (heq : EnvEq env ienv) (henv : EnvOK env)
    {c : String} {e : Expr} {a : String} (hl : litsOK e = true) (ha : evalAccount env e = .ok a)
    (ist : IState) (amt : Int) (hamt : 0 ≤ amt) (hc : ist.asset = c) (od : Option Int)
    (hod : a = "world" ∨ od = none) :
    ∃ sent ist', fromAccount ienv e amt od ist = .ok (sent, ist') ∧
      Pushed c ist ist' (takeExt amt.toNat [] (some a)) ∧
      sent = ((takeExt amt.toNat [] (some a)).length : Int) := by
  refine ⟨_, _, fromAccount_free heq henv hl ha ist amt od hod, ?_, ?_⟩
  · rw [takeExt_nil_some]; exact pushSender_pushed a amt ist hamt hc
  · rw [takeExt_nil_some]; simp; omega

theorem leaf_bounded {env ienv : Env} (heq : EnvEq env ienv) (henv : EnvOK env)
    {P : List (String × String)} {c : String} {e : Expr} {a : String} {o : Int}
    (hl : litsOK e = true) (ha : evalAccount env e = .ok a) (hw : a ≠ "world") (hP : (a, c) ∈ P)
    (ho : 0 ≤ o) (b : Balances) (ist : IState) (amt : Int) (hamt : 0 ≤ amt) (hc : ist.asset = c)
    (hhas : HasP P b) (hrel : 0 < amt → Rel P b ist.bal) :
    ∃ p b1, withdrawAll b a c (some o) = .ok (p, b1) ∧ 0 ≤ p.amount ∧
      (∀ x ∈ takeExt amt.toNat (units [p]) none, x = a) ∧
      ∃ sent ist', fromAccount ienv e amt (some o) ist = .ok (sent, ist') ∧
        Pushed c ist ist' (takeExt amt.toNat (units [p]) none) ∧
        sent = ((takeExt amt.toNat (units [p]) none).length : Int) := by
  obtain ⟨bal, hbal⟩ := hhas a c hP hw
  obtain ⟨b1, hb1⟩ := withdrawAll_ok (o := o) hbal
  have hX : takeExt amt.toNat (units [⟨a, max (bal + o) 0⟩]) none =
      List.replicate (min (max (ist.bal a c + o) 0) amt).toNat a := by
    simp only [takeExt_none, units_single, List.take_replicate, toNat_min]
    by_cases h0 : 0 < amt
    · have := hrel h0 a c hP hw
      rw [hbal] at this
      rw [← Option.some.inj this, Nat.min_comm]
    · rw [Int.toNat_eq_zero.mpr (Int.not_lt.mp h0), Nat.zero_min, Nat.min_zero]
  have hk : 0 ≤ min (max (ist.bal a c + o) 0) amt := Int.le_min.mpr ⟨Int.le_max_right _ _, hamt⟩
  refine ⟨_, b1, hb1, Int.le_max_right _ _, ?_, _, _,
    by rw [fromAccount_bounded heq henv hl ha hw, hc], ?_, ?_⟩
  · rw [hX]; exact fun x hx => List.eq_of_mem_replicate hx
  · rw [hX]; exact pushSender_pushed a _ ist hk hc
  · rw [hX]; simp; omega

theorem pushed_leaf {c a : String} (hva : validAccount a = true) (ist : IState) {k : Int} (hk : 0 ≤ k)
    (hc : ist.asset = c) {X : List String} (hX : X = List.replicate k.toNat a) :
    (∀ x ∈ X, validAccount x = true) ∧ Pushed c ist (pushSender a k ist) X ∧ k = (X.length : Int) := by
  subst hX
  refine ⟨fun x hx => ?_, pushSender_pushed a k ist hk hc, by simp; omega⟩
  rw [List.eq_of_mem_replicate hx]; exact hva

theorem assemble_same {fs : List Funding} {c : String} (hne : fs ≠ []) (h : ∀ f ∈ fs, f.asset = c) :
    assemble fs = .ok ⟨c, concatAll fs⟩ := by
  obtain ⟨l, hl⟩ : ∃ l, fs.getLast? = some l := by
    cases hg : fs.getLast? with
    | none => exact absurd (List.getLast?_eq_none_iff.mp hg) hne
    | some l => exact ⟨l, rfl⟩
  have hlc : l.asset = c := h l (List.mem_of_getLast? hl)
  have hall : fs.all (fun f => f.asset = c) = true := by
    rw [List.all_eq_true]; intro f hf; simp [h f hf]
  simp [assemble, hl, hlc, hall]

theorem concatAll_nonneg {fs : List Funding} (h : ∀ f ∈ fs, partsNonneg f.parts) :
    partsNonneg (concatAll fs) := by
  simpa [concatAll] using concatAll_nonneg_aux fs [] partsNonneg_nil h

/-- A well-formed source list: only the last source may have an unbounded fallback. -/
theorem srcsWf_cons {env : Env} {c : String} {s : Source} {rest : SourceList}
    (h : srcsWf env c (.cons s rest) = true) :
    srcWf env c s = true ∧ srcsWf env c rest = true ∧
      ((rest = .nil ∧ (SourceList.cons s rest).fallback = s.fallback) ∨
       (s.fallback = none ∧ (SourceList.cons s rest).fallback = rest.fallback)) := by
  simp only [srcsWf, Bool.and_eq_true, Bool.or_eq_true] at h
  refine ⟨h.1.1, h.1.2, ?_⟩
  cases rest with
  | nil => exact .inl ⟨rfl, rfl⟩
  | cons s' r' => exact .inr ⟨by simpa [isNilSrc] using h.2, rfl⟩

theorem rel_after_full {P : List (String × String)} {c : String} {b b1 : Balances} {f : Funding}
    {ist ist1 : IState} (hrel : Rel P b ist.bal) (hwf : b.WF) (hc : f.asset = c)
    (hok : SrcOK b b1 [f]) (hp : Pushed c ist ist1 (units f.parts)) : Rel P b1 ist1.bal := by
  refine hrel.delta hwf hok.delta ?_
  intro a c' _ _
  rw [hp.bal]
  simp only [inFlight, fl_eq_count a c' f (hok.nonneg f (by simp)), hc]
  by_cases h : c = c'
  · subst h; simp; omega
  · have : ¬ c' = c := fun x => h x.symm
    simp [h, this]

mutual
  theorem src_sim {env ienv : Env} (heq : EnvEq env ienv) (henv : EnvOK env)
      {P : List (String × String)} {c : String} :
      (s : Source) → srcWf env c s = true → LeavesIn P env c s.neededAccts →
      ∀ (b : Balances) (ist : IState) (amt : Int), 0 ≤ amt → ist.asset = c → b.WF → HasP P b →
        (0 < amt → Rel P b ist.bal) →
      ∃ f b1, evalSource Cfg.fixed env c s b = .ok (f, b1) ∧ f.asset = c ∧
        (∀ e, s.fallback = some e → ∃ w, evalAccount env e = .ok w) ∧
        (∀ x ∈ takeExt amt.toNat (units f.parts) (fbOf env s.fallback), validAccount x = true) ∧
        ∃ sent ist', tryUpTo ienv s amt ist = .ok (sent, ist') ∧
          Pushed c ist ist' (takeExt amt.toNat (units f.parts) (fbOf env s.fallback)) ∧
          sent = ((takeExt amt.toNat (units f.parts) (fbOf env s.fallback)).length : Int)
    | .account e od, hwf, hin, b, ist, amt, hamt, hc, hbwf, hhas, hrel => by
      obtain ⟨a, hva, hleaf | ⟨o, hleaf⟩⟩ := leaf_cases (ienv := ienv) heq henv (c := c) hwf
      · obtain ⟨e', hfb, hw⟩ := hleaf.fallback
        obtain ⟨k1, k2, k3⟩ := pushed_leaf hva ist hamt hc
          (X := takeExt amt.toNat (units [⟨a, 0⟩]) (fbOf env (some e'))) (by simp [fbOf, hw, takeExt])
        rw [← hfb] at k1 k2 k3
        exact ⟨_, _, hleaf.machine b, rfl, (fun e'' he'' => by rw [hfb] at he''; cases he''; exact ⟨a, hw⟩),
          k1, _, _, hleaf.upTo amt ist, k2, k3⟩
      · obtain ⟨e', hne', hw⟩ := hleaf.needed
        obtain ⟨a', h1, hP⟩ := hin e' (by simp [hne'])
        rw [hw] at h1; cases h1
        obtain ⟨bal, hbal⟩ := hhas a c hP hleaf.notWorld
        obtain ⟨b1, hm⟩ := hleaf.machine b bal hbal
        -- the cached balance is only looked at when something is asked for
        have hb : 0 < amt → ist.bal a c = bal := fun h => by
          have := hrel h a c hP hleaf.notWorld
          rw [hbal] at this; exact (Option.some.inj this).symm
        obtain ⟨k1, k2, k3⟩ := pushed_leaf hva ist (k := min (max (ist.bal a c + o) 0) amt)
          (Int.le_min.mpr ⟨Int.le_max_right _ _, hamt⟩) hc
          (X := takeExt amt.toNat (units [⟨a, max (bal + o) 0⟩]) (fbOf env none)) (by
            simp only [fbOf, takeExt_none, units_single, List.take_replicate, toNat_min]
            by_cases h0 : 0 < amt
            · rw [hb h0, Nat.min_comm]
            · rw [Int.toNat_eq_zero.mpr (Int.not_lt.mp h0), Nat.zero_min, Nat.min_zero])
        rw [← hleaf.fallback] at k1 k2 k3
        exact ⟨_, b1, hm, rfl, (fun e'' he'' => by rw [hleaf.fallback] at he''; cases he''), k1, _, _,
          hleaf.upTo amt ist hc, k2, k3⟩
    | .maxed m s, hwf, hin, b, ist, amt, hamt, hc, hbwf, hhas, hrel => by
      simp only [srcWf, Bool.and_eq_true] at hwf
      obtain ⟨hlm, cap, hcap, hcap0⟩ := okCap_spec hwf.1
      have hmin : max (min amt cap) 0 = min amt cap := Int.max_eq_left (Int.le_min.mpr ⟨hamt, hcap0⟩)
      obtain ⟨f, b1, h1, h2, h3, hval, sent, ist', h4, h5, h6⟩ :=
        src_sim heq henv s hwf.2 (by simpa [Source.neededAccts] using hin) b ist (min amt cap)
          (Int.le_min.mpr ⟨hamt, hcap0⟩) hc hbwf hhas (fun h => hrel (Int.lt_of_lt_of_le h (Int.min_le_left _ _)))
      have hn := (evalSource_ok Cfg.fixed env c s b f b1 h1).toSrcOK.nonneg f (by simp)
      obtain ⟨g, b2, g1, g2, g3⟩ := takeMaxStep_units (b := b1) hn h2 hcap0 h3
      have hmo : evalMonOf ienv ist.asset m = .ok cap := by
        rw [hc]; exact evalMonOf_agree heq henv hlm hcap
      have hX : takeExt amt.toNat (units g.parts) (fbOf env (Source.maxed m s).fallback) =
          takeExt (min amt cap).toNat (units f.parts) (fbOf env s.fallback) := by
        simp only [Source.fallback, fbOf, takeExt_none, g3, take_takeExt, toNat_min]
      refine ⟨g, b2, ?_, g2, ?_, ?_, sent, ist', ?_, ?_, ?_⟩
      · simp [evalSource, h1, hcap, g1]
      · intro e' he'; simp [Source.fallback] at he'
      · rw [hX]; exact hval
      · simp only [tryUpTo, hmo, hmin]; exact h4
      · rw [hX]; exact h5
      · rw [hX]; exact h6
    | .inorder ss, hwf, hin, b, ist, amt, hamt, hc, hbwf, hhas, hrel => by
      simp only [srcWf, Bool.and_eq_true, Bool.not_eq_true'] at hwf
      obtain ⟨fs, b1, h1, h2, h2', h3, hval, left', ist', h4, h5, h6⟩ :=
        srcs_sim heq henv ss hwf.2 (by simpa [Source.neededAccts] using hin) b ist amt hamt hc hbwf hhas hrel
      have hne := h2' hwf.1
      have hnn : ∀ f ∈ fs, partsNonneg f.parts :=
        (evalSources_ok Cfg.fixed env c ss b fs b1 h1).nonneg
      refine ⟨⟨c, concatAll fs⟩, b1, ?_, rfl, ?_, ?_, amt - left', ist', ?_, ?_, ?_⟩
      · simp [evalSource, h1, assemble_same hne h2]
      · simpa [Source.fallback] using h3
      · simpa [Source.fallback, concatAll_units fs hnn] using hval
      · simp [tryUpTo, h4]
      · simpa [Source.fallback, concatAll_units fs hnn] using h5
      · simp only [Source.fallback, concatAll_units fs hnn]; omega
  theorem srcs_sim {env ienv : Env} (heq : EnvEq env ienv) (henv : EnvOK env)
      {P : List (String × String)} {c : String} :
      (ss : SourceList) → srcsWf env c ss = true → LeavesIn P env c ss.neededAccts →
      ∀ (b : Balances) (ist : IState) (left : Int), 0 ≤ left → ist.asset = c → b.WF → HasP P b →
        (0 < left → Rel P b ist.bal) →
      ∃ fs b1, evalSources Cfg.fixed env c ss b = .ok (fs, b1) ∧ (∀ f ∈ fs, f.asset = c) ∧
        (isNilSrc ss = false → fs ≠ []) ∧
        (∀ e, ss.fallback = some e → ∃ w, evalAccount env e = .ok w) ∧
        (∀ x ∈ takeExt left.toNat (unitsAll fs) (fbOf env ss.fallback), validAccount x = true) ∧
        ∃ left' ist', tryUpToList ienv ss left ist = .ok (left', ist') ∧
          Pushed c ist ist' (takeExt left.toNat (unitsAll fs) (fbOf env ss.fallback)) ∧
          left' = left - ((takeExt left.toNat (unitsAll fs) (fbOf env ss.fallback)).length : Int)
    | .nil, _, _, b, ist, left, _, _, _, _, _ => by
      refine ⟨[], b, rfl, by simp, by simp [isNilSrc], by simp [SourceList.fallback],
        by simp [unitsAll, SourceList.fallback, fbOf, takeExt], left, ist, rfl, ?_, ?_⟩
      · simpa [unitsAll, SourceList.fallback, fbOf, takeExt] using Pushed.refl c ist
      · simp [unitsAll, SourceList.fallback, fbOf, takeExt]
    | .cons s rest, hwf, hin, b, ist, left, hleft, hc, hbwf, hhas, hrel => by
      obtain ⟨hws, hwr, hshape⟩ := srcsWf_cons hwf
      have hin' : LeavesIn P env c (s.neededAccts ++ rest.neededAccts) := by
        simpa [SourceList.neededAccts] using hin
      obtain ⟨f, b1, h1, h2, h3, hval1, sent, ist1, h4, h5, h6⟩ :=
        src_sim heq henv s hws hin'.left b ist left hleft hc hbwf hhas hrel
      have hok := (evalSource_ok Cfg.fixed env c s b f b1 h1).toSrcOK
      have hn := hok.nonneg f (by simp)
      have hsent : sent ≤ left := by
        have := takeExt_length_le left.toNat (units f.parts) (fbOf env s.fallback)
        omega
      -- while something is still asked for, all of `f` has been pushed
      have hrel1 : 0 < left - sent → Rel P b1 ist1.bal := fun hpos => by
        rw [takeExt_of_length_lt (by omega)] at h5
        exact rel_after_full (hrel (by omega)) hbwf h2 hok h5
      obtain ⟨fs, b2, r1, r2, _, r3, hval2, left', ist2, r4, r5, r6⟩ :=
        srcs_sim heq henv rest hwr hin'.right b1 ist1 (left - sent) (by omega)
          (h5.asset.trans hc) (hok.delta.wf hbwf) (hhas.delta hbwf hok.delta) hrel1
      have hX : takeExt left.toNat (units f.parts) (fbOf env s.fallback) ++
            takeExt (left - sent).toNat (unitsAll fs) (fbOf env rest.fallback) =
          takeExt left.toNat (unitsAll (f :: fs)) (fbOf env (SourceList.cons s rest).fallback) := by
        rcases hshape with ⟨rfl, hfb⟩ | ⟨hnone, hfb⟩
        · cases r1
          simp [unitsAll, SourceList.fallback, fbOf, takeExt]
        · rw [hnone] at h6
          simp only [hfb, hnone, fbOf, takeExt_none, unitsAll] at h6 ⊢
          rw [h6, Int.toNat_sub']
          exact takeExt_append _ _ _ _
      refine ⟨f :: fs, b2, by simp [evalSources, h1, r1], List.forall_mem_cons.mpr ⟨h2, r2⟩, by simp,
        ?_, ?_, left', ist2, by simp [tryUpToList, h4, r4], ?_, ?_⟩
      · intro e he
        rcases hshape with ⟨rfl, hfb⟩ | ⟨_, hfb⟩ <;> rw [hfb] at he
        · exact h3 e he
        · exact r3 e he
      · rw [← hX]; exact List.forall_mem_append.mpr ⟨hval1, hval2⟩
      · rw [← hX]; exact h5.trans r5
      · rw [← hX, List.length_append]; omega
end

/-! ## `takeAll` (`send [A *]`): every unit of the funding is pushed -/

mutual
  theorem all_sim {env ienv : Env} (heq : EnvEq env ienv) (henv : EnvOK env)
      {P : List (String × String)} {c : String} :
      (s : Source) → srcWf env c s = true → s.fallback = none → LeavesIn P env c s.neededAccts →
      ∀ (b : Balances) (ist : IState), ist.asset = c → b.WF → Rel P b ist.bal →
      ∃ f b1, evalSource Cfg.fixed env c s b = .ok (f, b1) ∧ f.asset = c ∧
        (∀ x ∈ units f.parts, validAccount x = true) ∧
        ∃ ist', takeAll ienv s ist = .ok (total f.parts, ist') ∧ Pushed c ist ist' (units f.parts)
    | .account e od, hwf, hfb, hin, b, ist, hc, hbwf, hrel => by
      obtain ⟨a, hva, hleaf | ⟨o, hleaf⟩⟩ := leaf_cases (ienv := ienv) heq henv (c := c) hwf
      · obtain ⟨e', hfb', _⟩ := hleaf.fallback
        rw [hfb] at hfb'; cases hfb'
      · obtain ⟨e', hne', hw⟩ := hleaf.needed
        obtain ⟨a', h1, hP⟩ := hin e' (by simp [hne'])
        rw [hw] at h1; cases h1
        obtain ⟨b1, hm⟩ := hleaf.machine b _ (hrel a c hP hleaf.notWorld)
        obtain ⟨k1, k2, _⟩ := pushed_leaf hva ist (k := max (ist.bal a c + o) 0) (Int.le_max_right _ _) hc
          (X := units [⟨a, max (ist.bal a c + o) 0⟩]) (units_single _ _)
        exact ⟨_, b1, hm, rfl, k1, _, by simpa [total] using hleaf.all ist hc, k2⟩
    | .maxed m s, hwf, _, hin, b, ist, hc, hbwf, hrel => by
      simp only [srcWf, Bool.and_eq_true] at hwf
      obtain ⟨hlm, cap, hcap, hcap0⟩ := okCap_spec hwf.1
      obtain ⟨f, b1, h1, h2, h3, hval, sent, ist', h4, h5, h6⟩ :=
        src_sim heq henv s hwf.2 (by simpa [Source.neededAccts] using hin) b ist cap
          hcap0 hc hbwf hrel.hasP (fun _ => hrel)
      have hn := (evalSource_ok Cfg.fixed env c s b f b1 h1).toSrcOK.nonneg f (by simp)
      obtain ⟨g, b2, g1, g2, g3⟩ := takeMaxStep_units (b := b1) hn h2 hcap0 h3
      have hmo : evalMonOf ienv ist.asset m = .ok cap := by
        rw [hc]; exact evalMonOf_agree heq henv hlm hcap
      have hmax : max cap 0 = cap := Int.max_eq_left hcap0
      have hgn : partsNonneg g.parts := by
        have := (takeMaxStep_ok g1).1.nonneg hn
        exact this
      refine ⟨g, b2, ?_, g2, ?_, ist', ?_, ?_⟩
      · simp [evalSource, h1, hcap, g1]
      · rw [g3]; exact hval
      · simp only [takeAll, hmo, hmax, h4, h6]
        rw [total_eq_length _ hgn, g3]
      · rw [g3]; exact h5
    | .inorder ss, hwf, hfb, hin, b, ist, hc, hbwf, hrel => by
      simp only [srcWf, Bool.and_eq_true, Bool.not_eq_true'] at hwf
      obtain ⟨fs, b1, h1, h2, h2', hval, ist', h4, h5⟩ :=
        alls_sim heq henv ss hwf.2 (by simpa [Source.fallback] using hfb)
          (by simpa [Source.neededAccts] using hin) b ist 0 hc hbwf hrel
      have hne := h2' hwf.1
      have hnn : ∀ f ∈ fs, partsNonneg f.parts :=
        (evalSources_ok Cfg.fixed env c ss b fs b1 h1).nonneg
      refine ⟨⟨c, concatAll fs⟩, b1, ?_, rfl, ?_, ist', ?_, ?_⟩
      · simp [evalSource, h1, assemble_same hne h2]
      · simpa [concatAll_units fs hnn] using hval
      · simp only [takeAll, h4]
        rw [total_eq_length _ (concatAll_nonneg hnn), concatAll_units fs hnn]; simp
      · simpa [concatAll_units fs hnn] using h5
  theorem alls_sim {env ienv : Env} (heq : EnvEq env ienv) (henv : EnvOK env)
      {P : List (String × String)} {c : String} :
      (ss : SourceList) → srcsWf env c ss = true → ss.fallback = none →
      LeavesIn P env c ss.neededAccts →
      ∀ (b : Balances) (ist : IState) (tot : Int), ist.asset = c → b.WF → Rel P b ist.bal →
      ∃ fs b1, evalSources Cfg.fixed env c ss b = .ok (fs, b1) ∧ (∀ f ∈ fs, f.asset = c) ∧
        (isNilSrc ss = false → fs ≠ []) ∧
        (∀ x ∈ unitsAll fs, validAccount x = true) ∧
        ∃ ist', takeAllList ienv ss tot ist = .ok (tot + ((unitsAll fs).length : Int), ist') ∧
          Pushed c ist ist' (unitsAll fs)
    | .nil, _, _, _, b, ist, tot, _, _, _ => by
      refine ⟨[], b, rfl, by simp, by simp [isNilSrc], by simp [unitsAll], ist, ?_, ?_⟩
      · simp [takeAllList, unitsAll]
      · simpa [unitsAll] using Pushed.refl c ist
    | .cons s rest, hwf, hfb, hin, b, ist, tot, hc, hbwf, hrel => by
      obtain ⟨hws, hwr, hshape⟩ := srcsWf_cons hwf
      have hin' : LeavesIn P env c (s.neededAccts ++ rest.neededAccts) := by
        simpa [SourceList.neededAccts] using hin
      obtain ⟨hfs, hfr⟩ : s.fallback = none ∧ rest.fallback = none := by
        rcases hshape with ⟨rfl, h⟩ | ⟨hs, h⟩
        · exact ⟨h ▸ hfb, rfl⟩
        · exact ⟨hs, h ▸ hfb⟩
      obtain ⟨f, b1, h1, h2, hval1, ist1, h4, h5⟩ :=
        all_sim heq henv s hws hfs hin'.left b ist hc hbwf hrel
      have hok := (evalSource_ok Cfg.fixed env c s b f b1 h1).toSrcOK
      have hn := hok.nonneg f (by simp)
      obtain ⟨fs, b2, r1, r2, _, hval2, ist2, r4, r5⟩ :=
        alls_sim heq henv rest hwr hfr hin'.right b1 ist1 (tot + total f.parts)
          (h5.asset.trans hc) (hok.delta.wf hbwf) (rel_after_full hrel hbwf h2 hok h5)
      refine ⟨f :: fs, b2, by simp [evalSources, h1, r1], List.forall_mem_cons.mpr ⟨h2, r2⟩, by simp,
        List.forall_mem_append.mpr ⟨hval1, hval2⟩, ist2, ?_, h5.trans r5⟩
      simp only [takeAllList, h4, r4, unitsAll, List.length_append]
      rw [total_eq_length _ hn]
      congr 2; omega
end

end Ledger.Interp
