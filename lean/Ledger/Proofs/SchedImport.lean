import Ledger.Proofs.SchedSafeProgs
import Ledger.Proofs.SchedRegion

/-!
# C12: writes under the ledger lock never interleave with its holder
-/
namespace Ledger.Sched

/-- While `s` holds the key, no other session has an uncommitted log of the ledger, and a step of
    another session commits no log of the ledger. -/
theorem holder_excludes_log_commits (d : Disc) (w : World) (hg : GInv d w) (s t : Sid) (hts : t ≠ s)
    (hheld : Holds w s d.K) :
    (∀ e ∈ w.logs, e.l = d.l₀ → e.by_ = t → e.com = true) ∧
    (step w t).logCommits.filter (fun c => c.1 = d.l₀) = w.logCommits.filter (fun c => c.1 = d.l₀) := by
  -- `s` is the writer, so `t` has no row in progress, and its COMMIT commits nothing of the ledger
  have h1 : ∀ e ∈ Lof d.l₀ w, e.by_ = t → e.com = true := fun e he hb => by
    cases hc : e.com with
    | true => rfl
    | false => exact absurd ((writer_of_holds hg hheld e he hc).symm.trans hb) (Ne.symm hts)
  exact ⟨fun e he hl => h1 e (mem_lof.mpr ⟨he, hl⟩),
    log_step_inv (P := fun w' => w'.logCommits.filter (fun c => c.1 = d.l₀) = w.logCommits.filter (fun c => c.1 = d.l₀))
      hg rfl (fun _ _ hs h => hs.coms.trans h) (fun _ => (sameLog_commit h1).coms) (fun _ _ => rfl)
      (fun _ _ _ _ _ _ _ => rfl) (fun _ _ _ => rfl)⟩

/-- the import discipline: the ledger lock guards the log inserts of the ledger -/
def impDisc (l : Nat) : Disc := ⟨ledgerKey l, l, false⟩

/-- the session lock is held and no log of the session is uncommitted -/
def P0 (m : Mon) : Prop := m.held = true ∧ m.xact = false ∧ m.dirty = false

theorem p0_any (l : Nat) (m : Mon) (st : Stmt) (o : Out) (hp : st.plain = true) (h : P0 m) : P0 (monStep (impDisc l) m st o) := by
  cases ho : o.err with
  | none => rw [monStep_plain _ m st o hp ho]; exact h
  | some e =>
    by_cases ha : e = .aborted
    · rw [ha] at ho; rw [monStep_aborted _ m st o ho]; exact h
    · rw [monStep_err _ m st o e ho ha]
      obtain ⟨h1, h2, _⟩ := h
      exact ⟨by simp [h1, h2], h2, rfl⟩

theorem safe_impUnlock (l : Nat) (m : Mon) (r : Resp) (h : m.dirty = false) : Safe (impDisc l) m (impUnlock l r) :=
  ⟨fun _ => h, fun _ _ => trivial⟩

theorem safe_impFail (l : Nat) (m : Mon) (e : Err) : Safe (impDisc l) m (impFail l e) :=
  ⟨trivial, fun o ho => by rw [monStep_end _ m o (Or.inr rfl) ho]; exact safe_impUnlock l _ _ rfl⟩

theorem safe_impStep_plain (l : Nat) (m : Mon) (st : Stmt) (next : Out → Prog) (hp : st.plain = true)
    (hs : ∀ x, st ≠ .setval x) (hnext : ∀ o, Safe (impDisc l) m (next o)) : Safe (impDisc l) m (impStep l st next) :=
  safe_plain _ m st next (impFail l) hp hs (fun _ _ _ => safe_impFail l _ _) hnext

theorem safe_impLoop (l : Nat) (sync : Bool) : ∀ (logs : List ImpLog) (last : Nat) (m : Mon), P0 m →
    Safe (impDisc l) m (impLoop l sync last logs) := by
  intro logs
  induction logs with
  | nil => intro last m h; exact safe_impUnlock l m _ h.2.2
  | cons g gs ih =>
    intro last m h
    unfold impLoop
    split
    · exact safe_impUnlock l m _ h.2.2
    · refine ⟨trivial, fun o ho => ?_⟩
      rw [monStep_begin _ m o ho]
      -- the log INSERT and COMMIT: the session lock is held inside the transaction
      have hins : Safe (impDisc l) { m with tx := true } (impStep l (.insertLog l g.ik g.hash sync (some g.id) g.tx) fun _ =>
          .stmt .commit fun _ => impLoop l sync g.id gs) := by
        refine ⟨fun _ => ⟨h.1, rfl, nofun⟩, fun o' _ => ?_⟩
        dsimp only
        split
        · exact safe_impFail l _ _
        · rename_i ho'
          rw [monStep_insLog _ _ _ _ _ _ _ _ o' ho', if_pos (show l = (impDisc l).l₀ from rfl)]
          refine ⟨trivial, fun o'' ho'' => ?_⟩
          rw [monStep_end _ _ o'' (Or.inl rfl) ho'']
          exact ih g.id _ ⟨by simp [h.1, h.2.1], h.2.1, rfl⟩
      dsimp only
      refine safe_impStep_plain l _ _ _ rfl nofun fun _ => ?_
      refine safe_impStep_plain l _ _ _ rfl nofun fun _ => ?_
      refine safe_impStep_plain l _ _ _ rfl nofun fun _ => ?_
      split
      · refine ⟨trivial, fun o' _ => ?_⟩
        dsimp only
        split
        · exact safe_impFail l _ _
        · rename_i ho'
          rw [monStep_lock _ _ o' rfl ho', if_neg (show ¬ logKey l = (impDisc l).K from keys_ne l)]
          exact hins
      · exact hins

/-- `Import` follows the ledger-lock discipline, for every answer of every statement -/
theorem safe_importProg (l : Nat) (sync : Bool) (logs : List ImpLog) (m : Mon) (hd : m.dirty = false) :
    Safe (impDisc l) m (importProg l sync logs) := by
  unfold importProg
  refine ⟨trivial, fun o _ => ?_⟩
  unfold guardErr
  dsimp only
  split
  · trivial
  · rename_i ho
    rw [monStep_lock _ m o rfl ho, if_pos (show ledgerKey l = (impDisc l).K from rfl), ite_self]
    have h0 : P0 { m with held := true, xact := false } := ⟨rfl, rfl, hd⟩
    refine ⟨trivial, fun o' _ => ?_⟩
    have h1 := p0_any l _ (.readState l) o' rfl h0
    dsimp only
    split
    · exact safe_impUnlock l _ _ h1.2.2
    · refine ⟨trivial, fun o'' _ => ?_⟩
      exact safe_impLoop l sync logs _ _ (p0_any l _ (.readLastLog l) o'' rfl h1)

end Ledger.Sched
