import Ledger.Proofs.SchedDiscipline

/-!
# The region an advisory key protects, and the one step theorem for properties of it

Under the discipline `GInv d` the rows of `logs` of ledger `d.l₀`, its commit order and its sequence are
changed by the holder of `d.K` alone. `Writer`: every row in progress is the session's; `SameLog`: the
region is as it was. `log_step_inv`: what survives `SameLog` holds after any step once the COMMIT, the
undoing and the log INSERT of the one writer keep it; nothing else has to look into `GInv`.
-/
namespace Ledger.Sched

variable {d : Disc} {l₀ : Nat} {w : World} {t : Sid}

/-- the rows of `logs` of ledger `l₀`, in insertion order -/
def Lof (l₀ : Nat) (w : World) : List Lg := w.logs.filter (fun e => e.l = l₀)

theorem mem_lof {e : Lg} : e ∈ Lof l₀ w ↔ e ∈ w.logs ∧ e.l = l₀ := by
  simp [Lof]

theorem lof_filter (l₀ : Nat) (w : World) (p : Lg → Bool) :
    (Lof l₀ w).filter p = w.logs.filter (fun e => e.l = l₀ && p e) := by
  unfold Lof
  rw [List.filter_filter]
  exact List.filter_congr fun e _ => Bool.and_comm _ _

def flipCom (t : Sid) (e : Lg) : Lg := if e.by_ = t then { e with com := true } else e

theorem lof_commit (l₀ : Nat) (w : World) (t : Sid) : Lof l₀ (w.commitTx t) = (Lof l₀ w).map (flipCom t) := by
  unfold Lof
  rw [show (w.commitTx t).logs = w.logs.map (flipCom t) from rfl, List.filter_map]
  exact congrArg _ (List.filter_congr fun e _ => by
    show decide ((flipCom t e).l = l₀) = _
    unfold flipCom; split <;> rfl)

theorem lof_undo (l₀ : Nat) (w : World) (t : Sid) (b : Bool) :
    Lof l₀ (w.undo t b) = (Lof l₀ w).filter (fun e => e.com || e.by_ ≠ t) := by
  rw [lof_filter]
  exact List.filter_filter ..

theorem lof_insLog (l₀ : Nat) (w : World) (t : Sid) (l ik hash : Nat) (sync : Bool) (id : Option Nat) (tx : Nat) :
    Lof l₀ (w.afterInsLog t l ik hash sync id tx) =
      if l = l₀ then Lof l₀ w ++ [newLog w t l ik hash sync id tx] else Lof l₀ w := by
  by_cases h : l = l₀ <;> simp [Lof, World.afterInsLog, newLog, List.filter_append, h]

/-- every row of ledger `l₀` still in progress is `t`'s -/
def Writer (l₀ : Nat) (w : World) (t : Sid) : Prop := ∀ e ∈ Lof l₀ w, e.com = false → e.by_ = t

theorem writer_of_holds (hg : GInv d w) (hh : Holds w t d.K) : Writer d.l₀ w t :=
  fun a ha hac => Decidable.byContradiction fun hne =>
    holds_excl hg.1 hh hne (ginv_uncommitted_holds d w hg a (mem_lof.mp ha).1 (mem_lof.mp ha).2 hac)

/-- the holder sees every row of the ledger: inside the critical section a read is a sequential read -/
theorem Writer.sees_all (h : Writer l₀ w t) :
    w.logs.filter (fun e => e.l = l₀ && visLog t e) = Lof l₀ w := by
  rw [← lof_filter, List.filter_eq_self]
  intro e he
  cases hc : e.com with
  | true => simp [visLog, hc]
  | false => simp [visLog, h e he hc]

/-- the rows of ledger `l₀`, what was committed of it and in which order are in `w'` as in `w`; the
    sequence may have moved on -/
structure SameLog (l₀ : Nat) (w w' : World) : Prop where
  lof : Lof l₀ w' = Lof l₀ w
  seq : w.logSeq l₀ ≤ w'.logSeq l₀
  coms : w'.logCommits.filter (fun c => c.1 = l₀) = w.logCommits.filter (fun c => c.1 = l₀)

/-- COMMIT of `t` appends its rows in progress to the commit order of the ledger -/
theorem coms_commit (l₀ : Nat) (w : World) (t : Sid) :
    (w.commitTx t).logCommits.filter (fun c => c.1 = l₀) = w.logCommits.filter (fun c => c.1 = l₀) ++
      ((Lof l₀ w).filter (fun e => e.by_ = t && !e.com)).map (fun e => (e.l, e.id, t)) := by
  show (w.logCommits ++ commitLogs t w.logs).filter _ = _
  unfold commitLogs
  rw [List.filter_append, List.filter_map, List.filter_filter, lof_filter]
  rfl

/-- a session with no row in progress commits nothing of the ledger -/
theorem sameLog_commit (h : ∀ e ∈ Lof l₀ w, e.by_ = t → e.com = true) :
    SameLog l₀ w (w.commitTx t) := by
  refine ⟨?_, Nat.le_refl _, ?_⟩
  · rw [lof_commit]
    refine (List.map_congr_left fun e he => ?_).trans (List.map_id _)
    unfold flipCom
    split
    · rename_i hb; rw [← h e he hb]; rfl
    · rfl
  · rw [coms_commit]
    simpa using h

theorem sameLog_undo (b : Bool) (h : ∀ e ∈ Lof l₀ w, e.by_ = t → e.com = true) :
    SameLog l₀ w (w.undo t b) := by
  refine ⟨?_, Nat.le_refl _, rfl⟩
  rw [lof_undo, List.filter_eq_self]
  exact fun e he => by by_cases hb : e.by_ = t <;> simp [hb, h e he]

/-- One step of `t` in a world under the discipline, seen from the region of `d.l₀`: nothing of the
    region moves, or `t` is its one writer and commits, is undone, or appends. -/
theorem log_step_inv {P : World → Prop} (hg : GInv d w) (hw : P w)
    (hSame : ∀ w w', SameLog d.l₀ w w' → P w → P w')
    (hCommit : Writer d.l₀ w t → P (w.commitTx t))
    (hUndo : ∀ b, Writer d.l₀ w t → P (w.undo t b))
    (hIns : ∀ ik hash sync id tx, Writer d.l₀ w t → (d.strict = true → sync = true ∧ id = none) →
      P (w.afterInsLog t d.l₀ ik hash sync id tx))
    (hSetval : d.strict = false → ∀ tq lq, P { w with txSeq := tq, logSeq := lq }) :
    P (step w t) := by
  obtain ⟨m, hm, hsafe⟩ := hg.2 t
  have hheld : m.held = true → Writer d.l₀ w t := fun hh => writer_of_holds hg (hm.holds hh)
  -- a session that may have a row in progress is the writer; another leaves the region alone when its transaction ends
  have hmode : Writer d.l₀ w t ∨ ∀ e ∈ Lof d.l₀ w, e.by_ = t → e.com = true := by
    cases hd : m.dirty with
    | true => exact .inl (hheld (hm.dirtyHeld hd))
    | false => exact .inr fun e he => hm.clean hd e (mem_lof.mp he).1 (mem_lof.mp he).2
  exact step_inv (P := P) hw (fun w f h => hSame w _ ⟨rfl, Nat.le_refl _, rfl⟩ h)
    (fun w h => hSame w _ ⟨rfl, Nat.le_refl _, rfl⟩ h) (fun w tq lq hle h => hSame w _ ⟨rfl, hle _, rfl⟩ h)
    (hmode.elim hCommit fun h => hSame w _ (sameLog_commit h) hw)
    (fun b => hmode.elim (hUndo b) fun h => hSame w _ (sameLog_undo b h) hw)
    (fun st k w' hp he => by
      rw [hp] at hsafe
      have hok := hsafe.1
      cases he with
      | insLog l ik hash sync id tx _ _ =>
        by_cases hl : l = d.l₀
        · subst hl
          exact hIns ik hash sync id tx (hheld (hok rfl).1) (hok rfl).2.2
        · exact hSame w _ ⟨by rw [lof_insLog, if_neg hl], le_bump _ _ _ _, rfl⟩ hw
      | setval l tq lq hlq =>
        cases hs : d.strict with
        | false => exact hSetval hs tq lq
        | true => exact hSame w _ ⟨rfl, Nat.le_of_eq (hlq _ (Ne.symm (hok hs))).symm, rfl⟩ hw
      | _ => exact hSame w _ ⟨rfl, Nat.le_refl _, rfl⟩ hw)

end Ledger.Sched
