import Ledger.Proofs.ListBasic
import Ledger.Proofs.SqlAcMetaRev

/-!
# Draining the queued metadata-history triggers of `accounts`

A statement on `accounts` queues, per written row, `update_account_metadata_history` (UPDATE) or `insert_account_metadata_history`
(INSERT). `drainAfter` runs them in queue order, each as a nested command. Proved (`exec_drainFold_am`): the drain ends in the state
`amDrainSt`, the iteration of one trigger's effect: per queued trigger the sequence advances, two command ids are used and
`accounts_metadata` receives the row `amNew` — revision 1 for an inserted account, `nextRevF` of the stored revisions of the account
(one more than the largest, `NextRev_unique`) for an updated one. `amDrainRows`, `amDrainTbl`, `seqsAdv` write the rows, the typed
content and the sequences of that state as recursions of their own; no lemma relates them to `amDrainSt`.
-/
open Ledger Ledger.Sql Ledger.Generated Ledger.Core
namespace Ledger.Sql

def nextRevF : List Int → Int
  | [] => 1
  | c :: cs => cs.foldl max c + 1

theorem NextRev_unique (cands : List Int) (rv : Int) (h : NextRev cands rv) : rv = nextRevF cands := by
  rcases h with ⟨e, r⟩ | ⟨m, hm, r, hmax⟩
  · subst e; exact r
  · cases cands with
    | nil => cases hm
    | cons c cs =>
      obtain ⟨h1, h2, h3⟩ := foldl_max_spec cs c
      simp only [nextRevF]
      have hle : cs.foldl max c ≤ m := by
        rcases h3 with e | e
        · rw [e]; exact hmax c (by simp)
        · exact hmax _ (List.mem_cons_of_mem _ e)
      have hge : m ≤ cs.foldl max c := by
        rcases List.mem_cons.mp hm with e | e
        · subst e; exact h1
        · exact h2 m e
      omega

/-- a queued trigger: on UPDATE (`upd`) or INSERT, for the NEW row `a` -/
structure AmItem where
  upd : Bool
  a : AcR
  old : Option AcR

def amPending (b fI fU : String) (it : AmItem) : PendingTrig :=
  { fname := if it.upd then fU else fI, table := acFull b, new := some it.a.vals, old := it.old.map (·.vals) }

def amRevOf (tbl : List AmR) (a : AcR) : Int := nextRevF ((tbl.filter (amCand a)).map (·.revision))

/-- the history row a queued trigger writes, given the visible history `tbl` and the sequence value `q` -/
def amNew (tbl : List AmR) (q : Int) (it : AmItem) : AmR :=
  amOf it.a (if it.upd then amRevOf tbl it.a else 1) (if it.upd then it.a.upd else it.a.ins) q

def amDrainRows (xid : Nat) : Nat → Nat → Int → List Ver → List AmR → List AmItem → List Ver
  | _, _, _, rows, _, [] => rows
  | c, nr, q, rows, tbl, it :: rest =>
    amDrainRows xid (c + 2) (nr + 1) (q + 1) (newVer xid c nr (amVals (amNew tbl q it)) :: rows) (amNew tbl q it :: tbl) rest

def amDrainTbl : Int → List AmR → List AmItem → List AmR
  | _, tbl, [] => tbl
  | q, tbl, it :: rest => amDrainTbl (q + 1) (amNew tbl q it :: tbl) rest

/-- the sequence after `n` values from `q` -/
def seqsAdv (full : String) : Nat → Int → List Seq → List Seq
  | 0, _, seqs => seqs
  | n + 1, q, seqs => seqsAdv full n (q + 1) (seqsSet full q seqs)

/-- what does not change while the queue is drained -/
structure AmStatic (funcs : List (String × PlFunc)) (b fI fU : String) (fnI fnU : PlFunc) : Prop where
  schI : schemaOf fI = b
  schU : schemaOf fU = b
  funI : funcs.lookup fI = some fnI
  funU : funcs.lookup fU = some fnU
  declsI : fnI.decls = []
  declsU : fnU.decls = []
  bodyI : fnI.body = [PlStmt.exec (amInsertStmt (Expr.int 1) (Expr.col "new" "insertion_date")) [], PlStmt.ret (some (Expr.col "" "new"))]
  bodyU : fnU.body = [PlStmt.exec (amInsertStmt amRevExpr (Expr.col "new" "updated_at")) [], PlStmt.ret (some (Expr.col "" "new"))]
  schH : schemaOf (amFull b) = b

theorem exec_drainStep_am (k : Nat) (b fI fU : String) (fnI fnU : PlFunc) (it : AmItem) (s : St) (hs : TxState s)
    (hstat : AmStatic s.w.funcs b fI fU fnI fnU) (hnc : s.nextCid + 2 ≤ 1000000000)
    (TA : Table) (hTA : s.w.table? (acFull b) = some TA) (hTAc : TA.cols = Schema.tbl_accounts.cols)
    (nr : Nat) (rows : List Ver) (sq : Seq) (hst : SerialState s ((amT b nr).withRows rows) "accounts_metadata_seq_seq" sq)
    (tbl : List AmR) (hview : AmView (latestView s.w s.xid) rows tbl) (hfresh : Fresh s.xid s.nextCid rows) :
    (drainStep (k + 14) () (amPending b fI fU it)).exec s =
      (.ok (), ((s.withSeqs (seqsSet (amSeqFull b) sq.next s.w.seqs)).bump 2).withTable
        ((amT b (nr + 1)).withRows (newVer s.xid s.nextCid nr (amVals (amNew tbl sq.next it)) :: rows))) := by
  have hS : TxState (s.withSP b).enter.clearQ := ((hs.withSP b).enter (by simp; omega)).clearQ
  have c := fun c v h => Evals.col (cb := cbs (k + 7)) (te := s.w.types) (lookup_new_ac it.a it.old false c v h) (s.withSP b).enter.clearQ
  simp only [drainStep, amPending, exec_bind, exec_getTable hTA, exec_pure]
  cases hu : it.upd with
  | false =>
    have := exec_runTrigger_am (k + 4) b fI it.a it.old (Expr.int 1) (Expr.col "new" "insertion_date") 1 it.a.ins fnI hstat.declsI hstat.bodyI
      s hs hstat.funI hstat.schI hstat.schH hnc TA hTAc nr rows sq hst (Evals.of_pv _ rfl _) (c "insertion_date" (.ts it.a.ins) (by cases it.a; rfl))
      (by intro h; cases h) (by intro h; cases h)
    simp only [Bool.false_eq_true, if_false, this, amNew, hu]
  | true =>
    -- the nested command reads the history as the transaction has left it
    have hviewS : AmView (cv (s.withSP b).enter.clearQ) rows tbl :=
      TView.congr (enc := amVals) hview (fun r hr => visible_cv_latest (s.withSP b).enter.clearQ hS rows hfresh r hr)
    obtain ⟨rv, hrev, hnr⟩ := exec_amRevExpr k b it.a it.old false (s.withSP b).enter.clearQ hS rfl nr rows hst.table tbl hviewS
    have := exec_runTrigger_am (k + 4) b fU it.a it.old amRevExpr (Expr.col "new" "updated_at") rv it.a.upd fnU hstat.declsU hstat.bodyU
      s hs hstat.funU hstat.schU hstat.schH hnc TA hTAc nr rows sq hst hrev (c "updated_at" (.ts it.a.upd) (by cases it.a; rfl))
      (by intro h; cases h) (by intro h; cases h)
    simp only [if_true, this, amNew, hu, amRevOf, NextRev_unique _ _ hnr]

/-- the state after draining `items` from `S` -/
def amDrainSt (b : String) (xid : Nat) : St → Nat → Int → List Ver → List AmR → List AmItem → St
  | S, _, _, _, _, [] => S
  | S, nr, q, rows, tbl, it :: rest =>
    amDrainSt b xid (((S.withSeqs (seqsSet (amSeqFull b) q S.w.seqs)).bump 2).withTable
        ((amT b (nr + 1)).withRows (newVer xid S.nextCid nr (amVals (amNew tbl q it)) :: rows)))
      (nr + 1) (q + 1) (newVer xid S.nextCid nr (amVals (amNew tbl q it)) :: rows) (amNew tbl q it :: tbl) rest

theorem amDrainSt_afterQ (b : String) (xid : Nat) : ∀ (items : List AmItem) (S : St) (nr : Nat) (q : Int) (rows : List Ver) (tbl : List AmR),
    (amDrainSt b xid S nr q rows tbl items).afterQ = S.afterQ := by
  intro items
  induction items with
  | nil => intro S nr q rows tbl; rfl
  | cons it rest ih =>
    intro S nr q rows tbl
    simp only [amDrainSt]
    rw [ih]
    rfl

theorem AmAll.mono {b1 b2 : Int} {rows : List Ver} (h : AmAll b1 rows) (hb : b1 ≤ b2) : AmAll b2 rows := by
  intro r hr
  obtain ⟨y, hv, hlt⟩ := h r hr
  exact ⟨y, hv, by omega⟩

/-- The queue of a statement on `accounts`, drained from `S`: the state reached is `amDrainSt`. The loop keeps what the statement asks, with
    `SerialState` in place of `AmState`: the history table a serial table whose keys are below its sequence (`SerialState.step`). -/
theorem exec_drainFold_am (k : Nat) (b fI fU : String) (fnI fnU : PlFunc) : ∀ (items : List AmItem) (S : St) (nr : Nat) (rows : List Ver)
    (sq : Seq) (tbl : List AmR), TxState S → AmStatic S.w.funcs b fI fU fnI fnU → S.nextCid + 2 * items.length ≤ 1000000000 →
    (∃ TA, S.w.table? (acFull b) = some TA ∧ TA.cols = Schema.tbl_accounts.cols) →
    AmState S b nr rows sq → sq.next + items.length ≤ 9223372036854775807 →
    AmView (latestView S.w S.xid) rows tbl → Fresh S.xid S.nextCid rows →
    ((items.map (amPending b fI fU)).foldlM (drainStep (k + 14)) ()).exec S =
      (.ok (), amDrainSt b S.xid S nr sq.next rows tbl items) := by
  intro items S0 nr0 rows0 sq0 tbl0 hs0 hstat0 hnc0 hTA0 hst0 hrange0 hview0 hfresh0
  rw [List.foldlM_map]
  suffices ∀ (items : List AmItem) (S : St) (nr : Nat) (rows : List Ver) (sq : Seq) (tbl : List AmR), TxState S →
      AmStatic S.w.funcs b fI fU fnI fnU → S.nextCid + 2 * items.length ≤ 1000000000 →
      (∃ TA, S.w.table? (acFull b) = some TA ∧ TA.cols = Schema.tbl_accounts.cols) →
      SerialState S ((amT b nr).withRows rows) "accounts_metadata_seq_seq" sq → sq.next + items.length ≤ 9223372036854775807 →
      AmView (latestView S.w S.xid) rows tbl → Fresh S.xid S.nextCid rows →
      (items.foldlM (fun u it => drainStep (k + 14) u (amPending b fI fU it)) ()).exec S =
        (.ok (), amDrainSt b S.xid S nr sq.next rows tbl items) from
    this items S0 nr0 rows0 sq0 tbl0 hs0 hstat0 hnc0 hTA0 (hst0.serial hstat0.schH) hrange0 hview0 hfresh0
  intro items
  induction items with
  | nil => intros; rfl
  | cons it items ih =>
    intro S nr rows sq tbl hs hstat hnc ⟨TA, hTA1, hTA2⟩ hst hrange hview hfresh
    rw [List.length_cons] at hnc hrange
    have hstep := hst.step (amVals (amNew tbl sq.next it)).tail S.nextCid 2 (by omega)
    rw [show schemaOf ((amT b nr).withRows rows).name = b from hstat.schH] at hstep
    rw [exec_foldlM_cons, exec_drainStep_am k b fI fU fnI fnU it S hs hstat (by omega) TA hTA1 hTA2 nr rows sq hst tbl hview hfresh]
    refine (ih (((S.withSeqs (seqsSet (amSeqFull b) sq.next S.w.seqs)).bump 2).withTable _) (nr + 1)
      (newVer S.xid S.nextCid nr (amVals (amNew tbl sq.next it)) :: rows) { sq with last := sq.next, called := true }
      (amNew tbl sq.next it :: tbl) (((hs.withSeqs _).bump 2).withTable _) hstat (by show S.nextCid + 2 + 2 * items.length ≤ _; omega)
      ⟨TA, (withTable_table?_ne _ _ (acFull b) (bucket_ne b (by simp))).trans hTA1, hTA2⟩ hstep (by rw [Seq.next_set]; omega)
      (TView.new (enc := amVals) hview S.nextCid nr hs.xid (by omega) (amNew tbl sq.next it))
      ((hfresh.mono (Nat.le_add_right _ 2)).new hs.xid (by show S.nextCid < S.nextCid + 2; omega) nr _)).trans ?_
    rw [Seq.next_set, amDrainSt]
    rfl

end Ledger.Sql
