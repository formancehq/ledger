import Ledger.Log.Safe
import Ledger.Log.SqlHash

/-!
Log hash preimages (C10, C09).  The GENERATED `set_log_hash` body (Ledger/Generated/LogHash.lean),
run by the evaluator, computes the clean function `sqlClean (sqlJsonText …)`: `trigger_bridge`,
re-checked on every run against the regenerated AST.  `byteain ∘ encode(…,'escape')` is the
identity, so the memento survives the `text → bytea` cast of `set_log_hash` untouched; a
`safeText` is printed verbatim by Go, accepted by PostgreSQL and kept by `byteain`; safe dates
print identically on both sides.
-/
namespace Ledger.Log

/-- no backslash -/
def noBs (l : Bytes) : Bool := l.all (fun c => c != 0x5c)
/-- neither `"` nor backslash -/
def plain (l : Bytes) : Bool := l.all (fun c => c != 0x22 && c != 0x5c)

@[simp] theorem noBs_nil : noBs [] = true := rfl
@[simp] theorem noBs_cons (a : UInt8) (l : Bytes) : noBs (a :: l) = (a != 0x5c && noBs l) := by simp [noBs]
@[simp] theorem noBs_append (a b : Bytes) : noBs (a ++ b) = (noBs a && noBs b) := by simp [noBs]
@[simp] theorem plain_nil : plain [] = true := rfl
@[simp] theorem plain_cons (a : UInt8) (l : Bytes) : plain (a :: l) = ((a != 0x22 && a != 0x5c) && plain l) := by simp [plain]
@[simp] theorem plain_append (a b : Bytes) : plain (a ++ b) = (plain a && plain b) := by simp [plain]
theorem noBs_of_plain {l : Bytes} (h : plain l = true) : noBs l = true := by
  induction l with
  | nil => rfl
  | cons a t ih => simp at h ⊢; exact ⟨h.1.2, ih h.2⟩

theorem digitChar_plain (n : Nat) : (digitChar n != 0x22 && digitChar n != 0x5c) = true := by
  unfold digitChar; split <;> decide

@[simp] theorem plain_pad2 (n : Nat) : plain (pad2 n) = true := by
  simp [pad2, digitChar_plain]

theorem plain_natDecAux (fuel n : Nat) (acc : Bytes) (h : plain acc = true) : plain (natDecAux fuel n acc) = true := by
  induction fuel generalizing n acc with
  | zero => simpa [natDecAux] using h
  | succ f ih =>
    unfold natDecAux
    split
    · simp [digitChar_plain, h]
    · exact ih _ _ (by simp [digitChar_plain, h])

@[simp] theorem plain_natDec (n : Nat) : plain (natDec n) = true := plain_natDecAux _ _ _ rfl

@[simp] theorem plain_pad4 (n : Nat) : plain (pad4 n) = true := by
  unfold pad4; split <;> simp [digitChar_plain]

@[simp] theorem plain_civilBytes (y mo d h mi s : Nat) : plain (civilBytes y mo d h mi s) = true := by
  simp [civilBytes]

theorem plain_map_digitChar (l : List Nat) : plain (l.map digitChar) = true := by
  induction l with
  | nil => rfl
  | cons a t ih => simp [digitChar_plain, ih]

@[simp] theorem plain_fracBytes (ds : List Nat) : plain (fracBytes ds) = true := by
  unfold fracBytes; split
  · rfl
  · simp [plain_map_digitChar]

@[simp] theorem plain_pgTimestampIso (t : PgTimestamp) : plain (pgTimestampIso t) = true := by
  simp [pgTimestampIso]

theorem jsonPlainString_quote (body : Bytes) (h : plain body = true) :
    jsonPlainString (0x22 :: (body ++ [0x22])) = some body := by
  simp [jsonPlainString, List.reverse_append]
  simpa [plain] using h


/-- A scan that succeeds ends outside any escape sequence, so the scan of `a ++ b`
    is the scan of `a` followed by a fresh scan of `b`. -/
theorem byteaInAux_append {st : BSt} {a ra : Bytes} (h : byteaInAux st a = .ok ra) (b : Bytes) :
    byteaInAux st (a ++ b) = (byteaInAux .normal b).map (ra ++ ·) := by
  fun_induction byteaInAux st a generalizing ra <;>
    simp_all only [byteaInAux, List.cons_append, ↓reduceIte, Except.ok.injEq, reduceCtorEq]
  all_goals subst h; try rw [List.nil_append]
  all_goals cases byteaInAux .normal b <;> rfl

theorem byteaInAux_noBs (a : Bytes) (h : noBs a = true) : byteaInAux .normal a = .ok a := by
  induction a with
  | nil => rfl
  | cons b r ih =>
    simp only [noBs_cons, Bool.and_eq_true, bne_iff_ne, ne_eq] at h
    rw [byteaInAux, if_neg h.1, ih h.2]

theorem byteaInAux_append_noBs (a t : Bytes) (h : noBs a = true) :
    byteaInAux .normal (a ++ t) = (byteaInAux .normal t).map (a ++ ·) :=
  byteaInAux_append (byteaInAux_noBs a h) t

theorem forall_byte {P : UInt8 → Prop} (h : ∀ k, k < 256 → P (UInt8.ofNat k)) (c : UInt8) : P c := by
  simpa using h c.toNat c.toNat_lt

/-- `encode(…,'escape')` of one byte (itself, `\\` or `\ooo`) reads back as that byte. -/
theorem byteaInAux_escEncodeByte : ∀ c : UInt8, byteaInAux .normal (escEncodeByte c) = .ok [c] :=
  forall_byte (by decide +kernel)

theorem byteaInAux_escEncode (m : Bytes) : byteaInAux .normal (escEncode m) = .ok m := by
  induction m with
  | nil => rfl
  | cons c r ih => rw [escEncode, byteaInAux_append (byteaInAux_escEncodeByte c), ih]; rfl


theorem isCont_ne_bs {b : UInt8} (h : isCont b = true) : (b != 0x5c) = true := by
  simp only [bne_iff_ne, ne_eq]
  intro hb; subst hb; revert h; decide

theorem htmlSafe_facts {b : UInt8} (h : htmlSafe b = true) :
    (b != 0x5c) = true ∧ (b != 0) = true ∧ escAscii b = [b] := by
  refine ⟨?_, ?_, ?_⟩
  · simp only [bne_iff_ne, ne_eq]; intro hb; subst hb; revert h; decide
  · simp only [bne_iff_ne, ne_eq]; intro hb; subst hb; revert h; decide
  · simp [escAscii, h]

theorem high_ne_bs {b : UInt8} (h : ¬ b < 0x80) : (b != 0x5c) = true := by
  simp only [bne_iff_ne, ne_eq]
  intro hb; subst hb; exact h (by decide)

/-- along the scan of a safe text, byte by byte: Go copies it, PostgreSQL accepts it, no backslash -/
theorem safeTextAux_facts (n : Nat) (s : Bytes) (h : safeTextAux n s = true) :
    goStrAux n true s = s ∧ pgTextAux n s = true ∧ noBs s = true := by
  fun_induction safeTextAux n s <;>
    simp_all [-UInt8.not_lt, goStrAux, pgTextAux, isCont_ne_bs, high_ne_bs, htmlSafe_facts]

theorem goString_safe {s : Bytes} (h : safeText s = true) : goString s = 0x22 :: (s ++ [0x22]) := by
  simp [goString, (safeTextAux_facts 0 s h).1]

theorem pgTextOk_safe {s : Bytes} (h : safeText s = true) : pgTextOk s = true :=
  (safeTextAux_facts 0 s h).2.1

theorem noBs_safe {s : Bytes} (h : safeText s = true) : noBs s = true :=
  (safeTextAux_facts 0 s h).2.2


theorem trimZeros_append_zeros (xs : List Nat) : trimZeros (xs ++ [0, 0, 0]) = trimZeros xs := by
  induction xs with
  | nil => decide
  | cons d t ih => simp only [List.cons_append, trimZeros, ih]

theorem digits9_eq (n : Nat) (h : n % 1000 = 0) : digits9 n = digits6 (n / 1000) ++ [0, 0, 0] := by
  have low : n / 100 % 10 = 0 ∧ n / 10 % 10 = 0 ∧ n % 10 = 0 := by omega
  simp only [digits9, digits6, Nat.div_div_eq_div_mul, Nat.reduceMul, List.cons_append, List.nil_append, low]

theorem fracBytes_micro (n : Nat) (h : n % 1000 = 0) : fracBytes (digits9 n) = fracBytes (digits6 (n / 1000)) := by
  simp only [fracBytes, digits9_eq n h, trimZeros_append_zeros]

/-- the stored timestamp of a safe date: same civil fields, whole microseconds -/
def tsOfDate (d : Date) : PgTimestamp :=
  { year := d.year, month := d.month, day := d.day, hour := d.hour,
    minute := d.minute, second := d.second, micro := d.nano / 1000 }

theorem timestampIn_safe {nz : Bool} {d : Date} (h : safeDate nz d = true) :
    timestampIn d = .ok (tsOfDate d) := by
  simp only [safeDate, Bool.and_eq_true, decide_eq_true_eq] at h
  obtain ⟨⟨⟨⟨hz, hn⟩, hy1⟩, hy2⟩, _⟩ := h
  have h1 : ¬ (d.year = 0 ∨ 9999 < d.year) := by omega
  simp [timestampIn, h1, hn, tsOfDate]

theorem safeDate_not_zero {nz : Bool} {d : Date} (h : safeDate nz d = true) : (nz && isZeroDate d) = false := by
  simp only [safeDate, Bool.and_eq_true, Bool.not_eq_true'] at h
  exact h.2

theorem goTime_safe {nz : Bool} {d : Date} (h : safeDate nz d = true) :
    goTime d = pgTimestampIso (tsOfDate d) ++ [0x5a] := by
  simp only [safeDate, Bool.and_eq_true, decide_eq_true_eq] at h
  obtain ⟨⟨⟨⟨hz, hn⟩, _⟩, _⟩, _⟩ := h
  simp [goTime, pgTimestampIso, zoneBytes, hz, fracBytes_micro _ hn, tsOfDate]


open Ledger.Generated

/-- the JSON text up to the idempotency key, in front of `rest` -/
def sqlJsonHead (ty d : Bytes) (ts : PgTimestamp) (rest : Bytes) : Bytes :=
  b!"{\"type\":\"" ++ (ty ++ (b!"\",\"data\":" ++ (d ++ (b!",\"date\":\"" ++ (pgTimestampIso ts ++
  (b!"Z\",\"idempotencyKey\":\"" ++ rest))))))

/-- the text `set_log_hash` builds into `marshalledAsJSON`, given the text `d` of the `data` member -/
def sqlJsonText (ty d : Bytes) (ts : PgTimestamp) (ik : Bytes) : Bytes :=
  sqlJsonHead ty d ts (ik ++ b!"\",\"id\":0,\"hash\":null}")

/-- what the final `set_log_hash` hands to `digest`, given the JSON text `T` it built:
    `case when previousHash is null then T::bytea
     else '"' || encode(previousHash,'base64')::bytea || E'"\\n' || T::bytea end || E'\\n'` -/
def sqlClean (prev : PrevHash) (T : Bytes) : Except HashErr Bytes :=
  match prev with
  | none => match byteaIn T with
    | .error e => .error e
    | .ok j => .ok (j ++ b!"\n")
  | some h => match byteaIn (pgBase64 h) with
    | .error e => .error e
    | .ok p => match byteaIn T with
      | .error e => .error e
      | .ok j => .ok (b!"\"" ++ p ++ b!"\"\n" ++ j ++ b!"\n")

def mkRow (ledger : Bytes) (id : Int) (ty m : Bytes) (ts : PgTimestamp) (ikv sv hash : PgVal) : Row :=
  { ledger := .text ledger, id := .num id, type := .enumv ty, memento := .bytea m,
    date := .timestamp ts, idempotencyKey := ikv, schemaVersion := sv, hash := hash }

/-- `coalesce(new.idempotency_key, '')` -/
def ikText : PgVal → Option Bytes
  | .null => some []
  | .text b => some b
  | _ => none

/-- the value `previousHash` receives -/
def prevVal : PrevHash → PgVal
  | none => .null
  | some h => .bytea h

/-- the query of the generated body (first statement of `set_log_hash`) -/
def genQuery : LastRowQuery :=
  { col := "hash", var := "previoushash", table := "logs", whereCol := "ledger", record := "new",
    recordCol := "ledger", orderCol := "id", desc := true, limit := 1 }

theorem coalesce_ikText {ikv : PgVal} {ik : Bytes} (h : ikText ikv = some ik) :
    call2Val .coalesce ikv (.unknown []) = .ok (.text ik) := by
  cases ikv <;> simp [ikText] at h <;> subst h <;> rfl

theorem coerceAssign_prevVal (prev : PrevHash) : coerceAssign .bytea (prevVal prev) = .ok (prevVal prev) := by
  cases prev <;> rfl

theorem encode_escape (x : Bytes) : call2Val .encode (.bytea x) (.unknown b!"escape") = .ok (.text (escEncode x)) := rfl
theorem encode_base64 (x : Bytes) : call2Val .encode (.bytea x) (.unknown b!"base64") = .ok (.text (pgBase64 x)) := rfl
theorem digest_sha256 (x : Bytes) : call2Val .digest (.bytea x) (.text b!"sha256") = .ok (.digest x) := rfl

theorem execStmts_selectInto {cb : PgVal → Row → Except HashErr PgVal} {decls tbl e var rest env v}
    (he : evalExpr cb env e = .ok v) :
    execStmts cb decls tbl ({ stmt := .selectInto e var } :: rest) env =
      match assignTo decls env var v with
      | .error e => .error e
      | .ok env' => execStmts cb decls tbl rest env' := by
  rw [execStmts]; simp only [he]; rfl

/-- Bridge lemma: on ANY table for which the generated `select hash into previousHash …`
    yields `prevVal prev`, the generated trigger body returns the row unchanged except
    for `hash := digest (sqlClean prev (sqlJsonText …))`.  The proof runs the four
    statements of the body one after the other. -/
theorem trigger_bridge_row (tbl : Table) (ledger : Bytes) (id : Int) (ty m : Bytes) (ts : PgTimestamp)
    (ikv sv hash : PgVal) (ik : Bytes) (prev : PrevHash) (hik : ikText ikv = some ik)
    (hsel : selectLastKey genQuery tbl "new" (some (.text ledger)) = .ok (prevVal prev)) :
    runSetLogHash tbl (mkRow ledger id ty m ts ikv sv hash) =
      match sqlClean prev (sqlJsonText ty (escEncode m) ts ik) with
      | .ok pre => .ok (mkRow ledger id ty m ts ikv sv (.digest pre))
      | .error e => .error e := by
  have hiso := jsonPlainString_quote (pgTimestampIso ts) (plain_pgTimestampIso ts)
  have hco := coalesce_ikText hik
  have hcp := coerceAssign_prevVal prev
  unfold genQuery at hsel
  simp only [runSetLogHash, runTrigger, LogHash.setLogHash, initVars, List.map]
  -- select hash into previousHash from logs …
  rw [execStmts]
  simp only [selectLast, mkRow, Row.get, ↓reduceIte, hsel, assignTo, lookupDecl, hcp, setVar]
  -- select '{' || '"type":"' || new.type || … into marshalledAsJSON
  rw [execStmts_selectInto (v := .text (sqlJsonText ty (escEncode m) ts ik)) (by
    simp only [evalExpr, ↓reduceIte, Row.get, String.reduceEq, concatVals, textual, encode_escape, hco, call1Val,
      castVal, hiso, List.append_assoc]; rfl)]
  simp only [assignTo, lookupDecl, coerceAssign, setVar, ↓reduceIte, String.reduceEq]
  -- new.hash = (select public.digest(case when previousHash is null … end || E'\\n', 'sha256'))
  have hb1 : byteaIn b!"\"" = .ok b!"\"" := by decide
  have hb2 : byteaIn b!"\"\n" = .ok b!"\"\n" := by decide
  have hb3 : byteaIn b!"\n" = .ok b!"\n" := by decide
  rw [execStmts]
  cases prev with
  | none =>
    simp only [prevVal, evalExpr, lookupVar, ↓reduceIte, String.reduceEq, castVal, sqlClean]
    generalize byteaIn _ = j
    cases j <;> simp only [concatVals, hb3, digest_sha256, Row.set, ↓reduceIte]
    -- return new
    rw [execStmts]; rfl
  | some h =>
    simp only [prevVal, evalExpr, lookupVar, ↓reduceIte, String.reduceEq, castVal, sqlClean, encode_base64,
      reduceCtorEq, eq_iff_iff, false_iff, not_true_eq_false]
    generalize byteaIn (pgBase64 h) = p
    generalize byteaIn _ = j
    cases p <;> cases j <;> simp only [concatVals, hb1, hb2, hb3, digest_sha256, Row.set, ↓reduceIte]
    rw [execStmts]; rfl

theorem selectLastKey_prevTable (ledger : Bytes) (pid : Nat) (prev : PrevHash) :
    selectLastKey genQuery (prevTable ledger pid prev) "new" (some (.text ledger)) = .ok (prevVal prev) := by
  cases prev <;> simp [genQuery, selectLastKey, prevTable, pickLast, Row.get, prevVal]

/-- the digest preimage on the one-row table used by `sqlPreimage` -/
theorem trigger_bridge (ledger : Bytes) (pid : Nat) (id : Int) (ty m : Bytes) (ts : PgTimestamp)
    (ikv sv hash : PgVal) (ik : Bytes) (prev : PrevHash) (hik : ikText ikv = some ik) :
    triggerPreimage (prevTable ledger pid prev) (mkRow ledger id ty m ts ikv sv hash) =
      sqlClean prev (sqlJsonText ty (escEncode m) ts ik) := by
  rw [triggerPreimage, trigger_bridge_row _ ledger id ty m ts ikv sv hash ik prev hik
    (selectLastKey_prevTable ledger pid prev)]
  cases sqlClean prev (sqlJsonText ty (escEncode m) ts ik) <;> rfl

theorem textParam_ok (c : String) (nz : Bool) (s : Bytes) (h : pgTextOk s = true) :
    ∃ v, textParam c nz s = .ok v := by
  unfold textParam
  split
  · exact ⟨_, rfl⟩
  · exact ⟨.text s, by simp⟩

/-- a `nullzero` text column holds NULL for `""`: `coalesce(…, '')` gives the string back -/
theorem ikText_textParam {c : String} {nz : Bool} {s : Bytes} {v : PgVal} (h : textParam c nz s = .ok v) :
    ikText v = some s := by
  unfold textParam at h
  split at h
  · next hs => cases h; simp only [Bool.and_eq_true, decide_eq_true_eq] at hs; rw [hs.2]; rfl
  · split at h <;> cases h; rfl

theorem rowOfLog_inv {tags : BunTags} {ledger : Bytes} {id : Nat} {log : Log} {row : Row}
    (h : rowOfLog tags ledger id log = .ok row) :
    ∃ m ts ikv sv, mementoBytes log.payload = .ok m ∧ (tags.dateNullZero && isZeroDate log.date) = false ∧
      timestampIn log.date = .ok ts ∧
      textParam "idempotency_key" tags.idempotencyKeyNullZero log.idempotencyKey = .ok ikv ∧
      textParam "schema_version" tags.schemaVersionNullZero log.schemaVersion = .ok sv ∧
      row = mkRow ledger id log.payload.type.label m ts ikv sv (prevVal log.hash) := by
  unfold rowOfLog at h
  split at h; · cases h
  split at h; · cases h
  split at h; · cases h
  split at h; · cases h
  split at h; · cases h
  rename_i m hm hz _ ts hts _ ikv hik _ sv hsv
  cases h
  exact ⟨m, ts, ikv, sv, hm, by simpa using hz, hts, hik, hsv, by cases log.hash <;> rfl⟩

/-- What PostgreSQL hashes for a log: the steps of `rowOfLog` decide whether there is a row at all;
    of their results only the memento and the timestamp reach the digest, next to the log's type
    and its idempotency key as sent.  Ledger name, ids, the schema version and `Log.Hash` do not. -/
theorem sqlPreimageAt_eq (ledger : Bytes) (id : Nat) (log : Log) (prev : PrevHash) :
    sqlPreimageAt ledger id log prev =
      match mementoBytes log.payload with
      | .error e => .error e
      | .ok m =>
        if bunTags.dateNullZero && isZeroDate log.date then .error (.unsupported "date DEFAULT transaction_date()") else
        match timestampIn log.date with
        | .error e => .error e
        | .ok ts =>
          match textParam "idempotency_key" bunTags.idempotencyKeyNullZero log.idempotencyKey with
          | .error e => .error e
          | .ok _ =>
            match textParam "schema_version" bunTags.schemaVersionNullZero log.schemaVersion with
            | .error e => .error e
            | .ok _ => sqlClean prev (sqlJsonText log.payload.type.label (escEncode m) ts log.idempotencyKey) := by
  unfold sqlPreimageAt rowOfLog
  cases mementoBytes log.payload; · rfl
  cases bunTags.dateNullZero && isZeroDate log.date
  case true => rfl
  cases timestampIn log.date; · rfl
  cases hik : textParam "idempotency_key" bunTags.idempotencyKeyNullZero log.idempotencyKey; · rfl
  cases textParam "schema_version" bunTags.schemaVersionNullZero log.schemaVersion; · rfl
  exact trigger_bridge _ _ _ _ _ _ _ _ _ _ _ (ikText_textParam hik)

theorem byteaIn_noBs (a : Bytes) (h : noBs a = true) : byteaIn a = .ok a := by
  unfold byteaIn
  split
  · next x y t =>
    have hx : x ≠ 0x5c := by simp at h; exact h.1
    simp only [hx, decide_false, Bool.false_and, Bool.false_eq_true, if_false]
    exact byteaInAux_noBs _ h
  · exact byteaInAux_noBs _ h

theorem b64Char_ne_bs : ∀ n : UInt8, (b64Char n != 0x5c) = true :=
  forall_byte (by decide +kernel)

theorem noBs_base64 (l : Bytes) : noBs (base64 l) = true := by
  fun_induction base64 l <;> simp_all [b64Char_ne_bs]

theorem pgBase64_short (h : Bytes) (hl : h.length < 57) : pgBase64 h = base64 h := by
  simp [pgBase64, pgBase64Aux, hl]

theorem label_safe (t : LogType) : safeText t.label = true := by
  cases t <;> decide

/-- A backslash that starts neither `\\` nor `\ooo` stops the scan. -/
theorem byteaInAux_lone_bs {c : UInt8} (hc : c ≠ 0x5c) (ho : (0x30 ≤ c && c ≤ 0x33) = false) (t : Bytes) :
    byteaInAux .normal (0x5c :: c :: t) = .error .invalidByteaInput := by
  unfold byteaInAux
  rw [if_pos rfl]
  unfold byteaInAux
  rw [if_neg hc, ho]
  rfl

/-- The `text → bytea` cast of the JSON text undoes the escape encoding of the memento, leaves the
    rest up to the idempotency key as it is, and goes on with the key as a fresh scan. -/
theorem byteaIn_sqlJsonText_key (ty m : Bytes) (ts : PgTimestamp) (ik : Bytes) (hty : noBs ty = true) :
    byteaIn (sqlJsonText ty (escEncode m) ts ik) =
      (byteaInAux .normal (ik ++ b!"\",\"id\":0,\"hash\":null}")).map (sqlJsonHead ty m ts) := by
  have h0 : byteaIn (sqlJsonText ty (escEncode m) ts ik) = byteaInAux .normal (sqlJsonText ty (escEncode m) ts ik) := rfl
  rw [h0, sqlJsonText, sqlJsonHead]
  rw [byteaInAux_append_noBs _ _ (by decide), byteaInAux_append_noBs _ _ hty,
    byteaInAux_append_noBs _ _ (by decide), byteaInAux_append (byteaInAux_escEncode m),
    byteaInAux_append_noBs _ _ (by decide),
    byteaInAux_append_noBs _ _ (noBs_of_plain (plain_pgTimestampIso ts)),
    byteaInAux_append_noBs _ _ (by decide)]
  cases byteaInAux .normal (ik ++ b!"\",\"id\":0,\"hash\":null}") <;> rfl

/-- A key without backslash passes through the cast unchanged. -/
theorem byteaIn_sqlJsonText (ty m : Bytes) (ts : PgTimestamp) (ik : Bytes)
    (hty : noBs ty = true) (hik : noBs ik = true) :
    byteaIn (sqlJsonText ty (escEncode m) ts ik) = .ok (sqlJsonText ty m ts ik) := by
  rw [byteaIn_sqlJsonText_key ty m ts ik hty, byteaInAux_append_noBs _ _ hik, byteaInAux_noBs _ (by decide)]
  rfl

/-- A key with a backslash that starts no escape sequence makes the cast fail. -/
theorem byteaIn_sqlJsonText_lone_bs (ty m : Bytes) (ts : PgTimestamp) (pre post : Bytes) {c : UInt8}
    (hty : noBs ty = true) (hpre : noBs pre = true) (hc : c ≠ 0x5c) (ho : (0x30 ≤ c && c ≤ 0x33) = false) :
    byteaIn (sqlJsonText ty (escEncode m) ts (pre ++ 0x5c :: c :: post)) = .error .invalidByteaInput := by
  rw [byteaIn_sqlJsonText_key ty m ts _ hty, List.append_assoc, byteaInAux_append_noBs _ _ hpre, List.cons_append,
    List.cons_append, byteaInAux_lone_bs hc ho]
  rfl

end Ledger.Log
