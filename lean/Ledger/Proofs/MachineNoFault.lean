import Ledger.Proofs.MachineResolve
import Ledger.Proofs.MachineExpr

/-! No typed-pop fault / panic for programs the compiler accepted (model `sem`,
    current variant): expressions. -/
namespace Ledger.Machine

/-- The result is neither a VM fault nor a panic. -/
def NF {α : Type} (r : Except Err α) : Prop :=
  ∀ w, r ≠ .error (.fault w) ∧ r ≠ .error (.panic w)

theorem NF.ok {α : Type} (x : α) : NF (Except.ok x : Except Err α) := by
  intro w; constructor <;> (intro h; cases h)

theorem NF.run {α : Type} (s k : String) : NF (Except.error (.run s k) : Except Err α) := by
  intro w; constructor <;> (intro h; cases h)

theorem NF.compile {α : Type} (m : String) : NF (Except.error (.compile m) : Except Err α) := by
  intro w; constructor <;> (intro h; cases h)

theorem NF.error_of {α β : Type} {r : Except Err α} (h : NF r) {e : Err} (heq : r = .error e) :
    NF (Except.error e : Except Err β) := by
  subst heq
  intro w
  constructor <;> (intro h2; cases h2)
  · exact (h w).1 rfl
  · exact (h w).2 rfl

/-- Propagation through `match r with | .error e => .error e | .ok x => k x`. -/
theorem NF.bind {α β : Type} {r : Except Err α} {k : α → Except Err β} (hr : NF r)
    (hk : ∀ x, r = .ok x → NF (k x)) :
    NF (match r with | .error e => .error e | .ok x => k x) := by
  cases r with
  | error e => exact hr.error_of rfl
  | ok x => exact hk x rfl

def NFP {α : Type} (r : Except Err α) (P : α → Prop) : Prop := NF r ∧ ∀ x, r = .ok x → P x

theorem NFP.ok {α : Type} {P : α → Prop} {x : α} (h : P x) : NFP (.ok x) P :=
  ⟨NF.ok x, fun _ e => by cases e; exact h⟩

theorem NFP.error {α : Type} {P : α → Prop} {e : Err} (h : NF (.error e : Except Err α)) : NFP (.error e) P :=
  ⟨h, fun _ e => by cases e⟩

theorem NFP.run {α : Type} {P : α → Prop} (s k : String) : NFP (.error (.run s k) : Except Err α) P :=
  .error (NF.run s k)

theorem val_number {v : Value} (h : valueTy v = .number) : ∃ x, v = .number x := by
  cases v <;> simp [valueTy] at h; exact ⟨_, rfl⟩
theorem val_monetary {v : Value} (h : valueTy v = .monetary) : ∃ a x, v = .monetary a x := by
  cases v <;> simp [valueTy] at h; exact ⟨_, _, rfl⟩
theorem val_asset {v : Value} (h : valueTy v = .asset) : ∃ a, v = .asset a := by
  cases v <;> simp [valueTy] at h; exact ⟨_, rfl⟩
theorem val_account {v : Value} (h : valueTy v = .account) : ∃ a, v = .account a := by
  cases v <;> simp [valueTy] at h; exact ⟨_, rfl⟩
theorem val_portion {v : Value} (h : valueTy v = .portion) : ∃ p, v = .portion p := by
  cases v <;> simp [valueTy] at h; exact ⟨_, rfl⟩

def EnvTyped (ds : Decls) (env : Env) : Prop :=
  ∀ x t, ds.lookup x = some t → ∃ v, env.lookup x = some v ∧ valueTy v = t

def EnvValsOK (env : Env) : Prop := ∀ kv ∈ env, ValOK kv.2

def ExprRes (env : Env) (e : Expr) (t : Ty) : Prop :=
  (∃ v, evalExpr env e = .ok v ∧ valueTy v = t ∧ (EnvValsOK env → ValOK v)) ∨
  (∃ k, evalExpr env e = .error (.run "exec" k))

theorem typeExpr_add_inv {ds : Decls} {l r : Expr} {t : Ty} (h : typeExpr ds (.add l r) = .ok t) :
    (t = .number ∨ t = .monetary) ∧ typeExpr ds l = .ok t ∧ typeExpr ds r = .ok t := by
  simp only [typeExpr] at h
  split at h
  · cases h
  · rename_i hl
    split at h
    · cases h
    · rename_i rt hr
      split at h
      · rename_i heq; cases h; subst heq; exact ⟨.inl rfl, hl, hr⟩
      · cases h
  · rename_i hl
    split at h
    · cases h
    · rename_i rt hr
      split at h
      · rename_i heq; cases h; subst heq; exact ⟨.inr rfl, hl, hr⟩
      · cases h
  · cases h

theorem typeExpr_inv {ds : Decls} {e : Expr} {t : Ty} (h : typeExpr ds e = .ok t) :
    match e with
    | .acct _ => t = .account
    | .asset _ => t = .asset
    | .num _ => t = .number
    | .str _ => t = .string
    | .portion s => t = .portion ∧ ∃ p, parsePortionGo s = .ok p
    | .mon a _ => t = .monetary ∧ typeExpr ds a = .ok .asset
    | .var x => ds.lookup x = some t
    | .add l r => (t = .number ∨ t = .monetary) ∧ typeExpr ds l = .ok t ∧ typeExpr ds r = .ok t
    | .sub l r => (t = .number ∨ t = .monetary) ∧ typeExpr ds l = .ok t ∧ typeExpr ds r = .ok t := by
  cases e with
  | acct _ => cases h; rfl
  | num _ => cases h; rfl
  | str _ => cases h; rfl
  | asset s =>
    simp only [typeExpr] at h
    split at h <;> cases h
    rfl
  | portion s =>
    simp only [typeExpr] at h
    split at h <;> cases h
    exact ⟨rfl, _, ‹_›⟩
  | mon a n =>
    simp only [typeExpr] at h
    split at h
    · cases h
    · rename_i ta hta
      split at h <;> cases h
      rename_i heq; subst heq
      exact ⟨rfl, hta⟩
  | var x =>
    simp only [typeExpr] at h
    split at h <;> cases h
    assumption
  | add l r => exact typeExpr_add_inv h
  | sub l r => exact typeExpr_add_inv h

def Expr.Atom : Expr → Prop
  | .add _ _ | .sub _ _ => False
  | _ => True

theorem Expr.Atom.leftmost {e : Expr} (h : e.Atom) : e.leftmost = e := by
  cases e <;> first | rfl | exact h.elim

theorem Expr.atom_leftmost : (e : Expr) → e.leftmost.Atom
  | .add l _ | .sub l _ => atom_leftmost l
  | .acct _ | .asset _ | .num _ | .str _ | .portion _ | .mon _ _ | .var _ => trivial

theorem atom_of_type {ds : Decls} {e : Expr} {t : Ty} (h : typeExpr ds e = .ok t)
    (hn : t ≠ .number) (hm : t ≠ .monetary) : e.Atom := by
  cases e with
  | add l r => exact (typeExpr_inv h).1.elim hn hm
  | sub l r => exact (typeExpr_inv h).1.elim hn hm
  | _ => trivial

theorem leftmost_typed {ds : Decls} : (e : Expr) → typeExpr ds e = .ok .monetary →
    typeExpr ds e.leftmost = .ok .monetary
  | .add l r, h => leftmost_typed l (typeExpr_inv h).2.1
  | .sub l r, h => leftmost_typed l (typeExpr_inv h).2.1
  | .acct _, h | .asset _, h | .num _, h | .str _, h | .portion _, h | .mon _ _, h | .var _, h => h

theorem arithV_typed (f : Int → Int → Int) (k w : String) {t : Ty} (ht : t = .number ∨ t = .monetary)
    {a b : Value} (ha : valueTy a = t) (hb : valueTy b = t) :
    (∃ v, arithV f k w a b = .ok v ∧ valueTy v = t ∧ ValOK v) ∨ arithV f k w a b = .error (.run "exec" k) := by
  rcases ht with rfl | rfl
  · obtain ⟨x, rfl⟩ := val_number ha
    obtain ⟨y, rfl⟩ := val_number hb
    exact .inl ⟨_, rfl, rfl, trivial⟩
  · obtain ⟨c, x, rfl⟩ := val_monetary ha
    obtain ⟨d, y, rfl⟩ := val_monetary hb
    by_cases hcd : c = d
    · exact .inl ⟨.monetary c (some (f (nilAsZero x) (nilAsZero y))), by simp [arithV, hcd], rfl, trivial⟩
    · exact .inr (by simp [arithV, hcd])

theorem evalBin_typed {env : Env} {l r : Expr} {t : Ty} (f : Int → Int → Int) (k w : String)
    (ht : t = .number ∨ t = .monetary) (hl : ExprRes env l t) (hr : ExprRes env r t) :
    (∃ v, evalBin env l r (arithV f k w) = .ok v ∧ valueTy v = t ∧ (EnvValsOK env → ValOK v)) ∨
    (∃ k', evalBin env l r (arithV f k w) = .error (.run "exec" k')) := by
  unfold evalBin
  rcases hl with ⟨a, ha, hta, _⟩ | ⟨k', hk'⟩
  · rcases hr with ⟨b, hb, htb, _⟩ | ⟨k', hk'⟩
    · rw [ha, hb]
      exact (arithV_typed f k w ht hta htb).imp (fun ⟨v, h1, h2, h3⟩ => ⟨v, h1, h2, fun _ => h3⟩) (fun h => ⟨k, h⟩)
    · exact .inr ⟨k', by rw [ha, hk']⟩
  · exact .inr ⟨k', by rw [hk']⟩

/-- A typed atom has a value: no asset mismatch can occur. -/
theorem atom_eval {ds : Decls} {env : Env} (henv : EnvTyped ds env) :
    (e : Expr) → (t : Ty) → e.Atom → typeExpr ds e = .ok t →
    ∃ v, evalExpr env e = .ok v ∧ valueTy v = t ∧ (EnvValsOK env → ValOK v)
  | .acct _, _, _, h | .asset _, _, _, h | .num _, _, _, h | .str _, _, _, h =>
    ⟨_, rfl, (typeExpr_inv h).symm, fun _ => trivial⟩
  | .portion x, t, _, h => by
    obtain ⟨rfl, p, hp⟩ := typeExpr_inv h
    obtain ⟨r, rfl⟩ := parsePortionGo_specific hp
    exact ⟨.portion (.specific r), by simp [evalExpr, hp], rfl, fun _ => trivial⟩
  | .var x, t, _, h => by
    obtain ⟨v, hv, ht⟩ := henv x t (typeExpr_inv h)
    exact ⟨v, by simp [evalExpr, hv], ht, fun hok => hok (x, v) (lookup_mem env x v hv)⟩
  | .mon a n, t, _, h => by
    obtain ⟨rfl, hta⟩ := typeExpr_inv h
    obtain ⟨v, hv, hty, _⟩ := atom_eval henv a .asset (atom_of_type hta (by simp) (by simp)) hta
    obtain ⟨s, rfl⟩ := val_asset hty
    exact ⟨.monetary s (some n), by simp [evalExpr, hv], rfl, fun _ => trivial⟩

theorem evalExpr_typed (ds : Decls) (env : Env) (henv : EnvTyped ds env) (e : Expr) (t : Ty)
    (h : typeExpr ds e = .ok t) : ExprRes env e t := by
  induction e generalizing t with
  | add l r ihl ihr =>
    obtain ⟨ht, hl, hr⟩ := typeExpr_inv h
    rw [ExprRes, evalExpr_add]
    exact evalBin_typed _ _ _ ht (ihl t hl) (ihr t hr)
  | sub l r ihl ihr =>
    obtain ⟨ht, hl, hr⟩ := typeExpr_inv h
    rw [ExprRes, evalExpr_sub]
    exact evalBin_typed _ _ _ ht (ihl t hl) (ihr t hr)
  | _ => exact .inl (atom_eval henv _ t trivial h)

theorem evalExpr_nf {ds : Decls} {env : Env} (henv : EnvTyped ds env) {e : Expr} {t : Ty}
    (h : typeExpr ds e = .ok t) : NF (evalExpr env e) := by
  rcases evalExpr_typed ds env henv e t h with ⟨v, hv, _⟩ | ⟨k, hk⟩
  · rw [hv]; exact NF.ok _
  · rw [hk]; exact NF.run _ _

/-- Account and asset expressions are atoms: they have a value. -/
theorem evalAccount_of_typed {ds : Decls} {env : Env} (henv : EnvTyped ds env) {e : Expr}
    (ht : typeExpr ds e = .ok .account) : ∃ a, evalExpr env e = .ok (.account a) ∧ evalAccount env e = .ok a := by
  obtain ⟨v, hv, hty, _⟩ := atom_eval henv e _ (atom_of_type ht (by simp) (by simp)) ht
  obtain ⟨a, rfl⟩ := val_account hty
  exact ⟨a, hv, by simp [evalAccount, hv]⟩

theorem evalAssetE_of_typed {ds : Decls} {env : Env} (henv : EnvTyped ds env) {e : Expr}
    (ht : typeExpr ds e = .ok .asset) : ∃ a, evalExpr env e = .ok (.asset a) ∧ evalAssetE env e = .ok a := by
  obtain ⟨v, hv, hty, _⟩ := atom_eval henv e _ (atom_of_type ht (by simp) (by simp)) ht
  obtain ⟨a, rfl⟩ := val_asset hty
  exact ⟨a, hv, by simp [evalAssetE, hv]⟩

theorem evalAccount_nf {ds : Decls} {env : Env} (henv : EnvTyped ds env) {e : Expr}
    (h : typeExpr ds e = .ok .account) : NF (evalAccount env e) := by
  obtain ⟨a, _, ha⟩ := evalAccount_of_typed henv h
  rw [ha]; exact NF.ok _

theorem evalAssetE_nf {ds : Decls} {env : Env} (henv : EnvTyped ds env) {e : Expr}
    (h : typeExpr ds e = .ok .asset) : NF (evalAssetE env e) := by
  obtain ⟨a, _, ha⟩ := evalAssetE_of_typed henv h
  rw [ha]; exact NF.ok _

theorem evalMonetary_typed {ds : Decls} {env : Env} (henv : EnvTyped ds env) (hok : EnvValsOK env)
    {e : Expr} (h : typeExpr ds e = .ok .monetary) :
    (∃ a v, evalMonetary env e = .ok (a, some v)) ∨ (∃ k, evalMonetary env e = .error (.run "exec" k)) := by
  rcases evalExpr_typed ds env henv e _ h with ⟨v, hv, hty, hvok⟩ | ⟨k, hk⟩
  · obtain ⟨a, amt, rfl⟩ := val_monetary hty
    have := hvok hok
    cases amt with
    | none => exact absurd this (by simp [ValOK])
    | some x => exact Or.inl ⟨a, x, by simp [evalMonetary, hv]⟩
  · exact Or.inr ⟨k, by simp [evalMonetary, hk]⟩

/-- The amount of a statement, as the no-fault walks use it: no fault, and the value is there. -/
theorem evalMonetary_nfp {ds : Decls} {env : Env} (henv : EnvTyped ds env) (hok : EnvValsOK env)
    {e : Expr} (h : typeExpr ds e = .ok .monetary) :
    NFP (evalMonetary env e) (fun m => ∃ a v, m = (a, some v)) := by
  rcases evalMonetary_typed henv hok h with ⟨a, v, hm⟩ | ⟨k, hk⟩
  · rw [hm]; exact .ok ⟨a, v, rfl⟩
  · rw [hk]; exact .run _ _

theorem leftmost_monetary_eval {ds : Decls} {env : Env} (henv : EnvTyped ds env) {e : Expr}
    (h : typeExpr ds e = .ok .monetary) : ∃ a v, evalExpr env e.leftmost = .ok (.monetary a v) := by
  obtain ⟨w, hw, hty, _⟩ := atom_eval henv e.leftmost _ e.atom_leftmost (leftmost_typed e h)
  obtain ⟨a, v, rfl⟩ := val_monetary hty
  exact ⟨a, v, hw⟩

theorem leftmostAsset_nf {ds : Decls} {env : Env} (henv : EnvTyped ds env) {e : Expr}
    (h : typeExpr ds e = .ok .monetary) : NF (leftmostAsset env e) := by
  obtain ⟨a, v, hv⟩ := leftmost_monetary_eval henv h
  simp only [leftmostAsset, hv]; exact NF.ok _

theorem evalMonetary_leftmost_nf {ds : Decls} {env : Env} (henv : EnvTyped ds env) {e : Expr}
    (h : typeExpr ds e = .ok .monetary) : NF (evalMonetary env e.leftmost) := by
  obtain ⟨a, v, hv⟩ := leftmost_monetary_eval henv h
  simp only [evalMonetary, hv]; exact NF.ok _

end Ledger.Machine
