import Ledger.Proofs.SqlTx
import Ledger.Proofs.SqlUpdate

/-!
# `UPDATE transactions … RETURNING *` under LeanPG, in general

`tx_update_exec`: LeanPG's whole UPDATE loop on `transactions`, for any contents satisfying the storage invariants
`TxTblState`, from what the statement's WHERE clause (`gR`) and SET list (`fR`) mean on a typed row; through the
UPDATE theorem for any table of `Ledger/Proofs/SqlUpdate.lean`. Restriction: the table carries no UPDATE trigger
(ledgers without TRANSACTION_METADATA_HISTORY); the SELECT part of the statements is not covered.
-/
open Ledger Ledger.Sql Ledger.Generated

namespace Ledger.Sql

/-- the guard and the effect of the revert UPDATE on a typed row -/
def revG (l : String) (txid : Int) (x : TxR) : Bool := decide (x.id = txid ∧ x.revertedAt = none ∧ x.ledger = l)
def revF (T : Int) (x : TxR) : TxR := { x with revertedAt := some T, updatedAt := T }

/-- RETURNING * on `transactions` -/
def starAcc (fR : TxR → TxR) (a : DmlAcc) (r : Ver) : DmlAcc :=
  { retCols := txCols, retRows := a.retRows ++ [txF fR r.vals], affected := a.affected + 1 }

theorem exec_accReturning_star_tx (m : Nat) (env : Env) (b : String) (trigs : List TriggerDef) (nr : Nat) (rows : List Ver)
    (alias : String) (vals : List Value) (a : DmlAcc) (s : St) :
    (accReturning (m + 2) env ((txT b trigs nr).withRows rows) alias vals [] [SelItem.star ""] a).exec s =
      (.ok { retCols := txCols, retRows := a.retRows ++ [vals], affected := a.affected + 1 }, s) := by
  rw [accReturning]
  simp [exec_bind, evalReturning, txT_colNames, Table.withRows, txT, Table.colNames, txCols]

/-- hypotheses on the state for statements writing `transactions` -/
structure TxTblState (s : St) (b : String) (trigs : List TriggerDef) (nr : Nat) (rows : List Ver) : Prop where
  tx : TxState s
  table : s.w.table? (txFull b) = some ((txT b trigs nr).withRows rows)
  fresh : Fresh s.xid s.cid rows
  ridNodup : ((rows.filter (fun r => r.visible (latestView s.w s.xid))).map (·.rid)).Nodup
  inv : TxInv (latestView s.w s.xid) rows

theorem exec_evalReturning_star_null (m : Nat) (env : Env) (b : String) (trigs : List TriggerDef) (nr : Nat) (rows : List Ver)
    (alias : String) (s : St) :
    ∃ pv, (evalReturning (m + 1) env ((txT b trigs nr).withRows rows) alias ((txT b trigs nr).cols.map (fun _ => Value.null)) []
      (protoReturning [SelItem.star ""])).exec s = (.ok (txCols, pv), s) := by
  refine ⟨(txT b trigs nr).cols.map (fun _ => Value.null), ?_⟩
  simp [protoReturning, exec_bind, evalReturning, Table.withRows, txT, Table.colNames, txCols]

theorem updAcc_star (g : List Value → Bool) (fR : TxR → TxR) : ∀ (ts : List Ver) (a : DmlAcc),
    updAcc g (starAcc fR) a ts =
      { retCols := if (ts.filter (fun r => g r.vals)).isEmpty then a.retCols else txCols,
        retRows := a.retRows ++ (ts.filter (fun r => g r.vals)).map (fun r => txF fR r.vals),
        affected := (ts.filter (fun r => g r.vals)).length + a.affected }
  | [], a => by simp [updAcc]
  | r :: rest, a => by
    have ih := updAcc_star g fR rest
    unfold updAcc at ih ⊢
    rw [List.foldl_cons, ih]
    cases hg : g r.vals <;> simp [hg, starAcc, Nat.add_assoc, Nat.add_comm 1]

/-- `stmts` is one `UPDATE transactions SET … WHERE … RETURNING *`; on a typed row satisfying `Px` its WHERE clause is `gR`, and where
    that holds its SET list gives `fR`, in states satisfying `Sok`. What `tx_update_exec` asks of a statement
    (`Ledger/Proofs/SqlTxStmts.lean` establishes it for the generated ones by evaluating their expressions). -/
def TxUpdMeans (env : Env) (b : String) (stmts : List Stmt) (gR : TxR → Bool) (fR : TxR → TxR) (Px : TxR → Prop) (Sok : St → Prop) : Prop :=
  ∃ sets wher, stmts = [Stmt.update [] b "transactions" "" sets [] (some wher) [SelItem.star ""]] ∧
    (∀ x, Px x → ∀ cb te src, Evals cb te { env with locals := [txScope x src] } wher (.bool (gR x))) ∧
    ∀ x, Px x → gR x = true → ∀ m trigs nr rows s src, Sok s →
      (applySets (m + 3) { env with locals := [txScope x src] } ((txT b trigs nr).withRows rows) (txVals x) sets).exec s =
        (.ok (txVals (fR x)), s)

theorem txUpdSem (env : Env) (b : String) (trigs : List TriggerDef) (nr : Nat) (sets : List SetItem) (wher : Expr)
    (gR : TxR → Bool) (fR : TxR → TxR) (Px : TxR → Prop) (Sok : St → Prop)
    (hnb : trigs.filter (fun tr => tr.timing == .before && tr.event == .update) = [])
    (hna : trigs.filter (fun tr => tr.timing == .after && tr.event == .update) = [])
    (hguard : ∀ x, Px x → ∀ cb te src, Evals cb te { env with locals := [txScope x src] } wher (.bool (gR x)))
    (hsets : ∀ x, Px x → gR x = true → ∀ m rows s src, Sok s →
      (applySets (m + 3) { env with locals := [txScope x src] } ((txT b trigs nr).withRows rows) (txVals x) sets).exec s =
        (.ok (txVals (fR x)), s)) :
    UpdSem env (txT b trigs nr) "" "transactions" sets (some wher) [SelItem.star ""]
      (txG gR) (txF fR) (starAcc fR) (fun _ => []) (fun r => ∃ x, r.vals = txVals x ∧ Px x) Sok where
  hguard := by
    intro r ⟨x, hx, hpx⟩ m s _
    simp only [rowScopeOf, hx, txG_txVals, txT_colNames]
    exact exec_whereHolds (hguard x hpx _ _ (some ((txT b trigs nr).name, r.rid)) s)
  hsets := by
    intro r ⟨x, hx, hpx⟩ hg m rows s hS
    rw [hx, txG_txVals] at hg
    have := hsets x hpx hg m rows s (some ((txT b trigs nr).name, r.rid)) hS
    simp only [rowScopeOf, hx, txF_txVals, txT_colNames]
    exact this
  hchecks := by
    intro r ⟨x, hx, _⟩ _ rows s _
    rw [hx, txF_txVals]
    exact exec_checkConstraints_tx b trigs nr rows _ s
  hfks := by
    intro r _ _ rows s _
    simp [checkForeignKeys, txT, Table.withRows, Schema.tbl_transactions, checkForeignKeysOf]
  hbefore := hnb
  hafter := by
    intro r _ _ m rows s _
    rw [exec_queueAfter_none _ _ _ _ _ _ _ (by simpa [txT, Table.withRows] using hna)]
    simp
  hacc := by
    intro r _ _ m rows s a _
    exact exec_accReturning_star_tx (m + 1) env b trigs nr rows "" _ a s

/-- result of `UPDATE transactions … RETURNING *` with guard `gR` and effect `fR` -/
def txUpdResult (lv : View) (rows : List Ver) (gR : TxR → Bool) (fR : TxR → TxR) : DmlResult :=
  { rel := { cols := txCols,
             rows := (((rows.filter (fun r => r.visible lv)).reverse).filter (fun r => txG gR r.vals)).map (fun r => txF fR r.vals) },
    affected := (((rows.filter (fun r => r.visible lv)).reverse).filter (fun r => txG gR r.vals)).length }

/-- Any statement list consisting of one `UPDATE transactions SET … WHERE … RETURNING *` that keeps ledger, id and
    reference, on ANY contents of `transactions` satisfying the storage invariants (no UPDATE trigger on the table),
    given the meaning `gR` of its WHERE clause and `fR` of its SET list on typed rows (`TxUpdMeans`): the rows the transaction
    sees on which the guard holds get the new contents, all others are untouched, nothing else is written; RETURNING holds
    the new rows. `Px` is what the statement needs of a stored row, `Sok` of the state. -/
theorem tx_update_exec (n : Nat) (env : Env) (b : String) (hb : b.isEmpty = false)
    (trigs : List TriggerDef) (nr : Nat) (rows : List Ver) (s : St) (hs : TxTblState s b trigs nr rows)
    (hnb : trigs.filter (fun tr => tr.timing == .before && tr.event == .update) = [])
    (hna : trigs.filter (fun tr => tr.timing == .after && tr.event == .update) = [])
    (stmts : List Stmt) (gR : TxR → Bool) (fR : TxR → TxR)
    (hkeep : ∀ x, (fR x).ledger = x.ledger ∧ (fR x).id = x.id ∧ (fR x).reference = x.reference)
    (Px : TxR → Prop) (hPx : ∀ r ∈ rows, ∀ x, r.vals = txVals x → Px x)
    (Sok : St → Prop) (hSokT : ∀ s t, Sok s → Sok (s.withTable t)) (hSokQ : ∀ s q, Sok s → Sok (s.addQ q)) (hS : Sok s)
    (hmeans : TxUpdMeans env b stmts gR fR Px Sok) :
    ∃ rows', (stmts.mapM (execStmt (n + 7) env)).exec s =
        (.ok [txUpdResult (latestView s.w s.xid) rows gR fR], s.withTable ((txT b trigs nr).withRows rows')) ∧
      (∀ rid, visLookup (latestView s.w s.xid) rows' rid =
        (visLookup (latestView s.w s.xid) rows rid).map (fun v => if txG gR v then txF fR v else v)) ∧
      TxInv (latestView s.w s.xid) rows' ∧ RidInj (latestView s.w s.xid) rows' := by
  obtain ⟨sets, wher, rfl, hguard, hsets⟩ := hmeans
  have sem := txUpdSem env b trigs nr sets wher gR fR Px Sok hnb hna hguard (fun x hp hg m => hsets x hp hg m trigs nr)
  have hPt : ∀ r : Ver, (∃ x, r.vals = txVals x ∧ Px x) → ∃ x, r.vals = txVals x := fun _ ⟨x, h, _⟩ => ⟨x, h⟩
  have hP : ∀ r ∈ rows, r.visible (latestView s.w s.xid) = true → ∃ x, r.vals = txVals x ∧ Px x := fun r hr _ => by
    obtain ⟨x, hx⟩ := hs.inv.typed r hr
    exact ⟨x, hx, hPx r hr x hx⟩
  have hI := txUpdInv b trigs nr s.w s.xid s.cid hs.tx.xid hs.tx.cid gR fR hkeep _ hPt
  have hupd := exec_execUpdate_gen (n + 1) env b "transactions" (txFull b) "" "transactions" _ _ _ (txT b trigs nr) _ _ _ _ _
    Sok hSokT hSokQ sem s hs.tx hS rows hs.table rfl (exec_qualify b _ hb s) rfl hs.fresh hs.ridNodup hP (TxInv (latestView s.w s.xid)) hI
    hs.inv txCols (fun _ s' => exec_evalReturning_star_null (n + 4) env b trigs nr _ "" s')
  simp only [updQ_nil, addQ_nil] at hupd
  rw [updAcc_star] at hupd
  refine ⟨_, ?_, visLookup_updAll s.w s.xid s.cid _ _ hs.tx.xid hs.tx.cid rows hs.ridNodup,
    hI.runAll hs.ridNodup hP hs.inv,
    RidInj.of_nodup (nodup_updAll s.w s.xid s.cid _ _ hs.tx.xid hs.tx.cid rows hs.ridNodup)⟩
  simp only [exec_mapM_cons, exec_mapM_nil]
  rw [execStmt_update_noCte, hupd]
  -- the column list is `txCols` whether or not a row was updated
  cases (((rows.filter (fun r => r.visible (latestView s.w s.xid))).reverse).filter (fun r => txG gR r.vals)).isEmpty <;> rfl

end Ledger.Sql
