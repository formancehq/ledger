import Ledger.Proofs.SqlMovesSel
import Ledger.Proofs.SqlInsertRow
open Ledger Ledger.Sql Ledger.Generated Ledger.Core
namespace Ledger.Sql
open Ledger.Spec

theorem evalPureFn_coalesce (args : List Value) : evalPureFn "coalesce" args = some (pure ((args.find? (!·.isNull)).getD .null)) := rfl

def tyNumeric : SqlType := SqlType.mk "" "numeric" "" false
def tyVolumes : SqlType := SqlType.mk "" "volumes" "" false

/-- the type environment knows the composite type `volumes` -/
structure VolTypes (te : TypeEnv) : Prop where
  noEnum : te.enums.lookup "volumes" = none
  comp : te.composites.lookup "volumes" = some [("inputs", tyNumeric), ("outputs", tyNumeric)]

theorem castTo_volumes_row (te : TypeEnv) (h : VolTypes te) (ns : List String) (i o : Int) :
    castTo te tyVolumes (.row ns [.int i, .int o]) = .ok (volVal ⟨i, o⟩) := by
  simp [castTo, tyVolumes, castNonArray, castScalar, isIntType, h.noEnum, h.comp, tyNumeric, volVal, intRangeCheck, bind, Except.bind, pure, Except.pure]

/-- the environment of the body of a row trigger on `moves` before its first statement -/
theorem plSt_env_moves (t : Table) (htc : t.cols = Schema.tbl_moves.cols) (nv : List Value) :
    ({ vars := [], tcols := t.cols, new := some nv } : PlSt).env = plEnvV nv false [] := by
  simp [PlSt.env, plEnvV, htc, mvCols]

/-- the effective volumes `set_effective_volumes` gives the NEW row -/
def pcevOf (tbl : List Spec.MoveRow) (n : Spec.MoveRow) : Volumes :=
  match prevMove tbl n with
  | some p => p.pcev.add n.delta
  | none => n.delta

/-- `set_effective_volumes` run as BEFORE INSERT ROW trigger for the NEW row `n` of ledger `ln`: NEW gets the effective volumes
    `Spec.setEffective` computes from the moves visible to the trigger; two command ids are used up. -/
theorem exec_runTrigger_setEff (p : Nat) (b ln fname : String) (n : Spec.MoveRow) (x : Value)
    (item wher dflt_ : Expr) (hsem : SetEffSem item wher dflt_) (hname : outNames [(item, "")] = ["row"])
    (f : PlFunc) (hdecls : f.decls = []) (hbody : f.body = setEffBody item wher dflt_)
    (s : St) (hs : TxState s) (hf : s.w.funcs.lookup fname = some f) (hschema : schemaOf fname = b)
    (hnc : s.nextCid + 2 ≤ 1000000000) (hvt : VolTypes s.w.types)
    (trigs : List TriggerDef) (nr : Nat) (rows : List Ver) (t : Table) (htc : t.cols = Schema.tbl_moves.cols)
    (hT : s.w.table? (mvFull b) = some ((mvT b trigs nr).withRows rows))
    (tbl : List (String × Spec.MoveRow)) (hview : MvView { xid := s.xid, cid := s.nextCid, snap := s.snap } rows tbl)
    (hseq : (tbl.map (·.2.seq)).Nodup) :
    (runTrigger (p + 10) fname t (some (mvValsX ln n x)) none).exec s =
      (.ok (some (mvValsX ln n (volVal (pcevOf (ledgerMoves ln tbl) n)))), s.bump 2) := by
  have hs1 : TxState (s.withSP b).enter := (hs.withSP b).enter (by simp; omega)
  have hq := exec_prevQuery p b ln n x false item wher dflt_ hsem hname (s.withSP b).enter hs1 rfl trigs nr rows hT tbl hview hseq
  have hd := hsem.hdflt (cbs (p + 7)) s.w.types ln n x false [] (s.withSP b).enter
  have hcoal : (evalExpr (cbs (p + 7)) s.w.types (plEnvV (mvValsX ln n x) false [])
      (Expr.call "" "coalesce" [Expr.subq (prevQuery item wher), dflt_])).exec (s.withSP b).enter =
      (.ok (.row [] [.int (pcevOf (ledgerMoves ln tbl) n).input, .int (pcevOf (ledgerMoves ln tbl) n).output]), (s.withSP b).enter) := by
    have hsub : (cbs (p + 7)).sub (prevQuery item wher) (plEnvV (mvValsX ln n x) false []) =
        evalQuery (p + 6) (plEnvV (mvValsX ln n x) false []) (prevQuery item wher) := rfl
    have hco : ((("" : String).isEmpty || "" == "pg_catalog") && "coalesce" == "coalesce") = true := by decide
    simp only [evalExpr, evalCoalesce, hco, if_true, exec_bind, hsub, hq]
    cases hp : prevMove (ledgerMoves ln tbl) n <;> simp [pcevOf, hp, Value.isNull, hd, exec_bind]
  have hassign := exec_withNewCid _ (s.withSP b) _ _ hcoal
  rw [enter_withCid] at hassign
  have hstmt : (execPlStmt (p + 8) { vars := [], tcols := t.cols, new := some (mvValsX ln n x) }
      (PlStmt.assign (PlTarget.field "new" "post_commit_effective_volumes")
        (Expr.call "" "coalesce" [Expr.subq (prevQuery item wher), dflt_]))).exec (s.withSP (schemaOf fname)) =
      (.ok ({ vars := [], tcols := t.cols, new := some (mvValsX ln n (volVal (pcevOf (ledgerMoves ln tbl) n))), found := false }, .normal),
        (s.withSP b).bump 1) := by
    have hfind : t.cols.find? (fun c => c.name == "post_commit_effective_volumes") =
        some { name := "post_commit_effective_volumes", ty := tyVolumes, notNull := false, dflt := some Expr.null } := by
      rw [htc]; rfl
    have hzip : ∀ v' : Value, (t.cols.zip (mvValsX ln n x)).map (fun c => if (c.1.name == "post_commit_effective_volumes") = true then v' else c.2) =
        mvValsX ln n v' := by
      intro v'; rw [htc]; rfl
    rw [hschema, execPlStmt]
    simp only [exec_bind, exec_typeEnv, withSP_w, plSt_env_moves t htc, hassign]
    rw [plAssign]
    simp only [exec_bind, exec_typeEnv, bump_w, withSP_w, if_true, hfind, show (("new" : String) == "new") = true from by decide,
      castTo_volumes_row _ hvt, exec_pure, hzip]
    simp only [Bool.true_or, if_true, exec_bind, exec_liftR_ok, exec_pure]
  rw [exec_runTrigger_retNew (p + 6) fname t f _ hdecls hbody s _ hf _ none _ mvCols _ hstmt (by rw [htc]; rfl), bump_bump]
  rfl

end Ledger.Sql
