import Ledger.Proofs.CtrlReplayVol
import Ledger.Proofs.CtrlSpec
import Ledger.Proofs.CtrlImport

/-!
Replay: `importLog` of the log a committed write produced, run on the tables the
write started from, gives the tables the write ended with — provided `logSafe`.
-/
namespace Ledger.Ctrl
open Ledger.Base Ledger.Core

def Db.withVol (d : Db) (v : PCV) : Db := { d with volumes := v }

/-- The tail of every `importLog`: the log's own insertion. -/
def insertOf (L : Log) : Prog Unit :=
  .call (.insertLog { id := some L.id, payload := L.payload, date := some L.date, ik := L.ik,
                      ihash := L.ihash, schemaVersion := L.schemaVersion }) fun _ => .pure ()

theorem not_any_of_forall {α : Type} {p : α → Prop} [DecidablePred p] {l : List α} (h : ∀ x ∈ l, ¬ p x) :
    ¬ (l.any fun x => decide (p x)) = true := fun ha =>
  let ⟨x, hx, he⟩ := List.any_eq_true.mp ha
  h x hx (of_decide_eq_true he)

theorem insertLog_replay {now now' : Time} {li : LogIn} {d d' : Db} {sq sq' : Seqs} {log : Log}
    (h : insertLog now li d sq = (sq', .ok (log, d'))) (dR : Db) (hl : dR.logs = d.logs) (sqR : Seqs) :
    eval now' (insertOf log) dR sqR = some ((), { dR with logs := dR.logs ++ [log] }, sqR) := by
  obtain ⟨_, _, hrow, hid, hik, _⟩ := insertLog_cases h
  have hk : log.ik = li.ik := congrArg Log.ik hrow
  have h1 := not_any_of_forall (hl ▸ hid)
  have h2 : ¬ (log.ik ≠ "" ∧ (dR.logs.any fun x => decide (x.ik = log.ik)) = true) := fun ⟨hne, ha⟩ =>
    hik.elim (fun h0 => hne (hk.trans h0)) fun hn => not_any_of_forall (p := fun x : Log => x.ik = log.ik) (hl ▸ hk ▸ hn) ha
  simp only [insertOf, eval, exec, insertLog, if_neg h1, if_neg h2]

theorem upsertAccount_now (now now' : Time) (accs : Map String Account) (r : AccIn) (f i u : Time)
    (h1 : r.firstUsage = some f) (h2 : r.insertionDate = some i) (h3 : r.updatedAt = some u) :
    upsertAccount now accs r = upsertAccount now' accs r := by
  unfold upsertAccount
  simp only [h1, h2, h3]

/-- The account rows of a transaction carry all their dates: the clock plays no role. -/
theorem upsertAccounts_rows_now (now now' : Time) (schema : Option Schema) (tx : Tx) (am : Map String Meta) (d : Db) :
    upsertAccounts now (accountRows schema tx am) d = upsertAccounts now' (accountRows schema tx am) d := by
  unfold upsertAccounts accountRows
  simp only [List.foldl_map]
  congr 1

theorem updateVolumes_fold (ups v : PCV) : (updateVolumes ups v).2 = ups.foldl addVolumes v := rfl

theorem updateVolumes_pcv_eq (ups v1 v2 : PCV) (h : VolRel v1 v2) : (updateVolumes ups v1).1 = (updateVolumes ups v2).1 := by
  unfold updateVolumes
  simp only
  apply List.map_congr_left
  intro e _
  rw [(h.fold_add ups).volOf]

theorem commit_replay {now now' : Time} {t : TxIn} {d : Db} {sq sq' : Seqs} {row : Tx} {d' : Db}
    (h : commitTransaction now t d sq = (sq', .ok (row, d'))) (dR : Db) (htx : dR.txs = d.txs)
    (hv : VolRel d.volumes dR.volumes) (sqR : Seqs) :
    commitTransaction now' (txIn row) dR sqR =
      (sqR, .ok (row, { dR with volumes := (volumeUpdates row.postings).foldl addVolumes dR.volumes,
                                txs := dR.txs ++ [row] })) ∧
    VolRel d'.volumes ((volumeUpdates row.postings).foldl addVolumes dR.volumes) := by
  obtain ⟨_, rfl, hrow, hid, hnew, _⟩ := commitTransaction_cases h
  have href : row.reference = t.reference := congrArg Tx.reference hrow
  have hpost : row.postings = t.postings := congrArg Tx.postings hrow
  have h1 := not_any_of_forall (htx ▸ hid)
  have h2 : ¬ (row.reference ≠ "" ∧ (dR.txs.any fun x => decide (x.reference = row.reference)) = true) := fun ⟨hne, ha⟩ =>
    hnew.elim (fun h0 => hne (href.trans h0)) fun hn =>
      not_any_of_forall (p := fun x : Tx => x.reference = row.reference) (htx ▸ href ▸ hn) ha
  have hp : (updateVolumes (volumeUpdates row.postings) dR.volumes).1 = row.pcv := by
    rw [congrArg Tx.pcv hrow, hpost]; exact (updateVolumes_pcv_eq _ _ _ hv).symm
  refine ⟨?_, hpost ▸ hv.fold_add _⟩
  unfold commitTransaction
  simp only [txIn, hp]
  split
  · exact absurd ‹_› h1
  · split
    · exact absurd ‹_› h2
    · rfl

theorem Wrote.replay {now now' : Time} {sv : String} {d1 d2 : Db} {p : Payload}
    (hw : Wrote now (if sv ≠ "" then findSchema sv d1 else none) d1 p d2)
    (hfound : sv ≠ "" → (findSchema sv d1).isSome = true) (lid : Nat) (ik ihash : String)
    (hsafe : logSafe d1 (mkLog lid p now ik ihash sv) = true) {vR : PCV} (hv : VolRel d1.volumes vR) (sqR : Seqs) :
    ∃ vR', VolRel d2.volumes vR' ∧
      eval now' (importLog (mkLog lid p now ik ihash sv)) (d1.withVol vR) sqR =
        eval now' (insertOf (mkLog lid p now ik ihash sv)) (d2.withVol vR') sqR := by
  cases hw with
  | savedTx id m t hf =>
    have hf' : (d1.withVol vR).findTx id = some t := hf
    refine ⟨vR, hv, ?_⟩
    simp only [importLog, mkLog, insertOf, eval, exec, updateTxMeta, hf']
    rfl
  | deletedTx id key t hf =>
    have hf' : (d1.withVol vR).findTx id = some t := hf
    refine ⟨vR, hv, ?_⟩
    simp only [importLog, mkLog, insertOf, eval, exec, deleteTxMeta, hf']
    rfl
  | savedAcc a m =>
    refine ⟨vR, hv, ?_⟩
    have hp := savedMeta_paths_agree now d1.accounts a m (defaultsOf (if sv ≠ "" then findSchema sv d1 else none) a)
      (fun hg => by
        simp only [logSafe, mkLog, hg] at hsafe
        exact of_decide_eq_true hsafe)
      (fun acc hg => by
        simp only [logSafe, mkLog, hg, Bool.or_eq_true, Bool.not_eq_true'] at hsafe
        exact hsafe.imp id of_decide_eq_false)
    simp only [importLog, mkLog, insertOf, eval, exec, updateAccountsMeta, upsertAccounts, List.foldl_cons, List.foldl_nil]
    rw [hp]
    rfl
  | deletedAcc a key =>
    simp only [logSafe, mkLog, Option.isNone_iff_eq_none] at hsafe
    have hp : ∀ (t : Time) (d : Db), d.accounts = d1.accounts → deleteAccountMeta t a key d = d := by
      intro t d hd; unfold deleteAccountMeta; simp only [hd, hsafe]
    refine ⟨vR, by rw [hp now d1 rfl]; exact hv, ?_⟩
    simp only [importLog, mkLog, insertOf, eval, exec, hp now' (d1.withVol vR) rfl, hp now d1 rfl]
  | schema row hnew =>
    have hnew' : ((d1.withVol vR).schemas.any fun x => decide (x.version = row.version)) = false := hnew
    refine ⟨vR, hv, ?_⟩
    simp only [importLog, mkLog, insertOf, eval, exec, insertSchema, hnew', Bool.false_eq_true, ↓reduceIte]
    rfl
  | created t am q sq sq' row dc hc =>
    obtain ⟨hcm, hrel⟩ := commit_replay (now' := now') hc (d1.withVol vR) rfl (hv.fold_lock q) sqR
    refine ⟨_, hrel, ?_⟩
    have tail : ∀ schema, eval now' (.call (.commitTransaction (txIn row)) fun row' =>
          .call (.upsertAccounts (accountRows schema row' am)) fun _ => insertOf (mkLog lid (.created row am) now ik ihash sv))
          (d1.withVol vR) sqR =
        eval now' (insertOf (mkLog lid (.created row am) now ik ihash sv))
          ((upsertAccounts now (accountRows schema row am) dc).withVol
            ((volumeUpdates row.postings).foldl addVolumes vR)) sqR := by
      intro schema
      simp only [eval, exec, hcm, upsertAccounts_rows_now now' now]
      rw [(commitTransaction_cases hc).2.1]
      rfl
    by_cases hsv : sv = ""
    · subst hsv
      exact tail none
    · obtain ⟨sc, hsc⟩ := Option.isSome_iff_exists.mp (hfound hsv)
      have hfs : exec now' (.findSchema sv) (d1.withVol vR) sqR = (sqR, .ok (some sc, d1.withVol vR)) := by
        show (sqR, Except.ok (findSchema sv d1, d1.withVol vR)) = _
        rw [hsc]
      simp only [importLog, mkLog, ne_eq, hsv, not_false_eq_true, ↓reduceIte]
      rw [eval_call_ok now' _ _ _ sqR sqR _ _ hfs, hsc]
      exact tail (some sc)
  | reverted orig hf hr t q sq sq' row d' hc =>
    have hf' : (d1.withVol vR).findTx orig.id = some orig := hf
    obtain ⟨hcm, hrel⟩ := commit_replay (now' := now') hc
      ((d1.withVol vR).modifyTx orig.id fun x => { x with revertedAt := some now, updatedAt := now }) rfl (hv.fold_lock q) sqR
    refine ⟨_, hrel, ?_⟩
    simp only [importLog, mkLog, insertOf, eval, exec, revertTransaction, hf', hr, hcm]
    rw [(commitTransaction_cases hc).2.1]
    rfl

theorem runLog_replay (now now' : Time) (hn : String) (f : Faults) (strict : Bool) (kind : OpKind)
    (ik ihash sv : String) (n : Nat) (st0 st : RunSt) (log : Log) (sqR : Seqs) (vR : PCV)
    (h : run now hn f (runLog strict kind ik ihash sv n) st0 = (.ok log, st)) (hv : VolRel st0.db.volumes vR)
    (hsafe : logSafe st0.db log = true) :
    ∃ vR', eval now' (importLog log) (st0.db.withVol vR) sqR = some ((), st.db.withVol vR', sqR) ∧
      VolRel st.db.volumes vR' := by
  obtain ⟨p, d2, sq2, hw, hfound, hins⟩ := run_runLog_phases h
  obtain ⟨_, hdb, hlog, _⟩ := insertLog_cases hins
  have hL : log = mkLog log.id p now ik ihash sv := hlog
  obtain ⟨vR', hrel, hev⟩ := hw.replay (now' := now') hfound log.id ik ihash (hL ▸ hsafe) hv sqR
  refine ⟨vR', ?_, hdb ▸ hrel⟩
  rw [← hL] at hev
  rw [hev, insertLog_replay hins (d2.withVol vR') rfl sqR, hdb]
  rfl

end Ledger.Ctrl
