import Ledger.Proofs.CtrlReplay
import Ledger.Proofs.CtrlImport
import Ledger.Proofs.CtrlExamples

/-!
`replay_reproduces_safe` (behind `Ledger.C08.replay_reproduces`): for every history whose committed
logs are all `logSafe`, `Export` followed by `Import` into an empty ledger reproduces every table.
`Replica`: what `Import` has made of the journal so far, kept by every operation.
-/
namespace Ledger.Ctrl
open Ledger.Base Ledger.Core

theorem importOne_ok (now : Time) (s : State) (l : Log) (d' : Db)
    (h : eval now (importLog l) s.db s.seq = some ((), d', s.seq)) :
    importOne now s l = ({ db := d', seq := s.seq }, none) := by
  obtain ⟨st', hrun, hd, hs⟩ := eval_run_ok now "t" (importLog l) { db := s.db, seq := s.seq } () d' s.seq h
  unfold importOne
  rw [hrun]
  simp only [hd, hs]

theorem insertById_last (l : Log) (acc : List Log) (h : ∀ x ∈ acc, x.id < l.id) : insertById l acc = acc ++ [l] := by
  induction acc with
  | nil => rfl
  | cons x r ih =>
    have hx := h x List.mem_cons_self
    simp only [insertById, if_neg (Nat.lt_asymm hx), List.cons_append]
    rw [ih (fun y hy => h y (List.mem_cons_of_mem _ hy))]

theorem export_fold_sorted (logs acc : List Log) (hs : (acc ++ logs).Pairwise (fun a b => a.id < b.id)) :
    logs.foldl (fun acc l => insertById l acc) acc = acc ++ logs := by
  induction logs generalizing acc with
  | nil => simp
  | cons l r ih =>
    simp only [List.foldl_cons]
    have hl : ∀ x ∈ acc, x.id < l.id := by
      intro x hx
      exact (List.pairwise_append.mp hs).2.2 x hx l List.mem_cons_self
    rw [insertById_last l acc hl, ih]
    · simp
    · simpa using hs

theorem exportLogs_sorted (s : State) (hs : s.db.logs.Pairwise (fun a b => a.id < b.id)) : exportLogs s = s.db.logs := by
  unfold exportLogs
  rw [export_fold_sorted _ [] (by simpa using hs)]
  rfl

/-- What `Import` makes of the journal of `s`: any stream that starts with that journal, imported into
    an empty ledger, is after that journal at a copy of the tables of `s` (volumes up to zero rows).
    `last` is the id `Import` compares the next log with: that of some log already in the journal, so
    the id-sorted journal passes the check. -/
structure Replica (now' : Time) (s : State) : Prop where
  inv : Inv s.db s.seq
  imp : ∃ vR last sqR, VolRel s.db.volumes vR ∧ (∀ m, last = some m → ∃ x ∈ s.db.logs, x.id = m) ∧
    ∀ rest, importFrom now' {} none (s.db.logs ++ rest) = importFrom now' ⟨s.db.withVol vR, sqR⟩ last rest

theorem Replica.empty (now' : Time) : Replica now' {} :=
  ⟨Inv.empty, [], none, {}, VolRel.refl Map.WF_nil, nofun, fun _ => rfl⟩

theorem Replica.after {now' : Time} {strict : Bool} {s : State} (h : Replica now' s) (op : Op)
    (hsafe : ((step strict s op).1.db.logs.drop s.db.logs.length).all (logSafe s.db) = true) :
    Replica now' (step strict s op).1 := by
  obtain ⟨hinv, vR, last, sqR, hv, hlast, himp⟩ := h
  have hpost : Inv (step strict s op).1.db (step strict s op).1.seq := (inv_stable strict).forgeLog op [] false s hinv
  refine ⟨hpost, ?_⟩
  unfold step at *
  rcases (forgeLog_ending strict op [] false s).1 with ⟨hu, _, _⟩ | ⟨st0, st, log, hn, f', n, _, _, h0, _, hrun, hc⟩
  · rw [show (forgeLog strict op [] false s).state.db = s.db from hu]
    exact ⟨vR, last, sqR, hv, hlast, himp⟩
  · have hdb : (forgeLog strict op [] false s).state.db = st.db := by rw [hc.1]
    have hlogs : st.db.logs = s.db.logs ++ [log] :=
      h0 ▸ (run_runLog_ok op.now hn f' strict op.kind op.ik op.ihash op.sv n st0 st log hrun).logs
    simp only [hdb] at hsafe hpost ⊢
    rw [hlogs, List.drop_left, List.all_cons, List.all_nil, Bool.and_true] at hsafe
    have hlt : ∀ x ∈ s.db.logs, x.id < log.id := fun x hx =>
      (List.pairwise_append.mp (hlogs ▸ hpost.logSorted)).2.2 x hx log List.mem_cons_self
    obtain ⟨vR', hev, hrel⟩ := runLog_replay op.now now' hn f' strict op.kind op.ik op.ihash op.sv n st0 st log sqR vR hrun
      (h0 ▸ hv) (h0 ▸ hsafe)
    rw [h0] at hev
    refine ⟨vR', some log.id, sqR, hrel, fun m hm => ?_, fun rest => ?_⟩
    · cases hm; exact ⟨log, hlogs ▸ List.mem_append_right _ List.mem_cons_self, rfl⟩
    · rw [hlogs, List.append_assoc, himp, List.singleton_append]
      simp only [importFrom, importOne_ok now' ⟨s.db.withVol vR, sqR⟩ log (st.db.withVol vR') hev]
      cases last with
      | none => rfl
      | some m =>
        obtain ⟨x, hx, rfl⟩ := hlast m rfl
        simp only [decide_eq_true_eq, if_neg (Nat.not_le.mpr (hlt x hx))]

theorem Replica.runHist {now' : Time} {strict : Bool} (ops : List Op) {s : State} (h : Replica now' s)
    (hsafe : replaySafe strict s ops = true) : Replica now' (runHist strict s ops) := by
  induction ops generalizing s with
  | nil => exact h
  | cons op rest ih =>
    simp only [replaySafe, Bool.and_eq_true] at hsafe
    exact ih (h.after op hsafe.1) hsafe.2

theorem norm_withVol (d : Db) (v : PCV) (h : VolRel d.volumes v) : (d.withVol v).norm = d.norm := by
  unfold Db.norm Db.withVol
  simp only [h.norm_eq]

theorem replay_import (strict : Bool) (now' : Time) (ops : List Op) (hsafe : replaySafe strict {} ops = true) :
    ∃ r' v', importLogs now' {} (exportLogs (runHist strict {} ops)) = (r', none) ∧
      r'.db = (runHist strict {} ops).db.withVol v' ∧ VolRel (runHist strict {} ops).db.volumes v' := by
  obtain ⟨hinv, vR, last, sqR, hv, _, himp⟩ := (Replica.empty now').runHist ops hsafe
  rw [exportLogs_sorted _ hinv.logSorted]
  exact ⟨_, vR, (List.append_nil _ ▸ himp []), rfl, hv⟩

/-- **Replay reproduces the tables**: for every history whose committed logs are all
    `logSafe`, `Export` (logs in id order) followed by `Import` into an empty ledger
    succeeds and yields the same tables — every table equal, `accounts_volumes` up to
    `(0,0)` rows (`Db.norm`) — at any import clock `now'`. -/
theorem replay_reproduces_safe (strict : Bool) (now' : Time) (ops : List Op) (hsafe : replaySafe strict {} ops = true) :
    (importLogs now' {} (exportLogs (runHist strict {} ops))).2 = none ∧
    (importLogs now' {} (exportLogs (runHist strict {} ops))).1.db.norm = (runHist strict {} ops).db.norm := by
  obtain ⟨r', v', h, hr', hv'⟩ := replay_import strict now' ops hsafe
  rw [h]
  refine ⟨rfl, ?_⟩
  show r'.db.norm = _
  rw [hr']
  exact norm_withVol _ _ hv'

/-- The tables other than `accounts_volumes` are equal outright, and the copy's
    volumes are the source's minus some `(0,0)` rows. -/
theorem replay_reproduces_tables (strict : Bool) (now' : Time) (ops : List Op) (hsafe : replaySafe strict {} ops = true) :
    let c := (importLogs now' {} (exportLogs (runHist strict {} ops))).1.db
    let d := (runHist strict {} ops).db
    c.txs = d.txs ∧ c.accounts = d.accounts ∧ c.logs = d.logs ∧ c.schemas = d.schemas ∧ VolRel d.volumes c.volumes := by
  obtain ⟨r', v', h, hr', hv'⟩ := replay_import strict now' ops hsafe
  rw [h]
  show r'.db.txs = _ ∧ r'.db.accounts = _ ∧ r'.db.logs = _ ∧ r'.db.schemas = _ ∧ VolRel _ r'.db.volumes
  rw [hr']
  exact ⟨rfl, rfl, rfl, rfl, hv'⟩

open Examples in
/-- A balance the live write path locked and then left unused stays as a `(0,0)` row of
    `accounts_volumes`; the replay never creates it, and as values (`Db.norm`) the tables agree. -/
theorem locked_zero_rows :
    (replay (runHist false {} histLocked)).1.db.volumes ≠ (runHist false {} histLocked).db.volumes ∧
    (replay (runHist false {} histLocked)).1.db.norm = (runHist false {} histLocked).db.norm := by decide +kernel

end Ledger.Ctrl
