import Ledger.Proofs.SqlNested
import Ledger.Proofs.SqlPure
open Ledger Ledger.Sql
namespace Ledger.Sql

/-- the WHEN clause of the per-ledger triggers: `new.ledger = '<name>'` -/
def ledgerIs (name : String) : Expr := Expr.binop BinOp.eq (Expr.col "new" "ledger") (Expr.str name)

theorem exec_triggerApplies_ledger (n : Nat) (t : Table) (tr : TriggerDef) (setCols : List String) (nv : List Value) (s : St)
    (name ln : String) (hev : tr.event = .insert) (hw : tr.when_ = some (ledgerIs name))
    (hl : lookupIn t.colNames nv "ledger" = some (.text ln)) :
    (triggerApplies (n + 1) t tr setCols (some nv) none).exec s = (.ok (decide (ln = name)), s) := by
  rw [triggerApplies]
  have hlk := lookupColumn_alias { outer := [({ alias := "new", cols := t.colNames, vals := nv } : Scope)] } "new" "ledger" _ _ rfl
    (by rw [lastComponent_new]; rfl) hl
  have hev' : (tr.event == TrigEvent.update) = false := by rw [hev]; rfl
  have hin := Evals.of_pv (cb := cbs n) (te := s.w.types) (env := { outer := [{ alias := "new", cols := t.colNames, vals := nv }] })
    (ledgerIs name) (v := .bool (decide (ln = name)))
    (by simp only [ledgerIs, pv, hlk, binV_ok, ne_eq, reduceCtorEq, not_false_eq_true, evalBinop_eq_text]) (s.withSP (schemaOf t.name))
  have := exec_withSearchPath (schemaOf t.name) _ s _ _ hin
  rw [withSP_withSP_self] at this
  simp only [hev', Bool.false_and, Bool.false_eq_true, if_false, hw, exec_bind, exec_typeEnv, List.append_nil, this, truth_bool,
    exec_liftR_ok, exec_pure]
  cases decide (ln = name) <;> rfl

def OtherLedgerTrig (ln : String) (x : TriggerDef) : Prop :=
  ∃ name, x.event = .insert ∧ x.when_ = some (ledgerIs name) ∧ name ≠ ln

/-- the BEFORE INSERT ROW step of `fireBefore`, named -/
def beforeStep (n : Nat) (t : Table) (event : TrigEvent) (setCols : List String) (old : Option (List Value))
    (st : Option (List Value) × Bool) (tr : TriggerDef) : M (Option (List Value) × Bool) := do
  if st.2 then pure st
  else if st.1.isNone && event != .delete then pure (none, true)
  else if !(← triggerApplies n t tr setCols st.1 old) then pure st
  else
    let r ← runTrigger n tr.fname t st.1 old
    match event with
    | .delete => if r.isNone then pure (none, true) else pure st
    | _ => pure (r, false)

theorem fireBefore_eq (n : Nat) (t : Table) (event : TrigEvent) (setCols : List String) (new old : Option (List Value)) :
    fireBefore (n + 1) t event setCols new old = (do
      let st ← (sortTriggers (t.triggers.filter (fun tr => tr.timing == .before && tr.event == event))).foldlM
        (beforeStep n t event setCols old) (new, false)
      if st.2 then pure none
      else match event with
        | .delete => pure (some (old.getD []))
        | _ => pure st.1) := by
  rw [fireBefore]
  rfl

theorem exec_beforeFold_none (n : Nat) (t : Table) (event : TrigEvent) (setCols : List String) (nv : List Value) (old : Option (List Value))
    (s : St) (L : List TriggerDef) (h : ∀ x ∈ L, (triggerApplies n t x setCols (some nv) old).exec s = (.ok false, s)) :
    (L.foldlM (beforeStep n t event setCols old) (some nv, false)).exec s = (.ok (some nv, false), s) :=
  exec_foldlM_fix _ _ s L fun x hx => by
    simp only [beforeStep, Bool.false_eq_true, if_false, Option.isNone_some, Bool.false_and, exec_bind, h x hx, Bool.not_false, if_true,
      exec_pure]

theorem exec_triggerApplies_other (n : Nat) (t : Table) (nv : List Value) (ln : String)
    (hl : lookupIn t.colNames nv "ledger" = some (.text ln)) (s : St) (x : TriggerDef) (h : OtherLedgerTrig ln x) :
    (triggerApplies (n + 1) t x [] (some nv) none).exec s = (.ok false, s) := by
  obtain ⟨name, h1, h2, h3⟩ := h
  rw [exec_triggerApplies_ledger n t x [] nv s name ln h1 h2 hl, decide_eq_false (fun e => h3 e.symm)]

/-- BEFORE INSERT ROW triggers of a table whose only trigger for ledger `ln` is `tr` -/
theorem exec_fireBefore_one (n : Nat) (t : Table) (nv nv' : List Value) (ln : String) (s s' : St) (L1 L2 : List TriggerDef) (tr : TriggerDef)
    (hL : sortTriggers (t.triggers.filter (fun x => x.timing == .before && x.event == .insert)) = L1 ++ tr :: L2)
    (h1 : ∀ x ∈ L1, OtherLedgerTrig ln x) (h2 : ∀ x ∈ L2, OtherLedgerTrig ln x)
    (hev : tr.event = .insert) (hw : tr.when_ = some (ledgerIs ln))
    (hl : lookupIn t.colNames nv "ledger" = some (.text ln)) (hl' : lookupIn t.colNames nv' "ledger" = some (.text ln))
    (hrun : (runTrigger (n + 1) tr.fname t (some nv) none).exec s = (.ok (some nv'), s')) :
    (fireBefore (n + 2) t .insert [] (some nv) none).exec s = (.ok (some nv'), s') := by
  rw [fireBefore_eq, hL]
  have ha := exec_triggerApplies_ledger n t tr [] nv s ln ln hev hw hl
  simp only [decide_true] at ha
  simp only [List.foldlM_append, exec_bind, exec_beforeFold_none _ t .insert [] nv none s L1 (fun x hx => exec_triggerApplies_other n t nv ln hl s x (h1 x hx)), exec_foldlM_cons]
  have hstep : (beforeStep (n + 1) t .insert [] none (some nv, false) tr).exec s = (.ok (some nv', false), s') := by
    simp only [beforeStep, Bool.false_eq_true, if_false, Option.isNone_some, Bool.false_and, exec_bind, ha, Bool.not_true, hrun, exec_pure]
  simp only [hstep, exec_beforeFold_none _ t .insert [] nv' none s' L2 (fun x hx => exec_triggerApplies_other n t nv' ln hl' s' x (h2 x hx)), Bool.false_eq_true, if_false, exec_pure]

def afterStep (n : Nat) (t : Table) (setCols : List String) (new old : Option (List Value)) (_ : Unit) (tr : TriggerDef) : M Unit := do
  if ← triggerApplies n t tr setCols new old then
    modify fun s => { s with afterQ := s.afterQ ++ [{ fname := tr.fname, table := t.name, new := new, old := old }] }
  else pure ()

theorem queueAfter_eq (n : Nat) (t : Table) (event : TrigEvent) (setCols : List String) (new old : Option (List Value)) :
    queueAfter (n + 1) t event setCols new old =
      (sortTriggers (t.triggers.filter (fun tr => tr.timing == .after && tr.event == event))).foldlM (afterStep n t setCols new old) () := by
  rw [queueAfter]
  rfl

theorem exec_afterFold_none (n : Nat) (t : Table) (setCols : List String) (new old : Option (List Value)) (s : St) (L : List TriggerDef)
    (h : ∀ x ∈ L, (triggerApplies n t x setCols new old).exec s = (.ok false, s)) :
    (L.foldlM (afterStep n t setCols new old) ()).exec s = (.ok (), s) :=
  exec_foldlM_fix _ _ s L fun x hx => by simp only [afterStep, exec_bind, h x hx, Bool.false_eq_true, if_false, exec_pure]

theorem exec_queueAfter_single (n : Nat) (t : Table) (event : TrigEvent) (setCols : List String) (new old : Option (List Value)) (s : St)
    (L1 L2 : List TriggerDef) (tr : TriggerDef)
    (hL : sortTriggers (t.triggers.filter (fun x => x.timing == .after && x.event == event)) = L1 ++ tr :: L2)
    (h1 : ∀ x ∈ L1, ∀ s, (triggerApplies n t x setCols new old).exec s = (.ok false, s))
    (h2 : ∀ x ∈ L2, ∀ s, (triggerApplies n t x setCols new old).exec s = (.ok false, s))
    (ha : (triggerApplies n t tr setCols new old).exec s = (.ok true, s)) :
    (queueAfter (n + 1) t event setCols new old).exec s =
      (.ok (), s.addQ [{ fname := tr.fname, table := t.name, new := new, old := old }]) := by
  rw [queueAfter_eq, hL]
  simp only [List.foldlM_append, exec_bind, exec_afterFold_none n t setCols new old s L1 (fun x hx => h1 x hx s), exec_foldlM_cons]
  have hstep : (afterStep n t setCols new old () tr).exec s =
      (.ok (), s.addQ [{ fname := tr.fname, table := t.name, new := new, old := old }]) := by
    simp only [afterStep, exec_bind, ha, if_true, exec_modify]
    rfl
  simp only [hstep, exec_afterFold_none n t setCols new old _ L2 (fun x hx => h2 x hx _)]

/-- AFTER INSERT ROW triggers of a table whose only trigger for ledger `ln` is `tr`: it is queued -/
theorem exec_queueAfter_one (n : Nat) (t : Table) (nv : List Value) (ln : String) (s : St) (L1 L2 : List TriggerDef) (tr : TriggerDef)
    (hL : sortTriggers (t.triggers.filter (fun x => x.timing == .after && x.event == .insert)) = L1 ++ tr :: L2)
    (h1 : ∀ x ∈ L1, OtherLedgerTrig ln x) (h2 : ∀ x ∈ L2, OtherLedgerTrig ln x)
    (hev : tr.event = .insert) (hw : tr.when_ = some (ledgerIs ln))
    (hl : lookupIn t.colNames nv "ledger" = some (.text ln)) :
    (queueAfter (n + 2) t .insert [] (some nv) none).exec s =
      (.ok (), s.addQ [{ fname := tr.fname, table := t.name, new := some nv, old := none }]) :=
  exec_queueAfter_single _ t .insert [] (some nv) none s L1 L2 tr hL
    (fun x hx s => exec_triggerApplies_other n t nv ln hl s x (h1 x hx)) (fun x hx s => exec_triggerApplies_other n t nv ln hl s x (h2 x hx))
    (by rw [exec_triggerApplies_ledger n t tr [] nv s ln ln hev hw hl, decide_eq_true rfl])

end Ledger.Sql
