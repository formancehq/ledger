import Ledger.Gates.Shape
import Ledger.Generated.ReadShapes

/-! The regenerated read-shape matrix is evaluated once, for the conjunction `Shape.ok` of the
    three gates; the theorems of C17 / C19 / C35 are its components. -/
namespace Ledger.GatesProps
open Ledger.Gates Ledger.Generated

theorem Shape.ok_iff (s : Shape) :
    s.ok = true ↔ s.featuresOk = true ∧ s.metaHistoryOk = true ∧ s.scopedOk = true := by
  rw [Shape.ok, Bool.and_eq_true, Bool.and_eq_true, and_assoc]

/-- One kernel evaluation of the whole table: `Shape.ofCode c` is decoded once per code for all
    three gates. -/
theorem every_read_ok : ∀ c ∈ readShapeCodes, (Shape.ofCode c).ok = true :=
  List.all_eq_true.mp (List.all_flatten.trans (by decide +kernel))

end Ledger.GatesProps
