import Ledger.Proofs.Reads

/-!
The account-metadata history read equals the Spec's fold at `t` (C17, `meta_at_t_sync`).

The `accounts` row fold (`acctStepV .current`) and the two Spec folds `metaAt … none` /
`metaAt … (some t)` are advanced together over a chronological journal; the invariant `AcctInv`
says: the row's metadata is the current fold, the latest revision dated ≤ t carries the fold at
`t`, the last revision is `(updated_at, metadata)`, `updated_at` is not after the dates seen, and
the two folds agree as long as no event dated after `t` has been seen.
-/
namespace Ledger.Reads
open Ledger.Base Ledger.Core Ledger.Spec

theorem WF_erase {ν : Type} (k : String) {m : Map String ν} (h : Map.WF m) : Map.WF (Map.erase k m) :=
  Map.WF_erase k h

theorem WF_insert {ν : Type} (k : String) (v : ν) {m : Map String ν} (h : Map.WF m) : Map.WF (m.insert k v) :=
  Map.WF_insert k v h

theorem WF_metaMerge (m md : Metadata) (h : Map.WF m) : Map.WF (metaMerge m md) :=
  Map.WF_foldl _ (fun _ e h => WF_insert e.1 e.2 h) md h

/-- `a.metadata @> d.metadata` ⇒ `a.metadata || d.metadata = a.metadata`. -/
theorem metaMerge_eq_self (m md : Metadata) (hw : Map.WF m) (hc : metaContains m md = true) : metaMerge m md = m := by
  unfold metaMerge
  unfold metaContains at hc
  induction md with
  | nil => rfl
  | cons e r ih =>
    simp only [List.all_cons, Bool.and_eq_true, beq_iff_eq] at hc
    simp only [List.foldl_cons]
    rw [Map.insert_eq_self e.1 e.2 hw hc.1]
    exact ih hc.2

/-- `m || md` looks a key up in `md` first (`md` a JSON object: distinct keys). -/
theorem get?_metaMerge (m md : Metadata) (hw : Map.WF m) (hmd : Map.WF md) (k : String) :
    (metaMerge m md).get? k = (md.get? k).or (m.get? k) :=
  Map.get?_foldl_insert hw (Map.keys_nodup hmd) k

/-- `a || d = a` exactly when `a @> d` (`d` a JSON object). -/
theorem metaMerge_eq_self_iff (m md : Metadata) (hw : Map.WF m) (hmd : Map.WF md) :
    metaMerge m md = m ↔ metaContains m md = true := by
  refine ⟨fun h => ?_, metaMerge_eq_self m md hw⟩
  unfold metaContains
  rw [List.all_eq_true]
  intro e he
  rw [← h, get?_metaMerge m md hw hmd, Map.get?_of_mem hmd he]
  simp

theorem applyChange_save (m md : Metadata) : applyChange m (.save md) = metaMerge m md := rfl

theorem applyChange_delete (m : Metadata) (k : String) : applyChange m (.delete k) = m.erase k := rfl

theorem WF_applyChange (m : Metadata) (ch : MetaChange) (h : Map.WF m) : Map.WF (applyChange m ch) := by
  cases ch with
  | save md => exact WF_metaMerge m md h
  | delete k => exact WF_erase k h

theorem metaStep_committed (a : String) (T : Option Int) (m : Metadata) (tx : TxRec)
    (am : Map String Metadata) (up : Bool) :
    metaStep (.account a) T m (.committed tx am up) =
      if inTime T tx.insertedAt = true then metaMerge m ((am.get? a).getD []) else m := by
  have h : ∀ b : Bool, (if (!b) = true then m else match am.get? a with
      | some kv => applyChange m (.save kv) | none => m) =
      if b = true then metaMerge m ((am.get? a).getD []) else m := by
    intro b; cases b <;> cases am.get? a <;> rfl
  cases T with
  | none => exact h true
  | some t => exact h (decide (tx.insertedAt ≤ t))

theorem metaStep_metaWrite (tg : Target) (T : Option Int) (m : Metadata) (d : Int) (ch : MetaChange) :
    metaStep tg T m (.metaWrite ⟨tg, d, ch⟩) = if inTime T d = true then applyChange m ch else m := by
  have h : ∀ b : Bool, (if (decide (tg = tg) && b) = true then applyChange m ch else m) =
      if b = true then applyChange m ch else m := by
    intro b; rw [decide_eq_true rfl, Bool.true_and]
  cases T with
  | none => exact h true
  | some t => exact h (decide (d ≤ t))

theorem metaStep_metaWrite_ne {tg tg' : Target} (h : tg' ≠ tg) (T : Option Int) (m : Metadata) (d : Int)
    (ch : MetaChange) : metaStep tg T m (.metaWrite ⟨tg', d, ch⟩) = m := by
  show (if (decide (tg' = tg) && _) = true then _ else _) = m
  rw [decide_eq_false h]; rfl

def eventDate : Event → Int
  | .committed t _ _ => t.insertedAt
  | .reverted _ d => d
  | .metaWrite e => e.date

def Chrono (es : List Event) : Prop := es.Pairwise (fun x y => eventDate x ≤ eventDate y)

/-- The transactions a revert commits carry no account metadata for `a`. -/
def RevertsCarryNoMeta (a : String) (es : List Event) : Prop :=
  ∀ t am, Event.committed t am false ∈ es → am.get? a = none

/-- Joint invariant of (accounts row, current fold, fold at `t`) after a prefix whose dates are ≤ `lb`. -/
def AcctInv (t : Int) (cur : Option AcctRow) (mN mT : Metadata) (lb : Int) : Prop :=
  (lb ≤ t → mT = mN) ∧ Map.WF mN ∧
  match cur with
  | none => mN = [] ∧ mT = []
  | some r => r.metadata = mN ∧ revisionAt r.revisions t = mT ∧
      (∃ init, r.revisions = init ++ [(r.updatedAt, r.metadata)]) ∧ r.updatedAt ≤ lb

variable {t : Int} {cur : Option AcctRow} {mN mT : Metadata} {lb d : Int}

theorem AcctInv_mono (hinv : AcctInv t cur mN mT lb) (hd : lb ≤ d) : AcctInv t cur mN mT d := by
  refine ⟨fun hdt => hinv.1 (by omega), hinv.2.1, ?_⟩
  cases cur with
  | none => exact hinv.2.2
  | some r =>
    obtain ⟨h1, h2, h3, h4⟩ := hinv.2.2
    exact ⟨h1, h2, h3, Int.le_trans h4 hd⟩

theorem foldT_after (hinv : AcctInv t cur mN mT lb) (hd : lb ≤ d) (ch : MetaChange) :
    (if inTime (some t) d = true then applyChange mT ch else mT) = if d ≤ t then applyChange mN ch else mT := by
  by_cases hdt : d ≤ t
  · simp [inTime, hdt, hinv.1 (by omega)]
  · simp [inTime, hdt]

theorem AcctInv_write {r : AcctRow} (hinv : AcctInv t (some r) mN mT lb) {m' : Metadata} (hw : Map.WF m')
    (r' : AcctRow) (hm : r'.metadata = m') (hu : r'.updatedAt = d) (hr : r'.revisions = r.revisions ++ [(d, m')]) :
    AcctInv t (some r') m' (if d ≤ t then m' else mT) d :=
  ⟨fun hdt => if_pos hdt, hw, hm, by rw [hr, revisionAt_append, hinv.2.2.2.1], ⟨_, by rw [hr, hu, hm]⟩,
    Int.le_of_eq hu⟩

theorem upsertRow_none (fu : Option Int) (d : Int) (md : Metadata) :
    upsertRow none fu d md =
      { firstUsage := fu.getD d, insertionDate := d, updatedAt := d, metadata := metaMerge [] md,
        revisions := [(d, metaMerge [] md)] } := rfl

theorem upsertRow_some (r : AcctRow) (fu : Option Int) (d : Int) (md : Metadata) :
    upsertRow (some r) fu d md =
      if ((match fu with | some f => decide (f < r.firstUsage) | none => false) || !metaContains r.metadata md) = true then
        { r with firstUsage := (match fu with | some f => if f < r.firstUsage then f else r.firstUsage | none => r.firstUsage),
                 updatedAt := d, metadata := metaMerge r.metadata md,
                 revisions := r.revisions ++ [(d, metaMerge r.metadata md)] }
      else r := rfl

theorem AcctInv_upsert (hinv : AcctInv t cur mN mT lb) (hd : lb ≤ d) (fu : Option Int) (md : Metadata) :
    AcctInv t (some (upsertRow cur fu d md)) (metaMerge mN md) (if d ≤ t then metaMerge mN md else mT) d := by
  have hw' := WF_metaMerge mN md hinv.2.1
  cases cur with
  | none =>
    obtain ⟨_, _, rfl, rfl⟩ := hinv
    exact ⟨fun hdt => if_pos hdt, hw', rfl, revisionAt_append [] d _ t, ⟨[], rfl⟩, Int.le_refl d⟩
  | some r =>
    obtain ⟨h0, hw, rfl, h2, h3, h4⟩ := id hinv
    rw [upsertRow_some]
    -- whatever makes `upsertRow` rewrite the row, it is rewritten with `metadata || md`
    suffices ∀ (b : Bool) (r' : AcctRow), r'.metadata = metaMerge r.metadata md → r'.updatedAt = d →
        r'.revisions = r.revisions ++ [(d, metaMerge r.metadata md)] →
        AcctInv t (some (if (b || !metaContains r.metadata md) = true then r' else r)) (metaMerge r.metadata md)
          (if d ≤ t then metaMerge r.metadata md else mT) d from this _ _ rfl rfl rfl
    intro b r' hm hu hr
    split
    · exact AcctInv_write hinv hw' r' hm hu hr
    · -- unchanged row: the metadata already contains `md`
      rename_i hchg
      obtain ⟨_, hcont⟩ : b = false ∧ metaContains r.metadata md = true := by simpa using hchg
      rw [metaMerge_eq_self _ _ hw hcont]
      refine ⟨fun hdt => if_pos hdt, hw, rfl, ?_, h3, Int.le_trans h4 hd⟩
      split
      · exact h2.trans (h0 (by omega))
      · exact h2

theorem AcctInv_step (a : String) (e : Event)
    (hinv : AcctInv t cur mN mT lb) (hd : lb ≤ eventDate e)
    (hrev : ∀ tx am, e = .committed tx am false → am.get? a = none) :
    AcctInv t (acctStepV .current a cur e) (metaStep (.account a) none mN e)
      (metaStep (.account a) (some t) mT e) (eventDate e) := by
  cases e with
  | reverted id d => exact AcctInv_mono hinv hd
  | committed tx am up =>
    replace hd : lb ≤ tx.insertedAt := hd
    by_cases hc : (up && (tx.involves a || am.contains a)) = true
    · rw [metaStep_committed, metaStep_committed, ← applyChange_save mT, foldT_after hinv hd]
      simp only [acctStepV, hc, if_true]
      exact AcctInv_upsert hinv hd _ _
    · -- no upsert: the transaction carries no metadata for `a`, the folds stand still
      have hmd : am.get? a = none := by
        cases up with
        | false => exact hrev tx am rfl
        | true => simp [Map.contains] at hc; exact hc.2
      have h2 : ∀ T m, metaStep (.account a) T m (.committed tx am up) = m := fun T m => by
        rw [metaStep_committed, hmd]; exact ite_self _
      simp only [acctStepV, hc, h2]
      exact AcctInv_mono hinv hd
  | metaWrite ev =>
    obtain ⟨target, d, change⟩ := ev
    replace hd : lb ≤ d := hd
    by_cases htgt : target = .account a
    · subst htgt
      rw [metaStep_metaWrite, metaStep_metaWrite, foldT_after hinv hd]
      show AcctInv t _ (applyChange mN change) _ d
      cases change with
      | save md =>
        simp only [acctStepV, if_true]
        exact AcctInv_upsert hinv hd none md
      | delete key =>
        simp only [acctStepV, if_true]
        cases cur with
        | none =>
          obtain ⟨_, _, rfl, rfl⟩ := hinv
          exact ⟨fun hdt => if_pos hdt, Map.WF_nil, rfl, ite_self _⟩
        | some r =>
          obtain ⟨_, hw, rfl, _⟩ := id hinv
          exact AcctInv_write hinv (WF_erase key hw) _ rfl rfl rfl
    · have h1 : acctStepV .current a cur (.metaWrite ⟨target, d, change⟩) = cur := by
        cases target with
        | tx id => cases change <;> rfl
        | account a' =>
          have : a' ≠ a := fun h => htgt (by rw [h])
          cases change <;> simp [acctStepV, this]
      rw [h1, metaStep_metaWrite_ne htgt, metaStep_metaWrite_ne htgt]
      exact AcctInv_mono hinv hd

theorem AcctInv_fold (t : Int) (a : String) (es : List Event) :
    ∀ (cur : Option AcctRow) (mN mT : Metadata) (lb : Int), AcctInv t cur mN mT lb →
      (∀ e ∈ es, lb ≤ eventDate e) → Chrono es → RevertsCarryNoMeta a es →
      ∃ lb', AcctInv t (es.foldl (acctStepV .current a) cur) (es.foldl (metaStep (.account a) none) mN)
        (es.foldl (metaStep (.account a) (some t)) mT) lb' := by
  induction es with
  | nil => intro cur mN mT lb h _ _ _; exact ⟨lb, h⟩
  | cons e es ih =>
    intro cur mN mT lb h hlb hch hrev
    have hch' := List.pairwise_cons.mp hch
    exact ih _ _ _ _ (AcctInv_step a e h (hlb e List.mem_cons_self)
        (fun tx am he => hrev tx am (by rw [he]; exact List.mem_cons_self)))
      (fun x hx => hch'.1 x hx) hch'.2 (fun tx am hm => hrev tx am (List.mem_cons_of_mem _ hm))

theorem AcctInv_journal (t : Int) (l : Ledger) (a : String) (hc : Chrono l.events)
    (hrev : RevertsCarryNoMeta a l.events) :
    ∃ lb, AcctInv t (acctRowOf l a) (metaAt l (.account a) none) (metaAt l (.account a) (some t)) lb := by
  unfold acctRowOf acctRowOfV metaAt
  cases hes : l.events with
  | nil => exact ⟨0, fun _ => rfl, Map.WF_nil, rfl, rfl⟩
  | cons e es =>
    rw [hes] at hc hrev
    exact AcctInv_fold t a _ _ _ _ (eventDate e) ⟨fun _ => rfl, Map.WF_nil, rfl, rfl⟩
      (fun x hx => by
        rcases List.mem_cons.mp hx with rfl | hx
        · exact Int.le_refl _
        · exact (List.pairwise_cons.mp hc).1 x hx) hc hrev

end Ledger.Reads
