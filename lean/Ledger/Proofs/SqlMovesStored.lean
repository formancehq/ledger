import Ledger.Proofs.SqlMovesRow
import Ledger.Proofs.SqlUpdate

/-!
# The stored rows of `moves` as a transaction knows them

Between two commands the transaction knows one thing about the stored rows of `moves`, `MvStored lv xid c nr bound rows` (the storage
facts of any table, `Stored`, and the invariant of this one, `MvInv`, a `KeyInv` with the sequence number as key: `MvInv.iff_keyInv`), and one thing about their content, the typed view
`mvAbs lv rows`. Every executing lemma of the chain below has the shape
`∃ rows', exec … = (…, the state with rows') ∧ MvStored … rows' ∧ mvAbs lv rows' ~ F (mvAbs lv rows)`.
-/
open Ledger Ledger.Sql Ledger.Generated Ledger.Core
namespace Ledger.Sql
open Ledger.Spec

def MvAll (bound : Int) (rows : List Ver) : Prop := ∀ r ∈ rows, ∃ l m, r.vals = mvVals l m ∧ (m.seq : Int) < bound

theorem MvAll.mono {b1 b2 : Int} {rows : List Ver} (h : MvAll b1 rows) (hb : b1 ≤ b2) : MvAll b2 rows := by
  intro r hr
  obtain ⟨l, m, hv, hlt⟩ := h r hr
  exact ⟨l, m, hv, by omega⟩

@[simp] theorem seqOfVals_mvVals (l : String) (m : Spec.MoveRow) : seqOfVals (mvVals l m) = m.seq := by
  simp [seqOfVals, mvDec_mvVals]

/-- the storage invariant of `moves` as the transaction sees it -/
structure MvInv (lv : View) (bound : Int) (rows : List Ver) : Prop where
  all : MvAll bound rows
  ridNodup : ((rows.filter (fun r => r.visible lv)).map (·.rid)).Nodup
  seqNodup : ((rows.filter (fun r => r.visible lv)).map (fun r => seqOfVals r.vals)).Nodup

theorem MvInv.iff_keyInv (lv : View) (bound : Int) (rows : List Ver) :
    MvInv lv bound rows ↔ KeyInv (fun v => ∃ l m, v = mvVals l m ∧ (m.seq : Int) < bound) seqOfVals lv rows :=
  ⟨fun h => ⟨h.all, h.ridNodup, h.seqNodup⟩, fun h => ⟨h.typed, h.ridNodup, h.keyNodup⟩⟩

/-- the typed content of the rows visible in `lv` -/
def mvAbs (lv : View) (rows : List Ver) : List (String × Spec.MoveRow) :=
  ((rows.filter (fun r => r.visible lv)).map (·.vals)).filterMap mvDec

theorem MvView_mvAbs (lv : View) (bound : Int) (rows : List Ver) (h : MvAll bound rows) : MvView lv rows (mvAbs lv rows) :=
  TView.abs (enc := fun p : String × Spec.MoveRow => mvVals p.1 p.2) (fun p => mvDec_mvVals p.1 p.2) fun r hr _ =>
    let ⟨l, m, hv, _⟩ := h r hr; ⟨(l, m), hv⟩

theorem mvAbs_seqs (lv : View) (bound : Int) (rows : List Ver) (h : MvAll bound rows) :
    (mvAbs lv rows).map (·.2.seq) = (rows.filter (fun r => r.visible lv)).map (fun r => seqOfVals r.vals) := by
  have hv := MvView_mvAbs lv bound rows h
  unfold MvView at hv
  have : ((rows.filter (fun r => r.visible lv)).map (·.vals)).map seqOfVals = ((mvAbs lv rows).map (fun p => mvVals p.1 p.2)).map seqOfVals := by
    rw [hv]
  simp only [List.map_map] at this
  rw [show (fun r : Ver => seqOfVals r.vals) = seqOfVals ∘ (fun r => r.vals) from rfl, this]
  apply List.map_congr_left
  intro p _
  simp

theorem mvAbs_bound (lv : View) (bound : Int) (rows : List Ver) (h : MvAll bound rows) : ∀ q ∈ mvAbs lv rows, (q.2.seq : Int) < bound := by
  intro q hq
  obtain ⟨v, hv, hd⟩ := List.mem_filterMap.mp hq
  obtain ⟨r, hr, rfl⟩ := List.mem_map.mp hv
  obtain ⟨l, m, hv', hlt⟩ := h r (List.mem_filter.mp hr).1
  rw [hv', mvDec_mvVals, Option.some.injEq] at hd
  rw [← hd]; exact hlt

theorem MvView.nested {s : St} (hs : TxState s) (hn : s.nextCid < 1000000000) {rows : List Ver} {tbl : List (String × Spec.MoveRow)}
    (h : MvView (latestView s.w s.xid) rows tbl) (hf : Fresh s.xid s.nextCid rows) :
    MvView { xid := s.xid, cid := s.nextCid, snap := s.snap } rows tbl :=
  TView.congr (enc := fun p : String × Spec.MoveRow => mvVals p.1 p.2) h fun r hr => visible_cv_latest s.enter (hs.enter hn) rows hf r hr

/-- the stored rows of `moves` as the transaction `xid` knows them before its command `c`: row ids below `nr`, nothing written by a
    command from `c` on (`Stored`); typed, sequence numbers below `bound` and distinct among the visible rows (`MvInv`) -/
structure MvStored (lv : View) (xid c nr : Nat) (bound : Int) (rows : List Ver) : Prop where
  stored : Stored lv xid c nr rows
  inv : MvInv lv bound rows

namespace MvStored
variable {lv : View} {xid c nr : Nat} {v : Int} {rows : List Ver}

theorem mono (h : MvStored lv xid c nr v rows) {c' : Nat} (hc : c ≤ c') : MvStored lv xid c' nr v rows := ⟨h.stored.mono hc, h.inv⟩

theorem view (h : MvStored lv xid c nr v rows) : MvView lv rows (mvAbs lv rows) := MvView_mvAbs lv v rows h.inv.all

theorem seqNodup (h : MvStored lv xid c nr v rows) : ((mvAbs lv rows).map (·.2.seq)).Nodup := by
  rw [mvAbs_seqs _ _ _ h.inv.all]; exact h.inv.seqNodup

/-- one stored row more: the view grows by the typed row, the storage facts stay -/
theorem insert {w : World} {cid : Nat} (h : MvStored (latestView w xid) xid c nr v rows) (hx : xid ≠ 0) (hc : cid < 1000000000)
    (hcc : cid < c) (ln : String) (m : MoveRow) (hseq : (m.seq : Int) = v) :
    MvStored (latestView w xid) xid c (nr + 1) (v + 1) (newVer xid cid nr (mvVals ln m) :: rows) ∧
    mvAbs (latestView w xid) (newVer xid cid nr (mvVals ln m) :: rows) = (ln, m) :: mvAbs (latestView w xid) rows := by
  refine ⟨⟨h.stored.new hx hc hcc (mvVals ln m), (MvInv.iff_keyInv _ _ _).mpr ?_⟩, TView.tabs_eq (fun p => mvDec_mvVals p.1 p.2)
    (TView.new (enc := fun p : String × MoveRow => mvVals p.1 p.2) h.view cid nr hx hc (ln, m))⟩
  refine (((MvInv.iff_keyInv _ _ _).mp h.inv).mono fun _ ⟨l', m', e, hlt⟩ => ⟨l', m', e, by omega⟩).new hx hc nr _ ⟨ln, m, rfl, by omega⟩
    (fun q hq _ => Nat.ne_of_lt (h.stored.ridLt q hq)) fun q hq _ => ?_
  obtain ⟨l', m', hv, hlt⟩ := h.inv.all q hq
  rw [hv, seqOfVals_mvVals, seqOfVals_mvVals]
  omega

end MvStored

end Ledger.Sql
