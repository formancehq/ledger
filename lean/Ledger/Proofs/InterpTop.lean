import Ledger.Proofs.InterpStmt
import Ledger.Proofs.MachineStmt

/-!
The whole run: metadata statements, statement lists, the two front ends, and the
agreement theorems of the two models on F2 and F1 (`agree_F2`, `agree_F1`).
-/
namespace Ledger.Interp
open Ledger.Machine

theorem okVal_spec {env : Env} {e : Expr} (h : okVal env e = true) :
    litsOK e = true ∧ ∃ v, Machine.evalExpr env e = .ok v := by
  simp only [okVal, Bool.and_eq_true] at h
  refine ⟨h.1, ?_⟩
  have h2 := h.2
  split at h2
  · rename_i v hv; exact ⟨v, hv⟩
  · cases h2

theorem txmeta_sim {env ienv : Env} (heq : EnvEq env ienv) (henv : EnvOK env)
    {P : List (String × String)} {k : String} {e : Expr} {st : State} {ist : IState}
    (hwf : stmtWf env (.setTxMeta k e) = true) (h : SRel P st ist) :
    StmtAgree P (Machine.evalStmt Cfg.fixed env (.setTxMeta k e) st)
      (Interp.evalStmt ienv (.setTxMeta k e) ist) := by
  obtain ⟨hl, v, hv⟩ := okVal_spec (by simpa [stmtWf] using hwf)
  simp only [Machine.evalStmt, Interp.evalStmt, hv, evalExpr_agree heq henv e v hl hv, StmtAgree]
  exact ⟨h.rel, h.wf, h.posts, h.nnM, h.okI, by simp [h.tx], h.acc, h.queue⟩

theorem accmeta_sim {env ienv : Env} (heq : EnvEq env ienv) (henv : EnvOK env)
    {P : List (String × String)} {acc : Expr} {k : String} {e : Expr} {st : State} {ist : IState}
    (hwf : stmtWf env (.setAccountMeta acc k e) = true) (h : SRel P st ist) :
    StmtAgree P (Machine.evalStmt Cfg.fixed env (.setAccountMeta acc k e) st)
      (Interp.evalStmt ienv (.setAccountMeta acc k e) ist) := by
  simp only [stmtWf, Bool.and_eq_true] at hwf
  obtain ⟨hla, a, ha, _⟩ := okAcct_spec hwf.1
  obtain ⟨hl, v, hv⟩ := okVal_spec hwf.2
  have hia := evalExpr_agree heq henv acc _ hla (evalAccount_ok ha)
  simp only [Machine.evalStmt, Interp.evalStmt, hv, ha, hia, evalExpr_agree heq henv e v hl hv,
    StmtAgree]
  refine ⟨h.rel, h.wf, h.posts, h.nnM, h.okI, h.tx, ?_, h.queue⟩
  simp only [setAccMeta, List.map_append, List.map_cons, List.map_nil, ← h.acc, List.filter_map]
  rfl

theorem stmt_sim {env ienv : Env} (heq : EnvEq env ienv) (henv : EnvOK env)
    {P : List (String × String)} (s : Stmt) {st : State} {ist : IState}
    (hwf : stmtWf env s = true) (hin : stmtLeavesIn P env s = true) (h : SRel P st ist) :
    StmtAgree P (Machine.evalStmt Cfg.fixed env s st) (Interp.evalStmt ienv s ist) := by
  cases s with
  | print e => simp [stmtWf] at hwf
  | save m a => simp [stmtWf] at hwf
  | saveAll m a => simp [stmtWf] at hwf
  | fail => simp [stmtWf] at hwf
  | setTxMeta k e => exact txmeta_sim heq henv hwf h
  | setAccountMeta acc k e => exact accmeta_sim heq henv hwf h
  | send mon src dst =>
    cases src with
    | src s => exact send_sim heq henv hwf hin h
    | allot items => exact send_allot_sim heq henv hwf hin h
  | sendAll ae src dst =>
    cases src with
    | src s => exact sendAll_sim heq henv hwf hin h
    | allot items => simp [stmtWf] at hwf

theorem StmtAgree.cases {P : List (String × String)} {r : Except Err State} {ri : Except String IState}
    (h : StmtAgree P r ri) :
    (∃ e e', r = .error e ∧ ri = .error e') ∨ ∃ st ist, r = .ok st ∧ ri = .ok ist ∧ SRel P st ist := by
  cases r <;> cases ri
  · exact .inl ⟨_, _, rfl, rfl⟩
  · exact h.elim
  · exact h.elim
  · exact .inr ⟨_, _, rfl, rfl, h⟩

theorem runStmts_sim {env ienv : Env} (heq : EnvEq env ienv) (henv : EnvOK env)
    {P : List (String × String)} : ∀ (ss : List Stmt) (st : State) (ist : IState),
    (∀ s ∈ ss, stmtWf env s = true ∧ stmtLeavesIn P env s = true) → SRel P st ist →
    StmtAgree P (Machine.runStmts Cfg.fixed env ss st) (Interp.runStmts ienv ss ist) := by
  intro ss
  induction ss with
  | nil => intro st ist _ h; simpa [Machine.runStmts, Interp.runStmts, StmtAgree] using h
  | cons s rest ih =>
    intro st ist hall h
    simp only [Machine.runStmts, Interp.runStmts]
    rcases (stmt_sim heq henv s (hall s (by simp)).1 (hall s (by simp)).2 h).cases with
      ⟨e, e', hm, hi⟩ | ⟨st1, ist1, hm, hi, h1⟩
    · rw [hm, hi]; trivial
    · rw [hm, hi]
      exact ih st1 ist1 (fun x hx => hall x (by simp [hx])) h1

theorem prepare_get {s : Script} {inp : Input} {env : Env} {bal : Balances}
    {pairs : List (String × String)} (h : prepare Cfg.fixed s inp = .ok (env, bal, pairs)) :
    ∀ a c, (a, c) ∈ pairs → bal.get a c = some (inp.balance a c) := by
  obtain ⟨_, _, _, _, _, _, _, _, _, _, _, _, _, rfl⟩ := prepare_inv h
  exact fun a c hp => if_pos (List.any_eq_true.mpr ⟨(a, c), hp, by simp⟩)

theorem envEq_of_agree {names : List String} {env ienv : Env} (h : envAgree names env ienv = true) :
    EnvEq env ienv ∧ EnvOK env := by
  simp only [envAgree, Bool.and_eq_true, List.all_eq_true, decide_eq_true_eq] at h
  obtain ⟨⟨h1, h2⟩, h3⟩ := h
  constructor
  · intro x
    by_cases hx : x ∈ names
    · exact h1 x hx
    · have e1 : env.lookup x = none := by
        cases hl : env.lookup x with
        | none => rfl
        | some v =>
          have := (h2 _ (lookup_mem env x v hl)).1
          exact absurd (by simpa using this) hx
      have e2 : ienv.lookup x = none := by
        cases hl : ienv.lookup x with
        | none => rfl
        | some v =>
          have := h3 _ (lookup_mem ienv x v hl)
          exact absurd (by simpa using this) hx
      rw [e1, e2]
  · intro x v hl
    exact (h2 _ (lookup_mem env x v hl)).2

theorem run_eq_front (s : Script) (inp : Input) :
    Interp.run s inp =
      match front s inp with
      | .error e => .error e
      | .ok (ienv, Q) => finish (Interp.runStmts ienv s.stmts (Interp.initState inp Q)) := by
  unfold Interp.run front
  split
  · rfl
  · cases Interp.resolveVars inp s.vars [] [] with
    | error e => rfl
    | ok p =>
      obtain ⟨ienv, cached⟩ := p
      dsimp only
      cases preload ienv s.stmts <;> rfl

/-- Both fail, or same postings as units (= same non-zero postings in the same order, up to
    the way a run of units of one (source, destination) pair is cut into postings), all
    amounts ≥ 0, same transaction metadata, same account metadata (rendered as strings). -/
def Agree (m : Except Err Machine.Result) (i : Except String Interp.Result) : Prop :=
  match m, i with
  | .error _, .error _ => True
  | .ok rm, .ok ri =>
    unitsP rm.postings = unitsP ri.postings ∧
    (∀ p ∈ rm.postings, 0 ≤ p.amount) ∧ (∀ p ∈ ri.postings, 0 ≤ p.amount) ∧
    rm.txMeta = ri.txMeta ∧
    rm.accMeta.map (fun x => (x.1, x.2.1, valStr x.2.2)) = ri.accMeta
  | _, _ => False

/-- The agreement theorem on its Prop-level hypotheses: both front ends succeeded, bind the same
    variables, the interpreter fetched what the machine tracks, every statement is one of F2 with
    its bounded sources tracked. -/
theorem agree_of_fronts {s : Script} {inp : Input} {ds : Decls} {env ienv : Env} {bal : Balances}
    {pairs Q : List (String × String)} (htc : typecheck s = .ok ds)
    (hp : prepare Cfg.fixed s inp = .ok (env, bal, pairs)) (hf : front s inp = .ok (ienv, Q))
    (heq : EnvEq env ienv) (henv : EnvOK env) (hpq : ∀ p ∈ pairs, p.1 ≠ "world" → p ∈ Q)
    (hwf : ∀ x ∈ s.stmts, stmtWf env x = true ∧ stmtLeavesIn pairs env x = true) :
    Agree (sem Cfg.fixed s inp) (Interp.run s inp) := by
  unfold sem
  rw [run_eq_front, htc, hp, hf]
  have hs0 : SRel pairs (Machine.initState bal) (Interp.initState inp Q) := by
    refine ⟨?_, (prepare_ok hp).2.1, rfl, by simp [Machine.initState], by simp [Interp.initState],
      rfl, rfl, rfl⟩
    intro a c hpc hw
    have : Q.any (fun p => decide (p.1 = a ∧ p.2 = c)) = true :=
      List.any_eq_true.mpr ⟨(a, c), hpq (a, c) hpc hw, by simp⟩
    simp only [Machine.initState, Interp.initState, initBal, prepare_get hp a c hpc, if_pos this]
  rcases (runStmts_sim heq henv s.stmts _ _ hwf hs0).cases with
    ⟨e, e', hm, hi⟩ | ⟨st, ist, hm, hi, hsim⟩
  · simp [hm, hi, finish, Agree]
  · have hnb : ist.postings.any badPosting = false := by
      simpa using fun p hp1 => hsim.okI p hp1
    simp only [hm, hi, finish, hnb, Agree, Bool.false_eq_true, if_false]
    refine ⟨hsim.posts, hsim.nnM, fun p hp1 => ?_, hsim.tx, hsim.acc⟩
    have := hsim.okI p hp1
    simp only [badPosting, Bool.or_eq_false_iff, decide_eq_false_iff_not] at this
    omega

theorem agree_F2 (s : Script) (inp : Input) (h : InF2 s inp = true) :
    Agree (sem Cfg.fixed s inp) (Interp.run s inp) := by
  simp only [InF2, whyNotF2] at h
  cases htc : typecheck s with
  | error e => simp [htc] at h
  | ok ds =>
    simp only [htc] at h
    split at h
    · simp at h
    · rename_i hfa
      simp only [Bool.not_eq_true', Bool.not_eq_false] at hfa
      unfold FrontAgree at hfa
      split at hfa
      · rename_i hp hf
        unfold sem
        rw [run_eq_front, htc, hp, hf]; trivial
      · rename_i env bal pairs ienv Q hp hf
        rw [hp] at h
        simp only [Bool.and_eq_true, List.all_eq_true, Bool.or_eq_true, decide_eq_true_eq] at hfa
        obtain ⟨⟨hea, hpq⟩, hlv⟩ := hfa
        have hall : ∀ x ∈ s.stmts, stmtWf env x = true := by
          refine List.all_eq_true.mp (Decidable.by_contra fun hh => ?_)
          simp [hh] at h
        obtain ⟨heq, henv⟩ := envEq_of_agree hea
        exact agree_of_fronts htc hp hf heq henv
          (fun p hpc hw => by simpa [hw] using hpq p hpc)
          (fun x hx => ⟨hall x hx, by simpa [hall x hx] using hlv x hx⟩)
      · cases hfa

theorem agree_F1 (s : Script) (inp : Input) (h : InF1 s inp = true) :
    Agree (sem Cfg.fixed s inp) (Interp.run s inp) := by
  simp only [InF1, Bool.and_eq_true] at h
  exact agree_F2 s inp h.1

/-! ## The balance part of the two front ends
For statements of the fragment the machine's
`NeededBalances` resolve, contain every bounded source, never name `world`, and are all
fetched by the interpreter's balance preload.  For programs WITHOUT variable declarations
(and inputs without variables) this is all of `FrontAgree`, so the agreement theorem needs
no front-end hypothesis there (`frontAgree_novars`).
-/

theorem evalAccounts_append {env : Env} {x y : List Expr} {ax ay : List String}
    (hx : evalAccounts env x = .ok ax) (hy : evalAccounts env y = .ok ay) :
    evalAccounts env (x ++ y) = .ok (ax ++ ay) := by
  induction x generalizing ax with
  | nil => simp [evalAccounts] at hx; subst hx; simpa using hy
  | cons e es ih =>
    simp only [evalAccounts] at hx
    split at hx
    · cases hx
    · rename_i a ha
      split at hx
      · cases hx
      · rename_i r hr
        cases hx
        simp [evalAccounts, ha, ih hr]

def SrcNeeded (env ienv : Env) (c : String) (es : List Expr) (r : Except String (List (String × String))) : Prop :=
  ∃ accs q, evalAccounts env es = .ok accs ∧ (∀ a ∈ accs, a ≠ "world") ∧ r = .ok q ∧
    ∀ a ∈ accs, (a, c) ∈ q

theorem SrcNeeded.append {env ienv : Env} {c : String} {x y : List Expr}
    {r1 r2 : Except String (List (String × String))} (h1 : SrcNeeded env ienv c x r1)
    (h2 : SrcNeeded env ienv c y r2) :
    ∃ q1 q2, r1 = .ok q1 ∧ r2 = .ok q2 ∧ SrcNeeded env ienv c (x ++ y) (.ok (q1 ++ q2)) := by
  obtain ⟨a1, q1, e1, w1, rfl, m1⟩ := h1
  obtain ⟨a2, q2, e2, w2, rfl, m2⟩ := h2
  refine ⟨q1, q2, rfl, rfl, a1 ++ a2, q1 ++ q2, evalAccounts_append e1 e2, ?_, rfl, ?_⟩
  · intro a ha
    exact (List.mem_append.mp ha).elim (w1 a) (w2 a)
  · intro a ha
    exact (List.mem_append.mp ha).elim (fun h => List.mem_append_left _ (m1 a h))
      (fun h => List.mem_append_right _ (m2 a h))

mutual
  theorem src_needed {env ienv : Env} (heq : EnvEq env ienv) (henv : EnvOK env) {c : String} :
      (s : Source) → srcWf env c s = true → SrcNeeded env ienv c s.neededAccts (srcQueries ienv c s)
    | .account e od, hwf => by
      obtain ⟨a, _, hleaf | ⟨o, hleaf⟩⟩ := leaf_cases (ienv := ienv) heq henv (c := c) hwf
      · rw [hleaf.needed, hleaf.queries]
        exact ⟨[], [], rfl, by simp, rfl, by simp⟩
      · obtain ⟨e', hne', hw⟩ := hleaf.needed
        rw [hne', hleaf.queries]
        exact ⟨[a], [(a, c)], by simp [evalAccounts, hw], by simpa using hleaf.notWorld, rfl, by simp⟩
    | .maxed m s, hwf => by
      simp only [srcWf, Bool.and_eq_true] at hwf
      simpa [Source.neededAccts, srcQueries] using src_needed heq henv s hwf.2
    | .inorder ss, hwf => by
      simp only [srcWf, Bool.and_eq_true] at hwf
      simpa [Source.neededAccts, srcQueries] using srcs_needed heq henv ss hwf.2
  theorem srcs_needed {env ienv : Env} (heq : EnvEq env ienv) (henv : EnvOK env) {c : String} :
      (ss : SourceList) → srcsWf env c ss = true →
      SrcNeeded env ienv c ss.neededAccts (srcsQueries ienv c ss)
    | .nil, _ => ⟨[], [], rfl, by simp, rfl, by simp⟩
    | .cons s rest, hwf => by
      simp only [srcsWf, Bool.and_eq_true] at hwf
      obtain ⟨q1, q2, r1, r2, h⟩ :=
        (src_needed heq henv s hwf.1.1).append (srcs_needed heq henv rest hwf.1.2)
      simpa [SourceList.neededAccts, srcsQueries, r1, r2] using h
end

theorem allot_needed {env ienv : Env} (heq : EnvEq env ienv) (henv : EnvOK env) {c : String} :
    (items : AllotSrcList) → allotSrcWf env c items = true →
    SrcNeeded env ienv c items.neededAccts (allotQueries ienv c items)
  | .nil, _ => ⟨[], [], rfl, by simp, rfl, by simp⟩
  | .cons _ s rest, hwf => by
    simp only [allotSrcWf, Bool.and_eq_true] at hwf
    obtain ⟨q1, q2, r1, r2, h⟩ :=
      (src_needed heq henv s hwf.1).append (allot_needed heq henv rest hwf.2)
    simpa [AllotSrcList.neededAccts, allotQueries, r1, r2] using h

theorem leavesIn_of {P : List (String × String)} {env : Env} {c : String} : ∀ {es : List Expr}
    {accs : List String}, evalAccounts env es = .ok accs → (∀ a ∈ accs, (a, c) ∈ P) →
    leavesIn P env c es = true := by
  intro es
  induction es with
  | nil => intro _ _ _; rfl
  | cons x xs ih =>
    intro accs h hP
    simp only [evalAccounts] at h
    split at h
    · cases h
    · rename_i a ha
      split at h
      · cases h
      · rename_i r hr
        cases h
        have := ih hr (fun a' h' => hP a' (List.mem_cons_of_mem _ h'))
        simp only [leavesIn, List.all_cons, ha, Bool.and_eq_true] at this ⊢
        exact ⟨by simpa using hP a List.mem_cons_self, this⟩

theorem SrcNeeded.pairs {env ienv : Env} {c : String} {es : List Expr}
    {r : Except String (List (String × String))} (h : SrcNeeded env ienv c es r) :
    ∃ accs q, evalAccounts env es = .ok accs ∧ r = .ok q ∧
      (∀ p ∈ accs.map (fun a => (a, c)), p.1 ≠ "world" ∧ p ∈ q) ∧
      ∀ P, (∀ p ∈ accs.map (fun a => (a, c)), p ∈ P) → leavesIn P env c es = true := by
  obtain ⟨accs, q, h1, w1, q1, m1⟩ := h
  refine ⟨accs, q, h1, q1, ?_, fun P hP => leavesIn_of h1 (fun a ha => hP _ (List.mem_map.mpr ⟨a, ha, rfl⟩))⟩
  intro p hp
  obtain ⟨a, ha, rfl⟩ := List.mem_map.mp hp
  exact ⟨w1 a ha, m1 a ha⟩

/-- What the two balance front ends do on one statement of the fragment: the machine's needed
    pairs `h` exist, none names `world`, the interpreter queries all of them, and whoever tracks
    them tracks every bounded source of the statement. -/
def StmtFront (env ienv : Env) (st : Stmt) (h q : List (String × String)) : Prop :=
  stmtPairs env st = .ok h ∧ (∀ p ∈ h, p.1 ≠ "world") ∧ stmtQueries ienv st = .ok q ∧
    (∀ p ∈ h, p ∈ q) ∧ ∀ P, (∀ p ∈ h, p ∈ P) → stmtLeavesIn P env st = true

/-- A statement with source `src` in asset `c`. -/
theorem StmtFront.of_source {env ienv : Env} {st : Stmt} {c : String} {src : VSource}
    (hs : SrcNeeded env ienv c src.neededAccts (vsrcQueries ienv c src))
    (hn : ∀ accs, evalAccounts env src.neededAccts = .ok accs →
      stmtPairs env st = .ok (accs.map (fun a => (a, c))))
    (hq : stmtQueries ienv st = vsrcQueries ienv c src)
    (hl : ∀ P, stmtLeavesIn P env st = leavesIn P env c src.neededAccts) :
    ∃ h q, StmtFront env ienv st h q := by
  obtain ⟨accs, q, h1, q1, hp, hlv⟩ := hs.pairs
  exact ⟨_, q, hn accs h1, fun p hp' => (hp p hp').1, hq.trans q1, fun p hp' => (hp p hp').2,
    fun P hP => (hl P).trans (hlv P hP)⟩

theorem stmt_front {env ienv : Env} (heq : EnvEq env ienv) (henv : EnvOK env) (st : Stmt)
    (hwf : stmtWf env st = true) : ∃ h q, StmtFront env ienv st h q := by
  cases st with
  | print e => simp [stmtWf] at hwf
  | save m a => simp [stmtWf] at hwf
  | saveAll m a => simp [stmtWf] at hwf
  | fail => simp [stmtWf] at hwf
  | setTxMeta k e => exact ⟨[], [], rfl, by simp, rfl, by simp, fun _ _ => rfl⟩
  | setAccountMeta acc k e => exact ⟨[], [], rfl, by simp, rfl, by simp, fun _ _ => rfl⟩
  | send mon src dst =>
    cases src with
    | src s =>
      obtain ⟨c, amt, hlm, hmon, _, hws, _⟩ := stmtWf_send hwf
      exact StmtFront.of_source (src := .src s) (src_needed heq henv s hws)
        (fun accs (h1 : evalAccounts env s.neededAccts = .ok accs) => by
          simp [stmtPairs, leftmostAsset_of_monetary hmon, VSource.neededAccts, h1])
        (by simp [stmtQueries, evalMon_agree heq henv hlm hmon])
        (fun P => by simp only [stmtLeavesIn, hmon, VSource.neededAccts])
    | allot items =>
      obtain ⟨c, amt, hlm, hmon, _, _, _, hws, _⟩ := stmtWf_sendAllot hwf
      exact StmtFront.of_source (src := .allot items) (allot_needed heq henv items hws)
        (fun accs (h1 : evalAccounts env items.neededAccts = .ok accs) => by
          simp [stmtPairs, leftmostAsset_of_monetary hmon, VSource.neededAccts, h1])
        (by simp [stmtQueries, evalMon_agree heq henv hlm hmon])
        (fun P => by simp only [stmtLeavesIn, hmon, VSource.neededAccts])
  | sendAll ae src dst =>
    cases src with
    | src s =>
      obtain ⟨c, hlae, hc, _, hws, _, _⟩ := stmtWf_sendAll hwf
      exact StmtFront.of_source (src := .src s) (src_needed heq henv s hws)
        (fun accs (h1 : evalAccounts env s.neededAccts = .ok accs) => by
          simp [stmtPairs, hc, VSource.neededAccts, h1])
        (by simp [stmtQueries, evalAsset_agree heq henv hlae hc])
        (fun P => by simp only [stmtLeavesIn, hc, VSource.neededAccts])
    | allot items => simp [stmtWf] at hwf

theorem stmts_needed {env ienv : Env} (heq : EnvEq env ienv) (henv : EnvOK env) :
    ∀ (ss : List Stmt), (∀ s ∈ ss, stmtWf env s = true) →
    ∃ needed queried, neededPairs env ss = .ok needed ∧ (∀ p ∈ needed, p.1 ≠ "world") ∧
      preload ienv ss = .ok queried ∧ (∀ p ∈ needed, p ∈ queried) ∧
      ∀ P, (∀ p ∈ needed, p ∈ P) → ∀ s ∈ ss, stmtLeavesIn P env s = true := by
  intro ss
  induction ss with
  | nil => intro _; exact ⟨[], [], rfl, by simp, rfl, by simp, by simp⟩
  | cons st rest ih =>
    intro hall
    obtain ⟨hwf, hrest⟩ := List.forall_mem_cons.mp hall
    obtain ⟨n2, q2, r1, r2, r3, r4, r5⟩ := ih hrest
    obtain ⟨h, q, e1, e2, e3, e4, e5⟩ := stmt_front heq henv st hwf
    refine ⟨h ++ n2, q ++ q2, neededPairs_cons_ok e1 r1, List.forall_mem_append.mpr ⟨e2, r2⟩,
      by simp [preload, e3, r3], ?_, ?_⟩
    · intro p hp
      rcases List.mem_append.mp hp with hp | hp
      · exact List.mem_append_left _ (e4 p hp)
      · exact List.mem_append_right _ (r4 p hp)
    · intro P hP
      obtain ⟨hP1, hP2⟩ := List.forall_mem_append.mp hP
      exact List.forall_mem_cons.mpr ⟨e5 P hP1, r5 P hP2⟩

theorem unsupported_of_wf {env : Env} {st : Stmt} (h : stmtWf env st = true) :
    Stmt.unsupported st = false := by
  cases st <;> first | rfl | cases h

theorem prepare_novars (s : Script) (inp : Input) (hv : s.vars = []) (hi : inp.vars = [])
    {needed : List (String × String)} (r1 : neededPairs [] s.stmts = .ok needed)
    (hnw : needed.any (fun p => p.1 = "world") = false) :
    ∃ bal, prepare Cfg.fixed s inp = .ok ([], bal, needed) := by
  refine ⟨{ hasAcct := fun a => needed.any (fun p => p.1 = a),
            get := fun a c => if needed.any (fun p => p.1 = a ∧ p.2 = c) then some (inp.balance a c) else none }, ?_⟩
  simp [prepare, setVars, hv, hi, parsePlainVars, Machine.resolveVars, initBalances, r1, hnw, Cfg.fixed]

theorem fronts_novars (s : Script) (inp : Input) (hv : s.vars = []) (hi : inp.vars = [])
    (hwf : ∀ st ∈ s.stmts, stmtWf [] st = true) :
    ∃ needed queried bal, prepare Cfg.fixed s inp = .ok ([], bal, needed) ∧
      front s inp = .ok ([], queried) ∧ (∀ p ∈ needed, p ∈ queried) ∧
      ∀ st ∈ s.stmts, stmtLeavesIn needed [] st = true := by
  obtain ⟨needed, queried, r1, r2, r3, r4, r5⟩ :=
    stmts_needed (env := []) (ienv := []) (fun _ => rfl) (fun x v h => by simp at h) s.stmts hwf
  have hnw : needed.any (fun p => p.1 = "world") = false := by
    rw [Bool.eq_false_iff]
    intro h
    obtain ⟨p, hp, hw⟩ := List.any_eq_true.mp h
    exact r2 p hp (by simpa using hw)
  obtain ⟨bal, hprep⟩ := prepare_novars s inp hv hi r1 hnw
  have hun : s.stmts.any Stmt.unsupported = false := by
    rw [Bool.eq_false_iff]
    intro h
    obtain ⟨st, hst, hu⟩ := List.any_eq_true.mp h
    exact absurd hu (by rw [unsupported_of_wf (hwf st hst)]; simp)
  exact ⟨needed, queried, bal, hprep, by simp [front, hun, hv, Interp.resolveVars, r3], r4,
    r5 needed (fun _ h => h)⟩

theorem frontAgree_novars (s : Script) (inp : Input) (hv : s.vars = []) (hi : inp.vars = [])
    (hwf : ∀ st ∈ s.stmts, stmtWf [] st = true) : FrontAgree s inp = true := by
  obtain ⟨needed, queried, bal, hprep, hfront, r4, r5⟩ := fronts_novars s inp hv hi hwf
  unfold FrontAgree
  rw [hprep, hfront]
  simp only [hv, List.map_nil, envAgree, List.all_nil, Bool.and_self, Bool.true_and, Bool.and_eq_true,
    List.all_eq_true]
  refine ⟨?_, ?_⟩
  · intro p hp
    simp only [Bool.or_eq_true, decide_eq_true_eq, List.contains_iff_mem]
    exact Or.inr (r4 p hp)
  · intro st hst
    simp [hwf st hst, r5 st hst]

/-- The agreement theorem without front-end hypothesis, for programs without variables:
    the machine compiles the program and its statements are statements of F2. -/
theorem agree_F2_novars (s : Script) (inp : Input) (hv : s.vars = []) (hi : inp.vars = [])
    (htc : compiles s = true) (hwf : ∀ st ∈ s.stmts, stmtWf [] st = true) :
    Agree (sem Cfg.fixed s inp) (Ledger.Interp.run s inp) := by
  obtain ⟨needed, queried, bal, hp, hf, hsub, hlv⟩ := fronts_novars s inp hv hi hwf
  unfold compiles at htc
  split at htc
  · exact agree_of_fronts ‹_› hp hf (fun _ => rfl) (fun x v h => by simp at h)
      (fun p hp _ => hsub p hp) (fun x hx => ⟨hwf x hx, hlv x hx⟩)
  · cases htc

end Ledger.Interp
