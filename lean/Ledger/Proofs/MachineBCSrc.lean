import Ledger.Proofs.MachineBCSim
import Ledger.Proofs.MachineSrc

/-! Byte-code level: `TakeFromSource` and all sources (account, `max`, in-order) by mutual
    recursion. -/
namespace Ledger.Machine

/-- Stack effect of `TakeFromSource`: `[monetary, funding, …] ↦ [funding', …]`. -/
def takeK (env : Env) (fb : Option Expr) : Kl := fun stk st =>
  match stk with
  | .val (.monetary a v) :: .funding F :: rest =>
    match takeFromSource env fb F (a, v) st.bal with
    | .error e => .error e
    | .ok (r, b) => .ok (.funding r :: rest, { st with bal := b })
  | _ => .error (.fault "stack")

def MonFunding : Stack → Prop := fun stk => ∃ a v F rest, stk = .val (.monetary a v) :: .funding F :: rest

/-- The fallback address returned by `cSource` denotes the source's `FallbackAccount`. -/
def FbOK (env : Env) (fb : Option Nat) (fbE : Option Expr) (cs : CS) : Prop :=
  match fb, fbE with
  | none, none => True
  | some a, some e => ∃ acc, evalAccount env e = .ok acc ∧ AddrVal env a (.account acc) cs
  | _, _ => False

theorem FbOK.stable (env : Env) (fb : Option Nat) (fbE : Option Expr) : Stable (FbOK env fb fbE) := by
  intro cs cs' seg h he
  cases fb <;> cases fbE <;> simp only [FbOK] at h ⊢
  obtain ⟨acc, h1, h2⟩ := h
  exact ⟨acc, h1, AddrVal.stable env _ _ cs cs' seg h2 he⟩

/-- `TakeFromSource`.  The transformer of the emitted code depends on the fallback EXPRESSION only (`FbOK`
    ties the address the compiler holds to it), so it is named before the compile state is. -/
theorem take_runs {ds : Decls} {env : Env} (henv : EnvTyped ds env) (fbE : Option Expr)
    (hfe : ∀ e, fbE = some e → typeExpr ds e = .ok .account) :
    ∃ g, (∀ fb, Sim ds env (FbOK env fb fbE) (cTakeFromSource fb) T g) ∧
      ∀ stk st, MonFunding stk → g stk st = takeK env fbE stk st := by
  cases fbE with
  | none =>
    have hC := FbOK.stable env none none
    have hs := Sim.seq hC (sim_emitOp ds env _ OP_TAKE)
      (Sim.seq hC (sim_bump ds env _ hC 1) (Sim.single hC (sim_emitOp ds env _ OP_REPAY)))
    refine ⟨_, fun fb => match fb with
      | none => hs
      | some a => ⟨fun cs cs' _ hc _ => by simp [FbOK] at hc⟩, ?_⟩
    · rintro _ st ⟨a, v, F, rest, rfl⟩
      simp only [Kl.comp, opK_TAKE, takeK, takeFromSource]
      by_cases hfa : F.asset = a
      · simp only [hfa, ne_eq, not_true_eq_false, if_false]
        cases needAmt v with
        | error e => rfl
        | ok amt =>
          simp only
          cases take F.parts amt with
          | none => rfl
          | some r => simp [bumpK_one, opK_REPAY]
      · simp [hfa]
  | some e =>
    obtain ⟨acc, _, hacc⟩ := evalAccount_of_typed henv (hfe e rfl)
    refine ⟨(opK OP_TAKE_MAX).comp ((bumpK 1).comp ((opK OP_REPAY).comp ((pushK (.account acc)).comp
      ((bumpK 2).comp ((opK OP_TAKE_ALWAYS).comp ((pushK (.number 2)).comp (opK OP_FUNDING_ASSEMBLE))))))),
      fun fb => ?_, ?_⟩
    · cases fb with
      | none => exact ⟨fun cs cs' _ hc _ => by simp [FbOK] at hc⟩
      | some a =>
        refine ⟨fun cs cs' hg hc ha => ?_⟩
        obtain ⟨acc', hacc', hav⟩ := hc
        cases hacc.symm.trans hacc'
        have hC := AddrVal.stable env a (.account acc)
        have hs := Sim.seq hC (sim_emitOp ds env _ OP_TAKE_MAX) (Sim.seq hC (sim_bump ds env _ hC 1)
          (Sim.seq hC (sim_emitOp ds env _ OP_REPAY) (Sim.seq hC (sim_emitPush ds env a (.account acc))
          (Sim.seq hC (sim_bump ds env _ hC 2) (Sim.seq hC (sim_emitOp ds env _ OP_TAKE_ALWAYS)
          (Sim.seq hC (sim_pushInteger ds env _ 2)
          (Sim.single hC (sim_emitOp ds env _ OP_FUNDING_ASSEMBLE))))))))
        exact hs.ok cs cs' hg hav ha
    · rintro _ st ⟨c, v, F, rest, rfl⟩
      simp only [Kl.comp, opK_TAKE_MAX, takeK, takeFromSource, takeMaxStep, hacc]
      cases needAmt v with
      | error e => rfl
      | ok amt =>
        simp only
        by_cases hneg : amt < 0
        · simp [hneg]
        · by_cases hfa : F.asset = c
          · simp [hneg, hfa, bumpK_one, bumpK_two, opK_REPAY, pushK, opK_TAKE_ALWAYS, needAmt, opK_ASSEMBLE2]
          · simp [hneg, hfa]

def FundingTop : Stack → Prop := fun stk => ∃ F rest, stk = .funding F :: rest

theorem account_typed_shape {ds : Decls} : (e : Expr) → typeExpr ds e = .ok .account →
    (∃ s, e = .acct s) ∨ (∃ x, e = .var x)
  | .acct s, _ => .inl ⟨s, rfl⟩
  | .var x, _ => .inr ⟨x, rfl⟩
  | .asset _, h | .num _, h | .str _, h => nomatch typeExpr_inv h
  | .portion _, h | .mon _ _, h => nomatch (typeExpr_inv h).1
  | .add _ _, h | .sub _ _, h => (typeExpr_inv h).1.elim (fun h => nomatch h) (fun h => nomatch h)

/-- The compiler's `isWorld` test on the address agrees with the syntactic one. -/
theorem cExpr_world {ds : Decls} {e : Expr} {push : Bool} {cs cs1 : CS} {t : Ty} {acc : Nat}
    (hg : Good ds cs) (ht : typeExpr ds e = .ok .account)
    (h : cExpr e push cs = .ok ((t, some acc), cs1)) : isWorldAddr acc cs1 = e.isWorld := by
  rcases account_typed_shape e ht with ⟨s, rfl⟩ | ⟨x, rfl⟩
  · simp only [cExpr] at h
    split at h
    · cases h
    · rename_i a cs0 hal
      cases h
      -- `env` occurs only in the `Emit`, which is not used here: any will do
      obtain ⟨_, _, hres⟩ := allocConst_emit (env := []) hal hg
      simp only [isWorldAddr, pushIf_res, hres, Expr.isWorld]
      by_cases hs : s = "world"
      · subst hs; simp
      · have hne : Res.const (CValue.account s) ≠ Res.const (CValue.account "world") := by
          intro hh; injection hh with h1; injection h1 with h2; exact hs h2
        simp [hs, hne]
  · simp only [cExpr] at h
    split at h
    · cases h
    · rename_i idx hl
      split at h
      · cases h
      · rename_i r hr
        cases h
        obtain ⟨r', h1, h2, _⟩ := hg.1 x _ hl
        rw [hr] at h1; cases h1
        simp only [isWorldAddr, pushIf_res, hr, Expr.isWorld]
        simp only [beq_eq_false_iff_ne, ne_eq, Option.some.injEq]
        intro hh; subst hh; simp [resName] at h2

def srcK (env : Env) (asset : String) (s : Source) : Kl := fun stk st =>
  match evalSource Cfg.fixed env asset s st.bal with
  | .error e => .error e
  | .ok (F, b) => .ok (.funding F :: stk, { st with bal := b })

def SrcCode (ds : Decls) (env : Env) (asset : String) (s : Source) (cs cs' : CS) (fb : Option Nat) : Prop :=
  Emit ds env cs cs' (srcK env asset s) ∧ FbOK env fb s.fallback cs'

theorem exprK_monetary {ds : Decls} {env : Env} (henv : EnvTyped ds env) {x : Expr}
    (ht : typeExpr ds x = .ok .monetary) (stk : Stack) (st : State) :
    exprK env x stk st =
      match evalMonetary env x with
      | .ok m => .ok (.val (.monetary m.1 m.2) :: stk, st)
      | .error e => .error e := by
  rcases evalExpr_typed ds env henv x _ ht with ⟨v, hv, hty, _⟩ | ⟨k, hk⟩
  · obtain ⟨a, amt, rfl⟩ := val_monetary hty
    simp [exprK, evalMonetary, hv]
  · simp [exprK, evalMonetary, hk]

theorem cSource_account_ok {ds : Decls} {env : Env} (henv : EnvTyped ds env) (C : CS → Prop) (hC : Stable C)
    {pushAsset : Act} {asset : String} (hpa : Sim ds env C pushAsset T (pushK (.asset asset)))
    {e : Expr} {od : Overdraft} (hwt : (Source.account e od).WT ds)
    {cs cs' : CS} {accs : List Nat} {fb : Option Nat} (hg : Good ds cs) (hc : C cs)
    (h : cSource pushAsset (.account e od) cs = .ok ((accs, fb), cs')) :
    SrcCode ds env asset (.account e od) cs cs' fb := by
  obtain ⟨hte, htx⟩ := hwt
  obtain ⟨a, hev, hacc⟩ := evalAccount_of_typed henv hte
  simp only [cSource] at h
  split at h
  · cases h
  · cases h
  · rename_i t acc cs1 hce
    obtain ⟨_, c0⟩ := cExpr_ok henv e hce hte hg
    have e0 : Emit ds env cs cs1 (pushK (.account a)) := c0.emit.congr fun stk st => by simp [exprK, hev, pushK]
    have g1 := e0.good
    have c1 : C cs1 := e0.stable hC hc
    have hworld := cExpr_world hg hte hce
    have haddr : AddrVal env acc (.account a) cs1 := by
      obtain ⟨v, hv, hav⟩ := c0.addr acc rfl
      rw [(atom_of_type hte (by simp) (by simp)).leftmost, hev] at hv
      cases hv; exact hav
    cases od with
    | none =>
      dsimp only at h
      rw [hworld] at h
      split at h
      · cases h
      · rename_i cs2 hseq
        cases h
        by_cases hw : e.isWorld = true
        · simp only [hw, if_true] at hseq ⊢
          have e1 := (Sim.seq hC hpa (Sim.seq hC (sim_pushInteger ds env C 0)
            (Sim.seq hC (sim_emitOp ds env C OP_MONETARY_NEW)
            (Sim.single hC (sim_emitOp ds env C OP_TAKE_ALWAYS))))).emit g1 c1 hseq
          refine ⟨(e0.trans e1).congr fun stk st => ?_, ?_⟩
          · simp [Kl.comp, pushK, opK_MONETARY_NEW, opK_TAKE_ALWAYS, needAmt, srcK, evalSource, hacc, hw]
          · simp only [Source.fallback, hw, if_true, FbOK]
            exact ⟨a, hacc, e1.stable (AddrVal.stable env acc _) haddr⟩
        · have hw' : e.isWorld = false := by simpa using hw
          simp only [hw', Bool.false_eq_true, if_false] at hseq ⊢
          have e1 := (Sim.seq hC hpa (Sim.seq hC (sim_pushInteger ds env C 0)
            (Sim.seq hC (sim_emitOp ds env C OP_MONETARY_NEW)
            (Sim.single hC (sim_emitOp ds env C OP_TAKE_ALL))))).emit g1 c1 hseq
          refine ⟨(e0.trans e1).congr fun stk st => ?_, by simp [Source.fallback, hw', FbOK]⟩
          simp only [Kl.comp, pushK, opK_MONETARY_NEW, opK_TAKE_ALL, srcK, evalSource, hacc, hw',
            Bool.false_eq_true, if_false]
          cases withdrawAll st.bal a asset (some 0) <;> rfl
    | upTo x =>
      dsimp only at h
      split at h
      · cases h
      · rename_i cs2 hseq
        cases h
        have htx' := htx x rfl
        have e1 := (Sim.seq hC (sim_pushExpr henv C htx')
          (Sim.seq hC hpa (Sim.seq hC (sim_pushInteger ds env C 0)
          (Sim.seq hC (sim_emitOp ds env C OP_MONETARY_NEW)
          (Sim.seq hC (sim_emitOp ds env C OP_MONETARY_ADD)
          (Sim.single hC (sim_emitOp ds env C OP_TAKE_ALL))))))).emit g1 c1 hseq
        refine ⟨(e0.trans e1).congr fun stk st => ?_, by simp [Source.fallback, FbOK]⟩
        simp only [Kl.comp, pushK, exprK_monetary henv htx', srcK, evalSource, hacc]
        cases evalMonetary env x with
        | error err => rfl
        | ok m =>
          obtain ⟨oa, ov⟩ := m
          simp only [opK_MONETARY_NEW, opK_MONETARY_ADD, checkOverdraft, Cfg.fixed, if_true]
          by_cases hoa : oa = asset
          · simp only [hoa, ne_eq, not_true_eq_false, if_false, opK_TAKE_ALL]
            cases withdrawAll st.bal a asset (some (nilAsZero ov + nilAsZero (some 0))) <;> rfl
          · simp [hoa]
    | unbounded =>
      dsimp only at h
      split at h
      · cases h
      · rename_i cs2 hseq
        cases h
        have e1 := (Sim.seq hC hpa (Sim.seq hC (sim_pushInteger ds env C 0)
          (Sim.seq hC (sim_emitOp ds env C OP_MONETARY_NEW)
          (Sim.single hC (sim_emitOp ds env C OP_TAKE_ALWAYS))))).emit g1 c1 hseq
        refine ⟨(e0.trans e1).congr fun stk st => ?_, ?_⟩
        · simp [Kl.comp, pushK, opK_MONETARY_NEW, opK_TAKE_ALWAYS, needAmt, srcK, evalSource, hacc]
        · simp only [Source.fallback, FbOK]
          exact ⟨a, hacc, e1.stable (AddrVal.stable env acc _) haddr⟩

theorem sim_setNeeded (ds : Decls) (env : Env) (C : CS → Prop) (accs : List Nat) (addr : Nat) :
    Sim ds env C (setNeeded accs addr) T Kl.id :=
  .of_emit fun _ _ hg _ ha => by
    cases ha; exact .of_code (seg := []) hg (by simp) rfl rfl fun _ _ _ _ _ _ => rfl

theorem popFundings_all (asset : String) : (fs : List Funding) → (rest : Stack) →
    popFundings asset fs.length (fs.map SVal.funding ++ rest) =
      if fs.all (fun f => f.asset = asset) then .ok (fs, rest) else .error (.run "exec" "assemble-asset")
  | [], rest => by simp [popFundings]
  | f :: fs, rest => by
    simp only [List.length_cons, List.map_cons, List.cons_append, popFundings, popFundings_all asset fs rest]
    by_cases h1 : f.asset = asset
    · by_cases h2 : (fs.all fun f => decide (f.asset = asset)) = true
      · simp [h1, h2]
      · simp only [Bool.not_eq_true] at h2
        simp [h1, h2]
    · simp [h1]

theorem concatAll_nil : concatAll [] = [] := rfl

theorem opK_ASSEMBLE (fs : List Funding) (rest : Stack) (st : State) :
    opK OP_FUNDING_ASSEMBLE (.val (.number fs.length) :: (fs.reverse.map SVal.funding ++ rest)) st =
      match assemble fs with
      | .error e => .error e
      | .ok f => .ok (.funding f :: rest, st) := by
  rcases List.eq_nil_or_concat fs with rfl | ⟨init, l, rfl⟩
  · rfl
  · have hlen : ((init ++ [l]).length : Int).toNat - 1 = init.reverse.length := by simp
    have hne : ¬ ((init ++ [l]).length : Int).toNat = 0 := by simp
    simp only [List.concat_eq_append, List.reverse_append, List.reverse_cons, List.reverse_nil, List.nil_append,
      List.map_cons, List.cons_append]
    rw [opK_ASSEMBLE_pop, if_neg hne, hlen, popFundings_all]
    simp only [assemble, List.getLast?_append, List.getLast?_singleton, Option.some_or, List.all_reverse,
      List.all_append, List.all_cons, List.all_nil, decide_true, Bool.and_true]
    by_cases h : (init.all fun f => decide (f.asset = l.asset)) = true
    · simp [h]
    · simp only [Bool.not_eq_true] at h
      simp [h]

theorem seqA_nest (as bs : List Act) : seqA (as ++ [seqA bs]) = seqA (as ++ bs) := by
  funext cs
  rw [seqA_append, seqA_append]
  cases seqA as cs with
  | error e => rfl
  | ok cs1 =>
    simp only [seqA]
    cases seqA bs cs1 <;> rfl

/-- `[monetary, funding, …] ↦ [funding', …]` by `takeMaxStep`. -/
def maxK (env : Env) (fb : Option Expr) : Kl := fun stk st =>
  match stk with
  | .val (.monetary a v) :: .funding F :: rest =>
    match takeMaxStep env fb F (a, v) st.bal with
    | .error e => .error e
    | .ok (r, b) => .ok (.funding r :: rest, { st with bal := b })
  | _ => .error (.fault "stack")

/-- The code after the amount of a `max` source.  With a fallback it is the code of `TakeFromSource`, the last
    five instructions as one step. -/
theorem max_runs {ds : Decls} {env : Env} (henv : EnvTyped ds env) (fbE : Option Expr)
    (hfe : ∀ e, fbE = some e → typeExpr ds e = .ok .account) :
    ∃ g, (∀ fb, Sim ds env (FbOK env fb fbE) (seqA [emitOp OP_TAKE_MAX, bump 1, emitOp OP_REPAY,
        match fb with
        | some f => seqA [emitPush f, bump 2, emitOp OP_TAKE_ALWAYS, pushInteger 2, emitOp OP_FUNDING_ASSEMBLE]
        | none => seqA [bump 1, emitOp OP_DELETE]]) T g) ∧
      ∀ stk st, MonFunding stk → g stk st = maxK env fbE stk st := by
  cases fbE with
  | none =>
    have hC := FbOK.stable env none none
    have hs := Sim.seq hC (sim_emitOp ds env _ OP_TAKE_MAX) (Sim.seq hC (sim_bump ds env _ hC 1)
      (Sim.seq hC (sim_emitOp ds env _ OP_REPAY)
      (Sim.single hC (Sim.seq hC (sim_bump ds env _ hC 1) (Sim.single hC (sim_emitOp ds env _ OP_DELETE))))))
    refine ⟨_, fun fb => match fb with
      | none => hs
      | some a => ⟨fun cs cs' _ hc _ => by simp [FbOK] at hc⟩, ?_⟩
    · rintro _ st ⟨c, v, F, rest, rfl⟩
      simp only [Kl.comp, opK_TAKE_MAX, maxK, takeMaxStep]
      cases needAmt v with
      | error e => rfl
      | ok amt =>
        simp only
        by_cases hneg : amt < 0
        · simp [hneg]
        · by_cases hfa : F.asset = c
          · simp [hneg, hfa, bumpK_one, opK_REPAY, opK_DELETE_val]
          · simp [hneg, hfa]
  | some e =>
    obtain ⟨g, eT, rT⟩ := take_runs henv (some e) hfe
    refine ⟨g, fun fb => ?_, rT⟩
    cases fb with
    | none => exact ⟨fun cs cs' _ hc _ => by simp [FbOK] at hc⟩
    | some a =>
      have h : Sim ds env _ (seqA ([emitOp OP_TAKE_MAX, bump 1, emitOp OP_REPAY] ++
        [emitPush a, bump 2, emitOp OP_TAKE_ALWAYS, pushInteger 2, emitOp OP_FUNDING_ASSEMBLE])) T g := eT (some a)
      rwa [← seqA_nest] at h

theorem maxK_post {env : Env} {fbE : Option Expr} {stk s1 : Stack} {st t1 : State}
    (h : maxK env fbE stk st = .ok (s1, t1)) : FundingTop s1 := by
  unfold maxK at h
  split at h
  · split at h
    · cases h
    · cases h; exact ⟨_, _, rfl⟩
  · cases h

/-- Stack effect of a source list: one funding per source, the last on top. -/
def srcsK (env : Env) (asset : String) (ss : SourceList) : Kl := fun stk st =>
  match evalSources Cfg.fixed env asset ss st.bal with
  | .error e => .error e
  | .ok (fs, b) => .ok (fs.reverse.map SVal.funding ++ stk, { st with bal := b })

def SrcsCode (ds : Decls) (env : Env) (asset : String) (ss : SourceList) (cs cs' : CS) (fb : Option Nat) : Prop :=
  ∃ seg, Ext cs cs' seg ∧ Good ds cs' ∧ FbOK env fb ss.fallback cs' ∧
    ∀ R resv, Final cs' R → Resolved env R resv → ∀ stk st, runSeg resv seg stk st = srcsK env asset ss stk st

theorem evalSources_length (cfg : Cfg) (env : Env) (asset : String) (ss : SourceList) (b : Balances)
    (fs : List Funding) (b' : Balances) (h : evalSources cfg env asset ss b = .ok (fs, b')) : fs.length = ss.length :=
  evalSources_rules (S := fun _ _ _ _ => True) (L := fun ss _ fs _ => fs.length = ss.length)
    ⟨fun _ _ => trivial, fun _ _ => trivial, fun _ _ _ _ => trivial, fun _ _ _ => trivial, fun _ _ => trivial, rfl,
      fun _ h => by simp [SourceList.length, h]⟩ ss h

theorem SrcsCode.emit {ds : Decls} {env : Env} {asset : String} {ss : SourceList} {cs cs' : CS} {fb : Option Nat}
    (h : SrcsCode ds env asset ss cs cs' fb) :
    Emit ds env cs cs' (srcsK env asset ss) ∧ FbOK env fb ss.fallback cs' :=
  let ⟨seg, e, g, f, r⟩ := h; ⟨⟨seg, e, g, r⟩, f⟩

theorem SrcsCode.of_emit {ds : Decls} {env : Env} {asset : String} {ss : SourceList} {cs cs' : CS} {fb : Option Nat}
    (h : Emit ds env cs cs' (srcsK env asset ss)) (hf : FbOK env fb ss.fallback cs') :
    SrcsCode ds env asset ss cs cs' fb :=
  let ⟨seg, e, g, r⟩ := h; ⟨seg, e, g, hf, r⟩

mutual
  theorem cSource_gen {ds : Decls} {env : Env} (henv : EnvTyped ds env) (C : CS → Prop) (hC : Stable C)
      {pushAsset : Act} {asset : String} (hpa : Sim ds env C pushAsset T (pushK (.asset asset))) :
      (s : Source) → s.WT ds → ∀ (cs cs' : CS) (accs : List Nat) (fb : Option Nat), Good ds cs → C cs →
      cSource pushAsset s cs = .ok ((accs, fb), cs') → SrcCode ds env asset s cs cs' fb
    | .account e od, hwt, cs, cs', accs, fb, hg, hc, h => cSource_account_ok henv C hC hpa hwt hg hc h
    | .maxed m s, ⟨hs, htm⟩, cs, cs', accs, fb, hg, hc, h => by
      simp only [cSource] at h
      split at h
      · cases h
      · rename_i accs0 subfb cs1 hsub
        obtain ⟨e1, hfb⟩ := cSource_gen henv C hC hpa s hs cs cs1 accs0 subfb hg hc hsub
        obtain ⟨gM, eM, rM⟩ := max_runs henv s.fallback (fallback_typed s hs)
        split at h
        · cases h
        · rename_i cs2 hseq
          cases h
          have hC' : Stable fun x => C x ∧ FbOK env subfb s.fallback x := hC.and (FbOK.stable env subfb s.fallback)
          have e2 := (Sim.seq hC' (sim_pushExpr henv _ htm) ((eM subfb).strengthen fun _ h => h.2)).emit e1.good
            ⟨e1.stable hC hc, hfb⟩ hseq
          refine ⟨(e1.trans e2).congr fun stk st => ?_, by simp [Source.fallback, FbOK]⟩
          simp only [Kl.comp, srcK, evalSource]
          cases evalSource Cfg.fixed env asset s st.bal with
          | error err => rfl
          | ok p =>
            simp only [exprK_monetary henv htm]
            cases evalMonetary env m with
            | error err => rfl
            | ok mon => simp only [rM _ _ ⟨_, _, _, _, rfl⟩, maxK]
    | .inorder ss, hwt, cs, cs', accs, fb, hg, hc, h => by
      simp only [cSource] at h
      split at h
      · cases h
      · rename_i accs0 fb0 cs1 hsub
        obtain ⟨e1, hfb⟩ := (cSourceL_gen henv C hC hpa ss hwt cs cs1 accs0 fb0 hg hc hsub).emit
        split at h
        · cases h
        · rename_i cs2 hseq
          cases h
          have hT : Stable (fun _ : CS => True) := Stable.true
          have e2 := (Sim.seq hT (sim_pushInteger ds env _ ss.length)
            (Sim.single hT (sim_emitOp ds env _ OP_FUNDING_ASSEMBLE))).emit e1.good trivial hseq
          refine ⟨(e1.trans e2).congr fun stk st => ?_, e2.stable (FbOK.stable env _ _) hfb⟩
          simp only [Kl.comp, srcsK, srcK, evalSource]
          cases hes : evalSources Cfg.fixed env asset ss st.bal with
          | error err => rfl
          | ok p =>
            have hl := evalSources_length Cfg.fixed env asset ss st.bal p.1 p.2 hes
            simp only [pushK, ← hl, opK_ASSEMBLE]
            cases assemble p.1 <;> rfl
  theorem cSourceL_gen {ds : Decls} {env : Env} (henv : EnvTyped ds env) (C : CS → Prop) (hC : Stable C)
      {pushAsset : Act} {asset : String} (hpa : Sim ds env C pushAsset T (pushK (.asset asset))) :
      (ss : SourceList) → ss.WT ds → ∀ (cs cs' : CS) (accs : List Nat) (fb : Option Nat), Good ds cs → C cs →
      cSources pushAsset ss cs = .ok ((accs, fb), cs') → SrcsCode ds env asset ss cs cs' fb
    | .nil, _, cs, cs', accs, fb, hg, hc, h => by
      simp only [cSources] at h; cases h
      exact .of_emit ((Emit.refl hg).congr fun stk st => by simp [Kl.id, srcsK, evalSources])
        (by simp [SourceList.fallback, FbOK])
    | .cons s rest, ⟨hs, hrest⟩, cs, cs', accs, fb, hg, hc, h => by
      simp only [cSources] at h
      split at h
      · cases h
      · rename_i a1 f1 cs1 hsub
        obtain ⟨e1, hfb⟩ := cSource_gen henv C hC hpa s hs cs cs1 a1 f1 hg hc hsub
        cases rest with
        | nil =>
          simp only at h; cases h
          refine .of_emit (e1.congr fun stk st => ?_) (by simpa [SourceList.fallback] using hfb)
          simp only [srcK, srcsK, evalSources]
          cases evalSource Cfg.fixed env asset s st.bal <;> rfl
        | cons s2 rest2 =>
          simp only at h
          split at h
          · cases h
          · rename_i a2 f2 cs2 hsub2
            cases h
            obtain ⟨e2, hfb2⟩ := (cSourceL_gen henv C hC hpa (.cons s2 rest2) hrest cs1 _ a2 _
              e1.good (e1.stable hC hc) hsub2).emit
            refine .of_emit ((e1.trans e2).congr fun stk st => ?_) (by simpa [SourceList.fallback] using hfb2)
            simp only [Kl.comp, srcK, srcsK]
            rw [evalSources]
            cases evalSource Cfg.fixed env asset s st.bal with
            | error err => rfl
            | ok p =>
              simp only
              cases evalSources Cfg.fixed env asset (.cons s2 rest2) p.2 with
              | error err => rfl
              | ok q => simp
end

theorem cSources_gen {ds : Decls} {env : Env} (henv : EnvTyped ds env) (C : CS → Prop) (hC : Stable C)
    {pushAsset : Act} {asset : String} (hpa : Sim ds env C pushAsset T (pushK (.asset asset))) :
    (ss : SourceList) → ∀ (isAll : Bool) (em : List String) (rc : List String × Bool) (cs cs' : CS)
      (accs : List Nat) (fb : Option Nat),
    checkSources ds isAll ss em = .ok rc → Good ds cs → C cs →
    cSources pushAsset ss cs = .ok ((accs, fb), cs') → SrcsCode ds env asset ss cs cs' fb :=
  fun ss _ _ _ cs cs' accs fb hchk => cSourceL_gen henv C hC hpa ss (checkSources_wt ss hchk) cs cs' accs fb

end Ledger.Machine
