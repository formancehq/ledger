import Ledger.Proofs.ListBasic
import Ledger.Ctrl.SpecLink
import Ledger.Proofs.CoreStore
import Ledger.Proofs.CoreAccounts
import Ledger.Proofs.CtrlStep

/-!
The controller's store contract against the abstract reference store
(`Ledger/Spec/Store.lean`) on the shared tables (`abs`).  Two calls are the Spec's
operations there: `CommitTransaction` is `Spec.applyTx` (`commit_refines`) and
`GetBalances` is `Spec.lockBalances` (`lock_refines`); the reverted mark is
`Spec.markReverted` (`revert_refines`).  What is proved call by call is
that every successful call of the write path keeps the Spec-level invariant `StoreInv`
of the abstracted tables (`exec_storeInv`: through the two refinements, and for the other
calls because they leave volumes, postings and post-commit volumes alone); hence
`StoreInv` (C01 conservation, C02 volumes = fold, C03 post-commit volumes = state after)
holds in every state the controller model reaches (`storeInv_stable`).
-/
namespace Ledger.Ctrl
open Ledger.Base Ledger.Core

theorem addVolumes_eq (v : PCV) (hw : Map.WF v) (e : Key × Volumes) :
    addVolumes v e = v.insertWith Volumes.add e.1 e.2 := by
  unfold addVolumes Map.insert
  refine Map.ext_of_WF (Map.WF_insertWith _ _ _ hw) (Map.WF_insertWith _ _ _ hw) fun k => ?_
  rw [Map.get?_insertWith _ _ _ hw, Map.get?_insertWith _ _ _ hw]
  unfold volOf
  cases v.get? e.1 <;> simp only [Volumes.zero_add]

theorem fold_addVolumes_eq_upsertAll (ups v : PCV) (hw : Map.WF v) :
    ups.foldl addVolumes v = Spec.upsertAll v ups := by
  induction ups generalizing v with
  | nil => rfl
  | cons e r ih =>
    simp only [List.foldl_cons]
    rw [addVolumes_eq v hw e]
    exact ih _ (Map.WF_insertWith _ _ _ hw)

/-- The `RETURNING` rows (post-commit volumes of the transaction) are the Spec's. -/
theorem updateVolumes_eq_upsertVolumes (ups v : PCV) (hw : Map.WF v) (hu : Map.WF ups) :
    updateVolumes ups v = ((Spec.upsertVolumes v ups).2, (Spec.upsertVolumes v ups).1) := by
  unfold updateVolumes
  simp only [fold_addVolumes_eq_upsertAll ups v hw, Spec.upsertVolumes_fst, Spec.upsertVolumes_snd, Prod.mk.injEq, and_true]
  unfold Map.mapVal
  apply List.map_congr_left
  intro e he
  have hg := Spec.get?_upsertAll hw (Map.keys_nodup hu) e.1
  rw [Map.get?_of_mem hu he] at hg
  simp only [volOf, hg]

theorem applyTx_noAccounts_ok (st : Spec.Store) (t : Spec.TxIn) (hup : t.upsertAccounts = false) :
    ∃ moves', Spec.applyTx st t = .ok
      { accountsVolumes := (Spec.upsertVolumes st.accountsVolumes (volumeUpdates t.postings)).1
        txs := st.txs ++ [{ tx := { id := st.nextTxId, postings := t.postings, timestamp := t.timestamp,
                                    insertedAt := t.insertedAt, reference := t.reference,
                                    metadata := t.metadata },
                            pcv := (Spec.upsertVolumes st.accountsVolumes (volumeUpdates t.postings)).2 }]
        moves := moves', accounts := st.accounts, nextTxId := st.nextTxId + 1,
        nextSeq := st.nextSeq + (fwdMoves (Spec.preVolumes st.accountsVolumes (volumeUpdates t.postings)) t.postings).length } := by
  unfold Spec.applyTx
  simp only [Spec.movesOf_returned, hup, Bool.false_eq_true, ↓reduceIte]
  exact ⟨_, rfl⟩

/-- **`CommitTransaction` of the controller's store contract is `Spec.applyTx`** on the
    shared tables (`accounts_volumes`, `transactions` with their post-commit volumes,
    `accounts` untouched, next id), for the commits the write path issues (id from the
    sequence, not yet reverted). -/
theorem commit_refines (now : Time) (t : TxIn) (ht : t.id = none) (htr : t.revertedAt = none)
    (d : Db) (sq sq' : Seqs) (row : Tx) (d' : Db) (hw : Map.WF d.volumes)
    (h : commitTransaction now t d sq = (sq', .ok (row, d'))) :
    ∃ st', Spec.applyTx (abs ⟨d, sq⟩) (specTxIn now t) = .ok st' ∧
      st'.accountsVolumes = (abs ⟨d', sq'⟩).accountsVolumes ∧ st'.txs = (abs ⟨d', sq'⟩).txs ∧
      st'.accounts = (abs ⟨d', sq'⟩).accounts ∧ st'.nextTxId = (abs ⟨d', sq'⟩).nextTxId := by
  obtain ⟨mv, hok⟩ := applyTx_noAccounts_ok (abs ⟨d, sq⟩) (specTxIn now t) rfl
  obtain ⟨_, rfl, hrow, _, _, hsq⟩ := commitTransaction_cases h
  obtain ⟨hid, rfl⟩ := hsq ht
  have hu := updateVolumes_eq_upsertVolumes (volumeUpdates t.postings) d.volumes hw (WF_volumeUpdates _)
  refine ⟨_, hok, (congrArg Prod.snd hu).symm, ?_, rfl, rfl⟩
  simp only [abs, specTxIn, List.map_append, List.map_cons, List.map_nil]
  rw [hrow]
  simp only [absTx, hid, htr, congrArg Prod.fst hu]
  rfl

theorem lockZero_eq_insertWith (v : PCV) (hw : Map.WF v) (k : Key) :
    lockZero v k = v.insertWith (fun old _ => old) k Volumes.zero := by
  unfold lockZero
  cases hk : v.get? k with
  | some x => exact (Map.insertWith_keep hw k _ (by rw [Map.contains, hk]; rfl)).symm
  | none => exact Map.insertWith_absent hw _ _ k _ (by rw [Map.contains, hk]; rfl)

theorem fold_lockZero_eq_lockAll (q : List Key) (v : PCV) (hw : Map.WF v) :
    q.foldl lockZero v = Spec.lockAll v q := by
  induction q generalizing v with
  | nil => rfl
  | cons k r ih =>
    simp only [List.foldl_cons, Spec.lockAll]
    rw [lockZero_eq_insertWith v hw k]
    exact ih _ (Map.WF_insertWith _ _ _ hw)

/-- **`GetBalances` is `Spec.lockBalances`** (the whole store). -/
theorem lock_refines (q : List Key) (d : Db) (sq : Seqs) (hw : Map.WF d.volumes) :
    abs ⟨(getBalances q d).2, sq⟩ = Spec.lockBalances (abs ⟨d, sq⟩) q := by
  unfold getBalances Spec.lockBalances abs
  simp only [fold_lockZero_eq_lockAll q d.volumes hw]
  rfl

/-- **The reverted mark of `RevertTransaction` is `Spec.markReverted`** (the whole store), on tables
    with distinct transaction ids: the one row with the id gets the mark. -/
theorem revert_refines {now : Time} {id : Nat} {at_ : Option Time} {d : Db} {sq : Seqs} {t' : Tx} {d' : Db}
    (hs : d.txs.Pairwise (fun a b => a.id < b.id))
    (h : revertTransaction now id at_ d = .ok ((t', true), d')) :
    abs ⟨d', sq⟩ = Spec.markReverted (abs ⟨d, sq⟩) id (at_.getD now) := by
  unfold revertTransaction at h
  cases hf : d.findTx id with
  | none => simp only [hf] at h; cases h
  | some t =>
    simp only [hf] at h
    cases hr : t.revertedAt with
    | some w => simp only [hr, Except.ok.injEq, Prod.mk.injEq, Bool.false_eq_true, and_false, false_and] at h
    | none =>
      simp only [hr, Except.ok.injEq, Prod.mk.injEq] at h
      obtain ⟨_, rfl⟩ := h
      have htm : t ∈ d.txs := List.mem_of_find?_eq_some hf
      unfold abs Spec.markReverted Db.modifyTx
      simp only [List.map_map]
      congr 1
      apply List.map_congr_left
      intro x hx
      simp only [Function.comp]
      by_cases hxid : x.id = id
      · have hxt : x = t := by
          have hid : x.id = t.id := hxid.trans (findTx_id hf).symm
          rcases pairwise_tri hs hx htm with e | r | r
          · exact e
          · exact absurd hid (Nat.ne_of_lt r)
          · exact absurd hid (Nat.ne_of_gt r)
        subst hxt
        simp only [hxid, ↓reduceIte, absTx, hr, and_self]
        cases at_ <;> rfl
      · simp only [hxid, ↓reduceIte, absTx, false_and]

theorem StoreInv_abs_modifyTx (d : Db) (sq : Seqs) (id : Nat) (g : Tx → Tx)
    (hg : ∀ x, (g x).postings = x.postings ∧ (g x).pcv = x.pcv) (inv : Spec.StoreInv (abs ⟨d, sq⟩)) :
    Spec.StoreInv (abs ⟨d.modifyTx id g, sq⟩) := by
  refine Spec.StoreInv_congr (st2 := abs ⟨d.modifyTx id g, sq⟩) inv rfl ?_
  simp only [abs, Db.modifyTx, List.map_map]
  apply List.map_congr_left
  intro x _
  simp only [Function.comp, absTx]
  split
  · rw [(hg x).1, (hg x).2]
  · rfl

theorem StoreInv_abs_of_eq {d d' : Db} {sq sq' : Seqs} (hv : d'.volumes = d.volumes) (ht : d'.txs = d.txs)
    (inv : Spec.StoreInv (abs ⟨d, sq⟩)) : Spec.StoreInv (abs ⟨d', sq'⟩) :=
  Spec.StoreInv_congr (st2 := abs ⟨d', sq'⟩) inv hv (by simp only [abs, ht])

theorem exec_storeInv {now : Time} {c : Call} {d : Db} {sq sq' : Seqs} {r : c.Ret} {d' : Db} (hc : c.Fresh)
    (h : exec now c d sq = (sq', .ok (r, d'))) (inv : Spec.StoreInv (abs ⟨d, sq⟩)) :
    Spec.StoreInv (abs ⟨d', sq'⟩) := by
  rcases exec_ok_cases h with ⟨t, row, rfl, hct⟩ | ⟨l, row, _, hil⟩ | ⟨rfl, hu⟩
  · obtain ⟨st', hok, hav, htx, _, _⟩ := commit_refines now t hc.1 hc.2 d sq sq' row d' inv.wf hct
    exact Spec.StoreInv_congr (st2 := abs ⟨d', sq'⟩) (Spec.StoreInv_applyTx inv _ hok) hav.symm (by rw [htx])
  · rw [(insertLog_cases hil).2.1]
    exact StoreInv_abs_of_eq rfl rfl inv
  · cases hu with
    | lock q =>
      rw [show ({ d with volumes := q.foldl lockZero d.volumes } : Db) = (getBalances q d).2 from rfl,
        lock_refines q d sq' inv.wf]
      exact Spec.StoreInv_lock inv q
    | modifyTx id g hg =>
      exact StoreInv_abs_modifyTx d sq' id g (fun x => ⟨by rw [hg x], by rw [hg x]⟩) inv
    | _ => exact StoreInv_abs_of_eq (d := d) rfl rfl inv

/-- Every write operation (`Stable.forgeLog`) and every history (`Stable.runHist`) keeps the
    Spec invariant of the abstracted tables. -/
theorem storeInv_stable (strict : Bool) : Stable strict fun d sq => Spec.StoreInv (abs ⟨d, sq⟩) :=
  .of_calls (fun _ h => StoreInv_abs_of_eq rfl rfl h) exec_storeInv

theorem StoreInv_abs_empty : Spec.StoreInv (abs {}) := Spec.StoreInv_empty

end Ledger.Ctrl
