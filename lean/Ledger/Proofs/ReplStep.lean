import Ledger.Repl.Spec

/-! The transitions of `Ledger.Repl.step` as an inductive relation `Step`, so that every invariant
is a case analysis over its constructors instead of over the nested matches of `step`; `Cont`, the
ending several of them share: the handler goes on, or its goroutine returns; and what the small
state updates leave alone. -/
namespace Ledger.Repl

/-- the label under which the manager operation waiting in `pending` was issued -/
def Op.label : Op → Label
  | .stop => .stop
  | .reset => .reset
  | .mgrStop => .mgrStop

/-- What a call of `atSelect`, `afterSend`, `requestStop` or `exportDone` comes to. The handler, about to go on
    as `h'`, looks at the stop signal: it goes on (an unnoticed signal stays with it only inside `ListLogs` and in
    the channel send), or, the signal being there, its goroutine returns. -/
inductive Cont (c : Cfg) (s : State) (h' : Handler) : State → Prop
  | on : (h'.stopReq = true → h'.pc = .atFetch ∨ ∃ m, h'.pc = .sending m) → Cont c s h' { s with handler := some h' }
  | exit : h'.stopReq = true → Cont c s h' (exitHandler c s)

theorem Cont.run {c : Cfg} {s s' : State} {h' : Handler} (k : Cont c s h' s') (hns : h'.stopReq = false) :
    s' = { s with handler := some h' } := by
  cases k with
  | on => rfl
  | exit e => cases hns.symm.trans e

theorem atSelect_cont {c : Cfg} {s : State} {h : Handler} {next : Pc} :
    Cont c s { h with pc := next } (atSelect c s h next) := by
  unfold atSelect
  split
  · exact .exit ‹_›
  · exact .on fun e => absurd e ‹_›

theorem afterSend_cont {c : Cfg} {s : State} {h : Handler} {more coin : Bool} :
    ∃ pc z, (pc = .atFetch ∨ pc = .idle) ∧ Cont c s { h with pc := pc, zero := z } (afterSend c s h more coin) := by
  unfold afterSend
  split
  · refine ⟨.atFetch, true, .inl rfl, ?_⟩
    split
    · exact .exit (by simp_all)
    · exact .on fun _ => .inl rfl
  · exact ⟨.idle, false, .inr rfl, atSelect_cont (h := { h with zero := false })⟩

theorem requestStop_cont {c : Cfg} {s : State} {h : Handler} :
    Cont c s { h with stopReq := true } (requestStop c s h) := by
  unfold requestStop
  split
  · exact .on fun _ => .inl ‹_›
  · exact .on fun _ => .inr ⟨_, ‹_›⟩
  · exact .exit rfl

/-- after the last chunk the cursor is at the end of the page, and the persister has it or is still busy -/
theorem exportDone_cont {c : Cfg} {s : State} {h : Handler} {hi : Nat} {more : Bool} :
    ∃ pc z cur', (pc = .atFetch ∨ pc = .idle ∨ pc = .sending more) ∧ (cur' = some hi ∨ cur' = s.cur) ∧ cur' ≠ none ∧
      Cont c { ack s hi with cur := cur' } { h with last := hi, pc := pc, zero := z } (exportDone c s h hi more) := by
  unfold exportDone
  split
  · obtain ⟨pc, z, hpc, k⟩ := afterSend_cont (c := c) (s := { ack s hi with cur := some hi })
      (h := { h with last := hi }) (more := more) (coin := true)
    exact ⟨pc, z, some hi, hpc.imp_right .inl, .inl rfl, nofun, k⟩
  · rename_i v hc
    exact ⟨_, h.zero, some v, .inr (.inr rfl), .inr hc.symm, nofun, hc ▸ .on fun _ => .inr ⟨_, rfl⟩⟩

/-- What `step c s l` can return. Slightly more permissive than `step` where the
    invariants do not care: a fetched page is any `(h.last, hi]` of existing logs of at
    most a page size, a timer in `idle`/`fetchErr` leads to either of the two, a
    `StorePipelineState` writes its value or nothing. `skip`, `restart` and `halt` carry
    their labels as hypotheses, so that `cases` on a `Step` with a concrete label works.
    Every post-state is a record over `s`, a `startHandler`, or a `Cont` of such a record. -/
inductive Step (c : Cfg) (s : State) : Label → State → Prop
  | skip {l} : l ∈ [Label.start, .stop, .reset, .sync, .tick] → Step c s l s
  | append n : Step c s (.append n) { s with nLogs := s.nLogs + n }
  | create : opsOpen s = true → s.created = false →
      Step c s .create (startHandler { s with created := true, persisted := 0 } 0)
  | restart {l} : l = .start ∨ l = .sync → opsOpen s = true → s.created = true → s.handler = none →
      Step c s l (startHandler s s.persisted)
  | halt {h l s'} (op : Op) : l = op.label → opsOpen s = true → (op = .reset → c.allowReset = true) →
      s.handler = some h → Cont c { s with pending := some op } { h with stopReq := true } s' → Step c s l s'
  | resetIdle : c.allowReset = true → s.handler = none → Step c s .reset (resetRow s)
  | mgrStopIdle : s.handler = none → Step c s .mgrStop { s with mgrUp := false }
  | mgrStartRun : s.mgrUp = false → s.pending = none → s.created = true →
      Step c s .mgrStart (startHandler { s with mgrUp := true } s.persisted)
  | mgrStartIdle : s.mgrUp = false → s.created = false → Step c s .mgrStart { s with mgrUp := true }
  | fetchPage {h hi s'} more : s.handler = some h → h.pc = .atFetch → h.last < hi → hi ≤ s.nLogs →
      hi ≤ h.last + c.ps → Cont c s { h with pc := enterExport c h.last hi more } s' → Step c s (.fetch true) s'
  | fetchNone {h next s'} ok z : s.handler = some h → h.pc = .atFetch → next = .idle ∨ next = .fetchErr →
      Cont c s { h with zero := z, pc := next } s' → Step c s (.fetch ok) s'
  | acceptChunk {h lo hi more pos bad} r : s.handler = some h → h.pc = .exporting lo hi more pos bad true →
      chunkEnd c pos hi < hi →
      Step c s (.accept r) { exporterCall s pos (chunkEnd c pos hi) r with
        handler := some { h with pc := .exporting lo hi more (chunkEnd c pos hi) (bad || !r.isOk)
                                      (chunkFull c (chunkEnd c pos hi) hi) } }
  | acceptFailed {h lo hi more pos bad s'} r : s.handler = some h → h.pc = .exporting lo hi more pos bad true →
      Cont c (exporterCall s pos (chunkEnd c pos hi) r) { h with pc := .retry lo hi more } s' → Step c s (.accept r) s'
  | acceptDone {h lo hi more pos pc z cur' s'} : s.handler = some h → h.pc = .exporting lo hi more pos false true →
      hi ≤ chunkEnd c pos hi → pc = .atFetch ∨ pc = .idle ∨ pc = .sending more → cur' = some hi ∨ cur' = s.cur →
      cur' ≠ none →
      Cont c { ack (exporterCall s pos (chunkEnd c pos hi) .ok) hi with cur := cur' }
        { h with last := hi, pc := pc, zero := z } s' → Step c s (.accept .ok) s'
  | persistOrphan {i p} ok coin (hi : i < s.orphans.length) : p = s.orphans[i] ∨ p = s.persisted →
      Step c s (.persist i ok coin) { s with orphans := s.orphans.eraseIdx i, persisted := p }
  | persistCur {v p} ok coin : s.cur = some v → (∀ h m, s.handler = some h → h.pc ≠ .sending m) →
      p = v ∨ p = s.persisted → Step c s (.persist s.orphans.length ok coin) { s with cur := none, persisted := p }
  | persistSend {v p h more pc z s'} ok coin : s.cur = some v → s.handler = some h → h.pc = .sending more →
      p = v ∨ p = s.persisted → pc = .atFetch ∨ pc = .idle →
      Cont c { s with cur := some h.last, persisted := p } { h with pc := pc, zero := z } s' →
      Step c s (.persist s.orphans.length ok coin) s'
  | tickWake {h next} : s.handler = some h → h.pc = .idle ∨ h.pc = .fetchErr → next = .atFetch ∨ next = .idle →
      Step c s .tick { s with handler := some { h with pc := next } }
  | tickRetry {h lo hi more} : s.handler = some h → h.pc = .retry lo hi more →
      Step c s .tick { s with handler := some { h with pc := enterExport c lo hi more } }
  | tickFlush {h lo hi more pos bad} : s.handler = some h → h.pc = .exporting lo hi more pos bad false →
      Step c s .tick { s with handler := some { h with pc := .exporting lo hi more pos bad true } }

theorem mem_idsOf {a b k : Nat} : k ∈ idsOf a b ↔ a < k ∧ k ≤ b := by
  simp [idsOf, List.mem_range'_1]; omega

theorem chunkEnd_bounds {c : Cfg} {pos hi : Nat} (h : pos < hi) :
    pos < chunkEnd c pos hi ∧ chunkEnd c pos hi ≤ hi := by
  unfold chunkEnd
  split <;> omega

theorem exporterCall_eq (s : State) (a b : Nat) (r : AcceptRes) :
    ∃ rv hw ak, exporterCall s a b r = { s with recv := rv, delivHW := hw, acked := ak } := by
  cases r <;> exact ⟨_, _, _, rfl⟩

@[simp] theorem exporterCall_handler (s : State) (a b : Nat) (r : AcceptRes) :
    (exporterCall s a b r).handler = s.handler := by cases r <;> rfl

@[simp] theorem exporterCall_nLogs (s : State) (a b : Nat) (r : AcceptRes) :
    (exporterCall s a b r).nLogs = s.nLogs := by cases r <;> rfl

@[simp] theorem exporterCall_ackHW (s : State) (a b : Nat) (r : AcceptRes) :
    (exporterCall s a b r).ackHW = s.ackHW := by cases r <;> rfl

@[simp] theorem exporterCall_resets (s : State) (a b : Nat) (r : AcceptRes) :
    (exporterCall s a b r).resets = s.resets := by cases r <;> rfl

theorem write_eq (ok : Bool) (v : Nat) (s : State) :
    ∃ p, (p = v ∨ p = s.persisted) ∧ write ok v s = { s with persisted := p } := by
  unfold write
  split
  · exact ⟨v, .inl rfl, rfl⟩
  · exact ⟨_, .inr rfl, rfl⟩

theorem opsOpen_iff {s : State} : opsOpen s = true ↔ s.mgrUp = true ∧ s.pending = none := by
  simp [opsOpen]

theorem atSelect_stop {c : Cfg} {s : State} {h : Handler} {next : Pc} (hst : h.stopReq = true) :
    atSelect c s h next = exitHandler c s := by simp [atSelect, hst]

/-- The branches of `step` are its generated case principle `step.fun_cases` (45 of them, 32 enabled); each
    enabled one is an instance of a constructor of `Step`. -/
theorem Step.of_step {c : Cfg} {s s' : State} {l : Label} (hs : step c s l = some s') : Step c s l s' := by
  revert hs
  fun_cases step c s l <;> intro hs <;> cases hs
  next n => exact .append n
  next hg => exact .create (by simp_all) (by simp_all)
  next => exact .skip (by simp)
  next => exact .skip (by simp)
  next ho hc hn => exact .restart (.inl rfl) ho (by simpa using hc) hn
  next => exact .skip (by simp)
  next ho _ hh => exact .halt .stop rfl ho nofun hh requestStop_cont
  next => exact .skip (by simp)
  next hg _ hn => exact .resetIdle (by simp_all) hn
  next hg _ _ hh => exact .halt .reset rfl (by simp_all) (fun _ => by simp_all) hh requestStop_cont
  next ho hg => exact .restart (.inr rfl) ho (by simp_all) (by simp_all)
  next => exact .skip (by simp)
  next _ hn => exact .mgrStopIdle hn
  next ho _ hh => exact .halt .mgrStop rfl ho nofun hh requestStop_cont
  next hg hc => exact .mgrStartRun (by simp_all) (by simp_all) hc
  next hg hc => exact .mgrStartIdle (by simp_all) (by simpa using hc)
  next h hh hpc hlt => exact .fetchPage _ hh hpc hlt (Nat.min_le_right ..) (Nat.min_le_left ..) atSelect_cont
  next h hh hpc _ => exact .fetchNone true false hh hpc (.inl rfl) (atSelect_cont (h := { h with zero := false }))
  next ok h hh hpc _ => exact .fetchNone ok h.zero hh hpc (.inr rfl) atSelect_cont
  next r h hh _ _ _ _ _ hpc hlt => exact .acceptChunk r hh hpc hlt
  next r h hh _ _ _ _ _ hpc _ _ => exact .acceptFailed r hh hpc atSelect_cont
  next r h hh lo hi more pos bad hpc hlt hb =>
    obtain ⟨rfl, rfl⟩ : bad = false ∧ r = .ok := by cases bad <;> cases r <;> simp_all [AcceptRes.isOk]
    obtain ⟨pc, z, cur', hq, hc, hn, k⟩ := exportDone_cont (s := exporterCall s pos (chunkEnd c pos hi) .ok)
    exact .acceptDone hh hpc (Nat.le_of_not_lt hlt) hq hc hn k
  next i ok coin hi =>
    obtain ⟨_, hp, e⟩ := write_eq ok s.orphans[i] { s with orphans := s.orphans.eraseIdx i }
    exact e ▸ .persistOrphan ok coin hi hp
  next ok coin v hcur hn _ =>
    obtain ⟨_, hp, e⟩ := write_eq ok v { s with cur := none }
    exact e ▸ .persistCur ok coin hcur (fun h m hh => nomatch hn.symm.trans hh) hp
  next ok coin v hcur h hh more hpc _ =>
    obtain ⟨_, hp, e⟩ := write_eq ok v { s with cur := none }
    obtain ⟨pc, z, hq, k⟩ := afterSend_cont
    exact e ▸ .persistSend ok coin hcur hh hpc hp hq k
  next ok coin v hcur h hh _ hns =>
    obtain ⟨_, hp, e⟩ := write_eq ok v { s with cur := none }
    exact e ▸ .persistCur ok coin hcur (fun h' m hh' => by cases hh.symm.trans hh'; exact hns m) hp
  next => exact .skip (by simp)
  next h hh hpc => exact .tickWake hh (.inl hpc) (.inl rfl)
  next h hh hpc => exact .tickWake hh (.inr hpc) (by cases h.zero <;> simp)
  next h hh _ _ _ hpc => exact .tickRetry hh hpc
  next h hh _ _ _ _ _ hpc => exact .tickFlush hh hpc
  next => exact .skip (by simp)
end Ledger.Repl
