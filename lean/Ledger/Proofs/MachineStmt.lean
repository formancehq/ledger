import Ledger.Proofs.MachineSrc
import Ledger.Proofs.MachineDest
import Ledger.Proofs.MachineResolve

/-! Statement-level and script-level accounting: `finishSend`, `evalStmt`, `runStmts`; `prepare_ok`: `prepare`
    establishes what `runStmts_ok` assumes of the environment and the tracked balances. -/
namespace Ledger.Machine

variable {cfg : Cfg}

/-- What `finishSend` does with the funding `f` of a send: the destination posts `new` out of it; `kept` is the
    total of what it leaves, which is repaid. -/
structure FinishOK (f : Funding) (st st' : State) (new : List Posting) (kept : Int) : Prop where
  postings : st'.postings = st.postings ++ new
  assetOk : ∀ p ∈ new, p.asset = f.asset
  amounts : partsNonneg f.parts → ∀ p ∈ new, 0 ≤ p.amount
  sum : amountSum new + kept = total f.parts
  keptNonneg : partsNonneg f.parts → 0 ≤ kept
  hasAcct : st'.bal.hasAcct = st.bal.hasAcct
  wf : st.bal.WF → st'.bal.WF
  txMeta : st'.txMeta = st.txMeta
  accMeta : st'.accMeta = st.accMeta
  saved : st'.saved = st.saved
  bal : ∀ a c v, a ≠ "world" → st.bal.WF → st.bal.get a c = some v →
    st'.bal.get a c = some (v + fl a c f + flowIn a c new - flowOut a c new)
  mono : partsNonneg f.parts → ∀ a c v, a ≠ "world" → st.bal.WF → st.bal.get a c = some v →
    ∃ v', st'.bal.get a c = some v' ∧ v ≤ v'

/-- Conservation through a destination, per pair: what the funding held for `(a, c)` is left
    over or was posted out of `a`. -/
theorem fl_eq_rem_add_out {asset : String} {f rem : List Part} {new : List Posting}
    (ht : ∀ P, totalOf P f = totalOf P rem + outOf P new) (hasset : ∀ p ∈ new, p.asset = asset)
    (a c : String) : fl a c ⟨asset, f⟩ = fl a c ⟨asset, rem⟩ + flowOut a c new := by
  have := ht (fun x => x == a)
  rw [flowOut_cases a c asset new hasset]
  simp only [fl, acctTotal]
  split <;> omega

theorem finishSend_ok {env : Env} {dst : Dest} {f : Funding} {st st' : State}
    (h : finishSend env dst f st = .ok st') :
    ∃ new rem, FinishOK f st st' new (total rem) ∧
      (∃ st1, evalDest env f.asset dst f.parts st = .ok (rem, st1)) := by
  unfold finishSend at h
  split at h
  · cases h
  next rem st1 hd =>
  cases h
  obtain ⟨new, hs, ht, hn⟩ := evalDest_ok env f.asset dst f.parts st rem st1 hd
  -- the credits of the destination, then the repayment of what is left
  have d : Delta st.bal (repay st1.bal f.asset rem) (fun a c => flowIn a c new + fl a c ⟨f.asset, rem⟩) :=
    hs.delta.trans (repay_delta st1.bal f.asset rem) fun _ _ => rfl
  refine ⟨new, rem, ⟨hs.postings, hs.assetOk, fun hf => (hn hf).2, ?_, fun hf => total_nonneg _ (hn hf).1,
    d.hasAcct, d.wf, hs.txMeta, hs.accMeta, hs.saved, fun a c v ha hwf hg => ?_,
    fun hf a c v ha hwf hg => ⟨_, d.bal a c v ha hwf hg, ?_⟩⟩, ⟨st1, hd⟩⟩
  · have := ht (fun _ => true)
    rw [← total_eq_totalOf, ← total_eq_totalOf, ← amountSum_eq_outOf] at this
    omega
  · rw [d.bal a c v ha hwf hg]
    have : fl a c f = _ := fl_eq_rem_add_out ht hs.assetOk a c
    congr 1; omega
  · have h1 := fl_nonneg a c ⟨f.asset, rem⟩ (hn hf).1
    have h2 : 0 ≤ flowIn a c new := by
      rw [flowIn_cases a c f.asset new hs.assetOk]
      split
      · exact inTo_nonneg a new (hn hf).2
      · exact Int.le_refl 0
    omega

def AllotSrcBound (env : Env) (a c : String) (B : Int) : AllotSrcList → Prop
  | .nil => True
  | .cons _ s rest => SrcBound env a c B s ∧ AllotSrcBound env a c B rest

theorem evalAllotSrc_ok (cfg : Cfg) (env : Env) (asset monAsset : String) :
    (items : AllotSrcList) → (parts : List Int) → (b : Balances) → (rs : List Funding) → (b' : Balances) →
    evalAllotSrc cfg env asset monAsset items parts b = .ok (rs, b') →
    Drawn (AllotSrcBound env · · · items) b b' rs ∧ (∀ r ∈ rs, r.asset = monAsset) ∧
    (rs.map (fun r => total r.parts)) = parts.take items.length
  | .nil, parts, b, rs, b', h => by
    simp only [evalAllotSrc] at h
    cases h
    exact ⟨Drawn.nil _ b, nofun, by simp [AllotSrcList.length]⟩
  | .cons _ _ _, [], b, rs, b', h => by
    simp only [evalAllotSrc] at h
    cases h
  | .cons _ s rest, p :: ps, b, rs, b', h => by
    simp only [evalAllotSrc] at h
    split at h
    · cases h
    next f b1 hs =>
    split at h
    · cases h
    next r b2 ht =>
    obtain ⟨k1, k3, k4⟩ := evalSource_take hs ht
    split at h
    · cases h
    next rs' b3 hrest =>
    obtain ⟨j1, j2, j3⟩ := evalAllotSrc_ok cfg env asset monAsset rest ps b2 rs' b3 hrest
    cases h
    refine ⟨k1.cons j1, List.forall_mem_cons.mpr ⟨k3, j2⟩, ?_⟩
    cases k4
    simp [AllotSrcList.length, j3]

/-- All monetary values of the environment are non-negative (a nil amount counts
    as zero): what variable parsing and `ResolveBalances` guarantee. -/
def EnvNonneg (env : Env) : Prop :=
  ∀ x a v, env.lookup x = some (.monetary a (some v)) → 0 ≤ v

theorem EnvGood.nonneg {env : Env} (h : EnvGood env) : EnvNonneg env := by
  intro x a v hl
  exact h (x, _) (lookup_mem env x _ hl)

/-- The leftmost atom of an expression is a literal (a natural number) or a variable. -/
theorem leftmost_amt_nonneg {env : Env} (henv : EnvNonneg env) (e : Expr) (a : String) (amt : Option Int)
    (h : evalMonetary env e.leftmost = .ok (a, amt)) : 0 ≤ nilAsZero amt := by
  induction e with
  | add l _ ih => exact ih h
  | sub l _ ih => exact ih h
  | mon x n =>
    simp only [Expr.leftmost, evalMonetary, evalExpr] at h
    split at h <;> cases h
    rename_i heq
    split at heq <;> cases heq
    exact Int.natCast_nonneg n
  | var x =>
    simp only [Expr.leftmost, evalMonetary, evalExpr] at h
    cases hl : env.lookup x with
    | none => simp [hl] at h
    | some v =>
      cases amt with
      | none => exact Int.le_refl 0
      | some n =>
        refine henv x a n ?_
        rw [hl] at h ⊢
        split at h <;> cases h
        rename_i heq
        cases heq; rfl
  | portion t =>
    simp only [Expr.leftmost, evalMonetary, evalExpr] at h
    cases hp : parsePortionGo t <;> simp [hp] at h
  | _ => simp [Expr.leftmost, evalMonetary, evalExpr] at h

/-- C23's hypothesis on one statement. -/
def StmtBound (env : Env) (a c : String) (B : Int) : Stmt → Prop
  | .send _ (.src s) _ => SrcBound env a c B s
  | .send _ (.allot items) _ => AllotSrcBound env a c B items
  | .sendAll _ (.src s) _ => SrcBound env a c B s
  | _ => True

def Stmt.isSend : Stmt → Bool
  | .send _ _ _ => true
  | .sendAll _ _ _ => true
  | _ => false

/-- What one statement does to the state; `new` are the postings it appends. A `save` lowers a tracked balance
    without a posting, so `track` and `floor` speak of the tracked balance plus the ghost `saved` (what the
    `save`s have set aside). -/
structure StmtOK (env : Env) (s : Stmt) (st st' : State) (new : List Posting) : Prop where
  postings : st'.postings = st.postings ++ new
  hasAcct : st'.bal.hasAcct = st.bal.hasAcct
  wf : st.bal.WF → st'.bal.WF
  /-- tracked + saved moves exactly by the postings -/
  track : ∀ a c v, a ≠ "world" → st.bal.WF → st.bal.get a c = some v →
    ∃ v', st'.bal.get a c = some v' ∧
      v' + st'.saved a c = v + st.saved a c + flowIn a c new - flowOut a c new
  savedMono : EnvNonneg env → ∀ a c, st.saved a c ≤ st'.saved a c
  floor : ∀ a c B, a ≠ "world" → 0 ≤ B → st.bal.WF → EnvNonneg env → 0 ≤ st.saved a c →
    StmtBound env a c B s → ∀ v, st.bal.get a c = some v →
    ∃ v', st'.bal.get a c = some v' ∧ min (v + st.saved a c) (-B) ≤ v' + st'.saved a c
  /-- a send never touches the `saved` ghost -/
  savedSend : s.isSend = true → st'.saved = st.saved
  /-- per-send form: the tracked balance itself stays above its floor -/
  floorSend : s.isSend = true → ∀ a c B, a ≠ "world" → 0 ≤ B → st.bal.WF →
    StmtBound env a c B s → ∀ v, st.bal.get a c = some v →
    ∃ v', st'.bal.get a c = some v' ∧ min v (-B) ≤ v'

theorem StmtOK.same (env : Env) (s : Stmt) (st : State) (tx : List (String × Value))
    (am : List (String × String × Value)) :
    StmtOK env s st { st with txMeta := tx, accMeta := am } [] where
  postings := by simp
  hasAcct := rfl
  wf := id
  track := by intro a c v _ _ hg; exact ⟨v, hg, by simp [flowIn, flowOut]⟩
  savedMono := by intro _ a c; exact Int.le_refl _
  floor := by
    intro a c B _ _ _ _ _ _ v hg
    refine ⟨v, hg, ?_⟩
    show min (v + st.saved a c) (-B) ≤ v + st.saved a c
    omega
  savedSend := fun _ => rfl
  floorSend := by intro _ a c B _ _ _ _ v hg; exact ⟨v, hg, by omega⟩

/-- `save`: `x` moves from the tracked balance of `(a0, asset)` (leaving `v1`) to the ghost
    `saved`, so that their sum does not change. -/
theorem StmtOK.ofSave {env : Env} {s : Stmt} {st : State} {a0 asset : String} {bal v1 x : Int}
    (hs : s.isSend = false) (hb : st.bal.get a0 asset = some bal) (hv : v1 + x = bal)
    (hx : EnvNonneg env → 0 ≤ x) :
    StmtOK env s st { st with bal := st.bal.set a0 asset v1,
                              saved := fun a' c' => if a' = a0 ∧ c' = asset then st.saved a' c' + x
                                                    else st.saved a' c' } [] := by
  have key : ∀ a c v, st.bal.get a c = some v → ∃ v', (st.bal.set a0 asset v1).get a c = some v' ∧
      v' + (if a = a0 ∧ c = asset then st.saved a c + x else st.saved a c) = v + st.saved a c := by
    intro a c v hg
    rw [Balances.set_get]
    by_cases hx : a = a0 ∧ c = asset
    · obtain ⟨rfl, rfl⟩ := hx
      rw [hb] at hg; cases hg
      exact ⟨v1, by simp, by simp; omega⟩
    · exact ⟨v, by simp [hx, hg], by simp [hx]⟩
  refine ⟨by simp, rfl, fun hwf => Balances.WF_set hwf (hwf _ _ _ hb), fun a c v _ _ hg => ?_,
    fun henv a c => ?_, fun a c B _ _ _ _ _ _ v hg => ?_, fun h => by simp [hs] at h,
    fun h => by simp [hs] at h⟩
  · obtain ⟨v', g, e⟩ := key a c v hg
    exact ⟨v', g, by simp only [flowIn, flowOut]; omega⟩
  · have := hx henv
    simp only
    split <;> omega
  · obtain ⟨v', g, e⟩ := key a c v hg
    exact ⟨v', g, by simp only; omega⟩

theorem StmtOK.ofSend {env : Env} {s : Stmt} {st st' : State} {b1 : Balances} {f : Funding}
    {new : List Posting} {kept : Int} (hsrc : Drawn (StmtBound env · · · s) st.bal b1 [f])
    (hfin : FinishOK f { st with bal := b1 } st' new kept) : StmtOK env s st st' new := by
  have hn : partsNonneg f.parts := hsrc.nonneg f (List.mem_singleton_self f)
  have hd : Delta st.bal b1 (fun a c => - fl a c f) :=
    hsrc.delta.congr fun a c => by simp [inFlight]
  have floor : ∀ a c B, a ≠ "world" → 0 ≤ B → st.bal.WF → StmtBound env a c B s →
      ∀ v, st.bal.get a c = some v → ∃ v', st'.bal.get a c = some v' ∧ min v (-B) ≤ v' := by
    intro a c B ha hB hwf hb v hg
    obtain ⟨v1, g1, l1⟩ := hsrc.floor a c B ha hB hwf hb v hg
    obtain ⟨v2, g2, l2⟩ := hfin.mono hn a c v1 ha (hd.wf hwf) g1
    exact ⟨v2, g2, Int.le_trans l1 l2⟩
  refine ⟨hfin.postings, hfin.hasAcct.trans hd.hasAcct, fun h => hfin.wf (hd.wf h),
    fun a c v ha hwf hg => ⟨_, hfin.bal a c _ ha (hd.wf hwf) (hd.bal a c v ha hwf hg), ?_⟩,
    fun _ a c => by rw [hfin.saved]; exact Int.le_refl _,
    fun a c B ha hB hwf _ _ hb v hg => ?_, fun _ => hfin.saved,
    fun _ a c B ha hB hwf hb v hg => floor a c B ha hB hwf hb v hg⟩
  · rw [hfin.saved]; dsimp only; omega
  · obtain ⟨v2, g2, l2⟩ := floor a c B ha hB hwf hb v hg
    exact ⟨v2, g2, by rw [hfin.saved]; dsimp only; omega⟩

theorem send_src_inv {env : Env} {mon : Expr} {s : Source} {dst : Dest} {st st' : State}
    (h : evalStmt cfg env (.send mon (.src s) dst) st = .ok st') :
    ∃ f b1, Drawn (SrcBound env · · · s) st.bal b1 [f] ∧
      evalMonetary env mon = .ok (f.asset, some (total f.parts)) ∧
      finishSend env dst f { st with bal := b1 } = .ok st' := by
  simp only [evalStmt] at h
  split at h
  · cases h
  next asset _ =>
  split at h
  · cases h
  next f0 b0 hs =>
  split at h
  · cases h
  next m hm =>
  split at h
  · cases h
  next f b1 ht =>
  obtain ⟨k1, k3, k4⟩ := evalSource_take hs ht
  exact ⟨f, b1, k1, by rw [hm, k3, ← k4], h⟩

theorem sendAll_inv {env : Env} {assetE : Expr} {s : Source} {dst : Dest} {st st' : State}
    (h : evalStmt cfg env (.sendAll assetE (.src s) dst) st = .ok st') :
    ∃ asset f b1, evalAssetE env assetE = .ok asset ∧
      evalSource cfg env asset s st.bal = .ok (f, b1) ∧
      Drawn (SrcBound env · · · s) st.bal b1 [f] ∧
      finishSend env dst f { st with bal := b1 } = .ok st' := by
  simp only [evalStmt] at h
  split at h
  · cases h
  next asset ha =>
  split at h
  · cases h
  next f b1 hs =>
  exact ⟨asset, f, b1, ha, hs, evalSource_ok cfg env asset s st.bal f b1 hs, h⟩

theorem send_allot_inv {env : Env} {mon : Expr} {items : AllotSrcList} {dst : Dest} {st st' : State}
    (h : evalStmt cfg env (.send mon (.allot items) dst) st = .ok st') :
    ∃ asset amt al f b1, evalMonetary env mon = .ok (asset, some amt) ∧
      makeAllotment env items.portions = .ok al ∧
      Drawn (AllotSrcBound env · · · items) st.bal b1 [f] ∧ f.asset = asset ∧
      total f.parts = ((allocate al amt).take items.length).sum ∧
      finishSend env dst f { st with bal := b1 } = .ok st' := by
  simp only [evalStmt] at h
  split at h
  · cases h
  next m hm =>
  split at h
  · cases h
  next al hal =>
  split at h
  · cases h
  next amt hamt =>
  split at h
  · cases h
  next asset _ =>
  split at h
  · cases h
  next fs b1 hs =>
  obtain ⟨i1, i2, i3⟩ := evalAllotSrc_ok cfg env asset m.1 items _ st.bal fs b1 hs
  split at h
  · cases h
  next f hasm =>
  exact ⟨m.1, amt, al, f, b1, by rw [hm, ← needAmt_ok.mp hamt], hal, i1.assemble hasm,
    assemble_asset hasm i2, by rw [(assemble_ok hasm).2.2.2, i3], h⟩

theorem evalStmt_ok {env : Env} {s : Stmt} {st st' : State} (h : evalStmt cfg env s st = .ok st') :
    ∃ new, StmtOK env s st st' new := by
  have send : ∀ {dst f b1}, Drawn (StmtBound env · · · s) st.bal b1 [f] →
      finishSend env dst f { st with bal := b1 } = .ok st' → ∃ new, StmtOK env s st st' new :=
    fun d hfin => by
      obtain ⟨new, rem, fin, _⟩ := finishSend_ok hfin
      exact ⟨new, StmtOK.ofSend d fin⟩
  cases s with
  | print e =>
    simp only [evalStmt] at h
    split at h <;> cases h
    exact ⟨[], StmtOK.same env _ st st.txMeta st.accMeta⟩
  | fail => simp [evalStmt] at h
  | setTxMeta k e =>
    simp only [evalStmt] at h
    split at h <;> cases h
    exact ⟨[], StmtOK.same env _ st _ st.accMeta⟩
  | setAccountMeta acc k e =>
    simp only [evalStmt] at h
    split at h
    · cases h
    · split at h <;> cases h
      exact ⟨[], StmtOK.same env _ st st.txMeta _⟩
  | save mon acc =>
    simp only [evalStmt] at h
    split at h
    · cases h
    next asset amt hm =>
    split at h
    · cases h
    · split at h <;> cases h
      next bal hb =>
        exact ⟨[], StmtOK.ofSave rfl hb (by omega) fun henv => leftmost_amt_nonneg henv mon asset amt hm⟩
      · exact ⟨[], StmtOK.same env _ st st.txMeta st.accMeta⟩
  | saveAll assetE acc =>
    simp only [evalStmt] at h
    split at h
    · cases h
    · split at h
      · cases h
      · split at h
        next bal hb =>
          split at h <;> cases h
          next hpos => exact ⟨[], StmtOK.ofSave rfl hb (Int.zero_add bal) fun _ => Int.le_of_lt hpos⟩
          · exact ⟨[], StmtOK.same env _ st st.txMeta st.accMeta⟩
        · cases h; exact ⟨[], StmtOK.same env _ st st.txMeta st.accMeta⟩
  | send mon src dst =>
    cases src with
    | src s => obtain ⟨f, b1, d, _, hfin⟩ := send_src_inv h; exact send d hfin
    | allot items => obtain ⟨_, _, _, f, b1, _, _, d, _, _, hfin⟩ := send_allot_inv h; exact send d hfin
  | sendAll assetE src dst =>
    cases src with
    | src s => obtain ⟨_, f, b1, _, _, d, hfin⟩ := sendAll_inv h; exact send d hfin
    | allot items => simp [evalStmt] at h

def StmtsBound (env : Env) (a c : String) (B : Int) (ss : List Stmt) : Prop :=
  ∀ s ∈ ss, StmtBound env a c B s

theorem runStmts_ok {env : Env} (henv : EnvNonneg env) :
    (ss : List Stmt) → (st st' : State) → runStmts cfg env ss st = .ok st' → st.bal.WF →
    ∃ new, st'.postings = st.postings ++ new ∧ st'.bal.WF ∧
      (∀ a c v, a ≠ "world" → st.bal.get a c = some v →
        ∃ v', st'.bal.get a c = some v' ∧
          v' + st'.saved a c = v + st.saved a c + flowIn a c new - flowOut a c new ∧
          st.saved a c ≤ st'.saved a c ∧
          (∀ B, 0 ≤ B → 0 ≤ st.saved a c → StmtsBound env a c B ss →
            min (v + st.saved a c) (-B) ≤ v' + st'.saved a c))
  | [], st, st', h, hwf => by
    simp only [runStmts] at h
    cases h
    refine ⟨[], by simp, hwf, ?_⟩
    intro a c v _ hg
    exact ⟨v, hg, by simp [flowIn, flowOut], Int.le_refl _, fun B _ _ _ => by omega⟩
  | s :: ss, st, st', h, hwf => by
    simp only [runStmts] at h
    split at h
    · cases h
    · rename_i st1 h1
      obtain ⟨n1, ok1⟩ := evalStmt_ok h1
      obtain ⟨n2, p2, wf2, r2⟩ := runStmts_ok henv ss st1 st' h (ok1.wf hwf)
      refine ⟨n1 ++ n2, by rw [p2, ok1.postings, List.append_assoc], wf2, ?_⟩
      intro a c v ha hg
      obtain ⟨v1, g1, e1⟩ := ok1.track a c v ha hwf hg
      obtain ⟨v2, g2, e2, m2, f2⟩ := r2 a c v1 ha g1
      have m1 := ok1.savedMono henv a c
      refine ⟨v2, g2, ?_, Int.le_trans m1 m2, ?_⟩
      · rw [flowIn_append, flowOut_append]; omega
      · intro B hB hs hb
        obtain ⟨v1', g1', l1⟩ := ok1.floor a c B ha hB hwf henv hs (hb s List.mem_cons_self) v hg
        cases g1.symm.trans g1'
        -- the floor of the first statement is the starting point of the rest of the run
        exact Int.le_trans (Int.le_min.mpr ⟨l1, Int.min_le_right _ _⟩)
          (f2 B hB (Int.le_trans hs m1) fun x hx => hb x (List.mem_cons_of_mem _ hx))

theorem prepare_ok {s : Script} {inp : Input} {env : Env} {bal : Balances} {pairs : List (String × String)}
    (h : prepare cfg s inp = .ok (env, bal, pairs)) :
    EnvGood env ∧ bal.WF ∧ (∀ a c v, bal.get a c = some v → v = inp.balance a c) := by
  obtain ⟨plain, env0, bvs, needed, live, hps, hrv, _, _, _, hlive, rfl, rfl, rfl⟩ := prepare_inv h
  refine ⟨foldl_setEnv_good inp _ hlive env0 (resolveVars_good cfg inp plain
    (fun kv hkv v hv => by
      obtain ⟨d, _, _, data, _, e⟩ := parsePlainVars_mem cfg inp.vars s.vars _ hps kv hkv
      exact parseValue_good (e.symm.trans hv))
    s.vars [] [] env0 bvs hrv nofun), ?_, ?_⟩
  · intro a c v hg
    simp only at hg
    split at hg <;> cases hg
    rename_i hany
    obtain ⟨p, hp, hpa⟩ := List.any_eq_true.mp hany
    exact List.any_eq_true.mpr ⟨p, hp, by simpa using (of_decide_eq_true hpa).1⟩
  · intro a c v hg
    simp only at hg
    split at hg <;> cases hg
    rfl

end Ledger.Machine
