import Ledger.Proofs.CoreMap
import Ledger.Proofs.CtrlStep
import Ledger.Ctrl.Replay

/-!
Volumes under replay: the live write path locks balances (`GetBalances` inserts
zero rows) before `UpdateVolumes`; the replay only runs `UpdateVolumes`.  `VolRel`
relates the two tables: the live one is the replayed one plus possibly some zero
rows, hence equal as values (`normVolumes`).
-/
namespace Ledger.Ctrl
open Ledger.Base Ledger.Core

structure VolRel (v1 v2 : PCV) : Prop where
  wf1 : Map.WF v1
  wf2 : Map.WF v2
  sub : ∀ k x, v2.get? k = some x → v1.get? k = some x
  zero : ∀ k x, v1.get? k = some x → v2.get? k = none → x = Volumes.zero

theorem VolRel.refl {v : PCV} (hw : Map.WF v) : VolRel v v :=
  ⟨hw, hw, fun _ _ h => h, fun _ _ h1 h2 => by rw [h1] at h2; cases h2⟩

theorem VolRel.volOf {v1 v2 : PCV} (h : VolRel v1 v2) (k : Key) : volOf v1 k = volOf v2 k := by
  unfold Ledger.Ctrl.volOf
  cases h2 : v2.get? k with
  | some x => rw [h.sub k x h2]
  | none =>
    cases h1 : v1.get? k with
    | none => rfl
    | some x => rw [h.zero k x h1 h2]

theorem VolRel.lockZero {v1 v2 : PCV} (h : VolRel v1 v2) (k : Key) : VolRel (lockZero v1 k) v2 := by
  unfold Ledger.Ctrl.lockZero
  cases hk : v1.get? k with
  | some x => exact h
  | none =>
    refine ⟨Map.WF_insertWith _ _ _ h.wf1, h.wf2, ?_, ?_⟩
    · intro k' x hx
      have h1 := h.sub k' x hx
      unfold Map.insert
      rw [Map.get?_insertWith _ _ _ h.wf1]
      by_cases hkk : k' = k
      · subst hkk; rw [hk] at h1; cases h1
      · rw [if_neg hkk]; exact h1
    · intro k' x hx h2
      unfold Map.insert at hx
      rw [Map.get?_insertWith _ _ _ h.wf1] at hx
      by_cases hkk : k' = k
      · subst hkk
        rw [if_pos rfl, hk] at hx
        simp only [Option.some.injEq] at hx
        exact hx.symm
      · rw [if_neg hkk] at hx; exact h.zero k' x hx h2

theorem VolRel.fold_lock {v1 v2 : PCV} (h : VolRel v1 v2) (q : List Key) : VolRel (q.foldl Ledger.Ctrl.lockZero v1) v2 := by
  induction q generalizing v1 with
  | nil => exact h
  | cons k r ih => exact ih (h.lockZero k)

theorem VolRel.addVolumes {v1 v2 : PCV} (h : VolRel v1 v2) (e : Key × Volumes) :
    VolRel (addVolumes v1 e) (addVolumes v2 e) := by
  unfold Ledger.Ctrl.addVolumes Map.insert
  refine ⟨Map.WF_insertWith _ _ _ h.wf1, Map.WF_insertWith _ _ _ h.wf2, ?_, ?_⟩
  · intro k x hx
    rw [Map.get?_insertWith _ _ _ h.wf2] at hx
    rw [Map.get?_insertWith _ _ _ h.wf1]
    by_cases hk : k = e.1
    · rw [if_pos hk] at hx ⊢
      rw [← hx, h.volOf]
      cases v1.get? e.1 <;> cases v2.get? e.1 <;> rfl
    · rw [if_neg hk] at hx ⊢; exact h.sub k x hx
  · intro k x hx h2
    rw [Map.get?_insertWith _ _ _ h.wf1] at hx
    rw [Map.get?_insertWith _ _ _ h.wf2] at h2
    by_cases hk : k = e.1
    · rw [if_pos hk] at h2; cases h2
    · rw [if_neg hk] at hx h2; exact h.zero k x hx h2

theorem VolRel.fold_add {v1 v2 : PCV} (h : VolRel v1 v2) (ups : PCV) :
    VolRel (ups.foldl Ledger.Ctrl.addVolumes v1) (ups.foldl Ledger.Ctrl.addVolumes v2) := by
  induction ups generalizing v1 v2 with
  | nil => exact h
  | cons e r ih => exact ih (h.addVolumes e)

theorem VolRel.norm_eq {v1 v2 : PCV} (h : VolRel v1 v2) : normVolumes v1 = normVolumes v2 := by
  unfold normVolumes
  apply Map.ext_of_WF (Map.WF_filter _ h.wf1) (Map.WF_filter _ h.wf2)
  intro k
  rw [Map.get?_filter _ h.wf1, Map.get?_filter _ h.wf2]
  cases h2 : v2.get? k with
  | some x => rw [h.sub k x h2]
  | none =>
    cases h1 : v1.get? k with
    | none => rfl
    | some x =>
      rw [h.zero k x h1 h2]
      simp [Option.filter]

theorem eval_lockOnly_vol {α : Type} {E : Err → Prop} (now : Time) (p : Prog α) (hp : p.All Call.LockOnly E) (d : Db)
    (sq : Seqs) (v2 : PCV) (hv : VolRel d.volumes v2) (x : α × Db × Seqs) (h : eval now p d sq = some x) :
    VolRel x.2.1.volumes v2 := by
  obtain ⟨q, hd, _⟩ := eval_lockOnly hp h
  rw [hd]
  exact hv.fold_lock q

end Ledger.Ctrl
