import Ledger.Proofs.CoreAccounts
import Ledger.Proofs.SqlAccountsSpec
import Ledger.Proofs.SqlJsonMeta

/-!
# `UpsertAccounts` refines `Ledger.Spec.upsertAccount` (folded over the batch)

The typed-row description of the statement (`upsertAccounts_sem`: new rows `insRow` for the batch addresses without account,
`updOf` applied to every existing row) is, through the abstraction of a typed `accounts` table to the Spec's `Map String AccountRow`
(`AcAbsTo`: per ledger, metadata read by `metaOfJV`), the fold of `Spec.upsertAccount` over the batch. Both sides are compared
by key: `get?_foldl_upsert` for the Spec's map, `upsert_get` for the table (the `Perm` statement read through the key invariant).
-/
open Ledger Ledger.Sql Ledger.Core Ledger.Base Ledger.Spec

namespace Ledger.Sql

/-- the Spec row of a typed `accounts` row -/
def acSpec (a : AcR) : AccountRow :=
  { firstUsage := a.fu, insertionDate := a.ins, updatedAt := a.upd, metadata := metaOfJV a.md }

def acIs (l addr : String) (a : AcR) : Bool := decide (a.ledger = l) && decide (a.address = addr)

/-- the typed table abstracts, for ledger `l`, to the Spec accounts `m` -/
structure AcAbsTo (l : String) (tbl : List AcR) (m : Map String AccountRow) : Prop where
  wf : Map.WF m
  get : ∀ addr, Map.get? m addr = (tbl.find? (acIs l addr)).map acSpec

/-- what `upsertAccount` makes of the entry of its address (`firstUsage` given) -/
def upsertRow (o : Option AccountRow) (fu date : Int) (md : Metadata) : AccountRow :=
  match o with
  | some a =>
    if decide (fu < a.firstUsage) || !metaContains a.metadata md then
      { a with metadata := metaMerge a.metadata md, firstUsage := (if fu < a.firstUsage then fu else a.firstUsage), updatedAt := date }
    else a
  | none => { firstUsage := fu, insertionDate := date, updatedAt := date, metadata := md }

theorem upsertAccount_spec {m : Map String AccountRow} (hw : Map.WF m) (k : String) (fu date : Int) (md : Metadata) :
    Map.WF (upsertAccount m k (some fu) date md) ∧
    ∀ k', Map.get? (upsertAccount m k (some fu) date md) k' =
      if k' = k then some (upsertRow (Map.get? m k) fu date md) else Map.get? m k' :=
  upsertAccount_get? hw k (some fu) date md

/-- the fold over a batch with distinct addresses, entry by entry -/
theorem get?_foldl_upsert (date : Int) : ∀ (ds : List DbR) (m : Map String AccountRow), Map.WF m → (ds.map (·.address)).Nodup →
    Map.WF (ds.foldl (fun acc d => upsertAccount acc d.address (some d.fu) date (metaOfJV d.md)) m) ∧
    ∀ addr, Map.get? (ds.foldl (fun acc d => upsertAccount acc d.address (some d.fu) date (metaOfJV d.md)) m) addr =
      match ds.find? (fun d => decide (d.address = addr)) with
      | some d => some (upsertRow (Map.get? m addr) d.fu date (metaOfJV d.md))
      | none => Map.get? m addr := by
  intro ds
  induction ds with
  | nil => intro m hw _; exact ⟨hw, fun _ => rfl⟩
  | cons d rest ih =>
    intro m hw hnd
    simp only [List.map_cons, List.nodup_cons] at hnd
    obtain ⟨hw1, hg1⟩ := upsertAccount_spec hw d.address d.fu date (metaOfJV d.md)
    obtain ⟨hw2, hg2⟩ := ih _ hw1 hnd.2
    refine ⟨hw2, fun addr => ?_⟩
    simp only [List.foldl_cons, List.find?_cons]
    rw [hg2 addr]
    by_cases e : d.address = addr
    · subst e
      have hnone : rest.find? (fun d' => decide (d'.address = d.address)) = none := by
        rw [List.find?_eq_none]
        intro x hx
        simp only [decide_eq_true_eq]
        intro e
        apply hnd.1
        rw [← e]
        exact List.mem_map.mpr ⟨x, hx, rfl⟩
      simp [hnone, hg1]
    · have e' : ¬ addr = d.address := fun h => e h.symm
      simp only [e, decide_false, Bool.false_eq_true]
      rw [hg1 addr]
      simp only [e', if_false]

theorem find?_of_unique {α : Type} (p : α → Bool) (l : List α) (a : α) (ha : a ∈ l) (hp : p a = true)
    (huniq : ∀ b ∈ l, p b = true → b = a) : l.find? p = some a := by
  induction l with
  | nil => cases ha
  | cons x xs ih =>
    rw [List.find?_cons]
    by_cases hx : p x = true
    · simp only [hx]
      rw [huniq x (by simp) hx]
    · have hx' : p x = false := by simpa using hx
      simp only [hx']
      rcases List.mem_cons.mp ha with e | e
      · subst e; rw [hp] at hx'; cases hx'
      · exact ih e (fun b hb => huniq b (by simp [hb]))

/-- a predicate that at most one element satisfies finds the same element in any order of the list -/
theorem find?_perm_of_unique {α : Type} (p : α → Bool) {l1 l2 : List α} (hp : l1.Perm l2)
    (huniq : ∀ x ∈ l1, ∀ y ∈ l1, p x = true → p y = true → x = y) : l1.find? p = l2.find? p := by
  cases h : l2.find? p with
  | none =>
    rw [List.find?_eq_none] at h ⊢
    exact fun x hx => h x (hp.mem_iff.mp hx)
  | some a =>
    have ha := hp.mem_iff.mpr (List.mem_of_find?_eq_some h)
    exact find?_of_unique p l1 a ha (List.find?_some h) fun b hb hpb => huniq b hb a ha hpb (List.find?_some h)

theorem metaMerge_nil (m : Metadata) (hw : Map.WF m) : metaMerge [] m = m := by
  apply Map.ext_of_WF (Map.WF_foldl _ (fun _ _ h => Map.WF_insert _ _ h) _ Map.WF_nil) hw
  intro k
  exact (Map.get?_foldl_insert Map.WF_nil (Map.keys_nodup hw) k).trans Option.or_none

theorem metaOfJV_WF (j : JV) : Map.WF (metaOfJV j) := by
  cases j <;> first | exact Map.WF_nil | exact metaAbs_WF _

/-- the Spec row of an account row after the batch row of its address -/
theorem acSpec_updRow (a : AcR) (d : DbR) (ha : IsMeta a.md) (hd : IsMeta d.md) (date : Int) (hu : d.upd = date) (hadr : a.address = d.address) :
    acSpec (if updCond a.ledger a d then updRow a d else a) = upsertRow (some (acSpec a)) d.fu date (metaOfJV d.md) := by
  have hc : updCond a.ledger a d = (decide (d.fu < (acSpec a).firstUsage) || !metaContains (acSpec a).metadata (metaOfJV d.md)) := by
    simp [updCond, hadr, acSpec, jsonContains_meta a.md d.md ha hd]
    first | rfl | (congr 2; exact Subsingleton.elim _ _)
  rw [hc]
  simp only [upsertRow]
  by_cases hcc : (decide (d.fu < (acSpec a).firstUsage) || !metaContains (acSpec a).metadata (metaOfJV d.md)) = true
  · simp only [hcc, if_true]
    simp only [acSpec, updRow, metaOfJV_concat a.md d.md ha hd, hu, leastOpt]
    congr 1
    by_cases h1 : d.fu < a.fu
    · have : ¬ a.fu < d.fu := by omega
      simp [h1, this]
    · by_cases h2 : a.fu < d.fu
      · simp [h1, h2]
      · have : a.fu = d.fu := by omega
        simp [h1, h2, this]
  · have hcc' : (decide (d.fu < (acSpec a).firstUsage) || !metaContains (acSpec a).metadata (metaOfJV d.md)) = false := by simpa using hcc
    simp only [hcc', Bool.false_eq_true, if_false]

/-- the batch addresses being distinct, the batch row that updates an account is the one with its address, provided `updCond` holds of it -/
theorem updOf_of_address (l : String) (ds : List DbR) (a : AcR) (hnd : (ds.map (·.address)).Nodup) :
    updOf l ds a = match ds.find? (fun d => decide (d.address = a.address)) with
      | some d => if updCond l a d then updRow a d else a
      | none => a := by
  have hadr : ∀ d, updCond l a d = true → d.address = a.address := fun d hc => by
    simp only [updCond, Bool.and_eq_true, decide_eq_true_eq] at hc
    exact hc.1.1.symm
  unfold updOf
  cases hd : ds.find? (fun d => decide (d.address = a.address)) with
  | none =>
    rw [List.find?_eq_none.mpr fun d hdm hc => List.find?_eq_none.mp hd d hdm (by simpa using hadr d hc)]
  | some d =>
    have hdm := List.mem_of_find?_eq_some hd
    have hda : d.address = a.address := by simpa using List.find?_some hd
    have huniq : ∀ d' ∈ ds, updCond l a d' = true → d' = d := fun d' hd' hc' =>
      nodup_map_inj (fun d : DbR => d.address) ds hnd d' hd' d hdm ((hadr d' hc').trans hda.symm)
    cases hc : updCond l a d with
    | true => simp only [find?_of_unique _ ds d hdm hc huniq, hc, if_true]
    | false =>
      have hnone : ds.find? (updCond l a) = none := List.find?_eq_none.mpr fun d' hd' hc' => by
        rw [huniq d' hd' hc', hc] at hc'; cases hc'
      simp only [hnone, hc, Bool.false_eq_true, if_false]

/-- **`UpsertAccounts`, by key**: what the transaction finds under `(l', addr)` afterwards. An account that was there is `updOf` of
    itself (for another ledger: itself, as `updCond` asks for ledger `l`); otherwise, in ledger `l`, the batch row of the address is
    inserted; nothing appears in other ledgers. -/
theorem upsert_get (l l' : String) (tbl tbl' : List AcR) (ds : List DbR)
    (hkey' : (tbl'.map (fun a => (a.ledger, a.address))).Nodup)
    (hperm : tbl'.Perm ((ds.filter (fun d => !hasAccount l tbl d.address)).map (insRow l) ++ tbl.map (updOf l ds))) (addr : String) :
    tbl'.find? (acIs l' addr) = match tbl.find? (acIs l' addr) with
      | some a => some (updOf l ds a)
      | none => if l' = l then (ds.find? (fun d => decide (d.address = addr))).map (insRow l) else none := by
  have huniq : ∀ x ∈ tbl', ∀ y ∈ tbl', acIs l' addr x = true → acIs l' addr y = true → x = y := by
    intro x hx y hy h1 h2
    simp only [acIs, Bool.and_eq_true, decide_eq_true_eq] at h1 h2
    exact nodup_map_inj (fun a : AcR => (a.ledger, a.address)) tbl' hkey' x hx y hy (by simp [h1.1, h1.2, h2.1, h2.2])
  rw [find?_perm_of_unique _ hperm huniq, List.find?_append, List.find?_map, List.find?_map, List.find?_filter,
    show (acIs l' addr ∘ updOf l ds) = acIs l' addr from funext fun a => by simp [acIs, updOf_key]]
  cases hf : tbl.find? (acIs l' addr) with
  | some a =>
    -- no batch row of this address is inserted: the account is there
    have hal : a.ledger = l' ∧ a.address = addr := by simpa [acIs] using List.find?_some hf
    rw [List.find?_eq_none.mpr fun d _ hd => by
      obtain ⟨h1, h2⟩ := of_decide_eq_true hd
      obtain ⟨h2, h3⟩ := Bool.and_eq_true_iff.mp h2
      have hl : l = l' := of_decide_eq_true h2
      have hda : d.address = addr := of_decide_eq_true h3
      rw [hasAccount_iff.mpr ⟨a, List.mem_of_find?_eq_some hf, hal.1.trans hl.symm, hal.2.trans hda.symm⟩] at h1
      cases h1]
    rfl
  | none =>
    have hno : hasAccount l' tbl addr = false := by
      rw [hasAccount, List.any_eq_false]
      exact fun x hx => by simpa [acIs] using List.find?_eq_none.mp hf x hx
    by_cases hl : l' = l
    · subst hl
      rw [if_pos rfl, Option.map_none, Option.or_none]
      exact congrArg _ (find?_ext_mem' _ _ ds fun d _ => by
        by_cases hd : d.address = addr <;> simp [acIs, insRow, hd, hno])
    · rw [if_neg hl, List.find?_eq_none.mpr fun d _ hd => by simp [acIs, insRow, Ne.symm hl] at hd]
      rfl

/-- **Refinement, pure part**: the typed-row description of the statement is the fold of `Spec.upsertAccount` over the batch. -/
theorem upsert_refines_fold (l : String) (tbl tbl' : List AcR) (ds : List DbR) (m : Map String AccountRow) (date : Int)
    (habs : AcAbsTo l tbl m)
    (hkey' : (tbl'.map (fun a => (a.ledger, a.address))).Nodup)
    (hperm : tbl'.Perm ((ds.filter (fun d => !hasAccount l tbl d.address)).map (insRow l) ++ tbl.map (updOf l ds)))
    (hnd : (ds.map (·.address)).Nodup)
    (hmeta : ∀ a ∈ tbl, IsMeta a.md)
    (hdmeta : ∀ d ∈ ds, IsMeta d.md ∧ d.dm = JV.obj [])
    (hdate : ∀ d ∈ ds, d.ins = date ∧ d.upd = date) :
    AcAbsTo l tbl' (ds.foldl (fun acc d => upsertAccount acc d.address (some d.fu) date (metaOfJV d.md)) m) := by
  obtain ⟨hw, hg⟩ := get?_foldl_upsert date ds m habs.wf hnd
  refine ⟨hw, fun addr => ?_⟩
  -- both sides by key: the Spec's entry of `addr` after the fold, and the account the transaction finds under `(l, addr)`
  rw [hg addr, habs.get addr, upsert_get l l tbl tbl' ds hkey' hperm addr]
  cases hf : tbl.find? (acIs l addr) with
  | some a =>
    have hal : a.ledger = l ∧ a.address = addr := by simpa [acIs] using List.find?_some hf
    simp only [Option.map_some]
    rw [updOf_of_address l ds a hnd, hal.2]
    cases hd : ds.find? (fun d => decide (d.address = addr)) with
    | none => rfl
    | some d =>
      have hdm := List.mem_of_find?_eq_some hd
      have hda : d.address = addr := by simpa using List.find?_some hd
      have hspec := acSpec_updRow a d (hmeta a (List.mem_of_find?_eq_some hf)) (hdmeta d hdm).1 date (hdate d hdm).2 (hal.2.trans hda.symm)
      rw [hal.1] at hspec
      exact congrArg some hspec.symm
  | none =>
    simp only [if_true, Option.map_none]
    cases hd : ds.find? (fun d => decide (d.address = addr)) with
    | none => rfl
    | some d =>
      have hdm := List.mem_of_find?_eq_some hd
      obtain ⟨hm, hdm0⟩ := hdmeta d hdm
      simp only [Option.map_some, upsertRow, acSpec, insRow, (hdate d hdm).1, (hdate d hdm).2]
      rw [hdm0, metaOfJV_concat _ _ ⟨[], rfl, ⟨(fun _ h => nomatch h), List.nodup_nil⟩⟩ hm, show metaOfJV (JV.obj []) = [] from rfl,
        metaMerge_nil _ (metaOfJV_WF _)]

end Ledger.Sql
