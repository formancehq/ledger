import Ledger.Proofs.SqlVolumesZero
import Ledger.Proofs.SqlVolumesSpec

/-!
# The zero rows of `GetBalances` against `Spec.lockBalances`
-/
open Ledger.Sql Ledger.Generated
open Ledger.Generated.WriteSql.P (BalanceRow)
open Ledger.Base Ledger.Core

namespace Ledger.Sql

def bkOf (rows : List BalanceRow) : List Key := rows.map (fun r => (r.accounts_address, r.asset))

open Ledger.Generated.WriteSql in
/-- `GetBalances` taken apart: one CTE, an INSERT of zero rows with `ON CONFLICT DO NOTHING` -/
theorem getBalances_shape (env : Env) (b l : String) (id : Nat) :
    ∃ (cols target : List String) (f : BalanceRow → List Expr) (g : BalanceRow → List (Option Value)),
      (∀ rows, (P.getBalances b l id rows).flatMap cteStmts =
        [Stmt.insert [] b "accounts_volumes" "" cols (.values (rows.map f)) (some (.mk target none "" .nothing)) []]) ∧
      cols.isEmpty = false ∧ (∀ r m s, (evalValuesRow (m + 1) env (f r)).exec s = (.ok (g r), s)) ∧
      AvShapeN b l cols target g := by
  refine ⟨_, _, _, _, fun rows => rfl, rfl, fun r m s => exec_evalValuesRow_pv m env _ _ s (by simp) (by simp only [pvs, pv]; rfl), ?_⟩
  exact ⟨fun r m rs nr s => exec_buildRow_av m b rs nr s l r.accounts_address r.asset 0 0, fun rs nr s => rfl⟩

/-- The pure run on what the table reads: the storage invariant is kept, the other ledgers read what they read, and ledger `l`
    reads `Spec.lockBalances` of what it read. -/
theorem avRunN_sem (w : World) (xid cid : Nat) (hx : xid ≠ 0) (hc : cid < 1000000000) (l : String) :
    ∀ (rows : List BalanceRow) (rs : List Ver) (nr : Nat), AvInv (latestView w xid) rs nr →
      AvInv (latestView w xid) (avRunN (latestView w xid) xid cid l rows (rs, nr)).1 (avRunN (latestView w xid) xid cid l rows (rs, nr)).2 ∧
      (∀ l', l' ≠ l → ∀ k, avView (latestView w xid) (avRunN (latestView w xid) xid cid l rows (rs, nr)).1 l' k = avView (latestView w xid) rs l' k) ∧
      ∀ av : PCV, Map.WF av → (∀ k, avView (latestView w xid) rs l k = av.get? k) →
        ∀ k, avView (latestView w xid) (avRunN (latestView w xid) xid cid l rows (rs, nr)).1 l k =
          ((bkOf rows).foldl (fun m k => Map.insertWith (fun old _ => old) k Volumes.zero m) av).get? k
  | [], _, _, h => ⟨h, fun _ _ _ => rfl, fun _ _ habs => habs⟩
  | r :: rest, rs, nr, h => by
    obtain ⟨hinv1, hget1⟩ := avStepN_sem w xid cid hx hc l r.accounts_address r.asset 0 0 rs nr h
    obtain ⟨hview, hoth⟩ := avView_update hget1
    obtain ⟨i1, i2, i3⟩ := avRunN_sem w xid cid hx hc l rest _ _ hinv1
    refine ⟨i1, fun l' hl k => (i2 l' hl k).trans (hoth l' hl k), fun av hwf habs => i3 _ (Map.WF_insertWith _ _ _ hwf) fun k => ?_⟩
    rw [hview, Map.get?_insertWith _ _ _ hwf, ← habs, ← habs]
    unfold avView
    cases avGet (latestView w xid) rs l r.accounts_address r.asset <;> rfl

/-- hypotheses on the state for the zero-row insert (no freshness of the command id is needed:
    `ON CONFLICT DO NOTHING` never touches an existing row) -/
structure AvStateN (s : St) (b : String) (rs : List Ver) (nr : Nat) : Prop where
  table : s.w.table? (avFull b) = some (avT b rs nr)
  names : (s.w.tables.map (·.name)).Nodup
  solo : ∀ x ∈ s.w.active, x = s.xid
  xid : s.xid ≠ 0
  cid : s.cid < 1000000000
  inv : AvInv (latestView s.w s.xid) rs nr

open Ledger.Generated.WriteSql in
/-- the CTE of `GetBalances`, whichever statement `ins` the query names as such, is the pure run `avRunN` -/
theorem exec_getBalances_cte (n : Nat) (env : Env) (b l : String) (id : Nat) (hb : b.isEmpty = false)
    (s : St) (rs : List Ver) (nr : Nat) (hs : AvStateN s b rs nr) (rows : List BalanceRow)
    (ins : Stmt) (hins : (P.getBalances b l id rows).flatMap cteStmts = [ins]) :
    (execStmt (n + 5) env ins).exec s =
      (.ok { rel := { cols := [], rows := [] }, affected := avRunNCount (latestView s.w s.xid) s.xid s.cid l rows (rs, nr) },
       s.withTable (avT b (avRunN (latestView s.w s.xid) s.xid s.cid l rows (rs, nr)).1
                          (avRunN (latestView s.w s.xid) s.xid s.cid l rows (rs, nr)).2)) := by
  obtain ⟨cols, target, f, g, hstmt, hcols, hsrc, sh⟩ := getBalances_shape env b l id
  obtain rfl := (List.cons.inj ((hstmt rows).symm.trans hins)).1
  rw [execStmt_insert_noCte]
  exact exec_execInsert_av_nothing n env b "" l cols target none "" f g hb hcols hsrc sh s rs nr hs.table hs.names hs.solo hs.xid hs.cid
    hs.inv rows

end Ledger.Sql
