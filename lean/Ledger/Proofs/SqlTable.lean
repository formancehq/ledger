import Ledger.Proofs.SqlStore

/-!
# Generic facts on tables, views and row versions (any table)
-/
namespace Ledger.Sql

/-- the view of the running (sub-)statement -/
def cv (s : St) : View := { xid := s.xid, cid := s.cid, snap := s.snap }

/-- Hypotheses on the state in which a statement runs, independent of any table: inside a
    transaction, alone (no other transaction in progress), with the READ COMMITTED snapshot of the
    current world, no EvalPlanQual re-check pending. -/
structure TxState (s : St) : Prop where
  solo : ∀ x ∈ s.w.active, x = s.xid
  xid : s.xid ≠ 0
  cid : s.cid < 1000000000
  snap : s.snap = { xip := s.w.active.filter (· != s.xid), xmax := s.w.nextXid }
  noEpq : s.epq = none
  names : (s.w.tables.map (·.name)).Nodup

theorem TxState.withTable {s : St} (h : TxState s) (t : Table) : TxState (s.withTable t) :=
  ⟨h.solo, h.xid, h.cid, h.snap, h.noEpq, by
    show ((s.w.setTable t).tables.map (·.name)).Nodup
    rw [names_setTable]; exact h.names⟩

/-- nothing has been written under the running command id yet -/
def Fresh (xid cid : Nat) (rows : List Ver) : Prop :=
  ∀ r ∈ rows, (r.xmin = xid → r.cmin < cid) ∧ (r.xmax = xid → r.cmax < cid)

theorem xidVisible_cv_latest (s : St) (hs : TxState s) (x c : Nat) (h : x = s.xid → c < s.cid) :
    xidVisible (cv s) x c = xidVisible (latestView s.w s.xid) x c := by
  unfold xidVisible cv latestView
  simp only [hs.snap]
  by_cases h0 : x = 0
  · simp [h0]
  · by_cases h1 : x = s.xid
    · have := h h1
      have hc := hs.cid
      simp [h1, this]
      omega
    · simp [h0, h1]

theorem visible_cv_latest (s : St) (hs : TxState s) (rows : List Ver) (hf : Fresh s.xid s.cid rows) (r : Ver) (hr : r ∈ rows) :
    r.visible (cv s) = r.visible (latestView s.w s.xid) := by
  unfold Ver.visible
  rw [xidVisible_cv_latest s hs r.xmin r.cmin (hf r hr).1, xidVisible_cv_latest s hs r.xmax r.cmax (hf r hr).2]

theorem scan_eq (t : Table) (v : View) : t.scan v = (t.rows.filter (fun r => r.visible v)).reverse := by
  unfold Table.scan
  have : ∀ (rows acc : List Ver), rows.foldl (fun acc r => if r.visible v then r :: acc else acc) acc =
      (rows.filter (fun r => r.visible v)).reverse ++ acc := by
    intro rows
    induction rows with
    | nil => intro acc; rfl
    | cons r rs ih =>
      intro acc
      simp only [List.foldl_cons, List.filter_cons]
      cases r.visible v <;> simp [ih]
  simpa using this t.rows []

/-- the scope a target row of UPDATE / DELETE is evaluated in -/
def rowScopeOf (t : Table) (alias : String) (r : Ver) : Scope :=
  { alias := alias, cols := t.colNames, vals := r.vals, src := some (t.name, r.rid) }

theorem exec_scanTable (s : St) (hs : TxState s) (t : Table) (a : String) :
    (scanTable t a).exec s = (.ok ((t.scan (cv s)).map (rowScopeOf t a)), s) := by
  simp [scanTable, exec_bind, hs.noEpq, cv, rowScopeOf]

theorem exec_heldByOther (s : St) (hs : TxState s) (r : Ver) : (heldByOther r).exec s = (.ok none, s) :=
  exec_heldByOther_solo s hs.solo r

/-- among the versions visible under `lv`, a row id identifies the version -/
def RidInj (lv : View) (rows : List Ver) : Prop :=
  ∀ r1 ∈ rows, ∀ r2 ∈ rows, r1.visible lv = true → r2.visible lv = true → r1.rid = r2.rid → r1 = r2

theorem find?_rid_visible {lv : View} {rows : List Ver} {r : Ver} (hr : r ∈ rows) (hv : r.visible lv = true) (hinj : RidInj lv rows) :
    rows.find? (fun x => x.rid == r.rid && x.visible lv) = some r := by
  cases hf : rows.find? (fun x => x.rid == r.rid && x.visible lv) with
  | none =>
    have := List.find?_eq_none.mp hf r hr
    simp [hv] at this
  | some x =>
    have hx := List.find?_some hf
    simp only [Bool.and_eq_true, beq_iff_eq] at hx
    rw [hinj x (List.mem_of_find?_eq_some hf) r hr hx.2 hv hx.1]

theorem exec_latestVersion (s : St) (t : Table) (r : Ver) (hr : r ∈ t.rows) (hv : r.visible (latestView s.w s.xid) = true)
    (hinj : RidInj (latestView s.w s.xid) t.rows) :
    (latestVersion t r.rid).exec s = (.ok (some r), s) := by
  simp only [latestVersion, exec_bind, exec_get, exec_pure, find?_rid_visible hr hv hinj]

theorem inProgressOther_solo' (xid : Nat) (active : List Nat) (hsolo : ∀ x ∈ active, x = xid) (x : Nat) :
    inProgressOther xid active x = false := by
  unfold inProgressOther
  by_cases h : active.contains x = true
  · have : x = xid := hsolo x (by simpa using h)
    simp [this]
  · simp at h; simp [h]

theorem exec_scanConflict_gen (t : Table) (idx : UniqueIdx) (key : List Value) (ex : Option Nat) (lv : View) (xid : Nat)
    (active : List Nat) (hsolo : ∀ x ∈ active, x = xid) (s : St) (km : Ver → Bool) (rows : List Ver)
    (hkm : ∀ r ∈ rows, r.visible lv = true → (some r.rid == ex) = false → (keyMatches t idx key r).exec s = (.ok (km r), s)) :
    (scanConflict t idx key ex lv xid active rows).exec s =
      (.ok (rows.find? (fun r => !(some r.rid == ex) && (r.visible lv && km r))), s) := by
  induction rows with
  | nil => simp [scanConflict]
  | cons r rest ih =>
    have ih' := ih (fun x hx => hkm x (by simp [hx]))
    rw [scanConflict]
    simp only [inProgressOther_solo' xid active hsolo, Bool.false_and, Bool.or_false, List.find?_cons]
    by_cases h1 : (some r.rid == ex) = true
    · simp [h1, ih']
    · have h1' : (some r.rid == ex) = false := by simpa using h1
      simp only [h1', Bool.false_eq_true, if_false, Bool.not_false, Bool.true_and]
      cases hv : r.visible lv
      · simp [ih']
      · simp only [Bool.not_true, Bool.false_eq_true, if_false, exec_bind, hkm r (by simp) hv h1', Bool.true_and]
        cases hk : km r
        · simp [ih']
        · simp

end Ledger.Sql
