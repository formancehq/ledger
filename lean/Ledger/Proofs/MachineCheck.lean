import Ledger.Machine.Check
import Ledger.Proofs.MachineLookup

/-! What a successful check says about each construct: the compiler's checks (`Check.lean`) read
    backwards, one lemma per construct; for sources the judgement `Source.WT`, the check without its
    accumulators.  `checkStmts_all` and `checkVars_plain` read them forwards, for a script built to pass. -/
namespace Ledger.Machine

/-- Every check is a chain of `match a with | .error e => .error e | .ok () => b`: it succeeds only if both do.
    Stated at `Except String Unit` on purpose: Lean then compiles this `match` to the matcher the checks' own
    `match`es use, so `h` may be a check unfolded by `rw`; a statement polymorphic in the error or the matched
    value type gets a matcher of its own, which does not unify with theirs. -/
theorem Except.seq_ok {α : Type} {a : Except String Unit} {b : Except String α} {r : α}
    (h : (match a with | .error e => (.error e : Except String α) | .ok () => b) = .ok r) :
    a = .ok () ∧ b = .ok r := by
  cases a with
  | error e => cases h
  | ok u => exact ⟨rfl, h⟩

theorem Except.ok_of_map_ok {ε α β : Type} {a : Except ε α} {f : α → β} {r : β} (h : a.map f = .ok r) :
    ∃ x, a = .ok x := by
  cases a with
  | error e => cases h
  | ok x => exact ⟨x, rfl⟩

theorem expectTy_inv {ds : Decls} {e : Expr} {want : Ty} {msg : String → String}
    (h : expectTy ds e want msg = .ok ()) : typeExpr ds e = .ok want := by
  unfold expectTy at h
  split at h
  · cases h
  · rename_i t ht
    split at h
    · rename_i heq; subst heq; exact ht
    · cases h

theorem checkSource_account_inv {ds : Decls} {isAll : Bool} {e : Expr} {od : Overdraft}
    {r : List String × Bool} (h : checkSource ds isAll (.account e od) = .ok r) :
    typeExpr ds e = .ok .account ∧ (∀ x, od = .upTo x → typeExpr ds x = .ok .monetary) := by
  simp only [checkSource] at h
  split at h
  · cases h
  · rename_i t ht
    split at h
    · cases h
    · rename_i hta
      have hta' : t = .account := by simpa using hta
      subst hta'
      refine ⟨ht, ?_⟩
      intro x hx
      subst hx
      simp only at h
      split at h
      · cases h
      · split at h
        · cases h
        · rename_i tx htx
          split at h
          · cases h
          · rename_i hm
            have : tx = .monetary := by simpa using hm
            subst this; exact htx

mutual
  /-- What `checkSource` establishes of a source, without the accumulators of the check (`isAll`, the accounts
      emptied so far, its result). -/
  def Source.WT (ds : Decls) : Source → Prop
    | .account e od => typeExpr ds e = .ok .account ∧ ∀ x, od = .upTo x → typeExpr ds x = .ok .monetary
    | .maxed m s => s.WT ds ∧ typeExpr ds m = .ok .monetary
    | .inorder ss => ss.WT ds
  def SourceList.WT (ds : Decls) : SourceList → Prop
    | .nil => True
    | .cons s ss => s.WT ds ∧ ss.WT ds
end

def AllotSrcList.WT (ds : Decls) : AllotSrcList → Prop
  | .nil => True
  | .cons _ s rest => s.WT ds ∧ rest.WT ds

mutual
  theorem checkSource_wt {ds : Decls} : (s : Source) → ∀ {isAll r}, checkSource ds isAll s = .ok r → s.WT ds
    | .account _ _, _, _, h => checkSource_account_inv h
    | .maxed m s, _, _, h => by
      simp only [checkSource] at h
      split at h
      · cases h
      · rename_i hs
        split at h
        · cases h
        · rename_i t ht
          split at h
          · cases h
          · rename_i hm
            obtain rfl : t = .monetary := by simpa using hm
            exact ⟨checkSource_wt s hs, ht⟩
    | .inorder ss, _, _, h => by rw [checkSource] at h; exact checkSources_wt ss h
  theorem checkSources_wt {ds : Decls} : (ss : SourceList) → ∀ {isAll em r},
      checkSources ds isAll ss em = .ok r → ss.WT ds
    | .nil, _, _, _, _ => trivial
    | .cons s .nil, _, _, _, h => by
      simp only [checkSources] at h
      split at h
      · cases h
      · exact ⟨checkSource_wt s ‹_›, trivial⟩
    | .cons s (.cons s' rest), _, _, _, h => by
      simp only [checkSources] at h
      split at h
      · cases h
      · rename_i hs
        -- the two refusals of the loop, then the rest with the longer list of emptied accounts
        split at h
        · cases h
        · split at h
          · cases h
          · exact ⟨checkSource_wt s hs, checkSources_wt (.cons s' rest) h⟩
end

theorem checkAllotSources_wt {ds : Decls} : (items : AllotSrcList) → checkAllotSources ds items = .ok () →
    items.WT ds
  | .nil, _ => trivial
  | .cons _ s rest, h => by
    simp only [checkAllotSources] at h
    split at h
    · cases h
    · exact ⟨checkSource_wt s ‹_›, checkAllotSources_wt rest h⟩

theorem checkDest_account_inv {ds : Decls} {e : Expr} (h : checkDest ds (.account e) = .ok ()) :
    typeExpr ds e = .ok .account := by
  rw [checkDest] at h; exact expectTy_inv h

theorem checkDest_inorder_inv {ds : Decls} {items : InOrderDstList} {rem : KeptOrDest}
    (h : checkDest ds (.inorder items rem) = .ok ()) : checkInOrder ds items = .ok () ∧ checkKD ds rem = .ok () := by
  rw [checkDest] at h; exact Except.seq_ok h

theorem checkDest_allot_inv {ds : Decls} {items : AllotDstList} (h : checkDest ds (.allot items) = .ok ()) :
    checkAllotment ds items.portions = .ok () ∧ checkAllotDst ds items = .ok () := by
  rw [checkDest] at h; exact Except.seq_ok h

theorem checkInOrder_cons_inv {ds : Decls} {m : Expr} {d : KeptOrDest} {rest : InOrderDstList}
    (h : checkInOrder ds (.cons m d rest) = .ok ()) :
    typeExpr ds m = .ok .monetary ∧ checkKD ds d = .ok () ∧ checkInOrder ds rest = .ok () := by
  rw [checkInOrder] at h
  obtain ⟨hm, h⟩ := Except.seq_ok h
  exact ⟨expectTy_inv hm, Except.seq_ok h⟩

theorem checkAllotDst_cons_inv {ds : Decls} {p : PortionE} {d : KeptOrDest} {rest : AllotDstList}
    (h : checkAllotDst ds (.cons p d rest) = .ok ()) : checkKD ds d = .ok () ∧ checkAllotDst ds rest = .ok () := by
  rw [checkAllotDst] at h; exact Except.seq_ok h

theorem checkStmt_inv {ds : Decls} {s : Stmt} (h : checkStmt ds s = .ok ()) :
    match s with
    | .print e => ∃ t, typeExpr ds e = .ok t
    | .fail => True
    | .setTxMeta _ e => ∃ t, typeExpr ds e = .ok t
    | .setAccountMeta acc _ e => (∃ t, typeExpr ds e = .ok t) ∧ typeExpr ds acc = .ok .account
    | .save mon acc => typeExpr ds mon = .ok .monetary ∧ typeExpr ds acc = .ok .account
    | .saveAll a acc => typeExpr ds a = .ok .asset ∧ typeExpr ds acc = .ok .account
    | .send mon (.src so) dst =>
      typeExpr ds mon = .ok .monetary ∧ so.WT ds ∧ checkDest ds dst = .ok ()
    | .send mon (.allot items) dst =>
      typeExpr ds mon = .ok .monetary ∧ checkAllotment ds items.portions = .ok () ∧ items.WT ds ∧
        checkDest ds dst = .ok ()
    | .sendAll a (.src so) dst =>
      typeExpr ds a = .ok .asset ∧ so.WT ds ∧ checkDest ds dst = .ok ()
    | .sendAll _ (.allot _) _ => False := by
  cases s with
  | print e => exact Except.ok_of_map_ok h
  | fail => trivial
  | setTxMeta k e => exact Except.ok_of_map_ok h
  | setAccountMeta acc k e =>
    simp only [checkStmt] at h
    split at h
    · cases h
    · exact ⟨⟨_, ‹_›⟩, expectTy_inv h⟩
  | save mon acc =>
    obtain ⟨h1, h2⟩ := Except.seq_ok h
    exact ⟨expectTy_inv h1, expectTy_inv h2⟩
  | saveAll a acc =>
    obtain ⟨h1, h2⟩ := Except.seq_ok h
    exact ⟨expectTy_inv h1, expectTy_inv h2⟩
  | send mon src dst =>
    obtain ⟨hm, h⟩ := Except.seq_ok h
    cases src with
    | src so =>
      obtain ⟨hsrc, h⟩ := Except.seq_ok h
      obtain ⟨_, hsrc⟩ := Except.ok_of_map_ok hsrc
      exact ⟨expectTy_inv hm, checkSource_wt so hsrc, h⟩
    | allot items =>
      obtain ⟨hsrc, h⟩ := Except.seq_ok h
      exact ⟨expectTy_inv hm, (Except.seq_ok hsrc).1, checkAllotSources_wt items (Except.seq_ok hsrc).2, h⟩
  | sendAll a src dst =>
    obtain ⟨hm, h⟩ := Except.seq_ok h
    cases src with
    | allot items => cases h
    | src so =>
      simp only at h
      split at h
      · cases h
      · exact ⟨expectTy_inv hm, checkSource_wt so ‹_›, h⟩

theorem checkStmts_inv {ds : Decls} : (ss : List Stmt) → checkStmts ds ss = .ok () →
    ∀ s ∈ ss, checkStmt ds s = .ok ()
  | [], _ => by intro s hs; cases hs
  | x :: xs, h => by
    obtain ⟨hx, h⟩ := Except.seq_ok h
    intro s hs
    rcases List.mem_cons.mp hs with rfl | hs
    · exact hx
    · exact checkStmts_inv xs h s hs

theorem checkStmts_all (ds : Decls) : (ss : List Stmt) → (∀ s ∈ ss, checkStmt ds s = .ok ()) →
    checkStmts ds ss = .ok ()
  | [], _ => rfl
  | s :: ss, h => by
    simp only [checkStmts, h s (by simp)]
    exact checkStmts_all ds ss (fun x hx => h x (by simp [hx]))

/-- What `checkVars` requires of the origin of one declaration. -/
def OrigOK (ds : Decls) (v : VarDecl) : Prop :=
  match v.orig with
  | .none => True
  | .accountMeta acc _ => typeExpr ds acc = .ok .account
  | .balance acc asset => v.ty = .monetary ∧ typeExpr ds acc = .ok .account ∧ typeExpr ds asset = .ok .asset

theorem checkVars_cons_inv {v : VarDecl} {vs : List VarDecl} {ds ds' : Decls}
    (h : checkVars (v :: vs) ds = .ok ds') :
    ds.lookup v.name = none ∧ OrigOK ds v ∧ checkVars vs (ds ++ [(v.name, v.ty)]) = .ok ds' := by
  simp only [checkVars] at h
  split at h
  · cases h
  · rename_i hnd
    obtain ⟨horig, h⟩ := Except.seq_ok h
    refine ⟨Option.not_isSome_iff_eq_none.mp hnd, ?_, h⟩
    unfold OrigOK
    cases ho : v.orig with
    | none => trivial
    | accountMeta acc key => simp only [ho] at horig ⊢; exact expectTy_inv horig
    | balance acc asset =>
      simp only [ho] at horig ⊢
      split at horig
      · cases horig
      · rename_i hmon
        obtain ⟨hca, horig⟩ := Except.seq_ok horig
        exact ⟨by simpa using hmon, expectTy_inv hca, expectTy_inv horig⟩

theorem checkVars_names : (vs : List VarDecl) → (ds ds' : Decls) → checkVars vs ds = .ok ds' →
    ds' = ds ++ vs.map (fun d => (d.name, d.ty)) ∧ ((ds.map (·.1)).Nodup → (ds'.map (·.1)).Nodup)
  | [], ds, ds', h => by simp only [checkVars] at h; cases h; simp
  | v :: vs, ds, ds', h => by
    obtain ⟨hnone, _, h⟩ := checkVars_cons_inv h
    obtain ⟨e, hn⟩ := checkVars_names vs _ ds' h
    refine ⟨by rw [e]; simp, ?_⟩
    intro hds
    apply hn
    simp only [List.map_append, List.map_cons, List.map_nil]
    rw [List.nodup_append]
    refine ⟨hds, by simp, ?_⟩
    intro a ha b hb hab
    simp only [List.mem_singleton] at hb
    subst hb; subst hab
    exact lookup_eq_none_iff_keys.mp hnone ha

theorem checkVars_plain : (vs : List VarDecl) → (ds : Decls) → (∀ d ∈ vs, d.orig = Origin.none) →
    ((ds.map (·.1)) ++ vs.map (·.name)).Nodup →
    checkVars vs ds = .ok (ds ++ vs.map (fun d => (d.name, d.ty)))
  | [], ds, _, _ => by simp [checkVars]
  | v :: vs, ds, hp, hn => by
    have hv : v.orig = Origin.none := hp v (by simp)
    have hnot : ds.lookup v.name = none :=
      lookup_eq_none_iff_keys.mpr fun h1 => (List.nodup_append.mp hn).2.2 _ h1 _ (by simp) rfl
    simp only [checkVars, hnot, Option.isSome_none, Bool.false_eq_true, if_false, hv]
    have := checkVars_plain vs (ds ++ [(v.name, v.ty)]) (fun d hd => hp d (by simp [hd]))
      (by
        simp only [List.map_append, List.map_cons, List.map_nil, List.append_assoc, List.singleton_append]
        simpa using hn)
    rw [this]
    simp

theorem typecheck_inv {s : Script} {ds : Decls} (htc : typecheck s = .ok ds) :
    checkVars s.vars [] = .ok ds ∧ checkStmts ds s.stmts = .ok () := by
  unfold typecheck at htc
  split at htc
  · cases htc
  rename_i ds0 hcv
  obtain ⟨hcs, htc⟩ := Except.seq_ok htc
  cases htc
  exact ⟨hcv, hcs⟩

end Ledger.Machine
