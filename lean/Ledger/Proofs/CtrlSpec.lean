import Ledger.Proofs.CtrlSpecStep

/-!
The tables equal the reference reading of the journal (`specOf`): preserved by
every committed write, hence by every write operation and every history.
-/
namespace Ledger.Ctrl
open Ledger.Base Ledger.Core

/-- What the reference reading talks about, taken from the actual tables. -/
def view (d : Db) : SpecSt := { schemas := d.schemas, accounts := projAccounts d, txMeta := projTxMeta d }

/-- The tables agree with the journal. -/
def SpecOk (d : Db) : Prop := specOf d.logs = view d

def mkLog (lid : Nat) (p : Payload) (now : Time) (ik ihash sv : String) : Log :=
  { id := lid, payload := p, date := now, ik := ik, ihash := ihash, schemaVersion := sv }

theorem modifyTx_frame (d : Db) (id : Nat) (g : Tx → Tx) :
    (d.modifyTx id g).schemas = d.schemas ∧ projAccounts (d.modifyTx id g) = projAccounts d := ⟨rfl, rfl⟩

theorem commit_view {now : Time} {t : TxIn} {d : Db} {sq sq' : Seqs} {row : Tx} {d' : Db}
    (h : commitTransaction now t d sq = (sq', .ok (row, d'))) :
    d'.schemas = d.schemas ∧ d'.accounts = d.accounts ∧ d'.txs = d.txs ++ [row] := by
  rw [(commitTransaction_cases h).2.1]
  exact ⟨rfl, rfl, rfl⟩

theorem projTxMeta_append {d d' : Db} {row : Tx} (h : d'.txs = d.txs ++ [row]) :
    projTxMeta d' = projTxMeta d ++ [(row.id, row.metadata)] := by
  unfold projTxMeta; rw [h, List.map_append]; rfl

theorem touch_fold (now ts ins : Time) (schemas : List Schema) (sv : String) (schema : Option Schema)
    (am : Map String Meta)
    (hD : ∀ a, defaultsOf schema a = specDefaults schemas sv a)
    (addrs : List String) (accs : Map String Account) :
    (addrs.foldl (fun acc a => upsertAccount now acc
        { address := a, metadata := (match am.get? a with | some m => m | none => []),
          firstUsage := some ts, insertionDate := some ins, updatedAt := some ins, defaults := defaultsOf schema a })
      accs).map (fun e => (e.1, projAcc e.2)) =
    addrs.foldl (fun acc a => specTouch schemas sv ts ins acc a (match am.get? a with | some m => m | none => []))
      (accs.map fun e => (e.1, projAcc e.2)) := by
  induction addrs generalizing accs with
  | nil => rfl
  | cons a r ih =>
    simp only [List.foldl_cons]
    rw [ih]
    congr 1
    rw [touch_step, hD]
    rfl

theorem Wrote.spec {now : Time} {sv : String} {d1 d2 : Db} {p : Payload}
    (hw : Wrote now (if sv ≠ "" then findSchema sv d1 else none) d1 p d2) (lid : Nat) (ik ihash : String) :
    specStep (view d1) (mkLog lid p now ik ihash sv) = view d2 := by
  cases hw with
  | savedTx id m t hf =>
    simp only [specStep, mkLog, view]
    rw [projTxMeta_modifyTx d1 id _ (fun old => if metaContains old m then old else metaMerge old m)]
    · rfl
    · intro x; split <;> rfl
    · intro x; split <;> rfl
  | deletedTx id key t hf =>
    simp only [specStep, mkLog, view]
    rw [projTxMeta_modifyTx d1 id _ (fun old => if old.contains key then old.erase key else old)]
    · rfl
    · intro x; split <;> rfl
    · intro x; split <;> rfl
  | savedAcc a m =>
    simp only [specStep, mkLog, view, specSave, upsertAccounts, List.foldl_cons, List.foldl_nil, projAccounts_eq,
      save_step, defaults_eq]
    rfl
  | deletedAcc a key =>
    have htx : projTxMeta (deleteAccountMeta now a key d1) = projTxMeta d1 := by
      unfold projTxMeta; rw [(deleteAccountMeta_frame now d1 a key).2]
    simp only [specStep, mkLog, view, deleteAccountMeta_step, (deleteAccountMeta_frame now d1 a key).1, htx]
    cases (projAccounts d1).get? a <;> rfl
  | schema row hnew => rfl
  | created t am q sq sq' row dc hc =>
    obtain ⟨hs, ha, ht⟩ := commit_view hc
    simp only [specStep, mkLog, view]
    congr 1
    · exact hs.symm
    · rw [projAccounts_eq, projAccounts_eq]
      simp only [upsertAccounts, accountRows, List.foldl_map, ha]
      exact (touch_fold now row.timestamp row.insertedAt d1.schemas sv _ am (fun a => defaults_eq d1 sv a) _ _).symm
    · exact (projTxMeta_append ht).symm
  | reverted orig hf hr t q sq sq' row d' hc =>
    obtain ⟨hs, ha, ht⟩ := commit_view hc
    -- marking the original as reverted leaves its metadata alone
    have hm : projTxMeta (d1.modifyTx orig.id fun x => { x with revertedAt := some now, updatedAt := now }) = projTxMeta d1 :=
      (projTxMeta_modifyTx d1 orig.id (fun x => { x with revertedAt := some now, updatedAt := now }) (fun old => old)
        (fun _ => rfl) (fun _ => rfl)).trans (updTxMeta_id _ _)
    simp only [specStep, mkLog, view]
    congr 1
    · exact hs.symm
    · unfold projAccounts; rw [ha]; rfl
    · exact (hm ▸ projTxMeta_append ht).symm

theorem runLog_spec {now : Time} {hn : String} {f : Faults} {strict : Bool} {kind : OpKind}
    {ik ihash sv : String} {n : Nat} {st0 st : RunSt} {log : Log}
    (h : run now hn f (runLog strict kind ik ihash sv n) st0 = (.ok log, st)) (hs : SpecOk st0.db) :
    SpecOk st.db := by
  have happ := run_runLog_ok now hn f strict kind ik ihash sv n st0 st log h
  obtain ⟨p, d2, sq2, hw, _, hins⟩ := run_runLog_phases h
  obtain ⟨_, hdb, hlog, _⟩ := insertLog_cases hins
  unfold SpecOk at *
  rw [happ.logs, specOf, List.foldl_append, List.foldl_cons, List.foldl_nil]
  show specStep (specOf st0.db.logs) log = view st.db
  rw [hs, hlog, hdb]
  exact hw.spec log.id ik ihash

theorem SpecOk.empty : SpecOk {} := rfl

theorem specOk_stable (strict : Bool) : Stable strict fun d _ => SpecOk d :=
  ⟨fun _ h => h, runLog_spec⟩

/-- Every write operation — with or without faults — keeps the tables in agreement
    with the journal. -/
theorem forgeLog_spec (strict : Bool) (op : Op) (f : Faults) (cf : Bool) (s : State) (h : SpecOk s.db) :
    SpecOk (forgeLog strict op f cf s).state.db := (specOk_stable strict).forgeLog op f cf s h

theorem runHist_spec (strict : Bool) (s : State) (ops : List Op) (h : SpecOk s.db) :
    SpecOk (runHist strict s ops).db := (specOk_stable strict).runHist s ops h

/-- From the empty ledger: the reference reading of the journal is the tables. -/
theorem runHist_view (strict : Bool) (ops : List Op) :
    specOf (runHist strict {} ops).db.logs = view (runHist strict {} ops).db :=
  runHist_spec strict {} ops SpecOk.empty

end Ledger.Ctrl
