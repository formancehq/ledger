import Ledger.Proofs.ListBasic
import Ledger.Proofs.SqlMonad

/-!
# Specifications of LeanPG's table operations

`St.withTable s t` is the state `s` after table `t` has been written back.
`getTable`, `putTable`, `insertVersion`, `updateVersion`, `lockVersion` are
specified as `M.exec` equations over such states.
-/
namespace Ledger.Sql

theorem exec_qualify (b t : String) (hb : b.isEmpty = false) (s : St) : (qualify b t).exec s = (.ok (b ++ "." ++ t), s) := by
  simp only [qualify, hb, Bool.false_eq_true, if_false, exec_pure]

theorem exec_qualify_sp (t : String) (s : St) : (qualify "" t).exec s = (.ok (s.searchPath ++ "." ++ t), s) := rfl

theorem name_setTable (t' x : Table) : (if x.name == t'.name then t' else x).name = x.name := by
  split
  · next h => exact (eq_of_beq h).symm
  · rfl

theorem table?_setTable_eq (w : World) (t' : Table) (name : String) :
    (w.setTable t').table? name = (w.table? name).map (fun x => if x.name == t'.name then t' else x) := by
  unfold World.table? World.setTable
  rw [List.find?_map]
  simp only [Function.comp_def, name_setTable]

theorem table?_setTable_ne (w : World) (t' : Table) (name : String) (h : name ≠ t'.name) :
    (w.setTable t').table? name = w.table? name := by
  rw [table?_setTable_eq]
  cases hx : w.table? name with
  | none => rfl
  | some x =>
    have hb : (x.name == name) = true := List.find?_some (p := fun t : Table => t.name == name) hx
    have hn : x.name = name := eq_of_beq hb
    exact congrArg some (if_neg (by rw [hn]; simpa using h))

theorem setTable_setTable (w : World) (t1 t2 : Table) (h : t1.name = t2.name) :
    (w.setTable t1).setTable t2 = w.setTable t2 := by
  unfold World.setTable
  simp only [List.map_map]
  congr 1
  apply List.map_congr_left
  intro x _
  show (if (if x.name == t1.name then t1 else x).name == t2.name then t2 else _) = _
  rw [name_setTable, ← h]
  split <;> rfl

def St.withTable (s : St) (t : Table) : St := { s with w := s.w.setTable t }

@[simp] theorem withTable_xid (s : St) (t : Table) : (s.withTable t).xid = s.xid := rfl
@[simp] theorem withTable_cid (s : St) (t : Table) : (s.withTable t).cid = s.cid := rfl
@[simp] theorem withTable_sid (s : St) (t : Table) : (s.withTable t).sid = s.sid := rfl
@[simp] theorem withTable_afterQ (s : St) (t : Table) : (s.withTable t).afterQ = s.afterQ := rfl
@[simp] theorem withTable_searchPath (s : St) (t : Table) : (s.withTable t).searchPath = s.searchPath := rfl
@[simp] theorem withTable_active (s : St) (t : Table) : (s.withTable t).w.active = s.w.active := rfl
@[simp] theorem withTable_nextXid (s : St) (t : Table) : (s.withTable t).w.nextXid = s.w.nextXid := rfl
@[simp] theorem withTable_types (s : St) (t : Table) : (s.withTable t).w.types = s.w.types := rfl
@[simp] theorem withTable_funcs (s : St) (t : Table) : (s.withTable t).w.funcs = s.w.funcs := rfl
@[simp] theorem withTable_seqs (s : St) (t : Table) : (s.withTable t).w.seqs = s.w.seqs := rfl
@[simp] theorem withTable_nextCid (s : St) (t : Table) : (s.withTable t).nextCid = s.nextCid := rfl
@[simp] theorem withTable_snap (s : St) (t : Table) : (s.withTable t).snap = s.snap := rfl
@[simp] theorem withTable_latestView (s : St) (t : Table) (x : Nat) :
    latestView (s.withTable t).w x = latestView s.w x := rfl

def Table.withRows (t : Table) (rows : List Ver) : Table := { t with rows := rows }

@[simp] theorem withRows_name (t : Table) (rows : List Ver) : (t.withRows rows).name = t.name := rfl
@[simp] theorem withRows_rows (t : Table) (rows : List Ver) : (t.withRows rows).rows = rows := rfl
@[simp] theorem withRows_colNames (t : Table) (rows : List Ver) : (t.withRows rows).colNames = t.colNames := rfl
@[simp] theorem withRows_cols (t : Table) (rows : List Ver) : (t.withRows rows).cols = t.cols := rfl
@[simp] theorem withRows_triggers (t : Table) (rows : List Ver) : (t.withRows rows).triggers = t.triggers := rfl
@[simp] theorem withRows_uniques (t : Table) (rows : List Ver) : (t.withRows rows).uniques = t.uniques := rfl
@[simp] theorem withRows_fks (t : Table) (rows : List Ver) : (t.withRows rows).fks = t.fks := rfl
@[simp] theorem withRows_withRows (t : Table) (r1 r2 : List Ver) : (t.withRows r1).withRows r2 = t.withRows r2 := rfl

theorem withTable_table? (s : St) (t t' : Table) (h : s.w.table? t'.name = some t) :
    (s.withTable t').w.table? t'.name = some t' := by
  show (s.w.setTable t').table? t'.name = _
  rw [table?_setTable_eq, h]
  exact congrArg some (if_pos (List.find?_some (p := fun x : Table => x.name == t'.name) h))

theorem withTable_withTable (s : St) (t1 t2 : Table) (h : t1.name = t2.name) :
    (s.withTable t1).withTable t2 = s.withTable t2 := by
  unfold St.withTable
  simp only [setTable_setTable _ _ _ h]

theorem withTable_self (s : St) (t : Table) (h : s.w.table? t.name = some t) (hu : (s.w.tables.map (·.name)).Nodup) :
    s.withTable t = s := by
  have : s.w.tables.map (fun x => if x.name == t.name then t else x) = s.w.tables := by
    refine (List.map_congr_left fun x hx => ?_).trans (List.map_id' _)
    split
    · next hn => exact nodup_map_inj (·.name) _ hu t (List.mem_of_find?_eq_some h) x hx (eq_of_beq hn).symm
    · rfl
  unfold St.withTable World.setTable
  rw [this]

theorem withTable_table?_ne (s : St) (t : Table) (name : String) (h : name ≠ t.name) :
    (s.withTable t).w.table? name = s.w.table? name := table?_setTable_ne s.w t name h

theorem names_setTable (w : World) (t : Table) : (w.setTable t).tables.map (·.name) = w.tables.map (·.name) := by
  unfold World.setTable
  rw [List.map_map]
  exact List.map_congr_left fun x _ => name_setTable t x

theorem exec_getTable {s : St} {full : String} {t : Table} (h : s.w.table? full = some t) :
    (getTable full).exec s = (.ok t, s) := by
  unfold getTable
  apply exec_seq (exec_getW s)
  rw [h]
  rfl

theorem exec_putTable (s : St) (t : Table) : (putTable t).exec s = (.ok (), s.withTable t) := rfl

theorem exec_insertVersion {s : St} {full : String} {t : Table} (h : s.w.table? full = some t)
    (vals : List Value) :
    (insertVersion full vals).exec s =
      (.ok t.nextRid, s.withTable { t with rows := { rid := t.nextRid, xmin := s.xid, cmin := s.cid, vals := vals } :: t.rows,
                                           nextRid := t.nextRid + 1 }) := by
  simp [insertVersion, exec_bind, exec_getTable h, exec_putTable]

/-- what `updateVersion` does to one stored version: a visible version of `rid` is closed (the new version is prepended) -/
def closeRow (lv : View) (xid cid rid : Nat) (r : Ver) : Ver :=
  if r.rid == rid && r.visible lv then { r with xmax := xid, cmax := cid } else r

def lockRow (lv : View) (xid cid rid : Nat) (r : Ver) : Ver :=
  if r.rid == rid && r.visible lv && r.locker == 0 then { r with locker := xid, lockCid := cid } else r

theorem exec_updateVersion {s : St} {full : String} {t : Table} (h : s.w.table? full = some t)
    (rid : Nat) (vals : List Value) :
    (updateVersion full rid vals).exec s =
      (.ok (), s.withTable { t with rows := { rid := rid, xmin := s.xid, cmin := s.cid, vals := vals } ::
                                      t.rows.map (closeRow (latestView s.w s.xid) s.xid s.cid rid) }) := by
  simp only [updateVersion, exec_bind, exec_get, exec_getTable h, exec_putTable]
  rfl

theorem exec_lockVersion {s : St} {full : String} {t : Table} (h : s.w.table? full = some t) (rid : Nat) :
    (lockVersion full rid).exec s =
      (.ok (), s.withTable { t with rows := t.rows.map (lockRow (latestView s.w s.xid) s.xid s.cid rid) }) := by
  simp only [lockVersion, exec_bind, exec_get, exec_getTable h, exec_putTable]
  rfl

theorem exec_heldByOther_solo (s : St) (hsolo : ∀ x ∈ s.w.active, x = s.xid) (r : Ver) :
    (heldByOther r).exec s = (.ok none, s) := by
  have h : ∀ x, ¬((¬x = 0 ∧ ¬x = s.xid) ∧ x ∈ s.w.active) := by
    intro x ⟨⟨_, h2⟩, h3⟩
    exact h2 (hsolo x h3)
  simp [heldByOther, exec_bind, h]

@[simp] theorem lockRow_visible (lv lv' : View) (xid cid rid : Nat) (r : Ver) :
    (lockRow lv xid cid rid r).visible lv' = r.visible lv' := by
  unfold lockRow; split <;> rfl

@[simp] theorem lockRow_rid (lv : View) (xid cid rid : Nat) (r : Ver) : (lockRow lv xid cid rid r).rid = r.rid := by
  unfold lockRow; split <;> rfl

@[simp] theorem lockRow_vals (lv : View) (xid cid rid : Nat) (r : Ver) : (lockRow lv xid cid rid r).vals = r.vals := by
  unfold lockRow; split <;> rfl

@[simp] theorem lockRow_xmin (lv : View) (xid cid rid : Nat) (r : Ver) : (lockRow lv xid cid rid r).xmin = r.xmin := by
  unfold lockRow; split <;> rfl

@[simp] theorem lockRow_cmin (lv : View) (xid cid rid : Nat) (r : Ver) : (lockRow lv xid cid rid r).cmin = r.cmin := by
  unfold lockRow; split <;> rfl

@[simp] theorem closeRow_rid (lv : View) (xid cid rid : Nat) (r : Ver) : (closeRow lv xid cid rid r).rid = r.rid := by
  unfold closeRow; split <;> rfl

@[simp] theorem closeRow_vals (lv : View) (xid cid rid : Nat) (r : Ver) : (closeRow lv xid cid rid r).vals = r.vals := by
  unfold closeRow; split <;> rfl

@[simp] theorem closeRow_xmin (lv : View) (xid cid rid : Nat) (r : Ver) : (closeRow lv xid cid rid r).xmin = r.xmin := by
  unfold closeRow; split <;> rfl

@[simp] theorem closeRow_cmin (lv : View) (xid cid rid : Nat) (r : Ver) : (closeRow lv xid cid rid r).cmin = r.cmin := by
  unfold closeRow; split <;> rfl

/-- a version closed by the running transaction at a command id below the horizon of
    `latestView` is invisible to it -/
theorem closeRow_visible (w : World) (xid cid rid : Nat) (r : Ver) (hx : xid ≠ 0) (hc : cid < 1000000000) :
    (closeRow (latestView w xid) xid cid rid r).visible (latestView w xid) =
      (r.visible (latestView w xid) && !(r.rid == rid)) := by
  unfold closeRow
  cases hr : (r.rid == rid) <;> cases hv : r.visible (latestView w xid) <;> simp [hv]
  · simp [Ver.visible, xidVisible, latestView, hx, hc]

end Ledger.Sql
