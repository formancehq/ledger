import Ledger.Proofs.SqlMovesStored
import Ledger.Proofs.SqlTrigSched
open Ledger Ledger.Sql Ledger.Generated Ledger.Core
namespace Ledger.Sql
open Ledger.Spec

theorem exec_checkConstraints_mv (b : String) (trigs : List TriggerDef) (nr : Nat) (rows : List Ver) (l : String) (m : Spec.MoveRow) (s : St) :
    (checkConstraints ((mvT b trigs nr).withRows rows) (mvVals l m)).exec s = (.ok (), s) :=
  exec_checkConstraints_pv _ _ s rfl (fun _ h => nomatch h)

theorem exec_checkForeignKeys_mv (b : String) (trigs : List TriggerDef) (nr : Nat) (rows : List Ver) (vals : List Value) (s : St) :
    (checkForeignKeys ((mvT b trigs nr).withRows rows) vals).exec s = (.ok (), s) :=
  exec_checkForeignKeys_nil _ vals s rfl

def mvIdx : UniqueIdx := { name := "moves_pkey", cols := ["seq"], pred := none, primary := true }

theorem mvT_uniques (b : String) (trigs : List TriggerDef) (nr : Nat) (rows : List Ver) :
    ((mvT b trigs nr).withRows rows).uniques = [mvIdx] := rfl

theorem exec_findConflict_mv_ex (b : String) (trigs : List TriggerDef) (nr : Nat) (rows : List Ver) (l : String) (m : Spec.MoveRow)
    (ex : Option Nat) (s : St) (hsolo : ∀ y ∈ s.w.active, y = s.xid) (bound : Int) (hall : MvAll bound rows)
    (hno : ∀ q ∈ rows, q.visible (latestView s.w s.xid) = true → (some q.rid == ex) = false → seqOfVals q.vals ≠ m.seq) :
    (findConflict ((mvT b trigs nr).withRows rows) [mvIdx] (mvVals l m) ex).exec s = (.ok none, s) := by
  rw [exec_findConflict_single _ mvIdx _ ex s hsolo rfl rfl (fun _ => false) (fun r hr hv he => by
    obtain ⟨l', m', hvv, _⟩ := hall r hr
    have hne := hno r hr hv he
    rw [hvv, seqOfVals_mvVals] at hne
    refine exec_keyMatches_noPred _ mvIdx _ r s false rfl ?_
    rw [show keyOf ((mvT b trigs nr).withRows rows) mvIdx.cols r.vals = [.int m'.seq] by rw [hvv]; rfl]
    exact (sameGroupKey_int1 _ _).trans (by rw [decide_eq_false (by omega)]))]
  simp

theorem exec_findConflict_mv_none (b : String) (trigs : List TriggerDef) (nr : Nat) (rows : List Ver) (l : String) (m : Spec.MoveRow)
    (s : St) (hsolo : ∀ y ∈ s.w.active, y = s.xid) (hall : MvAll m.seq rows) :
    (findConflict ((mvT b trigs nr).withRows rows) [mvIdx] (mvVals l m) none).exec s = (.ok none, s) :=
  exec_findConflict_mv_ex b trigs nr rows l m none s hsolo m.seq hall (fun q hq _ _ => by
    obtain ⟨l', m', hv, hlt⟩ := hall q hq
    rw [hv, seqOfVals_mvVals]
    omega)

/-- what does not change while `INSERT INTO moves` runs: the catalogue of functions and types, the triggers of `moves` — exactly one
    BEFORE INSERT and one AFTER INSERT trigger fire for ledger `ln` (`trB`, `trA`); all other row triggers on INSERT are those of other
    ledgers. -/
structure MvStatic (funcs : List (String × PlFunc)) (types : TypeEnv) (b ln : String) (trigs : List TriggerDef)
    (B1 B2 : List TriggerDef) (trB : TriggerDef) (A1 A2 : List TriggerDef) (trA : TriggerDef)
    (item wher dflt_ : Expr) (fB : PlFunc) : Prop where
  hsch : schemaOf (mvFull b) = b
  types : VolTypes types
  sortedB : sortTriggers (trigs.filter (fun x => x.timing == .before && x.event == .insert)) = B1 ++ trB :: B2
  othersB1 : ∀ x ∈ B1, OtherLedgerTrig ln x
  othersB2 : ∀ x ∈ B2, OtherLedgerTrig ln x
  evB : trB.event = .insert
  whenB : trB.when_ = some (ledgerIs ln)
  schB : schemaOf trB.fname = b
  funB : funcs.lookup trB.fname = some fB
  declsB : fB.decls = []
  bodyB : fB.body = setEffBody item wher dflt_
  sem : SetEffSem item wher dflt_
  hname : outNames [(item, "")] = ["row"]
  sortedA : sortTriggers (trigs.filter (fun x => x.timing == .after && x.event == .insert)) = A1 ++ trA :: A2
  othersA1 : ∀ x ∈ A1, OtherLedgerTrig ln x
  othersA2 : ∀ x ∈ A2, OtherLedgerTrig ln x
  evA : trA.event = .insert
  whenA : trA.when_ = some (ledgerIs ln)

def mvReturning : List SelItem :=
  [SelItem.expr (Expr.col "" "post_commit_volumes") "", SelItem.expr (Expr.col "" "post_commit_effective_volumes") ""]

/-- the row as `set_effective_volumes` completes it -/
def withPcev (tbl : List (String × Spec.MoveRow)) (ln : String) (m : Spec.MoveRow) : Spec.MoveRow :=
  { m with pcev := pcevOf (ledgerMoves ln tbl) m }

theorem mvValsX_withPcev (tbl : List (String × Spec.MoveRow)) (ln : String) (m : Spec.MoveRow) :
    mvValsX ln m (volVal (pcevOf (ledgerMoves ln tbl) m)) = mvVals ln (withPcev tbl ln m) := rfl

theorem exec_accReturning_mv (k : Nat) (env : Env) (b : String) (trigs : List TriggerDef) (nr : Nat) (rows : List Ver) (l : String)
    (m : Spec.MoveRow) (acc : DmlAcc) (s : St) :
    (accReturning (k + 2) env ((mvT b trigs nr).withRows rows) "" (mvVals l m) [] mvReturning acc).exec s =
      (.ok { retCols := ["post_commit_volumes", "post_commit_effective_volumes"],
             retRows := acc.retRows ++ [[volVal m.pcv, volVal m.pcev]], affected := acc.affected + 1 }, s) :=
  exec_accReturning_cols k env _ "" (mvVals l m) ["post_commit_volumes", "post_commit_effective_volumes"] [volVal m.pcv, volVal m.pcev]
    acc s rfl (by rw [List.map_cons, List.map_cons, List.map_nil]; exact congr (congrArg _ (mvCol_pcv ..)) (congrArg (· :: []) (mvCol_pcev ..)))

def pendingOf (fname full ln : String) (m : Spec.MoveRow) : PendingTrig :=
  { fname := fname, table := full, new := some (mvVals ln m), old := none }

def retOf (m : Spec.MoveRow) : List Value := [volVal m.pcv, volVal m.pcev]

/-- one row of `INSERT INTO moves … RETURNING post_commit_volumes, post_commit_effective_volumes` on stored rows: the row is
    completed by `set_effective_volumes` from the view, stored, returned, and queued for `update_effective_volumes` -/
theorem exec_insertRowStep_moves (p : Nat) (env : Env) (b ln : String) (trigs : List TriggerDef)
    (B1 B2 : List TriggerDef) (trB : TriggerDef) (A1 A2 : List TriggerDef) (trA : TriggerDef) (item wher dflt_ : Expr) (fB : PlFunc)
    (s : St) (hs : TxState s) (hcid : s.cid < s.nextCid) (hnc : s.nextCid + 2 ≤ 1000000000)
    (hst : MvStatic s.w.funcs s.w.types b ln trigs B1 B2 trB A1 A2 trA item wher dflt_ fB)
    (nr : Nat) (rows : List Ver) (hT : s.w.table? (mvFull b) = some ((mvT b trigs nr).withRows rows))
    (sq : Seq) (hsq : s.w.seqs.find? (·.name == mvSeqFull b) = some sq)
    (r : WriteSql.P.MoveRow) (m : Spec.MoveRow) (hlit : MvLit s.w.types r m) (hseq : (m.seq : Int) = sq.next)
    (hrange : sq.next ≤ 9223372036854775807)
    (hS : MvStored (latestView s.w s.xid) s.xid s.nextCid nr sq.next rows) (acc : DmlAcc) :
    ∃ rows', (insertRowStep (p + 12) env (mvFull b) "moves" "" mvInsertCols none mvReturning (mvSrcRow r ln) acc).exec s =
        (.ok { retCols := ["post_commit_volumes", "post_commit_effective_volumes"],
               retRows := acc.retRows ++ [retOf (withPcev (mvAbs (latestView s.w s.xid) rows) ln m)], affected := acc.affected + 1 },
         ((((s.withSeqs (seqsSet (mvSeqFull b) sq.next s.w.seqs)).bump 2).withTable ((mvT b trigs (nr + 1)).withRows rows')).addQ
            [pendingOf trA.fname (mvFull b) ln (withPcev (mvAbs (latestView s.w s.xid) rows) ln m)])) ∧
      MvStored (latestView s.w s.xid) s.xid (s.nextCid + 2) (nr + 1) (sq.next + 1) rows' ∧
      mvAbs (latestView s.w s.xid) rows' =
        (ln, withPcev (mvAbs (latestView s.w s.xid) rows) ln m) :: mvAbs (latestView s.w s.xid) rows := by
  generalize htbl : mvAbs (latestView s.w s.xid) rows = tbl
  have hview : MvView { xid := s.xid, cid := s.nextCid, snap := s.snap } rows tbl :=
    htbl ▸ MvView.nested hs (by omega) hS.view hS.stored.fresh
  have hbuild := exec_buildRow_moves (p + 8) b ln trigs nr rows s hst.hsch sq hsq r m hlit hseq hrange
  have hrun := exec_runTrigger_setEff p b ln trB.fname m .null item wher dflt_ hst.sem hst.hname fB hst.declsB hst.bodyB
    (s.withSeqs (seqsSet (mvSeqFull b) sq.next s.w.seqs)) (hs.withSeqs _) hst.funB hst.schB hnc hst.types trigs nr rows
    ((mvT b trigs nr).withRows rows) rfl hT tbl hview (htbl ▸ hS.seqNodup)
  have hfire := exec_fireBefore_one (p + 9) ((mvT b trigs nr).withRows rows) (mvValsX ln m .null)
    (mvValsX ln m (volVal (pcevOf (ledgerMoves ln tbl) m))) ln _ _ B1 B2 trB hst.sortedB hst.othersB1 hst.othersB2 hst.evB hst.whenB rfl rfl hrun
  rw [mvValsX_withPcev] at hfire
  have hT2 : (((s.withSeqs (seqsSet (mvSeqFull b) sq.next s.w.seqs)).bump 2)).w.table? (mvFull b) = some ((mvT b trigs nr).withRows rows) := hT
  have hconf := exec_findConflict_mv_none b trigs nr rows ln (withPcev tbl ln m) ((s.withSeqs (seqsSet (mvSeqFull b) sq.next s.w.seqs)).bump 2)
    hs.solo (by rw [show (withPcev tbl ln m).seq = m.seq from rfl, hseq]; exact hS.inv.all)
  obtain ⟨hS', hview'⟩ := (hS.mono (Nat.le_add_right _ 2)).insert hs.xid hs.cid (by omega) ln (withPcev tbl ln m) hseq
  refine ⟨_, ?_, hS', htbl ▸ hview'⟩
  rw [exec_insertRowStep_ins (p + 11) env (mvFull b) "moves" "" mvInsertCols mvReturning _ acc _ _ s none _ _ _ _ hT rfl hbuild hfire hT2
    (exec_checkConstraints_mv ..) (fun _ _ _ _ e => nomatch e) hconf (exec_checkForeignKeys_mv ..)
    (exec_queueAfter_one (p + 9) ((mvT b trigs (nr + 1)).withRows (newVer s.xid s.cid nr (mvVals ln (withPcev tbl ln m)) :: rows)) _ ln _
      A1 A2 trA hst.sortedA hst.othersA1 hst.othersA2 hst.evA hst.whenA rfl)]
  exact exec_accReturning_mv ..

end Ledger.Sql
