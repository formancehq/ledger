import Ledger.Proofs.MachineNoFaultRun

/-! No fault / panic: variable resolution and balances (`prepare`), and the whole `sem`. -/
namespace Ledger.Machine

theorem parseValue_fixed_val {ty : Ty} {data : String} {p : Parsed} (h : parseValue Cfg.fixed ty data = p) :
    p = .bad ∨ ∃ v, p = .val v ∧ valueTy v = ty ∧ ValOK v := by
  cases p with
  | bad => exact .inl rfl
  | nilNumber => exact absurd h (parseValue_fixed_ne_nil ty data)
  | val v => exact .inr ⟨v, rfl, (parseValue_val h).1, (parseValue_val h).2.2⟩

theorem parsePlainVars_nf (vars : List (String × String)) (ds : List VarDecl) :
    NF (parsePlainVars Cfg.fixed vars ds) := by
  fun_induction parsePlainVars Cfg.fixed vars ds <;> try (first | exact NF.ok _ | exact NF.run _ _)
  -- a plain variable: only the others can fail otherwise than by a run error; any other variable is skipped
  · rename_i ih; exact ih.error_of ‹_›
  · rename_i ih; exact ih

theorem parsePlainVars_has (vars : List (String × String)) (ds : List VarDecl)
    (out : List (String × Parsed)) (h : parsePlainVars Cfg.fixed vars ds = .ok out) :
    (∀ d ∈ ds, d.orig = Origin.none → ∃ p, out.lookup d.name = some p) ∧ (∀ kv ∈ out, kv.2 ≠ .bad) := by
  obtain ⟨rfl, hall⟩ := parsePlainVars_eq Cfg.fixed vars ds out h
  refine ⟨fun d hd ho => Option.isSome_iff_exists.mp
    (List.lookup_isSome_iff.mpr ⟨plainOf Cfg.fixed vars d, ?_, beq_self_eq_true _⟩), fun kv hkv => ?_⟩
  · exact List.mem_map_of_mem (mem_filter_isPlain.mpr ⟨hd, ho⟩)
  · obtain ⟨d, hd, rfl⟩ := List.mem_map.mp hkv
    exact (hall d hd).2

/-- What `setVars` gives for the plain declarations of a script with distinct names. -/
def PlainOK (s : Script) (plain : List (String × Parsed)) : Prop :=
  ∀ d ∈ s.vars, d.orig = Origin.none →
    ∃ v, plain.lookup d.name = some (.val v) ∧ valueTy v = d.ty ∧ ValOK v

theorem setVars_nfp {s : Script} (inp : Input) (hn : (s.vars.map (·.name)).Nodup) :
    NFP (setVars Cfg.fixed s inp) (PlainOK s) := by
  unfold setVars
  split
  · exact .error ((parsePlainVars_nf inp.vars s.vars).error_of ‹_›)
  rename_i ps hps
  dsimp only
  split
  · exact .run _ _
  refine .ok fun d hd hdo => ?_
  obtain ⟨hhas, hnb⟩ := parsePlainVars_has inp.vars s.vars _ hps
  obtain ⟨p, hp⟩ := hhas d hd hdo
  obtain ⟨d', hd', hname, data, _, hpv⟩ := parsePlainVars_lookup Cfg.fixed inp.vars s.vars _ hps d.name p hp
  obtain rfl : d' = d := decl_unique s.vars hn d d' hd hd' hname
  rcases parseValue_fixed_val hpv.symm with rfl | ⟨v, rfl, hty, hvok⟩
  · exact absurd rfl (hnb (d'.name, .bad) (lookup_mem _ _ _ hp))
  · exact ⟨v, hp, hty, hvok⟩

/-! ### The invariant of `ResolveResources` -/

structure RInv (ds : Decls) (env : Env) (bvs : List BalVar) : Prop where
  names : env.map (·.1) = ds.map (·.1)
  typed : EnvTyped ds env
  vals : ∀ kv ∈ env, ValOK kv.2 ∨ kv.1 ∈ bvs.map (·.1)
  bal : ∀ bv ∈ bvs, ds.lookup bv.1 = some .monetary

theorem RInv.extend {ds : Decls} {env : Env} {bvs : List BalVar} (h : RInv ds env bvs)
    {n : String} {t : Ty} {v : Value} (hnew : ds.lookup n = none) (hty : valueTy v = t)
    (bvs' : List BalVar) (hb : ∀ x ∈ bvs.map (·.1), x ∈ bvs'.map (·.1))
    (hv : ValOK v ∨ n ∈ bvs'.map (·.1))
    (hbal : ∀ bv ∈ bvs', bv ∈ bvs ∨ (bv.1 = n ∧ t = .monetary)) :
    RInv (ds ++ [(n, t)]) (env ++ [(n, v)]) bvs' := by
  have hnew' : env.lookup n = none :=
    lookup_eq_none_iff_keys.mpr (h.names ▸ lookup_eq_none_iff_keys.mp hnew)
  refine ⟨by simp [h.names], ?_, ?_, ?_⟩
  · intro x tx hl
    cases hd : ds.lookup x with
    | some t0 =>
      have e0 : some t0 = some tx := by rw [← lookup_append_left ds [(n, t)] x t0 hd]; exact hl
      have e1 : t0 = tx := Option.some.inj e0
      subst e1
      obtain ⟨w, hw, hwt⟩ := h.typed x t0 hd
      exact ⟨w, lookup_append_left env _ x w hw, hwt⟩
    | none =>
      rw [lookup_append_right ds _ x hd] at hl
      simp only [List.lookup] at hl
      split at hl
      · rename_i heq
        cases hl
        have hx : x = n := by simpa using heq
        subst hx
        refine ⟨v, ?_, hty⟩
        rw [lookup_append_right env _ x hnew']
        simp [List.lookup]
      · cases hl
  · intro kv hkv
    rcases List.mem_append.mp hkv with hkv | hkv
    · rcases h.vals kv hkv with h1 | h1
      · exact Or.inl h1
      · exact Or.inr (hb _ h1)
    · simp only [List.mem_singleton] at hkv
      subst hkv
      exact hv
  · intro bv hbv
    rcases hbal bv hbv with h1 | ⟨h1, h2⟩
    · have := h.bal bv h1
      exact lookup_append_left ds _ bv.1 _ this
    · subst h2
      rw [h1, lookup_append_right ds _ n hnew]
      simp [List.lookup]

theorem resolveVars_nfp {s : Script} (inp : Input) {plain : List (String × Parsed)}
    (hplain : PlainOK s plain) :
    (vs : List VarDecl) → (∀ d ∈ vs, d ∈ s.vars) → (ds ds' : Decls) → checkVars vs ds = .ok ds' →
    (env : Env) → (bvs : List BalVar) → RInv ds env bvs →
    NFP (resolveVars Cfg.fixed inp plain vs env bvs) (fun r => RInv ds' r.1 r.2)
  | [], _, ds, ds', hc, env, bvs, hinv => by
    simp only [checkVars] at hc; cases hc
    exact .ok hinv
  | d :: vs, hsub, ds, ds', hc, env, bvs, hinv => by
    obtain ⟨hnone, horig, hc⟩ := checkVars_cons_inv hc
    have hrest := fun env1 bvs1 (h1 : RInv (ds ++ [(d.name, d.ty)]) env1 bvs1) =>
      resolveVars_nfp inp hplain vs (fun x hx => hsub x (by simp [hx])) _ ds' hc env1 bvs1 h1
    have hval : ∀ {v}, valueTy v = d.ty → ValOK v → RInv (ds ++ [(d.name, d.ty)]) (env ++ [(d.name, v)]) bvs :=
      fun hty hvok => hinv.extend hnone hty bvs (fun _ h => h) (.inl hvok) (fun _ h => .inl h)
    cases ho : d.orig with
    | none =>
      obtain ⟨v, hv, hty, hvok⟩ := hplain d (hsub d (by simp)) ho
      simp only [resolveVars, ho, hv]
      exact hrest _ _ (hval hty hvok)
    | accountMeta acc key =>
      simp only [OrigOK, ho] at horig
      simp only [resolveVars, ho]
      split
      · exact .error ((evalAccount_nf hinv.typed horig).error_of ‹_›)
      split
      · exact .run _ _
      split
      · exact .run _ _
      rename_i data _
      rcases parseValue_fixed_val (p := parseValue Cfg.fixed d.ty data) rfl with hb | ⟨v, hv, hty, hvok⟩
      · rw [hb]; exact .run _ _
      · rw [hv]; exact hrest _ _ (hval hty hvok)
    | balance acc asset =>
      simp only [OrigOK, ho] at horig
      obtain ⟨hty, hca, has⟩ := horig
      simp only [resolveVars, ho]
      split
      · exact .error ((evalAccount_nf hinv.typed hca).error_of ‹_›)
      split
      · exact .error ((evalAssetE_nf hinv.typed has).error_of ‹_›)
      rename_i a _ c _
      refine hrest _ _ (hinv.extend hnone (by rw [hty]; rfl) _ (fun x hx => by simp [hx]) (.inr (by simp)) ?_)
      intro bv hbv
      rcases List.mem_append.mp hbv with hbv | hbv
      · exact .inl hbv
      · exact .inr ⟨by simpa using congrArg (·.1) (List.mem_singleton.mp hbv), hty⟩

mutual
  theorem neededAccts_typed {ds : Decls} : (s : Source) → s.WT ds → ∀ e ∈ s.neededAccts,
      typeExpr ds e = .ok .account
    | .account e od, h, e', he => by
      simp only [Source.neededAccts] at he
      cases od with
      | unbounded => simp at he
      | none | upTo x =>
        simp only at he
        split at he
        · cases he
        · simp only [List.mem_singleton] at he; subst he; exact h.1
    | .maxed m s, h, e', he => neededAccts_typed s h.1 e' (by simpa only [Source.neededAccts] using he)
    | .inorder ss, h, e', he => neededAcctsL_typed ss h e' (by simpa only [Source.neededAccts] using he)
  theorem neededAcctsL_typed {ds : Decls} : (ss : SourceList) → ss.WT ds → ∀ e ∈ ss.neededAccts,
      typeExpr ds e = .ok .account
    | .nil, _, e', he => by simp [SourceList.neededAccts] at he
    | .cons s rest, h, e', he => by
      simp only [SourceList.neededAccts, List.mem_append] at he
      exact he.elim (neededAccts_typed s h.1 e') (neededAcctsL_typed rest h.2 e')
end

theorem neededAcctsA_typed {ds : Decls} : (items : AllotSrcList) → items.WT ds →
    ∀ e ∈ items.neededAccts, typeExpr ds e = .ok .account
  | .nil, _, e', he => by simp [AllotSrcList.neededAccts] at he
  | .cons _ s rest, h, e', he => by
    simp only [AllotSrcList.neededAccts, List.mem_append] at he
    exact he.elim (neededAccts_typed s h.1 e') (neededAcctsA_typed rest h.2 e')

theorem evalAccounts_nf {ds : Decls} {env : Env} (henv : EnvTyped ds env) (es : List Expr)
    (h : ∀ e ∈ es, typeExpr ds e = .ok .account) : NF (evalAccounts env es) := by
  fun_induction evalAccounts env es <;> try (first | exact NF.ok _ | exact NF.run _ _)
  · exact (evalAccount_nf henv (h _ List.mem_cons_self)).error_of ‹_›
  · rename_i ih
    exact (ih fun x hx => h x (List.mem_cons_of_mem _ hx)).error_of ‹_›

theorem stmtPairs_nf {ds : Decls} {env : Env} (henv : EnvTyped ds env) {st : Stmt}
    (h : checkStmt ds st = .ok ()) : NF (stmtPairs env st) := by
  -- its asset with each account its source needs
  have pairs : ∀ {a : Except Err String} {src : VSource}, NF a →
      (∀ e ∈ src.neededAccts, typeExpr ds e = .ok .account) → NF (match a with
        | .error e => .error e
        | .ok asset =>
          match evalAccounts env src.neededAccts with
          | .error e => .error e
          | .ok accs => (.ok (accs.map fun x => (x, asset)) : Except Err (List (String × String)))) := by
    intro a src ha hsrc
    split
    · exact ha.error_of rfl
    split
    · exact (evalAccounts_nf henv _ hsrc).error_of ‹_›
    exact NF.ok _
  have hi := checkStmt_inv h
  cases st with
  | send mon src dst =>
    cases src with
    | src s => exact pairs (leftmostAsset_nf henv hi.1) (neededAccts_typed s hi.2.1)
    | allot items => exact pairs (leftmostAsset_nf henv hi.1) (neededAcctsA_typed items hi.2.2.1)
  | sendAll assetE src dst =>
    cases src with
    | allot items => exact hi.elim
    | src s => exact pairs (evalAssetE_nf henv hi.1) (neededAccts_typed s hi.2.1)
  | _ => exact NF.ok []

theorem neededPairs_nf {ds : Decls} {env : Env} (henv : EnvTyped ds env) :
    (ss : List Stmt) → (∀ s ∈ ss, checkStmt ds s = .ok ()) → NF (neededPairs env ss)
  | [], _ => NF.ok _
  | st :: rest, h => by
    rw [neededPairs_cons]
    split
    · exact (stmtPairs_nf henv (h st (by simp))).error_of ‹_›
    split
    · exact (neededPairs_nf henv rest (fun x hx => h x (by simp [hx]))).error_of ‹_›
    exact NF.ok _

theorem foldl_setEnv_typed (inp : Input) (ds : Decls) :
    (bvs : List BalVar) → (env : Env) → EnvTyped ds env → (∀ bv ∈ bvs, ds.lookup bv.1 = some .monetary) →
    EnvTyped ds (bvs.foldl (fun e bv => setEnv e bv.1 (.monetary bv.2.2 (some (inp.balance bv.2.1 bv.2.2)))) env)
  | [], env, ht, _ => ht
  | bv :: rest, env, ht, hb => by
    refine foldl_setEnv_typed inp ds rest _ (fun x t hl => ?_) fun b hbm => hb b (by simp [hbm])
    obtain ⟨w, hw, hwt⟩ := ht x t hl
    rw [lookup_setEnv]
    by_cases hx : x = bv.1
    · subst hx
      have := hb bv (by simp)
      rw [this] at hl; cases hl
      exact ⟨.monetary bv.2.2 (some (inp.balance bv.2.1 bv.2.2)), by simp [hw], rfl⟩
    · exact ⟨w, by simp [hx, hw], hwt⟩

theorem initBalances_nfp {ds : Decls} {env : Env} {bvs : List BalVar} (hinv : RInv ds env bvs) (inp : Input)
    {stmts : List Stmt} (hstm : ∀ s ∈ stmts, checkStmt ds s = .ok ()) :
    NFP (initBalances Cfg.fixed inp env bvs stmts) (fun r => EnvTyped ds r.1 ∧ EnvValsOK r.1) := by
  fun_cases initBalances Cfg.fixed inp env bvs stmts
  · exact .error ((neededPairs_nf hinv.typed stmts hstm).error_of ‹_›)
  · exact .run _ _
  · exact .run _ _
  -- `balanceVarsPerAddress` is off: the variables overwritten are all of `bvs`
  · exact .ok ⟨foldl_setEnv_typed inp ds bvs env hinv.typed hinv.bal,
      foldl_setEnv_all _ bvs env hinv.vals fun _ _ => trivial⟩

theorem prepare_nfp {s : Script} {ds : Decls} (htc : typecheck s = .ok ds) (inp : Input) :
    NFP (prepare Cfg.fixed s inp) (fun r => EnvTyped ds r.1 ∧ EnvValsOK r.1) := by
  obtain ⟨hcv, hcs⟩ := typecheck_inv htc
  obtain ⟨e, hnd⟩ := checkVars_names s.vars [] ds hcv
  have hnames : (s.vars.map (·.name)).Nodup := by
    have := hnd (by simp)
    rw [e] at this
    simpa [List.map_map, Function.comp_def] using this
  have hsv := setVars_nfp inp hnames
  unfold prepare
  split
  · exact .error (hsv.1.error_of ‹_›)
  rename_i plain hp
  have hrv := resolveVars_nfp inp (hsv.2 _ hp) s.vars (fun d hd => hd) [] ds hcv [] []
    ⟨rfl, (by intro x t h; simp at h), (by intro kv h; cases h), (by intro bv h; cases h)⟩
  split
  · exact .error (hrv.1.error_of ‹_›)
  rename_i env0 bvs h0
  exact initBalances_nfp (hrv.2 _ h0) inp (checkStmts_inv s.stmts hcs)

/-- A program the compiler accepted never hits a typed-pop / stack fault nor a panic in `sem`
    (current variant of the code): `C27.welltyped_no_stack_fault_holds`. -/
theorem sem_nf {s : Script} {ds : Decls} (htc : typecheck s = .ok ds) (inp : Input) :
    NF (sem Cfg.fixed s inp) := by
  have hp := prepare_nfp htc inp
  unfold sem
  rw [htc]
  simp only
  split
  · exact hp.1.error_of ‹_›
  rename_i env bal pairs h
  obtain ⟨ht, hv⟩ := hp.2 _ h
  split
  · exact (runStmts_nf ht hv s.stmts (checkStmts_inv s.stmts (typecheck_inv htc).2) (initState bal)).error_of ‹_›
  exact NF.ok _

end Ledger.Machine
