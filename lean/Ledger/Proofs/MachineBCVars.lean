import Ledger.Proofs.MachineBCExpr

/-! Byte-code level: `VisitVars` — the variable map and the resources of the declarations. -/
namespace Ledger.Machine

theorem typeExpr_mono {ds ds' : Decls} (hm : ∀ x t, ds.lookup x = some t → ds'.lookup x = some t) :
    (e : Expr) → ∀ ty, typeExpr ds e = .ok ty → typeExpr ds' e = .ok ty
  | .acct _, _, h | .asset _, _, h | .num _, _, h | .str _, _, h | .portion _, _, h => h
  | .var x, ty, h => by simp only [typeExpr, hm x ty (typeExpr_inv h)]
  | .mon a n, ty, h => by
    obtain ⟨rfl, ha⟩ := typeExpr_inv h
    simp only [typeExpr, typeExpr_mono hm a _ ha, if_true]
  | .add l r, ty, h => by
    obtain ⟨ht, hl, hr⟩ := typeExpr_inv h
    rcases ht with rfl | rfl <;> simp only [typeExpr, typeExpr_mono hm l _ hl, typeExpr_mono hm r _ hr, if_true]
  | .sub l r, ty, h => by
    obtain ⟨ht, hl, hr⟩ := typeExpr_inv h
    rcases ht with rfl | rfl <;> simp only [typeExpr, typeExpr_mono hm l _ hl, typeExpr_mono hm r _ hr, if_true]

/-- `VInv'` with the declarations read so far, `dsi`, beside the final ones: the variable map has their names and
    `ds` extends them. No proof uses it. -/
structure VInv (ds dsi : Decls) (cs : CS) : Prop where
  vars : VarsInv ds cs
  res : ResInv ds cs.res
  code : cs.code = []
  names : cs.vars.map (·.1) = dsi.map (·.1)
  mono : ∀ x t, dsi.lookup x = some t → ds.lookup x = some t

theorem checkVars_mono {vs : List VarDecl} {dsi ds : Decls} (h : checkVars vs dsi = .ok ds) :
    ∀ x t, dsi.lookup x = some t → ds.lookup x = some t := by
  obtain ⟨e, _⟩ := checkVars_names vs dsi ds h
  intro x t hl
  rw [e]; exact lookup_append_left dsi _ x t hl

/-- The invariant of `VisitVars` w.r.t. the FINAL declarations `ds`: a good compile state, no code yet. -/
def VInv' (ds : Decls) (cs : CS) : Prop := Good ds cs ∧ cs.code = []

/-- One declaration: the expressions of its origin are resolved without code, then its resource is allotted. -/
theorem cVar_ok {ds dsi : Decls} {env : Env} (henv : EnvTyped ds env)
    (hmono : ∀ x t, dsi.lookup x = some t → ds.lookup x = some t)
    {v : VarDecl} (hname : ds.lookup v.name = some v.ty) (horig : OrigOK dsi v)
    {cs cs1 : CS} {idx : Nat} (hg : Good ds cs) (h : cVar v cs = .ok (idx, cs1)) :
    Emit ds env cs cs1 Kl.id ∧ cs1.code = cs.code ∧
    ∃ r, cs1.res[idx]? = some r ∧ resName r = some v.name ∧ resTy r = v.ty := by
  unfold cVar at h
  cases ho : v.orig with
  | none =>
    simp only [ho] at h
    obtain ⟨e1, c1, hres⟩ := allocRes_emit h hg hname
    exact ⟨e1, c1, _, hres, rfl, rfl⟩
  | accountMeta acc key =>
    simp only [OrigOK, ho] at h horig
    split at h
    · cases h
    · rename_i a cs0 hca
      obtain ⟨e0, c0, _⟩ := cExprAddr_emit henv (typeExpr_mono hmono acc _ horig) hg hca
      obtain ⟨e1, c1, hres⟩ := allocRes_emit (env := env) h e0.good hname
      exact ⟨(e0.trans e1).congr fun _ _ => rfl, c1.trans c0, _, hres, rfl, rfl⟩
  | balance acc asset =>
    simp only [OrigOK, ho] at h horig
    obtain ⟨hty, hca, has⟩ := horig
    split at h
    · cases h
    · rename_i a cs0 hc0
      obtain ⟨e0, c0, _⟩ := cExprAddr_emit henv (typeExpr_mono hmono acc _ hca) hg hc0
      split at h
      · cases h
      · rename_i c cs2 hc2
        obtain ⟨e2, c2, _⟩ := cExprAddr_emit henv (typeExpr_mono hmono asset _ has) e0.good hc2
        obtain ⟨e1, c1, hres⟩ := allocRes_emit (env := env) h e2.good (r := .varBalance v.name a c)
          (hname.trans (congrArg some hty))
        exact ⟨((e0.trans e2).trans e1).congr fun _ _ => rfl, c1.trans (c2.trans c0), _, hres, rfl, hty.symm⟩

theorem cVars_ok {ds : Decls} {env : Env} (henv : EnvTyped ds env) :
    (vs : List VarDecl) → (dsi : Decls) → checkVars vs dsi = .ok ds → ∀ cs cs', VInv' ds cs →
    cVars vs cs = .ok cs' → VInv' ds cs'
  | [], dsi, hc, cs, cs', hinv, h => by
    simp only [cVars] at h; cases h
    exact hinv
  | v :: vs, dsi, hc, cs, cs', hinv, h => by
    have hmono := checkVars_mono hc
    obtain ⟨hnone, horig, hc⟩ := checkVars_cons_inv hc
    have hname : ds.lookup v.name = some v.ty := by
      apply checkVars_mono hc
      rw [lookup_append_right dsi _ v.name hnone]
      simp [List.lookup]
    simp only [cVars] at h
    split at h
    · cases h
    · rename_i idx cs1 hcv
      obtain ⟨⟨seg, x1, g1, _⟩, c1, r, hr, hrn, hrt⟩ := cVar_ok henv hmono hname horig hinv.1 hcv
      apply cVars_ok henv vs _ hc _ cs' _ h
      refine ⟨⟨?_, g1.2⟩, c1.trans hinv.2⟩
      -- the variable map one longer: the old names as before, the new one at the resource just allotted
      intro x j hl
      simp only at hl
      cases hx : cs1.vars.lookup x with
      | some j0 =>
        rw [lookup_append_left cs1.vars _ x j0 hx] at hl
        obtain rfl : j0 = j := Option.some.inj hl
        exact g1.1 x j0 hx
      | none =>
        rw [lookup_append_right cs1.vars _ x hx] at hl
        simp only [List.lookup] at hl
        split at hl
        · rename_i heq
          cases hl
          have : x = v.name := by simpa using heq
          subst this
          exact ⟨r, hr, hrn, by rw [hrt]; exact hname⟩
        · cases hl

theorem compile_typechecks {s : Script} {p : Program} (h : compile s = .ok p) :
    ∃ ds, typecheck s = .ok ds := by
  unfold compile at h
  split at h
  · cases h
  · rename_i ds hds; exact ⟨ds, hds⟩

end Ledger.Machine
