import Ledger.Proofs.SqlFuel

/-!
# Running the statement monad of LeanPG: `M.exec` and its rewrite rules

`M = ExceptT Err (StateM St)`. `x.exec s` is the outcome (`Except Err α`) and
final state of running `x` from `s`. The lemmas below let `simp` execute
`do`-blocks symbolically: every helper of the evaluator gets a specification of
the form `(helper args).exec s = (.ok result, s')` which is then used as a
rewrite rule, or as one step of `exec_seq` through a long `do` block.
-/
namespace Ledger.Sql

def M.exec (x : M α) (s : St) : Except Err α × St := x.run.run s

@[simp] theorem exec_pure (a : α) (s : St) : (pure a : M α).exec s = (.ok a, s) := rfl

theorem exec_bind (x : M α) (f : α → M β) (s : St) :
    (x >>= f).exec s = match x.exec s with
      | (.ok a, s') => (f a).exec s'
      | (.error e, s') => (.error e, s') := by
  simp only [M.exec, ExceptT.run_bind, StateT.run_bind]
  cases h : (x.run.run s) with
  | mk r s' => cases r <;> rfl

theorem exec_bind_ok {x : M α} {f : α → M β} {s s' : St} {a : α} (h : x.exec s = (.ok a, s')) :
    (x >>= f).exec s = (f a).exec s' := by
  rw [exec_bind, h]

theorem exec_bind_err {x : M α} {f : α → M β} {s s' : St} {e : Err} (h : x.exec s = (.error e, s')) :
    (x >>= f).exec s = (.error e, s') := by
  rw [exec_bind, h]

/-- Running a `do` block one statement at a time: the first statement is known to succeed (`hx`), the rest is run from
    its result. Unlike rewriting with `exec_bind` under `simp`, a step does not walk through the rest of the block, which
    matters for the long bodies of `evalSelect` and `execUpdate`. -/
theorem exec_seq {x : M α} {f : α → M β} {s s' : St} {a : α} {r : Except Err β × St}
    (hx : x.exec s = (.ok a, s')) (hf : (f a).exec s' = r) : (x >>= f).exec s = r :=
  (exec_bind_ok hx).trans hf

/-- a step that replaces the computation by an equal one (a resolved `if`, an unfolded definition) -/
theorem exec_of_eq {x y : M α} {s : St} {r : Except Err α × St} (e : x = y) (h : y.exec s = r) : x.exec s = r :=
  e ▸ h

@[simp] theorem exec_get (s : St) : (get : M St).exec s = (.ok s, s) := rfl
@[simp] theorem exec_getThe (s : St) : (getThe St : M St).exec s = (.ok s, s) := rfl
@[simp] theorem exec_set (s' s : St) : (set s' : M Unit).exec s = (.ok (), s') := rfl
@[simp] theorem exec_modify (f : St → St) (s : St) : (modify f : M Unit).exec s = (.ok (), f s) := rfl
@[simp] theorem exec_throw (e : Err) (s : St) : (throw e : M α).exec s = (.error e, s) := rfl
@[simp] theorem exec_throwPg (c m : String) (s : St) : (throwPg c m : M α).exec s = (.error (pgErr c m), s) := rfl

@[simp] theorem exec_liftR_ok (a : α) (s : St) : (liftR (.ok a) : M α).exec s = (.ok a, s) := rfl
@[simp] theorem exec_liftR_err (e : Err) (s : St) : (liftR (.error e) : M α).exec s = (.error e, s) := rfl

@[simp] theorem exec_liftR_pure (a : α) (s : St) : (liftR (pure a : R α) : M α).exec s = (.ok a, s) := rfl

theorem exec_liftR (r : R α) (s : St) :
    (liftR r : M α).exec s = (match r with | .ok a => (.ok a, s) | .error e => (.error e, s)) := by
  cases r <;> rfl

@[simp] theorem exec_map (f : α → β) (x : M α) (s : St) :
    (f <$> x).exec s = match x.exec s with
      | (.ok a, s') => (.ok (f a), s')
      | (.error e, s') => (.error e, s') := by
  rw [← bind_pure_comp, exec_bind]
  cases h : x.exec s with
  | mk r s' => cases r <;> rfl

@[simp] theorem exec_getW (s : St) : getW.exec s = (.ok s.w, s) := by
  simp [getW]

@[simp] theorem exec_setW (w : World) (s : St) : (setW w).exec s = (.ok (), { s with w := w }) := rfl

@[simp] theorem exec_typeEnv (s : St) : typeEnv.exec s = (.ok s.w.types, s) := by
  simp [typeEnv]

@[simp] theorem exec_curView (s : St) :
    curView.exec s = (.ok { xid := s.xid, cid := s.cid, snap := s.snap }, s) := by
  simp [curView]

theorem exec_foldlM_nil (f : β → α → M β) (b : β) (s : St) :
    (([] : List α).foldlM f b).exec s = (.ok b, s) := by simp

theorem exec_foldlM_cons (f : β → α → M β) (b : β) (a : α) (as : List α) (s : St) :
    ((a :: as).foldlM f b).exec s = match (f b a).exec s with
      | (.ok b', s') => (as.foldlM f b').exec s'
      | (.error e, s') => (.error e, s') := by
  simp [List.foldlM_cons, exec_bind]

theorem exec_foldlM_fix {α β : Type} (f : β → α → M β) (b : β) (s : St) :
    ∀ (l : List α), (∀ a ∈ l, (f b a).exec s = (.ok b, s)) → (l.foldlM f b).exec s = (.ok b, s) := by
  intro l
  induction l with
  | nil => intro _; rfl
  | cons a as ih =>
    intro h
    rw [exec_foldlM_cons, h a (by simp)]
    exact ih (fun x hx => h x (by simp [hx]))

/-- a fold whose steps leave the state alone and compute `g` (on the elements of the list) -/
theorem exec_foldlM_pure {α β : Type} (f : β → α → M β) (g : β → α → β) (s : St) :
    ∀ (l : List α) (b : β), (∀ a ∈ l, ∀ b, (f b a).exec s = (.ok (g b a), s)) → (l.foldlM f b).exec s = (.ok (l.foldl g b), s) := by
  intro l
  induction l with
  | nil => intro b _; simp
  | cons a as ih =>
    intro b h
    rw [exec_foldlM_cons, h a (by simp) b]
    exact ih _ (fun x hx => h x (by simp [hx]))

theorem exec_mapM_nil (f : α → M β) (s : St) : (([] : List α).mapM f).exec s = (.ok [], s) := by simp

theorem exec_mapM_cons (f : α → M β) (a : α) (as : List α) (s : St) :
    ((a :: as).mapM f).exec s = match (f a).exec s with
      | (.ok b, s') => (match (as.mapM f).exec s' with
          | (.ok bs, s'') => (.ok (b :: bs), s'')
          | (.error e, s'') => (.error e, s''))
      | (.error e, s') => (.error e, s') := by
  simp only [List.mapM_cons, exec_bind, exec_pure]
  cases h : (f a).exec s with
  | mk r s' =>
    cases r with
    | error e => rfl
    | ok b =>
      simp only
      cases h2 : (List.mapM f as).exec s' with
      | mk r2 s'' => cases r2 <;> rfl

theorem exec_mapM_cons_ok {f : α → M β} {a : α} {as : List α} {s s' s'' : St} {b : β} {bs : List β}
    (h : (f a).exec s = (.ok b, s')) (hs : (as.mapM f).exec s' = (.ok bs, s'')) :
    ((a :: as).mapM f).exec s = (.ok (b :: bs), s'') := by
  rw [exec_mapM_cons, h]
  simp only [hs]

theorem exec_mapM_map (e : δ → α) (f : α → M β) (g : δ → β) (ys : List δ) (s : St)
    (h : ∀ y ∈ ys, (f (e y)).exec s = (.ok (g y), s)) : ((ys.map e).mapM f).exec s = (.ok (ys.map g), s) := by
  induction ys with
  | nil => rfl
  | cons y ys ih => exact exec_mapM_cons_ok (h y (by simp)) (ih (fun y hy => h y (by simp [hy])))

theorem exec_mapM_pure (f : α → M β) (g : α → β) (as : List α) (s : St)
    (h : ∀ a ∈ as, (f a).exec s = (.ok (g a), s)) : (as.mapM f).exec s = (.ok (as.map g), s) :=
  (List.map_id as ▸ exec_mapM_map id f g as s h :)

/-- a function call other than COALESCE (which is evaluated lazily): arguments first, then the function -/
theorem evalExpr_call (cb : Callbacks) (te : TypeEnv) (env : Env) (schema name : String) (args : List Expr) (h : (name == "coalesce") = false) :
    evalExpr cb te env (Expr.call schema name args) = (do
      let vs ← evalExprs cb te env args
      match (if schema.isEmpty || schema == "public" || schema == "pg_catalog" then evalPureFn name vs else none) with
      | some r => liftR r
      | none => cb.call schema name vs) := by
  rw [evalExpr]
  simp only [h, Bool.and_false, Bool.false_eq_true, if_false]
  rfl

end Ledger.Sql
