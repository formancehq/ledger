import Ledger.Proofs.CoreMap
import Ledger.Proofs.CtrlStep
import Ledger.Ctrl.Spec

/-!
Each store effect of the write path, seen through the projection the journal's
reference reading (`specOf`) talks about.
-/
namespace Ledger.Ctrl
open Ledger.Base Ledger.Core

/-- The columns of an account row the reference reading speaks about. -/
def projAcc (a : Account) : AccSpec :=
  { metadata := a.metadata, firstUsage := a.firstUsage, insertionDate := a.insertionDate }

theorem projAcc_metadata (a : Account) : (projAcc a).metadata = a.metadata := rfl
theorem projAcc_firstUsage (a : Account) : (projAcc a).firstUsage = a.firstUsage := rfl
theorem projAcc_insertionDate (a : Account) : (projAcc a).insertionDate = a.insertionDate := rfl

theorem projAccounts_eq (d : Db) : projAccounts d = d.accounts.map fun e => (e.1, projAcc e.2) := rfl

theorem map_insert {ν μ : Type} (f : ν → μ) (k : String) (v : ν) (m : Map String ν) :
    (m.insert k v).map (fun e => (e.1, f e.2)) = Map.insert k (f v) (m.map fun e => (e.1, f e.2)) :=
  Map.mapVal_insert (fun _ => f) k v m

theorem get?_map {ν μ : Type} (f : ν → μ) (k : String) (m : Map String ν) :
    Map.get? (m.map fun e => (e.1, f e.2)) k = (m.get? k).map f :=
  Map.get?_mapVal (fun _ => f) m k

theorem defaults_eq (d : Db) (sv a : String) :
    defaultsOf (if sv ≠ "" then findSchema sv d else none) a = specDefaults d.schemas sv a := by
  unfold specDefaults defaultsOf findSchema
  by_cases h : sv = ""
  · simp only [h, ne_eq, not_true_eq_false, ↓reduceIte]
  · simp only [ne_eq, h, not_false_eq_true, ↓reduceIte]
    cases List.find? (fun x => x.version == sv) d.schemas <;> rfl

/-- A metadata save on an account (`UpsertAccounts` with NULL dates). -/
theorem save_step (now : Time) (accs : Map String Account) (a : String) (m D : Meta) :
    (upsertAccount now accs { address := a, metadata := m, defaults := D }).map (fun e => (e.1, projAcc e.2)) =
    (match Map.get? (accs.map fun e => (e.1, projAcc e.2)) a with
     | some x =>
       if metaContains x.metadata m then accs.map fun e => (e.1, projAcc e.2)
       else Map.insert a { x with metadata := metaMerge x.metadata m } (accs.map fun e => (e.1, projAcc e.2))
     | none => Map.insert a { metadata := metaMerge D m, firstUsage := now, insertionDate := now }
                 (accs.map fun e => (e.1, projAcc e.2))) := by
  unfold upsertAccount
  rw [get?_map]
  cases h : accs.get? a with
  | none => simp only [Option.map_none, map_insert]; rfl
  | some x =>
    simp only [Option.map_some, Bool.false_or]
    by_cases hc : metaContains x.metadata m = true
    · simp only [projAcc_metadata, hc, Bool.not_true, Bool.false_eq_true, ↓reduceIte]
    · simp only [Bool.not_eq_true] at hc
      simp only [projAcc_metadata, hc, Bool.not_false, ↓reduceIte, Bool.false_eq_true, map_insert]
      rfl

/-- `specTouch` with the defaults `D` a new row starts from left open. -/
def touchWith (D : Meta) (ts ins : Time) (accounts : Map String AccSpec) (address : String) (m : Meta) :
    Map String AccSpec :=
  match accounts.get? address with
  | some a =>
    if decide (ts < a.firstUsage) || !metaContains a.metadata m then
      accounts.insert address
        { a with metadata := metaMerge a.metadata m, firstUsage := if ts < a.firstUsage then ts else a.firstUsage }
    else accounts
  | none => accounts.insert address { metadata := metaMerge D m, firstUsage := ts, insertionDate := ins }

theorem specTouch_eq (schemas : List Schema) (v : String) (ts ins : Time) (accounts : Map String AccSpec)
    (address : String) (m : Meta) :
    specTouch schemas v ts ins accounts address m = touchWith (specDefaults schemas v address) ts ins accounts address m :=
  rfl

/-- One account row of a committed transaction (`UpsertAccounts` with the
    transaction's dates). -/
theorem touch_step (now ts ins : Time) (accs : Map String Account) (a : String) (m D : Meta) :
    (upsertAccount now accs { address := a, metadata := m, firstUsage := some ts, insertionDate := some ins,
                              updatedAt := some ins, defaults := D }).map (fun e => (e.1, projAcc e.2)) =
    touchWith D ts ins (accs.map fun e => (e.1, projAcc e.2)) a m := by
  unfold upsertAccount touchWith
  rw [get?_map]
  cases h : accs.get? a with
  | none => simp only [Option.map_none, map_insert]; rfl
  | some x =>
    simp only [Option.map_some]
    by_cases hc : (decide (ts < x.firstUsage) || !metaContains x.metadata m) = true
    · have hc' : (decide (ts < (projAcc x).firstUsage) || !metaContains (projAcc x).metadata m) = true := hc
      rw [if_pos hc, if_pos hc', map_insert]; rfl
    · have hc' : ¬ (decide (ts < (projAcc x).firstUsage) || !metaContains (projAcc x).metadata m) = true := hc
      rw [if_neg hc, if_neg hc']

theorem deleteAccountMeta_step (now : Time) (d : Db) (a key : String) :
    projAccounts (deleteAccountMeta now a key d) =
    (match Map.get? (projAccounts d) a with
     | some x => Map.insert a { x with metadata := x.metadata.erase key } (projAccounts d)
     | none => projAccounts d) := by
  have hg : Map.get? (projAccounts d) a = (d.accounts.get? a).map projAcc := by
    rw [projAccounts_eq, get?_map]
  rw [hg]
  unfold deleteAccountMeta
  cases h : d.accounts.get? a with
  | none => rfl
  | some x =>
    simp only [Option.map_some]
    rw [projAccounts_eq, projAccounts_eq, map_insert]; rfl

theorem deleteAccountMeta_frame (now : Time) (d : Db) (a key : String) :
    (deleteAccountMeta now a key d).schemas = d.schemas ∧ (deleteAccountMeta now a key d).txs = d.txs := by
  unfold deleteAccountMeta; split <;> exact ⟨rfl, rfl⟩

theorem projTxMeta_modifyTx (d : Db) (id : Nat) (g : Tx → Tx) (h : Meta → Meta)
    (hid : ∀ x, (g x).id = x.id) (hm : ∀ x, (g x).metadata = h x.metadata) :
    projTxMeta (d.modifyTx id g) = updTxMeta (projTxMeta d) id h := by
  unfold projTxMeta updTxMeta Db.modifyTx
  simp only [List.map_map]
  apply List.map_congr_left
  intro x _
  simp only [Function.comp]
  by_cases hx : x.id = id
  · simp only [hx, ↓reduceIte, hm]; rw [← hx, hid]
  · simp only [hx, ↓reduceIte]

theorem updTxMeta_id (l : List (Nat × Meta)) (id : Nat) : updTxMeta l id (fun m => m) = l := by
  unfold updTxMeta
  conv => rhs; rw [← List.map_id l]
  apply List.map_congr_left
  intro e _
  split <;> rfl

end Ledger.Ctrl
