import Ledger.Interp.Run
import Ledger.Proofs.MachineBal

/-!
Unit expansion of fundings / sender queues / postings.

A list of parts `[(a, 3), (b, 0), (a, 2)]` is read as the list of its units
`[a, a, a, a, a]`: zero parts vanish and adjacent parts of one account merge.  Both
runtimes only differ in how they chop the same unit list into parts (the machine keeps
zero parts and splits at source boundaries, the interpreter's queue compacts), so every
funding operation of either side is a `take` / `drop` / `++` on unit lists.
-/
namespace Ledger.Interp
open Ledger.Machine

theorem toNat_min (a b : Int) : (min a b).toNat = min a.toNat b.toNat := by
  rcases Int.le_total a b with h | h
  · rw [Int.min_eq_left h, Nat.min_eq_left (Int.toNat_le_toNat h)]
  · rw [Int.min_eq_right h, Nat.min_eq_right (Int.toNat_le_toNat h)]

/-- The units of a part list (amounts ≤ 0 contribute nothing). -/
def units : List Part → List String
  | [] => []
  | p :: ps => List.replicate p.amount.toNat p.account ++ units ps

@[simp] theorem units_nil : units [] = [] := rfl

@[simp] theorem units_cons (p : Part) (ps : List Part) :
    units (p :: ps) = List.replicate p.amount.toNat p.account ++ units ps := rfl

theorem units_append (a b : List Part) : units (a ++ b) = units a ++ units b := by
  induction a with
  | nil => simp
  | cons p ps ih => simp [ih]

theorem units_single (a : String) (n : Int) : units [⟨a, n⟩] = List.replicate n.toNat a := by
  simp

theorem total_eq_length (ps : List Part) (h : partsNonneg ps) : total ps = (units ps).length := by
  induction ps with
  | nil => simp [total]
  | cons p ps ih =>
    have hp := partsNonneg_cons.mp h
    simp only [total, units_cons, List.length_append, List.length_replicate, ih hp.2]
    have := hp.1
    omega

theorem acctTotal_eq_count (a : String) (ps : List Part) (h : partsNonneg ps) :
    acctTotal a ps = (units ps).count a := by
  induction ps with
  | nil => simp [acctTotal, totalOf]
  | cons p ps ih =>
    have hp := partsNonneg_cons.mp h
    have ih' := ih hp.2
    simp only [acctTotal] at ih'
    simp only [acctTotal, totalOf, units_cons, List.count_append, List.count_replicate, ih']
    have := hp.1
    by_cases hx : p.account = a
    · simp [hx]; omega
    · have : (p.account == a) = false := by simpa using hx
      simp [this]

theorem units_eq_nil_of_total_zero (ps : List Part) (h : partsNonneg ps) (ht : total ps = 0) :
    units ps = [] := by
  have := total_eq_length ps h
  rw [ht] at this
  exact List.eq_nil_of_length_eq_zero (by omega)

theorem units_split_le (p : Part) (ps : List Part) {r : Int} (h0 : 0 ≤ r) (h : r ≤ p.amount) :
    (units (p :: ps)).take r.toNat = units [⟨p.account, r⟩] ∧
    (units (p :: ps)).drop r.toNat = units (⟨p.account, p.amount - r⟩ :: ps) := by
  obtain ⟨k, rfl⟩ := Int.eq_ofNat_of_zero_le h0
  have hk : k ≤ p.amount.toNat := by simpa using Int.toNat_le_toNat h
  simp only [units_cons, units_nil, List.append_nil, Int.toNat_natCast, Int.toNat_sub']
  rw [List.take_append_of_le_length (by simpa using hk), List.take_replicate, Nat.min_eq_left hk,
    List.drop_append_of_le_length (by simpa using hk), List.drop_replicate]
  exact ⟨rfl, rfl⟩

theorem units_split_ge (p : Part) (ps : List Part) {r : Int} (h0 : 0 ≤ p.amount) (h : p.amount ≤ r) :
    (units (p :: ps)).take r.toNat =
      List.replicate p.amount.toNat p.account ++ (units ps).take (r - p.amount).toNat ∧
    (units (p :: ps)).drop r.toNat = (units ps).drop (r - p.amount).toNat := by
  obtain ⟨m, hm⟩ := Int.eq_ofNat_of_zero_le h0
  have hk : m ≤ r.toNat := by simpa [hm] using Int.toNat_le_toNat h
  have hl : (List.replicate m p.account).length ≤ r.toNat := by simpa using hk
  simp only [units_cons, hm, Int.toNat_natCast, Int.toNat_sub']
  rw [List.take_append, List.drop_append, List.take_of_length_le hl, List.drop_of_length_le hl,
    List.length_replicate, List.nil_append]
  exact ⟨rfl, rfl⟩

theorem takeLoop_units (ps : List Part) (h : partsNonneg ps) (r : Int) :
    units (takeLoop ps r).1 = (units ps).take r.toNat ∧
    units (takeLoop ps r).2.1 = (units ps).drop r.toNat := by
  fun_induction takeLoop ps r with
  | case1 => simp
  | case2 p ps r hr hlt =>
    obtain ⟨e1, e2⟩ := units_split_le p ps (Int.le_of_lt hr) (Int.le_of_lt hlt)
    exact ⟨e1.symm, e2.symm⟩
  | case3 p ps r hr hlt ih =>
    obtain ⟨h0, hps⟩ := partsNonneg_cons.mp h
    obtain ⟨e1, e2⟩ := units_split_ge p ps h0 (Int.not_lt.mp hlt)
    rw [e1, e2, ← (ih hps).1, ← (ih hps).2]
    exact ⟨rfl, rfl⟩
  | case4 p ps r hr =>
    rw [Int.toNat_eq_zero.mpr (Int.not_lt.mp hr)]
    exact ⟨rfl, rfl⟩

theorem takeMax_units (ps : List Part) (h : partsNonneg ps) (r : Int) :
    units (takeMax ps r).1 = (units ps).take r.toNat ∧
    units (takeMax ps r).2 = (units ps).drop r.toNat := by
  simpa [takeMax] using takeLoop_units ps h r

theorem zeroHead_units (ps : List Part) (amt : Int) : units (zeroHead ps amt) = [] := by
  unfold zeroHead
  split
  · split <;> simp
  · rfl

theorem take_isSome_iff (ps : List Part) (h : partsNonneg ps) (amt : Int) (ha : 0 ≤ amt) :
    (take ps amt).isSome ↔ amt ≤ total ps := by
  have hm := takeLoop_missing ps amt h ha
  unfold take
  split <;> simp <;> omega

theorem take_units {ps : List Part} {amt : Int} {res rem : List Part} (h : partsNonneg ps)
    (ht : take ps amt = some (res, rem)) :
    units res = (units ps).take amt.toNat ∧ units rem = (units ps).drop amt.toNat := by
  obtain ⟨_, rfl, rfl⟩ := take_eq_some.mp ht
  rw [units_append, zeroHead_units]
  exact takeLoop_units ps h amt

theorem units_merge (a s : Part) (rest : List Part) (h : a.account = s.account) (ha : 0 ≤ a.amount)
    (hs : 0 ≤ s.amount) :
    units (⟨a.account, a.amount + s.amount⟩ :: rest) = units (a :: s :: rest) := by
  simp only [units_cons, ← h]
  rw [← List.append_assoc, List.replicate_append_replicate, Int.toNat_add ha hs]

theorem concatParts_units (a b : List Part) (ha : partsNonneg a) (hb : partsNonneg b) :
    units (concatParts a b) = units a ++ units b := by
  fun_induction concatParts a b with
  | case3 l o os h =>
    rw [units_merge l o os h (partsNonneg_cons.mp ha).1 (partsNonneg_cons.mp hb).1]; simp
  | case5 x y a b ih =>
    rw [units_cons, ih (partsNonneg_cons.mp ha).2 hb, units_cons x, List.append_assoc]
  | _ => simp

theorem take_split {f : List Part} (hn : partsNonneg f) {p : Int} (hp : 0 ≤ p) (hle : p ≤ total f) :
    ∃ res rem, take f p = some (res, rem) ∧ partsNonneg res ∧ partsNonneg rem ∧
      units f = units res ++ units rem ∧ total res = p ∧ total rem = total f - p := by
  obtain ⟨⟨res, rem⟩, ht⟩ := Option.isSome_iff_exists.mp ((take_isSome_iff f hn p hp).mpr hle)
  obtain ⟨nres, nrem⟩ := take_nonneg ht hn
  obtain ⟨ures, urem⟩ := take_units hn ht
  have h1 := take_total ht
  have h2 := take_total_split ht
  exact ⟨res, rem, ht, nres, nrem, by rw [ures, urem, List.take_append_drop], h1, by omega⟩

theorem takeMax_split (f : List Part) (hn : partsNonneg f) (cap : Int) (hcap : 0 ≤ cap) :
    partsNonneg (takeMax f cap).1 ∧ partsNonneg (takeMax f cap).2 ∧
      units f = units (takeMax f cap).1 ++ units (takeMax f cap).2 ∧
      total (takeMax f cap).1 = min cap (total f) ∧
      total (takeMax f cap).2 = total f - min cap (total f) := by
  obtain ⟨tu1, tu2⟩ := takeMax_units f hn cap
  have h1 := takeMax_total f cap hn hcap
  have h2 := takeMax_total_split f cap
  refine ⟨(takeMax_nonneg f cap hn).1, (takeMax_nonneg f cap hn).2,
    by rw [tu1, tu2, List.take_append_drop], ?_⟩
  split at h1 <;> omega

theorem concatParts_empty {r rem : List Part} (hr : partsNonneg r) (hu : units r = [])
    (hrem : partsNonneg rem) :
    partsNonneg (concatParts r rem) ∧ units (concatParts r rem) = units rem ∧
      total (concatParts r rem) = total rem ∧ total r = 0 := by
  have h0 : total r = 0 := by rw [total_eq_length r hr, hu]; rfl
  exact ⟨concatParts_nonneg _ _ hr hrem, by rw [concatParts_units _ _ hr hrem, hu]; rfl,
    by rw [concatParts_total, h0, Int.zero_add], h0⟩

/-! ## The funds queue
The interpreter's funds queue and `pushSender` / `pushReceiver` on unit lists:
`Pull n` is `take n` / `drop n` on the units of the queue, a receiver's postings are
the pulled units addressed to it.
-/

/-- Every sender of the queue holds a positive amount (`pushSender` never pushes 0). -/
def Pos (q : List Part) : Prop := ∀ p ∈ q, 0 < p.amount

theorem Pos.nil : Pos [] := nofun

theorem Pos.cons {p : Part} {q : List Part} : Pos (p :: q) ↔ 0 < p.amount ∧ Pos q :=
  List.forall_mem_cons

theorem Pos.append {a b : List Part} : Pos (a ++ b) ↔ Pos a ∧ Pos b := List.forall_mem_append

theorem Pos.nonneg {q : List Part} (h : Pos q) : partsNonneg q := by
  intro p hp; have := h p hp; omega

theorem Pos.units_nil {q : List Part} (h : Pos q) (hu : units q = []) : q = [] := by
  cases q with
  | nil => rfl
  | cons p ps =>
    have hp := (Pos.cons.mp h).1
    simp only [units_cons, List.append_eq_nil_iff, List.replicate_eq_nil_iff] at hu
    omega

theorem pullGo_spec (rest : List Part) : ∀ (a : Part) (req : Int), 0 < a.amount → Pos rest → 0 < req →
    units (pullGo a rest req).1 = (units (a :: rest)).take req.toNat ∧
    units (pullGo a rest req).2 = (units (a :: rest)).drop req.toNat ∧
    Pos (pullGo a rest req).1 ∧ Pos (pullGo a rest req).2 := by
  -- the head `a` against the request, once it has been compacted with what follows
  have head : ∀ (a : Part) (tl : List Part) (req : Int), 0 < a.amount → Pos tl → 0 < req →
      ¬ a.amount < req →
      let r : List Part × List Part :=
        if req < a.amount then ([⟨a.account, req⟩], ⟨a.account, a.amount - req⟩ :: tl)
        else ([⟨a.account, req⟩], tl)
      units r.1 = (units (a :: tl)).take req.toNat ∧ units r.2 = (units (a :: tl)).drop req.toNat ∧
        Pos r.1 ∧ Pos r.2 := by
    intro a tl req ha htl hreq h1
    obtain ⟨e1, e2⟩ := units_split_le a tl (Int.le_of_lt hreq) (Int.not_lt.mp h1)
    by_cases h2 : req < a.amount
    · simp only [if_pos h2]
      exact ⟨e1.symm, e2.symm, Pos.cons.mpr ⟨hreq, Pos.nil⟩, Pos.cons.mpr ⟨Int.sub_pos.mpr h2, htl⟩⟩
    · have hz : a.amount - req = 0 :=
        Int.sub_eq_zero.mpr (Int.le_antisymm (Int.not_lt.mp h2) (Int.not_lt.mp h1))
      simp only [if_neg h2]
      exact ⟨e1.symm, by rw [e2, hz]; rfl, Pos.cons.mpr ⟨hreq, Pos.nil⟩, htl⟩
  induction rest with
  | nil =>
    intro a req ha _ hreq
    unfold pullGo
    by_cases h1 : a.amount < req
    · rw [if_pos h1]
      obtain ⟨e1, e2⟩ := units_split_ge a [] (Int.le_of_lt ha) (Int.le_of_lt h1)
      exact ⟨by rw [e1]; simp, by rw [e2]; simp, Pos.cons.mpr ⟨ha, Pos.nil⟩, Pos.nil⟩
    · rw [if_neg h1]
      exact head a [] req ha Pos.nil hreq h1
  | cons s rest ih =>
    intro a req ha hrest hreq
    obtain ⟨hs, hr⟩ := Pos.cons.mp hrest
    unfold pullGo
    rw [if_neg (Int.ne_of_gt hs)]
    by_cases hacc : a.account = s.account
    · rw [if_pos hacc, ← units_merge a s rest hacc (Int.le_of_lt ha) (Int.le_of_lt hs)]
      exact ih ⟨a.account, a.amount + s.amount⟩ req (Int.add_pos ha hs) hr hreq
    · rw [if_neg hacc]
      by_cases h1 : a.amount < req
      · rw [if_pos h1]
        obtain ⟨e1, e2⟩ := units_split_ge a (s :: rest) (Int.le_of_lt ha) (Int.le_of_lt h1)
        obtain ⟨i1, i2, i3, i4⟩ := ih s (req - a.amount) hs hr (Int.sub_pos.mpr h1)
        exact ⟨by rw [e1, ← i1]; rfl, by rw [e2, ← i2], Pos.cons.mpr ⟨ha, i3⟩, i4⟩
      · rw [if_neg h1]
        exact head a (s :: rest) req ha hrest hreq h1

theorem pull_spec (q : List Part) (req : Int) (hq : Pos q) (hreq : 0 ≤ req) :
    units (pull q req).1 = (units q).take req.toNat ∧
    units (pull q req).2 = (units q).drop req.toNat ∧
    Pos (pull q req).1 ∧ Pos (pull q req).2 := by
  unfold pull
  by_cases h0 : req = 0
  · rw [if_pos h0]; subst h0
    exact ⟨by simp, by simp, Pos.nil, hq⟩
  · rw [if_neg h0]
    cases q with
    | nil => exact ⟨by simp, by simp, Pos.nil, Pos.nil⟩
    | cons a rest =>
      obtain ⟨ha, hr⟩ := Pos.cons.mp hq
      exact pullGo_spec rest a req ha hr (by omega)

/-- Postings as units: one (source, destination, asset) per unit of amount, in order; an amount ≤ 0 gives none. -/
def unitsP : List Posting → List (String × String × String)
  | [] => []
  | p :: ps => List.replicate p.amount.toNat (p.source, p.destination, p.asset) ++ unitsP ps

@[simp] theorem unitsP_nil : unitsP [] = [] := rfl

theorem unitsP_append (a b : List Posting) : unitsP (a ++ b) = unitsP a ++ unitsP b := by
  induction a with
  | nil => simp
  | cons p ps ih => simp [unitsP, ih]

theorem unitsP_mkPostings (asset dest : String) (parts : List Part) :
    unitsP (mkPostings asset dest parts) = (units parts).map (fun s => (s, dest, asset)) := by
  induction parts with
  | nil => simp [mkPostings]
  | cons p ps ih =>
    simp only [mkPostings, List.map_cons] at ih ⊢
    simp [unitsP, ih]

theorem receive_spec (name : String) (hk : name ≠ KEPT) (out : List Part) : ∀ (st : IState),
    (receive name out st).postings = st.postings ++ mkPostings st.asset name out ∧
    (receive name out st).bal = upd st.bal name st.asset (total out) ∧
    (receive name out st).queue = st.queue ∧ (receive name out st).txMeta = st.txMeta ∧
    (receive name out st).accMeta = st.accMeta ∧ (receive name out st).asset = st.asset := by
  induction out with
  | nil =>
    intro st
    refine ⟨by simp [receive, mkPostings], ?_, rfl, rfl, rfl, rfl⟩
    funext a c; simp [receive, upd, total]
  | cons s rest ih =>
    intro st
    simp only [receive, if_neg hk]
    obtain ⟨i1, i2, i3, i4, i5, i6⟩ := ih
      { st with bal := upd st.bal name st.asset s.amount,
                postings := st.postings ++ [⟨s.account, name, st.asset, s.amount⟩] }
    refine ⟨?_, ?_, i3, i4, i5, i6⟩
    · rw [i1]; simp [mkPostings]
    · rw [i2]; funext a c
      simp only [upd, total]
      split <;> omega

end Ledger.Interp
