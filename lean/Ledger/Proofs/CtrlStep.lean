import Ledger.Proofs.CtrlRetry

/-!
The structure of `forgeLog`: whatever happens inside the transaction, the committed
tables change only on the one path that ends in a successful `Commit` of a
non-dry-run, non-idempotency-hit operation, and then they are those of a complete
`runLog` (`forgeLog_ending`).  What follows at once: a predicate that survives an advance
of the sequences and a complete `runLog` holds along every operation and history
(`Stable`, with `Stable.of_calls` for what every store call keeps: `Inv`, `AccLe`, `SeqLe`
here, the Spec's `StoreInv` in `CtrlSpecLink`, `SpecOk` in `CtrlSpec`); the journal grows
by the answered log or not at all; a dry run answers what the real run answers.
-/
namespace Ledger.Ctrl
open Ledger.Base Ledger.Core

/-- Every operation, with or without an injected fault, either leaves the
    committed tables untouched (and then answers with an error, a hit, or is a dry
    run) or is a committed, successful, non-dry-run, non-hit write whose tables
    are exactly those of a complete `runLog` on the committed tables.  It never answers
    the model's out-of-fuel marker: the retry loop starts with more fuel than there are
    planned faults. -/
theorem forgeLog_ending (strict : Bool) (op : Op) (f : Faults) (cf : Bool) (s : State) :
    Ending strict s op cf (forgeLog strict op f cf s) ∧ (forgeLog strict op f cf s).resp.err ≠ some .outOfFuel := by
  unfold forgeLog
  split
  · exact ⟨.unchanged rfl (SeqLe.refl _) (Or.inl rfl), nofun⟩
  · have hik := run_ikLookup_db op.now "t1" f op.ik op.ihash
      { db := s.db, seq := s.seq, n := 1, trace := ["root BeginTX"] }
    split <;> rename_i st1 heq <;> rw [heq] at hik <;> obtain ⟨hdb, hsq⟩ : st1.db = s.db ∧ st1.seq = s.seq := hik
    · exact ⟨.unchanged rfl (hsq ▸ SeqLe.refl _) (Or.inl rfl),
        mt Option.some.inj (run_error_not_outOfFuel (ikLookup_all op.ik op.ihash) heq)⟩
    · exact ⟨.unchanged rfl (hsq ▸ SeqLe.refl _) (Or.inr (Or.inl rfl)), nofun⟩
    · have hseq := run_seq op.now "t1" f (runLog strict op.kind op.ik op.ihash op.sv 1) st1
      rw [hsq] at hseq
      split <;> rename_i st2 heq2 <;> rw [heq2] at hseq
      · split
        · exact retryLoop_ending strict op f cf s _ _ _ _ _ _ hseq (Nat.lt_succ_of_le List.countP_le_length)
        · obtain ⟨hu, hsq, hw, hne⟩ := failedThenRecorded_unchanged op s st2 "t1" f ‹_›
          exact ⟨.unchanged hu (hsq ▸ hseq) (hw.imp_right Or.inl),
            hne (run_error_not_outOfFuel (runLog_all strict op.kind op.ik op.ihash op.sv 1) heq2)⟩
      · rcases finish_cases s st2 "t1" f cf op.dry ‹_› with h | h
        · exact ⟨.unchanged (by rw [Outcome.Unchanged, h.1]) (h.1 ▸ hseq) (h.2.1.imp_right Or.inr), h.2.2⟩
        · exact ⟨.committed st1 st2 _ "t1" f 1 h.1 h.2.1 hdb (hsq ▸ SeqLe.refl _) heq2 h.2.2, by rw [h.2.2.2]; exact nofun⟩

/-- No write operation ever answers the model's out-of-fuel marker: the model of
    `forgeLogRetry` (loop until a non-deadlock outcome) is faithful for every fault plan. -/
theorem forgeLog_never_outOfFuel (strict : Bool) (op : Op) (f : Faults) (cf : Bool) (s : State) :
    (forgeLog strict op f cf s).resp.err ≠ some .outOfFuel := (forgeLog_ending strict op f cf s).2

/-- What an invariant of the committed state has to survive: an advance of the sequences (an
    attempt that is rolled back keeps the values it drew) and a complete `runLog`. -/
structure Stable (strict : Bool) (P : Db → Seqs → Prop) : Prop where
  seq : ∀ {d sq sq'}, SeqLe sq sq' → P d sq → P d sq'
  write : ∀ {now hn f kind ik ihash sv n st0 st log},
    run now hn f (runLog strict kind ik ihash sv n) st0 = (.ok log, st) → P st0.db st0.seq → P st.db st.seq

/-- Call by call: it is enough to look at the successful `Fresh` calls. -/
theorem Stable.of_calls {strict : Bool} {P : Db → Seqs → Prop}
    (hseq : ∀ {d sq sq'}, SeqLe sq sq' → P d sq → P d sq')
    (hcall : ∀ {now c d sq sq' r d'}, c.Fresh → exec now c d sq = (sq', .ok (r, d')) → P d sq → P d' sq') :
    Stable strict P where
  seq := hseq
  write := fun {now hn f kind ik ihash sv n st0 st log} hrun h => by
    have := run_rel now hn f (fun x y => P x.1 x.2 → P y.1 y.2) (fun _ hx => hx) (fun _ _ _ h1 h2 hx => h2 (h1 hx))
      (fun c d sq hc => ⟨fun sq' e he hx => hseq (exec_seq he) hx, fun sq' r d' he hx => hcall hc he hx⟩)
      (runLog_all strict kind ik ihash sv n) st0 h
    rwa [hrun] at this

/-- Every write operation (failing, dry-run, idempotent, faulted or committed) keeps it. -/
theorem Stable.forgeLog {strict : Bool} {P : Db → Seqs → Prop} (hP : Stable strict P) (op : Op) (f : Faults) (cf : Bool)
    (s : State) (h : P s.db s.seq) : P (forgeLog strict op f cf s).state.db (forgeLog strict op f cf s).state.seq :=
  (forgeLog_ending strict op f cf s).1.ind (fun _ hs => hP.seq hs h)
    fun _ _ _ _ _ _ h0 hs0 hrun => hP.write hrun (h0 ▸ hP.seq hs0 h)

theorem Stable.runHist {strict : Bool} {P : Db → Seqs → Prop} (hP : Stable strict P) (s : State) (ops : List Op)
    (h : P s.db s.seq) : P (runHist strict s ops).db (runHist strict s ops).seq := by
  induction ops generalizing s with
  | nil => exact h
  | cons op r ih => exact ih _ (hP.forgeLog op [] false s h)

theorem inv_stable (strict : Bool) : Stable strict Inv :=
  .of_calls (fun hs h => h.seq_mono hs) exec_inv

theorem accLe_stable (strict : Bool) (a : Map String Account) : Stable strict fun d _ => AccLe a d.accounts :=
  .of_calls (fun _ h => h) fun _ he h => h.trans (exec_accLe he)

/-- Sequences are never rolled back. -/
theorem seqLe_stable (strict : Bool) (sq0 : Seqs) : Stable strict fun _ sq => SeqLe sq0 sq :=
  .of_calls (fun hs h => h.trans hs) fun _ he h => h.trans (exec_seq he)

theorem runHist_inv (strict : Bool) (s : State) (ops : List Op) (h : Inv s.db s.seq) :
    Inv (runHist strict s ops).db (runHist strict s ops).seq := (inv_stable strict).runHist s ops h

theorem step_committed_appended (strict : Bool) (s : State) (op : Op)
    (he : (step strict s op).2.isError = false) (hh : (step strict s op).2.hit = false) (hd : op.dry = false) :
    ∃ log, (step strict s op).2.log = some log ∧ (step strict s op).1.db.logs = s.db.logs ++ [log] ∧
      log.ik = op.ik ∧ log.ihash = op.ihash ∧ log.schemaVersion = op.sv ∧ log.date = op.now := by
  unfold step at *
  rcases (forgeLog_ending strict op [] false s).1 with ⟨_, _, why⟩ | ⟨st0, st, log, hn, f', n, _, _, h0, _, hrun, hc⟩
  · dsimp only [Resp.isError] at he hh
    rw [he, hh, hd] at why
    rcases why with w | w | w <;> cases w
  · have ha := run_runLog_ok op.now hn f' strict op.kind op.ik op.ihash op.sv n st0 st log hrun
    exact ⟨log, congrArg Resp.log hc.2, by rw [← h0, ← ha.logs]; exact congrArg (·.db.logs) hc.1,
      ha.ik, ha.ihash, ha.sv, ha.date⟩

theorem step_logs_prefix (strict : Bool) (s : State) (op : Op) :
    ∃ ext, (step strict s op).1.db.logs = s.db.logs ++ ext ∧ ext.length ≤ 1 :=
  (forgeLog_ending strict op [] false s).1.ind (P := fun d _ => ∃ ext, d.logs = s.db.logs ++ ext ∧ ext.length ≤ 1)
    (fun _ _ => ⟨[], (List.append_nil _).symm, Nat.zero_le _⟩) fun hn f' n st0 st log h0 _ hrun =>
      ⟨[log], h0 ▸ (run_runLog_ok op.now hn f' strict op.kind op.ik op.ihash op.sv n st0 st log hrun).logs, Nat.le_refl _⟩

def Op.wet (op : Op) : Op := { op with dry := false }

theorem runTx_wet (strict : Bool) (op : Op) (s : State) (i tx : Nat) (seq : Seqs) (n : Nat) (trace : List String) :
    (∃ e seq' n' trace', runTx strict op.wet [] false s i tx seq n trace = .failed e seq' n' trace' ∧
        runTx strict op [] false s i tx seq n trace = .failed e seq' n' trace') ∨
    (∃ o o', runTx strict op.wet [] false s i tx seq n trace = .done o ∧
        runTx strict op [] false s i tx seq n trace = .done o' ∧ o.resp = o'.resp) := by
  unfold runTx
  simp only [fires_nil, Op.wet]
  generalize run op.now ("t" ++ toString tx) [] (runLog strict op.kind op.ik op.ihash op.sv i) _ = res
  obtain ⟨r, st1⟩ := res
  cases r with
  | error e =>
    dsimp only
    split
    · exact Or.inr ⟨_, _, rfl, rfl, rfl⟩
    · exact Or.inl ⟨_, _, _, _, rfl, rfl⟩
  | ok log =>
    simp only [Bool.false_eq_true, ↓reduceIte]
    cases op.dry <;> exact Or.inr ⟨_, _, rfl, rfl, rfl⟩

theorem retryLoop_resp_wet (strict : Bool) (op : Op) (s : State) (fuel i tx : Nat) (seq : Seqs) (n : Nat)
    (trace : List String) :
    (retryLoop strict op.wet [] false s fuel i tx seq n trace).resp =
    (retryLoop strict op [] false s fuel i tx seq n trace).resp := by
  induction fuel generalizing i tx seq n trace with
  | zero => rfl
  | succ fuel ih =>
    unfold retryLoop
    rcases runTx_wet strict op s i tx seq n trace with ⟨e, seq', n', trace', h1, h2⟩ | ⟨o, o', h1, h2, hr⟩
    · rw [h1, h2]
      dsimp only
      split
      · exact ih _ _ _ _ _
      · rfl
    · rw [h1, h2]; exact hr

theorem forgeLog_resp_wet (strict : Bool) (op : Op) (s : State) :
    (forgeLog strict op.wet [] false s).resp = (forgeLog strict op [] false s).resp := by
  unfold forgeLog
  simp only [fires_nil, Op.wet]
  generalize run op.now "t1" [] (ikLookup op.ik op.ihash) _ = res1
  obtain ⟨r1, st1⟩ := res1
  cases r1 with
  | error e => rfl
  | ok lg =>
    cases lg with
    | some l => rfl
    | none =>
      dsimp only
      generalize run op.now "t1" [] (runLog strict op.kind op.ik op.ihash op.sv 1) st1 = res2
      obtain ⟨r2, st2⟩ := res2
      cases r2 with
      | error e =>
        dsimp only
        split
        · exact retryLoop_resp_wet strict op s _ _ _ _ _ _
        · rfl
      | ok log => cases op.dry <;> rfl

end Ledger.Ctrl
