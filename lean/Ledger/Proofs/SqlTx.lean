import Ledger.Proofs.SqlLive
import Ledger.Proofs.SqlInsertGen
import Ledger.Proofs.SqlPurePhases
import Ledger.Generated.Schema

/-!
# The table `transactions`: typed rows, the guard of `RevertTransaction`, unique indexes
-/
open Ledger Ledger.Sql Ledger.Generated

namespace Ledger.Sql

/-- the contents of a row of `transactions` -/
structure TxR where
  ledger : String
  id : Int
  timestamp : Int
  reference : Option String
  revertedAt : Option Int
  updatedAt : Int
  postings : String
  sources : JV
  destinations : JV
  sourcesArrays : JV
  destinationsArrays : JV
  metadata : JV
  pcv : Option JV
  insertedAt : Option Int
  template : Option String

/-- column order of `Schema.tbl_transactions` -/
def txVals (x : TxR) : List Value :=
  [.text x.ledger, .int x.id, .ts x.timestamp, optText x.reference, optTs x.revertedAt, .ts x.updatedAt, .text x.postings,
   .json x.sources, .json x.destinations, .json x.sourcesArrays, .json x.destinationsArrays, .json x.metadata,
   optJson x.pcv, optTs x.insertedAt, optText x.template]

def txCols : List String := Schema.tbl_transactions.cols.map (·.name)

/-- `transactions` of bucket `b`, with the per-ledger triggers `trigs` -/
def txT (b : String) (trigs : List TriggerDef) (nr : Nat) : Table :=
  { Schema.tbl_transactions with name := b ++ "." ++ "transactions", triggers := trigs, nextRid := nr }

def txFull (b : String) : String := b ++ "." ++ "transactions"

theorem txT_colNames (b : String) (trigs : List TriggerDef) (nr : Nat) : (txT b trigs nr).colNames = txCols := rfl

def TxTyped (rows : List Ver) : Prop := ∀ r ∈ rows, ∃ x, r.vals = txVals x

/-- the scope an UPDATE of `transactions` evaluates its WHERE clause and SET list in -/
def txScope (x : TxR) (src : Option (String × Nat)) : Scope :=
  { alias := "transactions", cols := txCols, vals := txVals x, src := src }

theorem lookup_tx (env : Env) (x : TxR) (src : Option (String × Nat)) (c : String) (v : Value)
    (h : lookupIn txCols (txVals x) c = some v) :
    lookupColumn { env with locals := [txScope x src] } "" c = .ok v :=
  lookupColumn_head _ (txScope x src) env.outer c v rfl h

theorem evalBinop_eq_int' (a b : Int) : evalBinop .eq (.int a) (.int b) = .ok (.bool (decide (a = b))) := evalBinop_eq_int a b

/-- a column of the row that a CHECK constraint or an index predicate of `transactions` is evaluated on -/
theorem lookup_txRow (b : String) (trigs : List TriggerDef) (nr : Nat) (rows : List Ver) (x : TxR) (c : String) (v : Value)
    (h : lookupIn txCols (txVals x) c = some v) :
    lookupColumn { locals := [rowScope ((txT b trigs nr).withRows rows) (baseName ((txT b trigs nr).withRows rows).name) (txVals x)] } "" c =
      .ok v :=
  lookupColumn_head _ _ _ c v rfl h

theorem exec_checkConstraints_tx (b : String) (trigs : List TriggerDef) (nr : Nat) (rows : List Ver) (x : TxR) (s : St) :
    (checkConstraints ((txT b trigs nr).withRows rows) (txVals x)).exec s = (.ok (), s) := by
  refine exec_checkConstraints_pv _ _ s rfl fun ck hck => ?_
  obtain rfl := List.mem_singleton.mp hck
  refine ⟨.bool true, some true, ?_, rfl, by simp⟩
  simp only [pv, lookup_txRow b trigs nr rows x "updated_at" _ rfl, isNullV_ok, ne_eq, reduceCtorEq, not_false_eq_true,
    implies_true, Value.isNull]
  rfl

def txIdx1 : UniqueIdx := { name := "transactions_ledger", cols := ["ledger", "id"], pred := none, primary := true }
def txIdx2 : UniqueIdx :=
  { name := "transactions_reference", cols := ["ledger", "reference"],
    pred := some (Expr.binop BinOp.ne (Expr.col "" "reference") (Expr.str "")), primary := false }

theorem txT_uniques (b : String) (trigs : List TriggerDef) (nr : Nat) (rows : List Ver) :
    ((txT b trigs nr).withRows rows).uniques = [txIdx1, txIdx2] := rfl

/-- does a row with contents `x'` conflict with new contents `x` on the primary key / the reference index? -/
def txConf1 (x x' : TxR) : Bool := x'.ledger == x.ledger && x'.id == x.id
def txConf2 (x x' : TxR) : Bool :=
  match x.reference, x'.reference with
  | some ref, some ref' => x'.ledger == x.ledger && ref' == ref && ref' != ""
  | _, _ => false

theorem exec_predHolds_tx2 (b : String) (trigs : List TriggerDef) (nr : Nat) (rows : List Ver) (x : TxR) (s : St) :
    (predHolds ((txT b trigs nr).withRows rows) txIdx2.pred (txVals x)).exec s =
      (.ok (match x.reference with | some ref => ref != "" | none => false), s) := by
  have hl := lookup_txRow b trigs nr rows x "reference" _ rfl
  cases hr : x.reference with
  | none =>
    refine exec_predHolds_pv _ _ _ .null none s ?_ rfl
    simp only [pv, hl, hr, optText, binV_ok, evalBinop_ne_null_text, ne_eq, reduceCtorEq, not_false_eq_true]
  | some ref =>
    refine (exec_predHolds_pv _ _ _ (.bool (ref != "")) (some (ref != "")) s ?_ rfl).trans (by cases h : (ref != "") <;> simp [h])
    simp only [pv, hl, hr, optText, binV_ok, evalBinop_ne_text, ne_eq, reduceCtorEq, not_false_eq_true]

theorem sameGroupKey_text_int (a b : String) (i j : Int) :
    sameGroupKey [.text a, .int i] [.text b, .int j] = .ok (a == b && i == j) := by
  show _ = Except.ok (decide (a = b) && decide (i = j))
  simp only [sameGroupKey, compareForSort_text, compareForSort_int, bind, Except.bind, cmpStr_eq, cmpInt_eq]
  cases decide (a = b) <;> cases decide (i = j) <;> rfl

theorem exec_keyMatches_tx1 (b : String) (trigs : List TriggerDef) (nr : Nat) (rows : List Ver) (x x' : TxR) (r : Ver)
    (hr : r.vals = txVals x') (s : St) :
    (keyMatches ((txT b trigs nr).withRows rows) txIdx1 [.text x.ledger, .int x.id] r).exec s = (.ok (txConf1 x x'), s) :=
  (exec_keyMatches_pred _ txIdx1 _ r s _ true (by rw [hr]; exact sameGroupKey_text_int x'.ledger x.ledger x'.id x.id) rfl).trans
    (by rw [Bool.and_true]; rfl)

theorem sameGroupKey_text_optText (a b : String) (r' : Option String) (ref : String) :
    sameGroupKey [.text a, optText r'] [.text b, .text ref] = .ok (a == b && r' == some ref) := by
  cases r' with
  | none =>
    show _ = Except.ok (decide (a = b) && false)
    simp only [sameGroupKey, optText, compareForSort_text, compareForSort_null_text, bind, Except.bind, cmpStr_eq]
    cases decide (a = b) <;> rfl
  | some q =>
    show _ = Except.ok (decide (a = b) && decide (q = ref))
    simp only [sameGroupKey, optText, compareForSort_text, bind, Except.bind, cmpStr_eq]
    cases decide (a = b) <;> cases decide (q = ref) <;> rfl

theorem exec_keyMatches_tx2 (b : String) (trigs : List TriggerDef) (nr : Nat) (rows : List Ver) (x x' : TxR) (ref : String)
    (hx : x.reference = some ref) (r : Ver) (hr : r.vals = txVals x') (s : St) :
    (keyMatches ((txT b trigs nr).withRows rows) txIdx2 [.text x.ledger, .text ref] r).exec s = (.ok (txConf2 x x'), s) := by
  rw [exec_keyMatches_pred _ txIdx2 _ r s _ _ (by rw [hr]; exact sameGroupKey_text_optText x'.ledger x.ledger x'.reference ref)
    (by rw [hr]; exact exec_predHolds_tx2 b trigs nr rows x' s)]
  cases hq : x'.reference <;> simp [txConf2, hx, hq]

theorem exec_findConflict_tx_none (b : String) (trigs : List TriggerDef) (nr : Nat) (rows : List Ver) (x : TxR) (ex : Option Nat)
    (s : St) (hsolo : ∀ y ∈ s.w.active, y = s.xid) (ht : TxTyped rows)
    (hno : ∀ r ∈ rows, r.visible (latestView s.w s.xid) = true → (some r.rid == ex) = false → ∀ x', r.vals = txVals x' →
      txConf1 x x' = false ∧ txConf2 x x' = false) :
    (findConflict ((txT b trigs nr).withRows rows) [txIdx1, txIdx2] (txVals x) ex).exec s = (.ok none, s) := by
  refine exec_findConflict_none _ _ ex s hsolo [txIdx1, txIdx2] fun idx hidx => ?_
  rcases List.mem_cons.mp hidx with rfl | hidx
  · refine ⟨true, rfl, fun _ _ r hr hv he => ?_⟩
    obtain ⟨x', hx'⟩ := ht r hr
    exact (exec_keyMatches_tx1 b trigs nr rows x x' r hx' s).trans (by rw [(hno r hr hv he x' hx').1])
  · cases List.mem_singleton.mp hidx
    refine ⟨_, exec_predHolds_tx2 b trigs nr rows x s, fun hp _ r hr hv he => ?_⟩
    obtain ⟨x', hx'⟩ := ht r hr
    cases hx : x.reference with
    | none => rw [hx] at hp; cases hp
    | some ref =>
      have hk2 : keyOf ((txT b trigs nr).withRows rows) txIdx2.cols (txVals x) = [.text x.ledger, .text ref] := by
        show [Value.text x.ledger, optText x.reference] = _
        rw [hx]; rfl
      rw [hk2]
      exact (exec_keyMatches_tx2 b trigs nr rows x x' ref hx r hx' s).trans (by rw [(hno r hr hv he x' hx').2])

def decOptText : Value → Option (Option String)
  | .text s => some (some s)
  | .null => some none
  | _ => none
def decOptTs : Value → Option (Option Int)
  | .ts t => some (some t)
  | .null => some none
  | _ => none
def decOptJson : Value → Option (Option JV)
  | .json j => some (some j)
  | .null => some none
  | _ => none

def txDecode : List Value → Option TxR
  | [.text l, .int i, .ts t, ref, ra, .ts u, .text p, .json s1, .json d1, .json s2, .json d2, .json md, pcv, ins, tpl] =>
    match decOptText ref, decOptTs ra, decOptJson pcv, decOptTs ins, decOptText tpl with
    | some ref, some ra, some pcv, some ins, some tpl =>
      some { ledger := l, id := i, timestamp := t, reference := ref, revertedAt := ra, updatedAt := u, postings := p, sources := s1,
             destinations := d1, sourcesArrays := s2, destinationsArrays := d2, metadata := md, pcv := pcv, insertedAt := ins, template := tpl }
    | _, _, _, _, _ => none
  | _ => none

theorem txDecode_txVals (x : TxR) : txDecode (txVals x) = some x := by
  obtain ⟨l, i, t, ref, ra, u, p, s1, d1, s2, d2, md, pcv, ins, tpl⟩ := x
  cases ref <;> cases ra <;> cases pcv <;> cases ins <;> cases tpl <;> rfl

/-- guard / new values on raw rows, from their meaning on typed rows -/
def txG (gR : TxR → Bool) (vals : List Value) : Bool :=
  match txDecode vals with
  | some x => gR x
  | none => false
def txF (fR : TxR → TxR) (vals : List Value) : List Value :=
  match txDecode vals with
  | some x => txVals (fR x)
  | none => vals

@[simp] theorem txG_txVals (gR : TxR → Bool) (x : TxR) : txG gR (txVals x) = gR x := by simp [txG, txDecode_txVals]
@[simp] theorem txF_txVals (fR : TxR → TxR) (x : TxR) : txF fR (txVals x) = txVals (fR x) := by simp [txF, txDecode_txVals]

theorem txVals_inj (x y : TxR) (h : txVals x = txVals y) : x = y := by
  have := congrArg txDecode h
  simpa [txDecode_txVals] using this

/-- storage invariant of `transactions` as the transaction sees it: typed rows, and no two visible rows
    (of different row ids) collide on the primary key or on the reference index -/
structure TxInv (lv : View) (rows : List Ver) : Prop where
  typed : TxTyped rows
  uniq : ∀ r1 ∈ rows, ∀ r2 ∈ rows, r1.visible lv = true → r2.visible lv = true → r1.rid ≠ r2.rid →
    ∀ x1 x2, r1.vals = txVals x1 → r2.vals = txVals x2 → txConf1 x1 x2 = false ∧ txConf2 x1 x2 = false

/-- the two unique indexes look at ledger, id and reference only -/
theorem txConf_keep {x x' : TxR} (h : x'.ledger = x.ledger ∧ x'.id = x.id ∧ x'.reference = x.reference) (y : TxR) :
    txConf1 x' y = txConf1 x y ∧ txConf2 x' y = txConf2 x y ∧ txConf1 y x' = txConf1 y x ∧ txConf2 y x' = txConf2 y x := by
  unfold txConf1 txConf2
  rw [h.1, h.2.1, h.2.2]
  exact ⟨rfl, rfl, rfl, rfl⟩

/-- an UPDATE that does not touch ledger, id and reference keeps the invariant and cannot violate a unique index -/
theorem txUpdInv (b : String) (trigs : List TriggerDef) (nr : Nat) (w : World) (xid cid : Nat) (hx : xid ≠ 0) (hc : cid < 1000000000)
    (gR : TxR → Bool) (fR : TxR → TxR)
    (hkeep : ∀ x, (fR x).ledger = x.ledger ∧ (fR x).id = x.id ∧ (fR x).reference = x.reference)
    (P : Ver → Prop) (hPt : ∀ r, P r → ∃ x, r.vals = txVals x) :
    UpdInv (txT b trigs nr) (txG gR) (txF fR) (latestView w xid) xid cid P (TxInv (latestView w xid)) where
  step := by
    intro rows r hinv hr hv hPr hg
    obtain ⟨x, hxv⟩ := hPt r hPr
    have hmem := visible_mem_updStep w xid cid hx hc (txG gR) (txF fR) rows r hg
    have hnew : (newVer xid cid r.rid (txF fR r.vals)).vals = txVals (fR x) := by simp [newVer, hxv]
    refine ⟨fun q hq => ?_, fun r1 h1 r2 h2 v1 v2 hne x1 x2 e1 e2 => ?_⟩
    · rw [updStep, if_pos hg] at hq
      rcases List.mem_cons.mp hq with rfl | hq
      · exact ⟨fR x, hnew⟩
      · obtain ⟨q0, hq0, rfl⟩ := List.mem_map.mp hq
        rw [closeRow_vals]; exact hinv.typed q0 hq0
    · -- the new version conflicts with what the version it replaces conflicted with
      rcases hmem r1 h1 v1 with rfl | ⟨m1, w1, n1⟩ <;> rcases hmem r2 h2 v2 with rfl | ⟨m2, w2, n2⟩
      · exact absurd rfl hne
      · cases txVals_inj _ _ (e1.symm.trans hnew)
        rw [(txConf_keep (hkeep x) x2).1, (txConf_keep (hkeep x) x2).2.1]
        exact hinv.uniq r hr r2 m2 hv w2 (Ne.symm n2) x x2 hxv e2
      · cases txVals_inj _ _ (e2.symm.trans hnew)
        rw [(txConf_keep (hkeep x) x1).2.2.1, (txConf_keep (hkeep x) x1).2.2.2]
        exact hinv.uniq r1 m1 r hr w1 hv n1 x1 x e1 hxv
      · exact hinv.uniq r1 m1 r2 m2 w1 w2 hne x1 x2 e1 e2
  noConflict := by
    intro rows r hinv hr hv hPr hg s hs hlv hxid
    obtain ⟨x, hxv⟩ := hPt r hPr
    rw [hxv, txF_txVals]
    apply exec_findConflict_tx_none b trigs nr rows (fR x) (some r.rid) s hs.solo hinv.typed
    intro q hq hvq hex x' hx'
    rw [hlv] at hvq
    have hne : r.rid ≠ q.rid := fun e => by simp [e] at hex
    rw [(txConf_keep (hkeep x) x').1, (txConf_keep (hkeep x) x').2.1]
    exact hinv.uniq r hr q hq hv hvq hne x x' hxv hx'

end Ledger.Sql
