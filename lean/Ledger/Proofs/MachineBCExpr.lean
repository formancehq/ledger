import Ledger.Proofs.MachineBCTable

/-! `Emit`: the code the compiler appended between two compile states runs as a given stack / state
    transformer in every final resource table.  The primitive emitters and expressions (`cExpr_ok`) conclude it. -/
namespace Ledger.Machine

theorem step_apush (resv : List Value) (a : Nat) (stk : Stack) (st : State) :
    step resv (.apush a) stk st =
      match resv[a]? with
      | some v => .ok (.val v :: stk, st)
      | none => .error (.run "exec" "resource-not-found") := rfl

theorem runSeg_apush {resv : List Value} {a : Nat} {v : Value} (h : resv[a]? = some v) (stk : Stack) (st : State) :
    runSeg resv [.apush a] stk st = .ok (.val v :: stk, st) := by
  simp only [runSeg, step_apush, h]

/-- Stack/state transformers of code segments. -/
abbrev Kl := Stack → State → Except Err (Stack × State)

def Kl.comp (f g : Kl) : Kl := fun stk st =>
  match f stk st with
  | .error e => .error e
  | .ok (s1, t1) => g s1 t1

def Kl.id : Kl := fun stk st => .ok (stk, st)

/-- A predicate on compile states that survives extensions (e.g. "address `a` resolves to
    value `v` in every final table"). -/
def Stable (C : CS → Prop) : Prop := ∀ cs cs' seg, C cs → Ext cs cs' seg → C cs'

theorem AddrVal.stable (env : Env) (a : Nat) (v : Value) : Stable (AddrVal env a v) :=
  fun _ _ _ h he => h.ext he

theorem resAt_stable (i : Nat) (r : Res) : Stable fun cs => cs.res[i]? = some r :=
  fun _ _ _ h he => he.res_get h

theorem Stable.and {C D : CS → Prop} (hc : Stable C) (hd : Stable D) : Stable (fun cs => C cs ∧ D cs) :=
  fun cs cs' seg h he => ⟨hc cs cs' seg h.1 he, hd cs cs' seg h.2 he⟩

theorem Stable.true : Stable (fun _ => True) := fun _ _ _ _ _ => trivial

/-- From `cs` to `cs'` the compiler appended code that, under every final resource table, runs as `g`. -/
def Emit (ds : Decls) (env : Env) (cs cs' : CS) (g : Kl) : Prop :=
  ∃ seg, Ext cs cs' seg ∧ Good ds cs' ∧
    ∀ R resv, Final cs' R → Resolved env R resv → ∀ stk st, runSeg resv seg stk st = g stk st

section
variable {ds : Decls} {env : Env} {cs cs' cs1 cs2 : CS} {f g : Kl}

theorem Emit.refl (hg : Good ds cs) : Emit ds env cs cs Kl.id :=
  ⟨[], Ext.refl _, hg, fun _ _ _ _ _ _ => rfl⟩

theorem Emit.trans (h1 : Emit ds env cs cs1 f) (h2 : Emit ds env cs1 cs2 g) : Emit ds env cs cs2 (f.comp g) := by
  obtain ⟨s1, e1, _, r1⟩ := h1
  obtain ⟨s2, e2, g2, r2⟩ := h2
  refine ⟨s1 ++ s2, e1.trans e2, g2, fun R resv hf hr stk st => ?_⟩
  rw [runSeg_append, r1 R resv (Final.of_ext e2 hf) hr, Kl.comp]
  cases f stk st with
  | error e => rfl
  | ok r => exact r2 R resv hf hr r.1 r.2

theorem Emit.congr (h : Emit ds env cs cs' f) (hfg : ∀ stk st, f stk st = g stk st) : Emit ds env cs cs' g :=
  let ⟨seg, e, hg, r⟩ := h; ⟨seg, e, hg, fun R resv hf hr stk st => (r R resv hf hr stk st).trans (hfg stk st)⟩

theorem Emit.good (h : Emit ds env cs cs' g) : Good ds cs' :=
  let ⟨_, _, hg, _⟩ := h; hg

theorem Emit.stable (h : Emit ds env cs cs' g) {C : CS → Prop} (hC : Stable C) (hc : C cs) : C cs' :=
  let ⟨seg, e, _⟩ := h; hC cs cs' seg hc e

/-- A step that appends the code `seg` and leaves the resource table and the variables alone. -/
theorem Emit.of_code {seg : List Instr} (hg : Good ds cs) (hc : cs'.code = cs.code ++ seg) (hr : cs'.res = cs.res)
    (hv : cs'.vars = cs.vars)
    (run : ∀ R resv, Final cs' R → Resolved env R resv → ∀ stk st, runSeg resv seg stk st = g stk st) :
    Emit ds env cs cs' g :=
  have e : Ext cs cs' seg := ⟨hc, ⟨[], by simp [hr]⟩, hv⟩
  ⟨seg, e, hg.ext e (hr ▸ hg.2), run⟩

/-- A new resource: no code, the table one longer. -/
theorem allocRes_emit {r : Res} {a : Nat} (h : allocRes r cs = .ok (a, cs')) (hg : Good ds cs)
    (hc : ResCond ds cs.res cs.res.length r) :
    Emit ds env cs cs' Kl.id ∧ cs'.code = cs.code ∧ cs'.res[a]? = some r := by
  unfold allocRes at h
  split at h
  · cases h
  · cases h
    have e : Ext cs { cs with res := cs.res ++ [r] } [] := ⟨by simp, ⟨[r], rfl⟩, rfl⟩
    exact ⟨⟨[], e, hg.ext e (hg.2.snoc hc), fun _ _ _ _ _ _ => rfl⟩, rfl, by simp⟩

theorem allocConst_emit {c : CValue} {a : Nat} (h : allocConst c cs = .ok (a, cs')) (hg : Good ds cs) :
    Emit ds env cs cs' Kl.id ∧ cs'.code = cs.code ∧ cs'.res[a]? = some (.const c) := by
  unfold allocConst at h
  split at h
  · rename_i i hi'
    cases h
    obtain ⟨x, hx, hp⟩ := findIdx?_some hi'
    have : x = Res.const c := by simpa using hp
    subst this
    exact ⟨Emit.refl hg, rfl, hx⟩
  · exact allocRes_emit h hg trivial

def pushK (v : Value) : Kl := fun stk st => .ok (.val v :: stk, st)

/-- The effect of a plain opcode (independent of the resource table). -/
def opK (c : Nat) : Kl := fun stk st => step [] (.op c) stk st

theorem step_op_resv (resv : List Value) (c : Nat) (stk : Stack) (st : State) :
    step resv (.op c) stk st = step [] (.op c) stk st := rfl

theorem runSeg_op (resv : List Value) (c : Nat) (stk : Stack) (st : State) :
    runSeg resv [.op c] stk st = opK c stk st := by
  simp only [runSeg, opK, step_op_resv resv c]
  cases step [] (.op c) stk st with
  | error e => rfl
  | ok r => rfl

theorem pushIf_res (push : Bool) (a : Nat) (cs : CS) : (pushIf push a cs).res = cs.res := by cases push <;> rfl

theorem pushIf_emit (push : Bool) {a : Nat} {v : Value} (hg : Good ds cs) (hav : AddrVal env a v cs) :
    Emit ds env cs (pushIf push a cs) (if push then pushK v else Kl.id) := by
  cases push
  · exact Emit.refl hg
  · exact .of_code hg rfl rfl rfl fun R resv hf hr stk st => runSeg_apush (hav R resv hf hr) stk st

theorem opIf_emit (push : Bool) (c : Nat) (hg : Good ds cs) :
    Emit ds env cs (opIf push c cs) (if push then opK c else Kl.id) := by
  cases push
  · exact Emit.refl hg
  · exact .of_code hg rfl rfl rfl fun R resv _ _ stk st => runSeg_op resv c stk st

end

def exprK (env : Env) (e : Expr) : Kl := fun stk st =>
  match evalExpr env e with
  | .ok v => .ok (.val v :: stk, st)
  | .error err => .error err

/-- What `cExpr e push` did between `cs` and `cs'`, for an expression of type `ty`: with `push` the code appended
    pushes the value, without it no code is appended; the address returned is that of the leftmost atom. -/
structure ExprCode (ds : Decls) (env : Env) (e : Expr) (push : Bool) (ty : Ty) (oa : Option Nat) (cs cs' : CS) :
    Prop where
  emit : Emit ds env cs cs' (if push then exprK env e else Kl.id)
  quiet : push = false → cs'.code = cs.code
  addr : ∀ a, oa = some a → ∃ v, evalExpr env e.leftmost = .ok v ∧ AddrVal env a v cs'
  res : ∀ a, oa = some a → ∃ r, cs'.res[a]? = some r ∧ resTy r = ty

def ExprOK (ds : Decls) (env : Env) (e : Expr) : Prop :=
  ∀ {push cs t oa cs' ty}, cExpr e push cs = .ok ((t, oa), cs') → typeExpr ds e = .ok ty → Good ds cs →
    t = ty ∧ ExprCode ds env e push ty oa cs cs'

/-- An atom whose value sits at address `a`, allotted without code from `cs` to `cs1`: at most one push. -/
theorem atom_code {ds : Decls} {env : Env} {e : Expr} {ty : Ty} {a : Nat} {v : Value} {r : Res} {cs cs1 : CS}
    (push : Bool) (hat : e.Atom) (hev : evalExpr env e = .ok v) (e1 : Emit ds env cs cs1 Kl.id)
    (hcode : cs1.code = cs.code) (hres : cs1.res[a]? = some r) (hty : resTy r = ty) (hav : AddrVal env a v cs1) :
    ExprCode ds env e push ty (some a) cs (pushIf push a cs1) := by
  have p := pushIf_emit push e1.good hav
  refine ⟨(e1.trans p).congr fun stk st => ?_, ?_, ?_, ?_⟩
  · cases push <;> simp [Kl.comp, Kl.id, exprK, hev, pushK]
  · rintro rfl; exact hcode
  · rintro _ ⟨⟩
    exact ⟨v, by rw [hat.leftmost]; exact hev, p.stable (AddrVal.stable env a v) hav⟩
  · rintro _ ⟨⟩
    exact ⟨r, p.stable (resAt_stable a r) hres, hty⟩

/-- The compiler's treatment of a literal: its constant is found or appended. -/
def cConst (c : CValue) (push : Bool) (cs : CS) : CR (Ty × Option Nat) :=
  match allocConst c cs with
  | .error e => .error e
  | .ok (a, cs1) => .ok ((resTy (.const c), some a), pushIf push a cs1)

theorem cConst_ok {ds : Decls} {env : Env} {e : Expr} {c : CValue} (hat : e.Atom)
    (hev : evalExpr env e = .ok (cvalue c)) {push : Bool} {cs cs' : CS} {t : Ty} {oa : Option Nat}
    (h : cConst c push cs = .ok ((t, oa), cs')) (hg : Good ds cs) :
    t = resTy (.const c) ∧ ExprCode ds env e push (resTy (.const c)) oa cs cs' := by
  unfold cConst at h
  split at h
  · cases h
  · rename_i a cs1 hal
    cases h
    obtain ⟨e1, hcode, hres⟩ := allocConst_emit hal hg
    exact ⟨rfl, atom_code push hat hev e1 hcode hres rfl (.const hres)⟩

/-- The compiler's treatment of `l + r` and `l - r`, with the opcodes for numbers and monetaries. -/
def cBin (opN opM : Nat) (l r : Expr) (push : Bool) (cs : CS) : CR (Ty × Option Nat) :=
  match cExpr l push cs with
  | .error e => .error e
  | .ok ((lt, la), cs1) =>
    match cExpr r push cs1 with
    | .error e => .error e
    | .ok (_, cs2) =>
      match lt with
      | .number => .ok ((.number, none), opIf push opN cs2)
      | .monetary => .ok ((.monetary, la), opIf push opM cs2)
      | _ => .error "arithmetic on unsupported type"

/-- The VM's instructions computing `f` on numbers (`opN`) and on monetaries (`opM`). -/
structure ArithOp (f : Int → Int → Int) (k : String) (opN opM : Nat) : Prop where
  num : ∀ x y stk st, opK opN (.val (.number y) :: .val (.number x) :: stk) st =
    .ok (.val (.number (f x y)) :: stk, st)
  mon : ∀ a x b y stk st, opK opM (.val (.monetary b y) :: .val (.monetary a x) :: stk) st =
    if a ≠ b then .error (.run "exec" k)
    else .ok (.val (.monetary a (some (f (nilAsZero x) (nilAsZero y)))) :: stk, st)

theorem arithOp_add : ArithOp (· + ·) "add-asset" OP_IADD OP_MONETARY_ADD := ⟨fun _ _ _ _ => rfl, fun _ _ _ _ _ _ => rfl⟩

theorem arithOp_sub : ArithOp (· - ·) "sub-asset" OP_ISUB OP_MONETARY_SUB := ⟨fun _ _ _ _ => rfl, fun _ _ _ _ _ _ => rfl⟩

theorem ArithOp.run {f : Int → Int → Int} {k : String} {opN opM : Nat} (hop : ArithOp f k opN opM) (w : String)
    {t : Ty} {a b : Value} (ha : valueTy a = t) (hb : valueTy b = t) (stk : Stack) (st : State) :
    (t = .number → opK opN (.val b :: .val a :: stk) st =
      match arithV f k w a b with | .ok v => .ok (.val v :: stk, st) | .error e => .error e) ∧
    (t = .monetary → opK opM (.val b :: .val a :: stk) st =
      match arithV f k w a b with | .ok v => .ok (.val v :: stk, st) | .error e => .error e) := by
  constructor
  · rintro rfl
    obtain ⟨x, rfl⟩ := val_number ha
    obtain ⟨y, rfl⟩ := val_number hb
    exact hop.num ..
  · rintro rfl
    obtain ⟨c, x, rfl⟩ := val_monetary ha
    obtain ⟨d, y, rfl⟩ := val_monetary hb
    rw [hop.mon, arithV]
    split <;> rfl

/-- Sums and differences: the operands' code, then the instruction; the address is the left operand's. -/
theorem cBin_ok {ds : Decls} {env : Env} (henv : EnvTyped ds env) {f : Int → Int → Int} {k w : String}
    {opN opM : Nat} (hop : ArithOp f k opN opM) {e l r : Expr}
    (hev : evalExpr env e = evalBin env l r (arithV f k w)) (hlm : e.leftmost = l.leftmost)
    (ihl : ExprOK ds env l) (ihr : ExprOK ds env r) {push : Bool} {cs cs' : CS} {t ty : Ty} {oa : Option Nat}
    (h : cBin opN opM l r push cs = .ok ((t, oa), cs')) (ht : ty = .number ∨ ty = .monetary)
    (htl : typeExpr ds l = .ok ty) (htr : typeExpr ds r = .ok ty) (hg : Good ds cs) :
    t = ty ∧ ExprCode ds env e push ty oa cs cs' := by
  unfold cBin at h
  split at h
  · cases h
  · rename_i lt la cs1 hl
    obtain ⟨rfl, c1⟩ := ihl hl htl hg
    split at h
    · cases h
    · rename_i rres cs2 hr
      obtain ⟨rt, ra⟩ := rres
      obtain ⟨_, c2⟩ := ihr hr htr c1.emit.good
      -- the instruction `c` chosen by the type, and what it does after the operands' code
      have key : ∀ c, (lt = .number → c = opN) → (lt = .monetary → c = opM) →
          Emit ds env cs (opIf push c cs2) (if push then exprK env e else Kl.id) := by
        intro c hN hM
        refine ((c1.emit.trans c2.emit).trans (opIf_emit push c c2.emit.good)).congr fun stk st => ?_
        cases push
        · rfl
        simp only [Kl.comp, if_true, exprK, hev, evalBin]
        rcases evalExpr_typed ds env henv l lt htl with ⟨a, ha, hta, _⟩ | ⟨k', hk'⟩
        · rw [ha]
          simp only
          rcases evalExpr_typed ds env henv r lt htr with ⟨b, hb, htb, _⟩ | ⟨k', hk'⟩
          · rw [hb]
            simp only
            have hrun := hop.run w hta htb stk st
            rcases ht with rfl | rfl
            · rw [hN rfl, hrun.1 rfl]
            · rw [hM rfl, hrun.2 rfl]
          · rw [hk']
        · rw [hk']
      have quiet : ∀ c, push = false → (opIf push c cs2).code = cs.code :=
        fun c hp => by subst hp; exact (c2.quiet rfl).trans (c1.quiet rfl)
      rcases ht with rfl | rfl
      · simp only at h
        cases h
        exact ⟨rfl, key opN (fun _ => rfl) nofun, quiet _, nofun, nofun⟩
      · simp only at h
        cases h
        have p := opIf_emit (env := env) push opM c2.emit.good
        refine ⟨rfl, key opM nofun (fun _ => rfl), quiet _, fun a ha => ?_, fun a ha => ?_⟩
        · obtain ⟨v, hv, hav⟩ := c1.addr a ha
          exact ⟨v, hlm ▸ hv, p.stable (AddrVal.stable env a v) (c2.emit.stable (AddrVal.stable env a v) hav)⟩
        · obtain ⟨r', hr', hrt⟩ := c1.res a ha
          exact ⟨r', p.stable (resAt_stable a r') (c2.emit.stable (resAt_stable a r') hr'), hrt⟩

theorem cExpr_ok {ds : Decls} {env : Env} (henv : EnvTyped ds env) : (e : Expr) → ExprOK ds env e
  | .acct s => fun h ht hg => by
    cases typeExpr_inv ht; exact cConst_ok (e := .acct s) (c := .account s) trivial rfl h hg
  | .asset s => fun h ht hg => by
    cases typeExpr_inv ht; exact cConst_ok (e := .asset s) (c := .asset s) trivial rfl h hg
  | .num n => fun h ht hg => by
    cases typeExpr_inv ht; exact cConst_ok (e := .num n) (c := .number n) trivial rfl h hg
  | .str s => fun h ht hg => by
    cases typeExpr_inv ht; exact cConst_ok (e := .str s) (c := .str s) trivial rfl h hg
  | .portion x => fun h ht hg => by
    obtain ⟨rfl, p, hp⟩ := typeExpr_inv ht
    simp only [cExpr, hp] at h
    exact cConst_ok (e := .portion x) (c := .portion p) trivial (by simp [evalExpr, hp, cvalue]) h hg
  | .var x => fun h ht hg => by
    simp only [cExpr] at h
    split at h
    · cases h
    · rename_i idx hl
      split at h
      · cases h
      · rename_i r hr
        cases h
        obtain ⟨r', h1, h2, h3⟩ := hg.1 x idx hl
        cases hr.symm.trans h1
        cases h3.symm.trans (typeExpr_inv ht)
        obtain ⟨w, hw, _⟩ := henv x _ h3
        exact ⟨rfl, atom_code _ trivial (by simp [evalExpr, hw]) (Emit.refl hg) rfl hr rfl (.var hr h2 hw)⟩
  | .mon ae n => fun h ht hg => by
    obtain ⟨rfl, hta⟩ := typeExpr_inv ht
    simp only [cExpr] at h
    split at h
    · cases h
    · cases h
    · rename_i t0 assetAddr cs1 hae
      obtain ⟨_, c0⟩ := cExpr_ok henv ae hae hta hg
      have hat := atom_of_type hta (by simp) (by simp)
      obtain ⟨v, hv, hty, _⟩ := atom_eval henv ae .asset hat hta
      obtain ⟨s, rfl⟩ := val_asset hty
      obtain ⟨v', hv', hav⟩ := c0.addr assetAddr rfl
      rw [hat.leftmost, hv] at hv'
      cases hv'
      obtain ⟨r', hr', hrt⟩ := c0.res assetAddr rfl
      have hev : evalExpr env (.mon ae n) = .ok (.monetary s (some n)) := by simp [evalExpr, hv]
      split at h
      · rename_i i hi
        cases h
        obtain ⟨x, hx, hp⟩ := findIdx?_some hi
        have : x = Res.mon assetAddr n := by simpa using hp
        subst this
        exact ⟨rfl, atom_code _ trivial hev c0.emit (c0.quiet rfl) hx rfl (.mon hx hav)⟩
      · split at h
        · cases h
        · rename_i a cs2 hal
          cases h
          obtain ⟨e2, hcode, hres⟩ := allocRes_emit (env := env) hal c0.emit.good
            ⟨(List.getElem?_eq_some_iff.mp hr').1, r', hr', hrt⟩
          exact ⟨rfl, atom_code _ trivial hev ((c0.emit.trans e2).congr fun _ _ => rfl) (hcode.trans (c0.quiet rfl))
            hres rfl (.mon hres (e2.stable (AddrVal.stable env _ _) hav))⟩
  | .add l r => fun h ht hg => by
    obtain ⟨ht', hl, hr⟩ := typeExpr_inv ht
    -- `cExpr (.add l r)` unfolds to `cBin` of the two opcodes: `h` is used at that type
    exact cBin_ok henv arithOp_add (evalExpr_add env l r) rfl (cExpr_ok henv l) (cExpr_ok henv r) h ht' hl hr hg
  | .sub l r => fun h ht hg => by
    obtain ⟨ht', hl, hr⟩ := typeExpr_inv ht
    exact cBin_ok henv arithOp_sub (evalExpr_sub env l r) rfl (cExpr_ok henv l) (cExpr_ok henv r) h ht' hl hr hg

theorem seqA_cons {a : Act} {as : List Act} {cs cs' : CS} (h : seqA (a :: as) cs = .ok cs') :
    ∃ cs1, a cs = .ok cs1 ∧ seqA as cs1 = .ok cs' := by
  simp only [seqA] at h
  split at h
  · cases h
  · rename_i cs1 h1; exact ⟨cs1, h1, h⟩

theorem seqA_nil {cs cs' : CS} (h : seqA [] cs = .ok cs') : cs' = cs := by
  simp only [seqA] at h; cases h; rfl

theorem seqA_append (as bs : List Act) (cs : CS) :
    seqA (as ++ bs) cs = match seqA as cs with
      | .error e => .error e
      | .ok cs1 => seqA bs cs1 := by
  induction as generalizing cs with
  | nil => simp [seqA]
  | cons a as ih =>
    simp only [List.cons_append, seqA]
    cases a cs with
    | error e => rfl
    | ok cs1 => exact ih cs1

/-- `pushExpr e`: the code pushes the value of `e`. -/
theorem pushExpr_emit {ds : Decls} {env : Env} (henv : EnvTyped ds env) {e : Expr} {ty : Ty}
    (ht : typeExpr ds e = .ok ty) {cs cs' : CS} (hg : Good ds cs) (h : pushExpr e cs = .ok cs') :
    Emit ds env cs cs' (exprK env e) := by
  simp only [pushExpr] at h
  split at h
  · cases h
  · rename_i r cs1 hc
    cases h
    exact (cExpr_ok henv e hc ht hg).2.emit

/-- `cExprAddr` appends no code and returns the address of the leftmost atom. -/
theorem cExprAddr_emit {ds : Decls} {env : Env} (henv : EnvTyped ds env) {e : Expr} {ty : Ty}
    (ht : typeExpr ds e = .ok ty) {cs cs1 : CS} {a : Nat} (hg : Good ds cs) (h : cExprAddr e cs = .ok (a, cs1)) :
    Emit ds env cs cs1 Kl.id ∧ cs1.code = cs.code ∧ ∀ v, evalExpr env e.leftmost = .ok v → AddrVal env a v cs1 := by
  simp only [cExprAddr] at h
  split at h
  · cases h
  · rename_i t0 a0 cs0 hc
    cases h
    obtain ⟨_, c0⟩ := cExpr_ok henv e hc ht hg
    obtain ⟨v', hv', hav⟩ := c0.addr a rfl
    exact ⟨c0.emit, c0.quiet rfl, fun v hv => by cases hv.symm.trans hv'; exact hav⟩
  · cases h

end Ledger.Machine
