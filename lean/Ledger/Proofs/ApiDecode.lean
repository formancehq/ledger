import Ledger.Api.TxBody
import Ledger.Api.Cursor
import Ledger.Proofs.ApiDecimal
import Ledger.Proofs.ListBasic

/-!
Lemmas about the request decoders: which results can be a fault (C38), integer
amounts through the JSON number decoders (C36), and where the fields of the
controller call of a create-transaction request come from (C14 at the API).
-/
namespace Ledger.Api

theorem Res.ne_fault {α : Type} {r : Res α} (h : r.isFault = false) (m : String) : r ≠ .fault m :=
  fun e => by rw [e] at h; cases h

theorem isFault_ofDec {α : Type} (x : Dec α) : (Res.ofDec x).isFault = false := by
  cases x <;> rfl

theorem Res.ofDec_ne_fault {α : Type} (x : Dec α) (m : String) : Res.ofDec x ≠ .fault m :=
  Res.ne_fault (isFault_ofDec x) m

theorem isFault_varV1 (v : JVal) : (varV1 v).isFault = false := by
  cases v <;> first | rfl | exact isFault_ofDec _

theorem isFault_combineV1 (k : String) (a : Res String) (b : Res VarMap) :
    (combineV1 k a b).isFault = (a.isFault || b.isFault) := by
  cases a <;> cases b <;> rfl

theorem isFault_varsV1Loop (kvs : List (String × JVal)) : (varsV1Loop kvs).isFault = false := by
  induction kvs with
  | nil => rfl
  | cons kv rest ih => rw [varsV1Loop, isFault_combineV1, isFault_varV1, ih]; rfl

theorem JNum.intVal_ofInt (i : Int) : (JNum.ofInt i).intVal = i := by
  unfold JNum.ofInt JNum.intVal
  by_cases h : i < 0 <;> simp [h] <;> omega

theorem JNum.isIntLit_ofInt (i : Int) : (JNum.ofInt i).isIntLit = true := rfl

theorem JNum.text_ofInt (n : Int) : (JNum.ofInt n).text = showInt n := by
  cases n with
  | ofNat k => simp [JNum.text, JNum.ofInt, showInt]
  | negSucc k =>
    have : (Int.negSucc k).natAbs = k + 1 := rfl
    simp [JNum.text, JNum.ofInt, showInt, this, Int.negSucc_lt_zero]

theorem decBigIntRaw_int (i : Int) : decBigIntRaw (some (JVal.int i)) = .ok i := by
  rw [JVal.int, decBigIntRaw, JNum.isIntLit_ofInt, JNum.intVal_ofInt]; rfl

theorem lookup_amount_asset (a : JVal) (b : JVal) :
    (mapOfList [("asset", a), ("amount", b)]).lookup "asset" = some a ∧
    (mapOfList [("asset", a), ("amount", b)]).lookup "amount" = some b :=
  ⟨rfl, rfl⟩

theorem splitFirstSpace_append (a b : List Char) (h : ' ' ∉ a) :
    splitFirstSpace (a ++ ' ' :: b) = some (a, b) := by
  induction a with
  | nil => simp [splitFirstSpace]
  | cons c cs ih =>
    have hc : c ≠ ' ' := fun e => h (by simp [e])
    have hcs : ' ' ∉ cs := fun e => h (by simp [e])
    simp [splitFirstSpace, hc, ih hcs]

theorem string_ofList_eq (a : String) (cs : List Char) :
    String.ofList (a.toList ++ ' ' :: cs) = a ++ " " ++ String.ofList cs := by
  apply String.toList_injective
  simp [String.toList_append, String.toList_ofList]

theorem fmtAsset_str (s : String) : fmtAsset (some (.str s)) = s.toList := rfl

/-- v2, amount given as a JSON string: passed through untouched. -/
theorem varV2_monetary_string (a s : String) :
    varV2 (.obj [("asset", .str a), ("amount", .str s)]) = some (a ++ " " ++ s) := by
  obtain ⟨h1, h2⟩ := lookup_amount_asset (.str a) (.str s)
  unfold varV2
  simp only [h1, h2, fmtAsset_str]
  rw [string_ofList_eq, String.ofList_toList]

/-- v2, amount given as a JSON number (`json.Number`): the literal text, whatever
    its form, reaches the machine untouched. -/
theorem varV2_monetary_number (a : String) (n : JNum) :
    varV2 (.obj [("asset", .str a), ("amount", .num n)]) = some (a ++ " " ++ String.ofList n.text) := by
  obtain ⟨h1, h2⟩ := lookup_amount_asset (.str a) (.num n)
  unfold varV2
  simp only [h1, h2, fmtAsset_str, v2NumericAmount]
  rw [string_ofList_eq]

/-- The request-level fields of the controller call are the decoded members of
    the body (`bulking.TransactionRequest` then `ToCore`), whatever the form
    (postings, script, template) and the value of `force`. -/
theorem request_fields {pt : String → Option String} {kvs : List (String × JVal)} {req : TxRequestV2}
    {force : Bool} {c : CreateCall} (hd : decTxRequestV2 pt (.obj kvs) = .ok req)
    (hc : txRequestToCore req force = .ok c) :
    decStr (getField kvs "reference") = .ok c.reference ∧
    decTime pt (getField kvs "timestamp") = .ok c.timestamp ∧
    (decStrMap (getField kvs "metadata")).map (·.getD []) = .ok c.metadata ∧
    decAccountMetadata (getField kvs "accountMetadata") = .ok c.accountMetadata ∧
    decStr (getField kvs "runtime") = .ok c.runtime := by
  -- one step per line of the `do` block of `decTxRequestV2`, the first being the `pure kvs` of its match
  obtain ⟨_, ⟨⟩, hd⟩ := Except.bind_ok hd
  obtain ⟨_, _, hd⟩ := Except.bind_ok hd
  obtain ⟨_, _, hd⟩ := Except.bind_ok hd
  obtain ⟨_, _, hd⟩ := Except.bind_ok hd
  obtain ⟨_, h4, hd⟩ := Except.bind_ok hd
  obtain ⟨_, h5, hd⟩ := Except.bind_ok hd
  obtain ⟨_, h6, hd⟩ := Except.bind_ok hd
  obtain ⟨_, h7, hd⟩ := Except.bind_ok hd
  obtain ⟨_, h8, hd⟩ := Except.bind_ok hd
  obtain ⟨_, _, ⟨⟩⟩ := Except.bind_ok hd
  obtain ⟨_, _, hc⟩ := Except.bind_ok hc
  split at hc <;> cases hc <;> exact ⟨h5, h4, by rw [h6]; rfl, h7, h8⟩

theorem createV2_ok {pt : String → Option String} {qf : Bool} {body : JVal} {c : CreateCall}
    (h : createV2 pt qf body = .ok c) :
    ∃ req, decTxRequestV2 pt body = .ok req ∧ txRequestToCore req (req.force || qf) = .ok c := by
  unfold createV2 at h
  generalize hd : decTxRequestV2 pt body = d at h
  obtain _ | req := d
  · cases h
  refine ⟨req, rfl, ?_⟩
  dsimp only at h
  generalize txRequestToCore req (req.force || qf) = r at h ⊢
  split at h
  · cases h
  · split at h
    · cases h
    · obtain _ | _ := r <;> cases h
      rfl

theorem ite_ne {α : Type} {p : Prop} [Decidable p] {a b x : α} (ha : a ≠ x) (hb : b ≠ x) :
    (if p then a else b) ≠ x := by
  split <;> assumption

/-- A bulk element that becomes a `create` call is a `CREATE_TRANSACTION` element:
    its `data` decodes like a v2 body and its `ik` is handed on. -/
theorem bulkCreate_ok {pt : String → Option String} {kvs : List (String × JVal)} {data : JVal} {ik : String}
    {c : CreateCall} (hdata : getField kvs "data" = some data)
    (h : bulkElement pt (.obj kvs) = .call ik (.create c)) :
    decStr (getField kvs "ik") = .ok ik ∧
    ∃ req, decTxRequestV2 pt data = .ok req ∧ txRequestToCore req req.force = .ok c := by
  -- `split` on the whole term is slow to check: the leading discriminants are generalised and the
  -- `if`s on the action taken apart by hand, so that `split` only ever sees one branch
  rw [bulkElement, hdata] at h
  generalize decStr (getField kvs "action") = xa at h
  generalize hi : decStr (getField kvs "ik") = xi at h
  obtain _ | action := xa
  · cases h
  obtain _ | _ := xi
  · cases h
  dsimp only at h
  by_cases hact : action = "CREATE_TRANSACTION"
  · rw [if_pos hact] at h
    split at h
    · cases h
    · split at h <;> cases h
      exact ⟨rfl, _, ‹_›, ‹_›⟩
  · -- every other action ends in another call or in an error
    rw [if_neg hact] at h
    refine absurd h (ite_ne ?_ (ite_ne ?_ (ite_ne ?_ nofun)))
    all_goals
      intro h
      repeat' split at h
      all_goals cases h

/-- v1 create (postings form and script form): reference, timestamp and metadata
    of the body reach the controller call. -/
theorem createV1_fields (pt : String → Option String) (kvs : List (String × JVal)) (c : CreateCall)
    (h : createV1 pt (.obj kvs) = .ok c) :
    decStr (getField kvs "reference") = .ok c.reference ∧
    decTime pt (getField kvs "timestamp") = .ok c.timestamp ∧
    (decStrMap (getField kvs "metadata")).map (·.getD []) = .ok c.metadata := by
  unfold createV1 at h
  extract_lets dec decoded at h
  generalize hd : decoded = d at h
  cases d with
  | error e => cases h
  | ok v =>
    obtain ⟨postings, script, ts, reference, metadata⟩ := v
    obtain ⟨_, ⟨⟩, hd⟩ := Except.bind_ok hd
    obtain ⟨_, _, hd⟩ := Except.bind_ok hd
    obtain ⟨_, _, hd⟩ := Except.bind_ok hd
    dsimp only at hd
    split at hd
    · cases hd
    · obtain ⟨_, h4, hd⟩ := Except.bind_ok hd
      obtain ⟨_, h5, hd⟩ := Except.bind_ok hd
      obtain ⟨_, h6, ⟨⟩⟩ := Except.bind_ok hd
      dsimp only at h
      rw [h4, h5, h6]
      -- both forms build the call from `ts`, `reference`, `metadata`
      split at h
      · cases h
      · split at h <;> split at h <;> cases h <;> exact ⟨rfl, rfl, rfl⟩

end Ledger.Api
