import Ledger.Proofs.CoreTxPcev

/-! C03 at move level in every reachable store (`PCV_Inv`), and the C05 insertion-mode read:
    the latest move inserted at or before a point in time carries the fold up to it. -/
namespace Ledger.Spec
open Ledger.Base Ledger.Core

def moveDelta (m : Move) : Volumes := if m.isSource then ⟨0, m.amount⟩ else ⟨m.amount, 0⟩

def runOK (f : Key → Volumes) : List Move → Prop
  | [] => True
  | m :: r => m.pcv = (f m.key).add (moveDelta m) ∧ runOK (fun k => if k = m.key then m.pcv else f k) r

theorem vAt_adjust {m : PCV} {k : Key} (g : Volumes → Volumes) (hc : m.contains k = true) (k' : Key) :
    vAt (m.adjust k g) k' = if k' = k then g (vAt m k) else vAt m k' := by
  unfold vAt
  rw [Map.get?_adjust]
  by_cases h : k' = k
  · subst h
    simp only [if_true]
    have := get?_of_contains hc
    rw [this]; rfl
  · simp only [if_neg h]

theorem runOK_fwdMoves {pre : PCV} {ps : List Posting} (h : HasKeys pre ps) : runOK (vAt pre) (fwdMoves pre ps) := by
  induction ps generalizing pre with
  | nil => trivial
  | cons p ps ih =>
    obtain ⟨⟨hs, hd⟩, hr⟩ := HasKeys_cons.mp h
    have hd1 : (pre.adjust p.srcKey (Volumes.addOut p.amount)).contains p.dstKey = true := by
      rw [Map.contains_adjust]; exact hd
    have f1 : (fun k => if k = p.srcKey then vAt (pre.adjust p.srcKey (Volumes.addOut p.amount)) p.srcKey else vAt pre k) =
        vAt (pre.adjust p.srcKey (Volumes.addOut p.amount)) := by
      funext k
      rw [vAt_adjust _ hs k]
      by_cases hk : k = p.srcKey
      · subst hk; simp [vAt_adjust _ hs]
      · simp [hk]
    have f2 : (fun k => if k = p.dstKey then vAt (stepFwd pre p) p.dstKey else vAt (pre.adjust p.srcKey (Volumes.addOut p.amount)) k) =
        vAt (stepFwd pre p) := by
      funext k
      unfold stepFwd
      rw [vAt_adjust _ hd1 k]
      by_cases hk : k = p.dstKey
      · subst hk; simp [vAt_adjust _ hd1]
      · simp [hk]
    show runOK (vAt pre) (srcMove p _ :: dstMove p _ :: fwdMoves (stepFwd pre p) ps)
    refine ⟨?_, ?_, ?_⟩
    · show vAt (pre.adjust p.srcKey (Volumes.addOut p.amount)) p.srcKey = (vAt pre p.srcKey).add ⟨0, p.amount⟩
      rw [vAt_adjust _ hs]; simp [Volumes.addOut, Volumes.add]
    · show vAt (stepFwd pre p) p.dstKey =
        ((fun k => if k = p.srcKey then vAt (pre.adjust p.srcKey (Volumes.addOut p.amount)) p.srcKey else vAt pre k) p.dstKey).add
          ⟨p.amount, 0⟩
      rw [f1]
      unfold stepFwd
      rw [vAt_adjust _ hd1]; simp [Volumes.addIn, Volumes.add]
    · show runOK (fun k => if k = p.dstKey then vAt (stepFwd pre p) p.dstKey else
          (fun k => if k = p.srcKey then vAt (pre.adjust p.srcKey (Volumes.addOut p.amount)) p.srcKey else vAt pre k) k)
        (fwdMoves (stepFwd pre p) ps)
      rw [f1, f2]
      exact ih (HasKeys_stepFwd p hr)

abbrev seqLe (a b : MoveRow) : Bool := decide (a.seq ≤ b.seq)

theorem PCV_Inv_iff_running (t : List MoveRow) : PCV_Inv t ↔ Running (fun _ => True) MoveRow.pcv seqLe t :=
  ⟨fun h m hm _ => h m hm, fun h m hm => h m hm trivial⟩

/-- Sum of the deltas of an account/asset. -/
def keySum (k : Key) (t : List MoveRow) : Volumes := sumDeltas (t.filter fun m => m.key == k)

theorem toRows_cons (s0 tx : Nat) (ins eff : Int) (m : Move) (ms : List Move) :
    ∃ r, toRows s0 tx ins eff (m :: ms) = r :: toRows (s0 + 1) tx ins eff ms ∧
      r.key = m.key ∧ r.delta = moveDelta m ∧ r.seq = s0 ∧ r.pcv = m.pcv := ⟨_, rfl, rfl, rfl, rfl, rfl⟩

theorem keySum_snoc (k : Key) (t : List MoveRow) (r : MoveRow) :
    keySum k (t ++ [r]) = (keySum k t).add (if r.key = k then r.delta else Volumes.zero) := by
  unfold keySum
  rw [List.filter_append, sumDeltas_append, List.filter_cons, List.filter_nil]
  by_cases h : r.key = k
  · rw [if_pos h, if_pos (beq_iff_eq.mpr h), sumDeltas_single]
  · rw [if_neg h, if_neg (by rwa [beq_iff_eq])]; rfl

/-- Rows numbered from above the table, each carrying the running volumes (`runOK` from the sums
    of the table): one `snoc` per row. -/
theorem Running_toRows (ms : List Move) (s0 tx : Nat) (ins eff : Int) (t : List MoveRow) (f : Key → Volumes)
    (hT : Running (fun _ => True) MoveRow.pcv seqLe t) (hb : ∀ y ∈ t, y.seq < s0)
    (hf : ∀ x ∈ ms, f x.key = keySum x.key t) (hr : runOK f ms) :
    Running (fun _ => True) MoveRow.pcv seqLe (t ++ toRows s0 tx ins eff ms) := by
  induction ms generalizing s0 t f with
  | nil => simpa [toRows] using hT
  | cons m ms ih =>
    obtain ⟨hm, hrest⟩ := hr
    obtain ⟨r, hrows, hrk, hrd, hrs, hrp⟩ := toRows_cons s0 tx ins eff m ms
    rw [hrows, List.append_cons]
    refine ih (s0 + 1) (t ++ [r]) _ (hT.snoc (fun y hy _ => ?_) (decide_eq_true (Nat.le_refl _)) ?_) (fun y hy => ?_)
      (fun x hx => ?_) hrest
    · have := hb y hy
      exact decide_eq_false (by omega)
    · rw [hrp, hm, hf m List.mem_cons_self, hrd, keySum, hrk]
      refine congrArg (fun l => (sumDeltas l).add _) (List.filter_congr fun y hy => ?_)
      have := hb y hy
      rw [show seqLe y r = true from decide_eq_true (by omega), Bool.and_true]
    · rcases List.mem_append.mp hy with hy | hy
      · have := hb y hy; omega
      · rw [List.mem_singleton.mp hy, hrs]; omega
    · rw [keySum_snoc, hrk, hrd]
      by_cases hk : x.key = m.key
      · rw [if_pos hk, if_pos hk.symm, hm, hk, hf m List.mem_cons_self]
      · rw [if_neg hk, if_neg (Ne.symm hk), hf x (List.mem_cons_of_mem _ hx), Volumes.add_zero]

theorem key_fwdMoves {pre : PCV} {ps : List Posting} {x : Move} (h : x ∈ fwdMoves pre ps) : touches x.key ps = true := by
  induction ps generalizing pre with
  | nil => simp [fwdMoves] at h
  | cons p ps ih =>
    simp only [fwdMoves, List.mem_cons] at h
    rcases h with rfl | rfl | h
    · exact touches_srcKey List.mem_cons_self
    · exact touches_dstKey List.mem_cons_self
    · have := ih h
      simp only [touches, List.any_cons] at this ⊢
      simp [this]

def MoveRow.clearPcev (m : MoveRow) : MoveRow := { m with pcev := Volumes.zero }

theorem keySum_eq_fold {st : Store} (inv : MovesContent st) (k : Key) : keySum k st.moves = volumesOf st.txRecs k := by
  have : keySum k st.moves = movesVolumesP (fun _ _ _ => true) k st.moves :=
    congrArg sumDeltas (List.filter_congr fun m _ => (Bool.and_true _).symm)
  rw [this, movesVolumesP_eq, inv, sigVolumesP_recsSigs, List.filter_eq_self.mpr (fun _ _ => rfl)]

structure BigInv (st : Store) : Prop where
  store : StoreInv st
  content : MovesContent st
  ord : TableOrd st
  pcvInv : PCV_Inv st.moves

theorem vAt_preVolumes {st : Store} (inv : StoreInv st) (ps : List Posting) {k : Key} (hk : touches k ps = true) :
    vAt (preVolumes st.accountsVolumes (volumeUpdates ps)) k = volumesOf st.txRecs k := by
  unfold vAt preVolumes
  rw [Map.get?_mapVal, get?_volumeUpdates, hk]
  simp only [if_true, Option.map_some]
  rcases inv.av k with h | ⟨h, hn⟩
  · rw [h]
  · rw [h]
    exact (foldVolumes_untouched hn).symm

theorem BigInv_exec {st : Store} (o : StoreOp) (inv : BigInv st) : BigInv (o.exec st) := by
  refine ⟨StoreInv_exec o inv.store, MovesContent_exec o inv.content, TableOrd_exec o inv.ord, ?_⟩
  cases o with
  | lock keys => exact inv.pcvInv
  | markReverted id a => exact inv.pcvInv
  | saveAccountMeta a at_ md => exact inv.pcvInv
  | commit t =>
    -- the triggers write `pcev`, which this invariant does not read: compare the tables with `pcev` cleared
    have hmap := fun l => Running.map_iff (S := fun _ => True) (col := MoveRow.pcv) (le := seqLe) MoveRow.clearPcev
      (fun _ => Iff.rfl) (fun _ => rfl) (fun _ => rfl) (fun _ => rfl) (fun _ _ => rfl) l
    show PCV_Inv (insertMoves st.moves (commitRows st t))
    rw [PCV_Inv_iff_running, ← hmap, map_insertMoves _ (fun _ _ => rfl), ← List.map_append, hmap]
    refine Running_toRows _ _ _ _ _ _ (vAt (preVolumes st.accountsVolumes (volumeUpdates t.postings)))
      ((PCV_Inv_iff_running _).mp inv.pcvInv) (fun y hy => (inv.ord.bound y.st2 (List.mem_map_of_mem hy)).1)
      (fun x hx => ?_) (runOK_fwdMoves (hasKeys_preVolumes _ _))
    rw [vAt_preVolumes inv.store _ (key_fwdMoves hx), keySum_eq_fold inv.content]

theorem BigInv_runOps {ops : List StoreOp} {st : Store} (h : runOps ops = .ok st) : BigInv st :=
  runOpsFrom_invariant (fun _ o => BigInv_exec o) ops
    ⟨StoreInv_empty, MovesContent_empty, TableOrd_empty, fun _ hm => nomatch hm⟩ h

theorem lastInsertionMove_eq_latest (t : List MoveRow) (k : Key) (pit : Int) :
    lastInsertionMove t k pit = latest (fun m => m.key = k ∧ m.insertionDate ≤ pit) (fun a b => a.seq < b.seq) t := by
  induction t with
  | nil => rfl
  | cons m r ih => simp only [lastInsertionMove, latest, ih]; split <;> first | rfl | (split <;> simp only [*])

theorem lastInsertionMove_none {t : List MoveRow} {k : Key} {pit : Int} (h : lastInsertionMove t k pit = none) :
    ∀ c ∈ t, ¬ (c.key = k ∧ c.insertionDate ≤ pit) :=
  latest_none (lastInsertionMove_eq_latest t k pit ▸ h)

theorem lastInsertionMove_some {t : List MoveRow} {k : Key} {pit : Int} {p : MoveRow}
    (h : lastInsertionMove t k pit = some p) :
    p ∈ t ∧ p.key = k ∧ p.insertionDate ≤ pit ∧
    ∀ c ∈ t, c.key = k → c.insertionDate ≤ pit → c.seq ≤ p.seq := by
  obtain ⟨h1, h2, h3⟩ := seqOrd.some (lastInsertionMove_eq_latest t k pit ▸ h)
  exact ⟨h1, h2.1, h2.2, fun c hc hk hb => h3 c hc ⟨hk, hb⟩⟩

/-- Along a history with non-decreasing insertion dates, `seq` order refines insertion-date order. -/
theorem insertionDate_mono_seq {ops : List StoreOp} {st : Store} (h : runOps ops = .ok st)
    (hmono : st.txRecs.Pairwise (fun a b => a.insertedAt ≤ b.insertedAt)) {a b : MoveRow} (ha : a ∈ st.moves)
    (hb : b ∈ st.moves) (hle : a.seq ≤ b.seq) : a.insertionDate ≤ b.insertionDate := by
  have big := BigInv_runOps h
  have hids : st.txRecs.Pairwise (fun a b => a.id < b.id) := by
    have hpw := (recsFrom_ids 1 (commitsOf ops)).1
    rw [← (runOps_txs h).1, List.pairwise_map] at hpw
    exact hpw
  obtain ⟨ta, hta, hida, hia, _⟩ := move_tx h ha
  obtain ⟨tb, htb, hidb, hib, _⟩ := move_tx h hb
  have htx : a.txId ≤ b.txId := Decidable.by_contra fun hgt => by
    have := big.ord.seq_of_tx hb ha (by omega); omega
  rcases pairwise_tri (hids.and hmono) hta htb with e | r | r
  · rw [hia, e, ← hib]; exact Int.le_refl _
  · rw [hia, hib]; exact r.2
  · have := r.1; omega

/-- C05, insertion-date mode: when insertion dates never decrease along the commit order, the
    post-commit volumes of the latest move inserted at or before `pit` are the fold of the
    postings of the transactions inserted at or before `pit`. -/
theorem insertionVolumesAt_eq_fold {ops : List StoreOp} {st : Store} (h : runOps ops = .ok st)
    (hmono : st.txRecs.Pairwise (fun a b => a.insertedAt ≤ b.insertedAt)) (k : Key) (pit : Int) :
    insertionVolumesAt st.moves k pit = volumesAt st.txRecs { pit := some pit } .insertion k := by
  rw [← movesWindowVolumes_eq_fold h]
  exact ((PCV_Inv_iff_running _).mp (BigInv_runOps h).pcvInv).latest_eq_sum (d := fun m => m.insertionDate ≤ pit)
    lastInsertionMove_none
    (fun p hp => by
      obtain ⟨h1, h2, h3, h4⟩ := lastInsertionMove_some hp
      exact ⟨h1, ⟨h2, h3⟩, fun m hm hc => decide_eq_true (h4 m hm hc.1 hc.2)⟩)
    (fun _ _ _ => trivial)
    (fun a ha b hb hc _ hle => Int.le_trans (insertionDate_mono_seq h hmono ha hb (of_decide_eq_true hle)) hc)

end Ledger.Spec
