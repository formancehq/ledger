import Ledger.Proofs.SqlValues

/-!
# LeanPG's ORDER BY: `mergeSortM` returns a sorted permutation

`mergeSortM_spec`, for a comparison that never fails on the elements at hand and is a strict weak order there (`CmpOk`). ORDER BY
keys are compared column by column: a column with its order (`SortCol`, `ColOk`; integer, timestamp and text columns), the
lexicographic order of a list of them (`lexCmp`), which is what `cmpOrderKeys` computes (`CmpOk.lex`) and on which `sameGroupKey`
decides equality (`sameGroupKey_lex`). The two key shapes the statements sort by are instances: one integer column descending
(`seqCmp`), two text columns ascending (`balCmp`).
-/
namespace Ledger.Sql

variable {α : Type}

/-- what is assumed of the comparison on the elements (those satisfying `S`): it never fails, and "strictly less"
    is asymmetric and negatively transitive (a strict weak order) -/
structure CmpOk (cmp : α → α → R Ordering) (c : α → α → Ordering) (S : α → Prop) : Prop where
  ok : ∀ a b, S a → S b → cmp a b = .ok (c a b)
  asymm : ∀ a b, S a → S b → c a b = .lt → c b a ≠ .lt
  negTrans : ∀ a b d, S a → S b → S d → c b a ≠ .lt → c d b ≠ .lt → c d a ≠ .lt

/-- `a` may stand before `b` -/
def leOf (c : α → α → Ordering) (a b : α) : Prop := c b a ≠ .lt

theorem pairwise_cons_of_perm {c : α → α → Ordering} {a : α} {m l r : List α} (hp : m.Perm (l ++ r)) (hm : m.Pairwise (leOf c))
    (hl : ∀ b ∈ l, leOf c a b) (hr : ∀ b ∈ r, leOf c a b) : (a :: m).Pairwise (leOf c) :=
  List.pairwise_cons.mpr ⟨fun b hb => (List.mem_append.mp (hp.mem_iff.mp hb)).elim (hl b) (hr b), hm⟩

theorem mergeM_spec (cmp : α → α → R Ordering) (c : α → α → Ordering) (S : α → Prop) (h : CmpOk cmp c S) :
    ∀ (fuel : Nat) (l r : List α), (∀ a ∈ l, S a) → (∀ a ∈ r, S a) → l.length + r.length ≤ fuel →
      ∃ m, mergeM cmp l r fuel = .ok m ∧ m.Perm (l ++ r) ∧
        (l.Pairwise (leOf c) → r.Pairwise (leOf c) → m.Pairwise (leOf c)) := by
  intro fuel
  induction fuel with
  | zero =>
    intro l r _ _ hlen
    have hl : l = [] := List.eq_nil_of_length_eq_zero (by omega)
    have hr : r = [] := List.eq_nil_of_length_eq_zero (by omega)
    subst hl hr
    exact ⟨[], rfl, List.Perm.refl _, fun _ _ => List.Pairwise.nil⟩
  | succ fuel ih =>
    intro l r hSl hSr hlen
    cases l with
    | nil => exact ⟨r, by cases r <;> rfl, by simp, fun _ hr => hr⟩
    | cons x l' =>
      cases r with
      | nil => exact ⟨x :: l', rfl, by simp, fun hl _ => hl⟩
      | cons y r' =>
        have hSx : S x := hSl x (by simp)
        have hSy : S y := hSr y (by simp)
        simp only [mergeM, h.ok y x hSy hSx, bind, Except.bind, pure, Except.pure]
        cases hlt : (c y x == Ordering.lt) with
        | true =>
          -- `y < x`: `y` goes first; it may stand before `x` (asymmetry), hence before all of `l` (negative transitivity)
          obtain ⟨m, hm, hp, hs⟩ := ih (x :: l') r' hSl (fun a ha => hSr a (by simp [ha])) (by simp at hlen ⊢; omega)
          refine ⟨y :: m, by simp [hm], (List.Perm.cons y hp).trans (by simpa using (List.perm_middle (a := y) (l₁ := x :: l') (l₂ := r')).symm), ?_⟩
          intro hl hr
          have hyx : leOf c y x := h.asymm y x hSy hSx (by simpa using hlt)
          refine pairwise_cons_of_perm hp (hs hl (List.pairwise_cons.mp hr).2) (fun a ha => ?_) (List.pairwise_cons.mp hr).1
          have hxa : leOf c x a := by
            rcases List.mem_cons.mp ha with rfl | h'
            · exact fun e => h.asymm _ _ hSx hSx e e
            · exact (List.pairwise_cons.mp hl).1 a h'
          exact h.negTrans y x a hSy hSx (hSl a ha) hyx hxa
        | false =>
          -- `x` goes first; it may stand before `y`, hence before all of `r`
          obtain ⟨m, hm, hp, hs⟩ := ih l' (y :: r') (fun a ha => hSl a (by simp [ha])) hSr (by simp at hlen ⊢; omega)
          refine ⟨x :: m, by simp [hm], List.Perm.cons x hp, ?_⟩
          intro hl hr
          have hxy : leOf c x y := by simpa [leOf] using hlt
          refine pairwise_cons_of_perm hp (hs (List.pairwise_cons.mp hl).2 hr) (List.pairwise_cons.mp hl).1 (fun a ha => ?_)
          rcases List.mem_cons.mp ha with rfl | h'
          · exact hxy
          · exact h.negTrans x y a hSx hSy (hSr a ha) hxy ((List.pairwise_cons.mp hr).1 a h')

theorem pairwise_of_length_le_one {R : α → α → Prop} : ∀ (xs : List α), xs.length ≤ 1 → xs.Pairwise R
  | [], _ => List.Pairwise.nil
  | [_], _ => List.pairwise_singleton _ _
  | _ :: _ :: _, h => absurd h (by simp)

theorem mergeSortM_succ (cmp : α → α → R Ordering) (fuel : Nat) (xs : List α) (h : 2 ≤ xs.length) :
    mergeSortM cmp (fuel + 1) xs = (do
      let l ← mergeSortM cmp fuel (xs.take (xs.length / 2))
      let r ← mergeSortM cmp fuel (xs.drop (xs.length / 2))
      mergeM cmp l r (xs.length + 1)) := by
  match xs, h with
  | _ :: _ :: _, _ => rfl

theorem mergeSortM_spec (cmp : α → α → R Ordering) (c : α → α → Ordering) (S : α → Prop) (h : CmpOk cmp c S) :
    ∀ (fuel : Nat) (xs : List α), (∀ a ∈ xs, S a) →
      ∃ ys, mergeSortM cmp fuel xs = .ok ys ∧ ys.Perm xs ∧ (xs.length ≤ fuel + 1 → ys.Pairwise (leOf c)) := by
  intro fuel
  induction fuel with
  | zero => intro xs _; exact ⟨xs, rfl, List.Perm.refl _, pairwise_of_length_le_one xs⟩
  | succ fuel ih =>
    intro xs hS
    by_cases h2 : 2 ≤ xs.length
    · obtain ⟨l, hl, hpl, hsl⟩ := ih (xs.take (xs.length / 2)) (fun a ha => hS a (List.mem_of_mem_take ha))
      obtain ⟨r, hr, hpr, hsr⟩ := ih (xs.drop (xs.length / 2)) (fun a ha => hS a (List.mem_of_mem_drop ha))
      have hSl : ∀ a ∈ l, S a := fun a ha => hS a (List.mem_of_mem_take ((hpl.mem_iff).mp ha))
      have hSr : ∀ a ∈ r, S a := fun a ha => hS a (List.mem_of_mem_drop ((hpr.mem_iff).mp ha))
      have hlen : l.length + r.length ≤ xs.length + 1 := by
        rw [hpl.length_eq, hpr.length_eq, List.length_take, List.length_drop]
        omega
      obtain ⟨m, hm, hpm, hsm⟩ := mergeM_spec cmp c S h _ l r hSl hSr hlen
      refine ⟨m, ?_, ?_, ?_⟩
      · simp only [mergeSortM_succ cmp fuel xs h2, hl, hr, bind, Except.bind, hm]
      · exact hpm.trans ((List.Perm.append hpl hpr).trans (List.Perm.of_eq (List.take_append_drop _ _)))
      · -- each half has at most `fuel + 1` elements
        intro hle
        exact hsm (hsl (by rw [List.length_take]; omega)) (hsr (by rw [List.length_drop]; omega))
    · have e : mergeSortM cmp (fuel + 1) xs = .ok xs := by
        match xs, h2 with
        | [], _ => rfl
        | [_], _ => rfl
        | _ :: _ :: _, h => exact absurd (by simp) h
      exact ⟨xs, e, List.Perm.refl _, fun _ => pairwise_of_length_le_one xs (by omega)⟩

theorem sortKeyed_spec {β : Type} (descs : List Bool) (nulls : List NullsOrder) (c : List Value → List Value → Ordering)
    (S : List Value → Prop)
    (h : CmpOk (fun (a b : List Value × β) => cmpOrderKeys a.1 b.1 descs nulls) (fun a b => c a.1 b.1) (fun a => S a.1))
    (keys : List (List Value × β)) (hS : ∀ a ∈ keys, S a.1) :
    ∃ ys, sortKeyed keys descs nulls = .ok ys ∧ ys.Perm keys ∧ ys.Pairwise (fun a b => c b.1 a.1 ≠ .lt) := by
  obtain ⟨ys, h1, h2, h3⟩ := mergeSortM_spec _ _ _ h (keys.length + 1) keys hS
  exact ⟨ys, h1, h2, h3 (by omega)⟩

/-! ### ORDER BY keys compared column by column

A column of non-NULL keys of one type is compared by a strict linear order (`LinCmp`: `cmpInt`, `cmpStr`, either of them flipped
for DESC); `cmpOrderKeys` on keys of such columns is their lexicographic product `lexCmp`, again linear, and a linear comparison
that never fails is what `mergeSortM` needs (`CmpOk`). -/

/-- `c` decides a strict linear order on the elements satisfying `S` -/
structure LinCmp {κ : Type} (c : κ → κ → Ordering) (S : κ → Prop) : Prop where
  eq : ∀ a b, S a → S b → (c a b = .eq ↔ a = b)
  swap : ∀ a b, S a → S b → c b a = (c a b).swap
  trans : ∀ a b d, S a → S b → S d → c a b = .lt → c b d = .lt → c a d = .lt

theorem LinCmp.cmpOk {κ : Type} {c : κ → κ → Ordering} {S : κ → Prop} (h : LinCmp c S) (key : α → κ) (cmp : α → α → R Ordering)
    (hok : ∀ a b, S (key a) → S (key b) → cmp a b = .ok (c (key a) (key b))) :
    CmpOk cmp (fun a b => c (key a) (key b)) (fun a => S (key a)) where
  ok := hok
  asymm a b ha hb hlt := by rw [h.swap _ _ ha hb, hlt]; exact Ordering.noConfusion
  negTrans a b d ha hb hd h1 h2 hlt := by
    -- `d < a` and not `d < b`: then `b = d` or `b < d`, so `b < a`
    cases hdb : c (key d) (key b) with
    | lt => exact h2 hdb
    | eq => rw [(h.eq _ _ hd hb).mp hdb] at hlt; exact h1 hlt
    | gt =>
      have hbd : c (key b) (key d) = .lt := by rw [h.swap _ _ hd hb, hdb]; rfl
      exact h1 (h.trans _ _ _ hb hd ha hbd hlt)

theorem LinCmp.flip {κ : Type} {c : κ → κ → Ordering} {S : κ → Prop} (h : LinCmp c S) : LinCmp (fun a b => flipOrd (c a b)) S where
  eq a b ha hb := by rw [← h.eq a b ha hb]; cases c a b <;> simp [flipOrd]
  swap a b ha hb := by rw [h.swap a b ha hb]; cases c a b <;> rfl
  trans a b d ha hb hd h1 h2 := by
    have e : ∀ x y, S x → S y → (flipOrd (c x y) = .lt ↔ c y x = .lt) := fun x y hx hy => by
      rw [h.swap x y hx hy]; cases c x y <;> simp [flipOrd, Ordering.swap]
    rw [e _ _ ha hb] at h1; rw [e _ _ hb hd] at h2; rw [e _ _ ha hd]
    exact h.trans _ _ _ hd hb ha h2 h1

theorem linCmp_int : LinCmp cmpInt (fun _ => True) where
  eq a b _ _ := by rcases cmpInt_cases a b with ⟨h, e⟩ | ⟨h, e⟩ | ⟨h, e⟩ <;> rw [e] <;> simp <;> omega
  swap a b _ _ := by
    rcases cmpInt_cases a b with ⟨h, e⟩ | ⟨h, e⟩ | ⟨h, e⟩ <;> rcases cmpInt_cases b a with ⟨h', e'⟩ | ⟨h', e'⟩ | ⟨h', e'⟩ <;> rw [e, e'] <;>
      first | rfl | omega
  trans a b d _ _ _ h1 h2 := by
    have e : ∀ x y, cmpInt x y = .lt → x < y := fun x y hxy => by
      rcases cmpInt_cases x y with ⟨h, _⟩ | ⟨_, e⟩ | ⟨_, e⟩ <;> first | exact h | (rw [e] at hxy; cases hxy)
    rcases cmpInt_cases a d with ⟨_, e'⟩ | ⟨h, _⟩ | ⟨h, _⟩
    · exact e'
    · have := e _ _ h1; have := e _ _ h2; omega
    · have := e _ _ h1; have := e _ _ h2; omega

theorem cmpStr_lt (a b : String) : (cmpStr a b = Ordering.lt) ↔ a < b := by
  unfold cmpStr
  by_cases h : a < b
  · simp [h]
  · by_cases e : a = b <;> simp [h, e]

theorem cmpStr_eq_iff (a b : String) : (cmpStr a b = Ordering.eq) ↔ a = b := by
  have := cmpStr_eq a b
  constructor
  · intro h; rw [h] at this; simpa using this.symm
  · intro h; subst h; simp [cmpStr, String.lt_irrefl]

theorem linCmp_str : LinCmp cmpStr (fun _ => True) where
  eq a b _ _ := cmpStr_eq_iff a b
  swap a b _ _ := by
    unfold cmpStr
    by_cases h1 : a < b
    · have h2 : ¬ b < a := fun h => String.lt_irrefl _ (String.lt_trans h1 h)
      have h3 : b ≠ a := fun e => by subst e; exact String.lt_irrefl _ h1
      simp [h1, h2, h3, Ordering.swap]
    · by_cases e : a = b
      · subst e; simp [String.lt_irrefl, Ordering.swap]
      · have h2 : b < a := Classical.byContradiction fun h2 => e (String.le_antisymm (String.not_lt.mp h2) (String.not_lt.mp h1))
        simp [h1, h2, e, Ordering.swap]
  trans a b d _ _ _ h1 h2 := by
    rw [cmpStr_lt] at h1 h2 ⊢; exact String.lt_trans h1 h2

/-- a sort column: its direction, the comparison of two of its keys and what its keys are -/
structure SortCol where
  desc : Bool
  cmp : Value → Value → Ordering
  ok : Value → Prop

/-- `cmpOrderKeys` compares the keys of the column by `col.cmp` and goes on to the next column when they are equal -/
structure ColOk (col : SortCol) : Prop where
  lin : LinCmp col.cmp col.ok
  step : ∀ x y xs ys ds n ns, col.ok x → col.ok y →
    cmpOrderKeys (x :: xs) (y :: ys) (col.desc :: ds) (n :: ns) =
      if col.cmp x y == .eq then cmpOrderKeys xs ys ds ns else pure (col.cmp x y)
  same : ∀ x y, col.ok x → col.ok y → ∃ o, compareForSort x y = .ok o ∧ (o = .eq ↔ x = y)

def lexCmp : List SortCol → List Value → List Value → Ordering
  | col :: cols, x :: xs, y :: ys => (col.cmp x y).then (lexCmp cols xs ys)
  | _, _, _ => .eq

def KeysOk : List SortCol → List Value → Prop
  | [], [] => True
  | col :: cols, x :: xs => col.ok x ∧ KeysOk cols xs
  | _, _ => False

theorem cmpOrderKeys_lex : ∀ (cols : List SortCol), (∀ col ∈ cols, ColOk col) → ∀ (nulls : List NullsOrder), nulls.length = cols.length →
    ∀ xs ys, KeysOk cols xs → KeysOk cols ys → cmpOrderKeys xs ys (cols.map (·.desc)) nulls = .ok (lexCmp cols xs ys)
  | [], _, _, _, xs, ys, _, _ => by cases xs <;> cases ys <;> rfl
  | col :: cols, h, [], hn, _, _, _, _ => by cases hn
  | col :: cols, h, n :: ns, hn, [], _, hx, _ => hx.elim
  | col :: cols, h, n :: ns, hn, _ :: _, [], _, hy => hy.elim
  | col :: cols, h, n :: ns, hn, x :: xs, y :: ys, hx, hy => by
    rw [List.map_cons, (h col (List.mem_cons_self ..)).step x y xs ys _ n ns hx.1 hy.1, lexCmp]
    cases hc : col.cmp x y
    · rfl
    · exact cmpOrderKeys_lex cols (fun c hc => h c (List.mem_cons_of_mem _ hc)) ns (by simpa using hn) xs ys hx.2 hy.2
    · rfl

theorem linCmp_lex : ∀ (cols : List SortCol), (∀ col ∈ cols, ColOk col) → LinCmp (lexCmp cols) (KeysOk cols)
  | [], _ => by
    refine ⟨fun a b ha hb => ?_, fun a b _ _ => ?_, fun a b d _ _ _ h => ?_⟩
    · cases a <;> cases b <;> first | exact ⟨fun _ => rfl, fun _ => rfl⟩ | exact ha.elim | exact hb.elim
    · cases a <;> cases b <;> rfl
    · cases a <;> cases b <;> cases h
  | col :: cols, h => by
    have hc := (h col (List.mem_cons_self ..)).lin
    have ih := linCmp_lex cols (fun c hc => h c (List.mem_cons_of_mem _ hc))
    refine ⟨?_, ?_, ?_⟩
    · rintro (_ | ⟨x, xs⟩) (_ | ⟨y, ys⟩) ha hb <;> try exact ha.elim
      · exact hb.elim
      · simp only [lexCmp, Ordering.then_eq_eq, hc.eq x y ha.1 hb.1, ih.eq xs ys ha.2 hb.2, List.cons.injEq]
    · rintro (_ | ⟨x, xs⟩) (_ | ⟨y, ys⟩) ha hb <;> try exact ha.elim
      · exact hb.elim
      · simp only [lexCmp, hc.swap x y ha.1 hb.1, ih.swap xs ys ha.2 hb.2, Ordering.swap_then]
    · intro a b d ha hb hd
      match a, b, d, ha, hb, hd with
      | x :: xs, y :: ys, z :: zs, ha, hb, hd =>
        simp only [lexCmp, Ordering.then_eq_lt]
        rintro (h1 | ⟨e1, h1⟩) (h2 | ⟨e2, h2⟩)
        · exact .inl (hc.trans _ _ _ ha.1 hb.1 hd.1 h1 h2)
        · rw [(hc.eq _ _ hb.1 hd.1).mp e2] at h1; exact .inl h1
        · rw [← (hc.eq _ _ ha.1 hb.1).mp e1] at h2; exact .inl h2
        · exact .inr ⟨(hc.eq _ _ ha.1 hd.1).mpr (((hc.eq _ _ ha.1 hb.1).mp e1).trans ((hc.eq _ _ hb.1 hd.1).mp e2)),
            ih.trans _ _ _ ha.2 hb.2 hd.2 h1 h2⟩

theorem sameGroupKey_lex : ∀ (cols : List SortCol), (∀ col ∈ cols, ColOk col) → ∀ xs ys, KeysOk cols xs → KeysOk cols ys →
    ∃ b, sameGroupKey xs ys = .ok b ∧ (b = true ↔ xs = ys)
  | [], _, [], [], _, _ => ⟨true, rfl, by simp⟩
  | [], _, _ :: _, _, hx, _ => hx.elim
  | [], _, [], _ :: _, _, hy => hy.elim
  | col :: cols, h, [], _, hx, _ => hx.elim
  | col :: cols, h, _ :: _, [], _, hy => hy.elim
  | col :: cols, h, x :: xs, y :: ys, hx, hy => by
    obtain ⟨o, ho, he⟩ := (h col (List.mem_cons_self ..)).same x y hx.1 hy.1
    obtain ⟨b, hb, hbe⟩ := sameGroupKey_lex cols (fun c hc => h c (List.mem_cons_of_mem _ hc)) xs ys hx.2 hy.2
    simp only [sameGroupKey, ho, bind, Except.bind]
    by_cases e : x = y
    · rw [he.mpr e]
      exact ⟨b, hb, by rw [hbe, e]; simp⟩
    · have : (o == Ordering.eq) = false := by simpa using fun h' => e (he.mp h')
      exact ⟨false, by simp [this]; rfl, by simp [e]⟩

theorem CmpOk.lex {β : Type} (cols : List SortCol) (h : ∀ col ∈ cols, ColOk col) (nulls : List NullsOrder) (hn : nulls.length = cols.length) :
    CmpOk (fun (x y : List Value × β) => cmpOrderKeys x.1 y.1 (cols.map (·.desc)) nulls) (fun x y => lexCmp cols x.1 y.1)
      (fun x => KeysOk cols x.1) :=
  (linCmp_lex cols h).cmpOk (fun x : List Value × β => x.1) _ (fun a b ha hb => cmpOrderKeys_lex cols h nulls hn a.1 b.1 ha hb)

theorem CmpOk.congr {cmp : α → α → R Ordering} {c c' : α → α → Ordering} {S S' : α → Prop} (h : CmpOk cmp c S)
    (hS : ∀ a, S' a → S a) (hc : ∀ a b, S' a → S' b → c' a b = c a b) : CmpOk cmp c' S' where
  ok a b ha hb := by rw [hc a b ha hb]; exact h.ok a b (hS a ha) (hS b hb)
  asymm a b ha hb := by rw [hc a b ha hb, hc b a hb ha]; exact h.asymm a b (hS a ha) (hS b hb)
  negTrans a b d ha hb hd := by
    rw [hc b a hb ha, hc d b hd hb, hc d a hd ha]; exact h.negTrans a b d (hS a ha) (hS b hb) (hS d hd)

theorem cmpOrderKeys_cons (x y : Value) (xs ys : List Value) (d : Bool) (ds : List Bool) (n : NullsOrder) (ns : List NullsOrder)
    (o : Ordering) (hx : x ≠ .null) (hy : y ≠ .null) (h : compareForSort x y = .ok o) :
    cmpOrderKeys (x :: xs) (y :: ys) (d :: ds) (n :: ns) =
      if (if d then flipOrd o else o) == .eq then cmpOrderKeys xs ys ds ns else pure (if d then flipOrd o else o) := by
  simp only [cmpOrderKeys]
  split
  · exact absurd rfl hx
  · exact absurd rfl hx
  · exact absurd rfl hy
  · rw [h]; rfl

/-- the column of the keys `mk a`, compared through `a` by `c`, ascending or descending; `k` reads `a` back -/
def keyCol {κ : Type} (desc : Bool) (mk : κ → Value) (k : Value → Option κ) (c : κ → κ → Ordering) : SortCol where
  desc := desc
  cmp x y := match k x, k y with
    | some a, some b => if desc then flipOrd (c a b) else c a b
    | _, _ => .eq
  ok x := ∃ a, x = mk a

theorem colOk_key {κ : Type} (desc : Bool) (mk : κ → Value) (k : Value → Option κ) (c : κ → κ → Ordering) (hk : ∀ a, k (mk a) = some a)
    (hnn : ∀ a, mk a ≠ .null) (hcmp : ∀ a b, compareForSort (mk a) (mk b) = .ok (c a b)) (hlin : LinCmp c (fun _ => True)) :
    ColOk (keyCol desc mk k c) where
  lin := by
    have hc : ∀ a b, (keyCol desc mk k c).cmp (mk a) (mk b) = if desc then flipOrd (c a b) else c a b := fun a b => by
      simp only [keyCol, hk]
    have hl : LinCmp (fun a b => if desc then flipOrd (c a b) else c a b) (fun _ => True) := by
      cases desc
      · exact hlin
      · exact hlin.flip
    refine ⟨?_, ?_, ?_⟩
    · rintro _ _ ⟨a, rfl⟩ ⟨b, rfl⟩
      rw [hc, hl.eq a b trivial trivial]
      exact ⟨fun e => e ▸ rfl, fun e => Option.some.inj ((hk a).symm.trans ((congrArg k e).trans (hk b)))⟩
    · rintro _ _ ⟨a, rfl⟩ ⟨b, rfl⟩
      rw [hc, hc]; exact hl.swap a b trivial trivial
    · rintro _ _ _ ⟨a, rfl⟩ ⟨b, rfl⟩ ⟨d, rfl⟩
      rw [hc, hc, hc]; exact hl.trans a b d trivial trivial trivial
  step := by
    rintro _ _ xs ys ds n ns ⟨a, rfl⟩ ⟨b, rfl⟩
    refine (cmpOrderKeys_cons _ _ xs ys desc ds n ns _ (hnn a) (hnn b) (hcmp a b)).trans ?_
    simp only [keyCol, hk]
  same := by
    rintro _ _ ⟨a, rfl⟩ ⟨b, rfl⟩
    refine ⟨_, hcmp a b, (hlin.eq a b trivial trivial).trans ⟨fun e => e ▸ rfl, fun e => ?_⟩⟩
    exact Option.some.inj ((hk a).symm.trans ((congrArg k e).trans (hk b)))

def intCol (desc : Bool) : SortCol := keyCol desc Value.int (fun x => match x with | .int a => some a | _ => none) cmpInt
def tsCol (desc : Bool) : SortCol := keyCol desc Value.ts (fun x => match x with | .ts a => some a | _ => none) cmpInt
def textCol (desc : Bool) : SortCol := keyCol desc Value.text (fun x => match x with | .text a => some a | _ => none) cmpStr

theorem colOk_int (desc : Bool) : ColOk (intCol desc) :=
  colOk_key desc _ _ _ (fun _ => rfl) (fun _ => Value.noConfusion) compareForSort_int linCmp_int
theorem colOk_ts (desc : Bool) : ColOk (tsCol desc) :=
  colOk_key desc _ _ _ (fun _ => rfl) (fun _ => Value.noConfusion) compareForSort_ts linCmp_int
theorem colOk_text (desc : Bool) : ColOk (textCol desc) :=
  colOk_key desc _ _ _ (fun _ => rfl) (fun _ => Value.noConfusion) compareForSort_text linCmp_str

/-! ### descending integer keys -/

/-- descending order on integers, as `ORDER BY … DESC` compares two non-null integer or timestamp keys -/
def descInt (a b : Int) : Ordering := flipOrd (cmpInt a b)

theorem descInt_lt (a b : Int) : descInt a b = .lt ↔ b < a := by
  unfold descInt
  rcases cmpInt_cases a b with ⟨h, e⟩ | ⟨h, e⟩ | ⟨h, e⟩ <;> rw [e] <;> simp [flipOrd] <;> omega

theorem descInt_eq (a b : Int) : descInt a b = .eq ↔ a = b := by
  unfold descInt
  rcases cmpInt_cases a b with ⟨h, e⟩ | ⟨h, e⟩ | ⟨h, e⟩ <;> rw [e] <;> simp [flipOrd] <;> omega

/-- keys of `ORDER BY c DESC` on one integer column (`seq`, `revision`) -/
def seqKeyOk (k : List Value) : Prop := ∃ (q : Int), k = [.int q]

def seqCmp (k1 k2 : List Value) : Ordering :=
  match k1, k2 with
  | [.int q1], [.int q2] => descInt q1 q2
  | _, _ => .eq

theorem seqCmp_lt (q1 q2 : Int) : seqCmp [.int q1] [.int q2] = .lt ↔ q2 < q1 := descInt_lt q1 q2

theorem seqCmpOk {β : Type} :
    CmpOk (fun (x y : List Value × β) => cmpOrderKeys x.1 y.1 [true] [NullsOrder.dflt]) (fun x y => seqCmp x.1 y.1) (fun x => seqKeyOk x.1) :=
  (CmpOk.lex [intCol true] (by simp [colOk_int]) [.dflt] rfl).congr (by rintro x ⟨q, hx⟩; rw [hx]; exact ⟨⟨q, rfl⟩, trivial⟩)
    (by rintro x y ⟨q1, hx⟩ ⟨q2, hy⟩; rw [hx, hy]; simp [lexCmp, intCol, keyCol, seqCmp, descInt])

/-! ### two ascending text keys -/

/-- keys of `ORDER BY a, c` on two text columns (`accounts_address`, `asset`) -/
def balKeyOk (k : List Value) : Prop := ∃ a c, k = [.text a, .text c]

def balCmp (k1 k2 : List Value) : Ordering :=
  match k1, k2 with
  | [.text a, .text c], [.text a', .text c'] => if cmpStr a a' == .eq then cmpStr c c' else cmpStr a a'
  | _, _ => .eq

theorem balCmpOk {β : Type} :
    CmpOk (fun (x y : List Value × β) => cmpOrderKeys x.1 y.1 [false, false] [NullsOrder.dflt, NullsOrder.dflt])
      (fun x y => balCmp x.1 y.1) (fun x => balKeyOk x.1) :=
  (CmpOk.lex [textCol false, textCol false] (by simp [colOk_text]) [.dflt, .dflt] rfl).congr
    (by rintro x ⟨a, c, hx⟩; rw [hx]; exact ⟨⟨a, rfl⟩, ⟨c, rfl⟩, trivial⟩)
    (by
      rintro x y ⟨a, c, hx⟩ ⟨a', c', hy⟩
      rw [hx, hy]
      simp only [lexCmp, textCol, keyCol, balCmp]
      cases cmpStr a a' <;> cases cmpStr c c' <;> rfl)

/-- `ORDER BY accounts_address, asset`: the clause whose keys `balCmp` compares -/
def balOrder : List OrderItem :=
  [OrderItem.mk (Expr.col "" "accounts_address") false NullsOrder.dflt, OrderItem.mk (Expr.col "" "asset") false NullsOrder.dflt]

end Ledger.Sql
