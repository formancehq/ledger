import Ledger.Ctrl.Wire
import Ledger.Proofs.LogPayload

/-! The export stream survives the wire when every payload embeds canonically
    (the payload round trip `Ledger.Log.decodePayload_encodePayload`, C08payload). -/
namespace Ledger.Ctrl
open Ledger.Base Ledger.Core

theorem wireLog_id (enc : Payload → Ledger.Log.Payload) (dec : Ledger.Log.Payload → Option Payload)
    (hdec : ∀ p, dec (enc p) = some p) (l : Log) (hc : Ledger.Log.canonicalPayload (enc l.payload) = true) :
    wireLog enc dec l = some l := by
  unfold wireLog
  rw [Ledger.Log.decodePayload_encodePayload _ hc]
  simp only [hdec, Option.map_some]

theorem wireStream_id (enc : Payload → Ledger.Log.Payload) (dec : Ledger.Log.Payload → Option Payload)
    (hdec : ∀ p, dec (enc p) = some p) (ls : List Log)
    (hc : ∀ l ∈ ls, Ledger.Log.canonicalPayload (enc l.payload) = true) :
    wireStream enc dec ls = some ls := by
  induction ls with
  | nil => rfl
  | cons l r ih =>
    simp only [wireStream, wireLog_id enc dec hdec l (hc l List.mem_cons_self),
      ih (fun x hx => hc x (List.mem_cons_of_mem _ hx))]

end Ledger.Ctrl
