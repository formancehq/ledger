import Ledger.Proofs.CtrlStep

/-!
Faults surface.  (1) A failing COMMIT is always answered with an error and
nothing is kept, for every write kind and through `recordedOutcome`.  (2) A
non-retryable injected fault (generic error, cancelled context) either makes the
operation answer an error, or had no influence at all (it never fired, or hit a
`Rollback` whose failure is only logged): state and response are exactly those of
the fault-free run.
-/
namespace Ledger.Ctrl
open Ledger.Base Ledger.Core

/-- A failing COMMIT — on the first attempt or on any retried one, whatever other
    faults are planned — is never answered with a committed write: the tables are
    as before and the answer is an error (or the write was a hit / a dry run, which
    never reach COMMIT). -/
theorem forgeLog_commitFault (strict : Bool) (op : Op) (f : Faults) (s : State) :
    (forgeLog strict op f true s).state.db = s.db ∧
    ((forgeLog strict op f true s).resp.err.isSome = true ∨ (forgeLog strict op f true s).resp.hit = true ∨
      op.dry = true) := by
  rcases (forgeLog_ending strict op f true s).1 with ⟨hu, _, why⟩ | ⟨_, _, _, _, _, _, _, hcf, _⟩
  · exact ⟨hu, why⟩
  · cases hcf

def NonRetry (f : Faults) : Prop := ∀ x ∈ f, x.kind = .error ∨ x.kind = .cancel

/-- Two runner states that agree on everything but the trace. -/
def Sim (a b : RunSt) : Prop := a.db = b.db ∧ a.seq = b.seq ∧ a.n = b.n

theorem run_fault_or_same {α : Type} {now : Time} {hn : String} {f : Faults} (hnr : NonRetry f) {p : Prog α}
    {st st0 st' : RunSt} {res : Except Err α} (hs : Sim st st0) (h : run now hn f p st = (res, st')) :
    (∃ k : FaultKind, (k = .error ∨ k = .cancel) ∧ res = .error (.store k.err)) ∨
    ∃ st0', run now hn [] p st0 = (res, st0') ∧ Sim st' st0' := by
  induction p generalizing st st0 with
  | pure a => cases h; exact Or.inr ⟨_, rfl, hs⟩
  | fail e => cases h; exact Or.inr ⟨_, rfl, hs⟩
  | call c k ih =>
    obtain ⟨hd, hq, hnn⟩ := hs
    simp only [run, fires_nil, ← hd, ← hq, ← hnn] at h ⊢
    split at h
    · cases h
      obtain ⟨x, hx, rfl, _⟩ := fires_mem f _ _ ‹_›
      exact Or.inl ⟨_, hnr x hx, rfl⟩
    · split at h
      · cases h; exact Or.inr ⟨_, rfl, rfl, rfl, rfl⟩
      · refine ih _ ?_ h
        exact ⟨rfl, rfl, rfl⟩

theorem ikLookup_none_absent {now : Time} {hn : String} {f : Faults} {ik ihash : String} {st st' : RunSt}
    (h : run now hn f (ikLookup ik ihash) st = (.ok none, st')) : ik = "" ∨ readLogWithIK ik st.db = none := by
  unfold ikLookup at h
  split at h
  · exact Or.inl ‹_›
  · right
    simp only [run, exec] at h
    split at h
    · cases h
    · cases hr : readLogWithIK ik st.db with
      | none => rfl
      | some log => rw [hr] at h; dsimp only at h; split at h <;> cases h

theorem failedThenRecorded_absent {op : Op} {s : State} (habs : op.ik = "" ∨ readLogWithIK op.ik s.db = none)
    (st : RunSt) (h : String) (f : Faults) (e : Err) : (failedThenRecorded op s st h f e).resp.err.isSome = true := by
  unfold failedThenRecorded
  split
  · exact failedAttempt_isError ..
  · rcases (recordedOutcome_cases op f s (st.n + 2) (failedAttempt s st h f e)).2 with hr | hr | ⟨_, hk, hl, _⟩
    · rw [hr]; exact failedAttempt_isError ..
    · rw [hr]; rfl
    · rcases habs with h0 | h0
      · exact absurd h0 hk
      · rw [h0] at hl; cases hl

theorem runLog_error_not_retryable {now : Time} {hn : String} {strict : Bool} {kind : OpKind} {ik ihash sv : String}
    {n : Nat} {st0 st : RunSt} {e : Err} (h : run now hn [] (runLog strict kind ik ihash sv n) st0 = (.error e, st))
    (habs : ik = "" ∨ readLogWithIK ik st0.db = none) : ¬ (e = .store .deadlock ∨ e = .store .ikConflict) := by
  rintro (rfl | rfl)
  · cases (run_deadlock_origin (runLog_all strict kind ik ihash sv n) h).1
  · have hfound := runLog_conflict_log_found now hn [] strict kind ik ihash sv n st0 st (fun _ => nofun) h
    rcases habs with hk | hk
    · unfold readLogWithIK at hfound; rw [if_pos hk] at hfound; cases hfound
    · rw [hk] at hfound; cases hfound

theorem finish_sim (s : State) {st st0 : RunSt} (hs : Sim st st0) (h : String) (f : Faults) (cf dry : Bool) (log : Log) :
    (finish s st h f cf dry log).resp.err.isSome = true ∨
    ((finish s st h f cf dry log).state = (finish s st0 h [] cf dry log).state ∧
     (finish s st h f cf dry log).resp = (finish s st0 h [] cf dry log).resp) := by
  obtain ⟨hd, hq, hn⟩ := hs
  unfold finish commitOrFail rolledBack
  rw [fires_nil, hd, hq, hn]
  cases dry with
  | true => exact Or.inr ⟨rfl, rfl⟩
  | false =>
    simp only [Bool.false_eq_true, ↓reduceIte]
    cases fires f (st0.n + 1) with
    | some kind => exact Or.inl rfl
    | none => cases cf <;> first | exact Or.inl rfl | exact Or.inr ⟨rfl, rfl⟩

/-- **Faults surface.** Under any plan of non-retryable faults (generic errors,
    cancelled contexts — at any store calls, `BeginTX`, `Commit`, `Rollback` and
    the `recordedOutcome` lookup included) a write either answers an error, or its
    state and its response are exactly those of the fault-free run: a fault is never
    silently turned into a different successful answer or a different effect. -/
theorem fault_surfaces_or_harmless (strict : Bool) (op : Op) (f : Faults) (cf : Bool) (s : State) (hnr : NonRetry f) :
    (forgeLog strict op f cf s).resp.err.isSome = true ∨
    ((forgeLog strict op f cf s).state = (forgeLog strict op [] cf s).state ∧
     (forgeLog strict op f cf s).resp = (forgeLog strict op [] cf s).resp) := by
  unfold forgeLog
  simp only [fires_nil]
  cases fires f 1 with
  | some kind => exact Or.inl rfl
  | none =>
    dsimp only
    cases h1 : run op.now "t1" f (ikLookup op.ik op.ihash) { db := s.db, seq := s.seq, n := 1, trace := ["root BeginTX"] } with
    | mk r1 st1 =>
    rcases run_fault_or_same hnr ⟨rfl, rfl, rfl⟩ h1 with ⟨k, _, rfl⟩ | ⟨st0, h0, hsim⟩
    · exact Or.inl rfl
    · rw [h0]
      match r1 with
      | .error e => exact Or.inl rfl
      | .ok (some l) => exact Or.inr ⟨by simp only [rolledBack]; rw [hsim.2.1], rfl⟩
      | .ok none =>
        have habs : op.ik = "" ∨ readLogWithIK op.ik s.db = none := ikLookup_none_absent h0
        have hdb : st0.db = s.db := by
          have := run_ikLookup_db op.now "t1" [] op.ik op.ihash { db := s.db, seq := s.seq, n := 1, trace := ["root BeginTX"] }
          rw [h0] at this; exact this.1
        dsimp only
        cases h2 : run op.now "t1" f (runLog strict op.kind op.ik op.ihash op.sv 1) st1 with
        | mk r2 st2 =>
        rcases run_fault_or_same hnr hsim h2 with ⟨k, hk, rfl⟩ | ⟨st20, h20, hsim2⟩
        · -- a fault fired inside `runLog`: not retryable, the attempt ends in `recordedOutcome`
          have hnret : ¬ (Err.store k.err = .store .deadlock ∨ Err.store k.err = .store .ikConflict) := by
            rcases hk with rfl | rfl <;> rintro (h | h) <;> cases h
          dsimp only
          rw [if_neg hnret]
          exact Or.inl (failedThenRecorded_absent habs ..)
        · rw [h20]
          match r2 with
          | .error e =>
            have hnret := runLog_error_not_retryable h20 (hdb ▸ habs)
            dsimp only
            rw [if_neg hnret, if_neg hnret]
            exact Or.inl (failedThenRecorded_absent habs ..)
          | .ok log => exact finish_sim s hsim2 "t1" f cf op.dry log

end Ledger.Ctrl
