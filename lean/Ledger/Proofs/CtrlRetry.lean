import Ledger.Proofs.CtrlLog

/-!
One attempt (`runTx`) and the retry loop.  `Ending` says how an operation can end: the
committed tables untouched, or those of one complete `runLog`.  A retryable error of an
attempt is an injected one, or the key conflict of `InsertLog` on a log that is there
(`CtrlLog`).  Hence (1) every turn of the loop consumes one injected deadlock, so the
loop's fuel is enough: `retryLoop_ending` shows in one walk how the loop ends and that it
never answers the fuel marker; (2) the "incoherent error" panic after a conflict is
unreachable under the store contract.
-/
namespace Ledger.Ctrl
open Ledger.Base Ledger.Core

def Outcome.Unchanged (o : Outcome) (s : State) : Prop := o.state.db = s.db

def Outcome.CommittedFrom (o : Outcome) (st : RunSt) (log : Log) : Prop :=
  o.state = { db := st.db, seq := st.seq } ∧ o.resp = { log := some log }

theorem rolledBack_unchanged (s : State) (st : RunSt) (h : String) (f : Faults) (r : Resp) :
    (rolledBack s st h f r).Unchanged s := rfl

theorem rolledBack_resp (s : State) (st : RunSt) (h : String) (f : Faults) (r : Resp) :
    (rolledBack s st h f r).resp = r := rfl

theorem failedAttempt_unchanged (s : State) (st : RunSt) (h : String) (f : Faults) (e : Err) :
    (failedAttempt s st h f e).Unchanged s := by
  unfold failedAttempt; split <;> rfl

theorem failedAttempt_err (s : State) (st : RunSt) (h : String) (f : Faults) (e : Err) :
    (failedAttempt s st h f e).resp.err = some e := by
  unfold failedAttempt; split
  · subst e; rfl
  · rfl

theorem failedAttempt_isError (s : State) (st : RunSt) (h : String) (f : Faults) (e : Err) :
    (failedAttempt s st h f e).resp.err.isSome = true := by
  rw [failedAttempt_err]; rfl

theorem failedAttempt_seq (s : State) (st : RunSt) (h : String) (f : Faults) (e : Err) :
    (failedAttempt s st h f e).state.seq = st.seq := by
  unfold failedAttempt; split <;> rfl

theorem commitOrFail_cases (s : State) (st : RunSt) (h : String) (f : Faults) (cf : Bool) (log : Log) :
    ((commitOrFail s st h f cf log).state = { s with seq := st.seq } ∧
      (commitOrFail s st h f cf log).resp.err.isSome = true ∧
      (commitOrFail s st h f cf log).resp.err ≠ some .outOfFuel) ∨
    (cf = false ∧ (commitOrFail s st h f cf log).CommittedFrom st log) := by
  unfold commitOrFail
  split
  · exact Or.inl ⟨rfl, rfl, nofun⟩
  · cases cf
    · exact Or.inr ⟨rfl, rfl, rfl⟩
    · exact Or.inl ⟨rfl, rfl, nofun⟩

theorem finish_cases (s : State) (st : RunSt) (h : String) (f : Faults) (cf dry : Bool) (log : Log) :
    ((finish s st h f cf dry log).state = { s with seq := st.seq } ∧
      ((finish s st h f cf dry log).resp.err.isSome = true ∨ dry = true) ∧
      (finish s st h f cf dry log).resp.err ≠ some .outOfFuel) ∨
    (dry = false ∧ cf = false ∧ (finish s st h f cf dry log).CommittedFrom st log) := by
  unfold finish
  cases dry with
  | true => exact Or.inl ⟨rfl, Or.inr rfl, nofun⟩
  | false =>
    rw [if_neg Bool.false_ne_true]
    exact (commitOrFail_cases s st h f cf log).imp (fun hc => ⟨hc.1, Or.inl hc.2.1, hc.2.2⟩) (fun hc => ⟨rfl, hc⟩)

theorem recordedOutcome_cases (op : Op) (f : Faults) (s : State) (n : Nat) (o : Outcome) :
    (recordedOutcome op f s n o).state = o.state ∧
    ((recordedOutcome op f s n o).resp = o.resp ∨
     (recordedOutcome op f s n o).resp = { err := some .invalidIdempotencyInput } ∨
     ∃ log, op.ik ≠ "" ∧ readLogWithIK op.ik s.db = some log ∧
       (recordedOutcome op f s n o).resp = { hit := true, log := some log }) := by
  unfold recordedOutcome
  repeat' split
  all_goals first | exact ⟨rfl, Or.inl rfl⟩ | exact ⟨rfl, Or.inr (Or.inl rfl)⟩
                  | exact ⟨rfl, Or.inr (Or.inr ⟨_, ‹_›, ‹_›, rfl⟩)⟩

theorem recordedOutcome_state (op : Op) (f : Faults) (s : State) (n : Nat) (o : Outcome) :
    (recordedOutcome op f s n o).state = o.state := (recordedOutcome_cases op f s n o).1

theorem recordedOutcome_why (op : Op) (f : Faults) (s : State) (n : Nat) (o : Outcome)
    (h : o.resp.err.isSome = true) :
    (recordedOutcome op f s n o).resp.err.isSome = true ∨ (recordedOutcome op f s n o).resp.hit = true := by
  rcases (recordedOutcome_cases op f s n o).2 with hr | hr | ⟨_, _, _, hr⟩ <;> rw [hr]
  · exact Or.inl h
  · exact Or.inl rfl
  · exact Or.inr rfl

theorem recordedOutcome_not_outOfFuel (op : Op) (f : Faults) (s : State) (n : Nat) (o : Outcome)
    (h : o.resp.err ≠ some .outOfFuel) : (recordedOutcome op f s n o).resp.err ≠ some .outOfFuel := by
  rcases (recordedOutcome_cases op f s n o).2 with hr | hr | ⟨_, _, _, hr⟩ <;> rw [hr]
  · exact h
  · exact nofun
  · exact nofun

theorem failedThenRecorded_unchanged (op : Op) (s : State) (st : RunSt) (h : String) (f : Faults) (e : Err) :
    (failedThenRecorded op s st h f e).Unchanged s ∧ (failedThenRecorded op s st h f e).state.seq = st.seq ∧
    ((failedThenRecorded op s st h f e).resp.err.isSome = true ∨ (failedThenRecorded op s st h f e).resp.hit = true) ∧
    (e ≠ .outOfFuel → (failedThenRecorded op s st h f e).resp.err ≠ some .outOfFuel) := by
  have hne : e ≠ .outOfFuel → (failedAttempt s st h f e).resp.err ≠ some .outOfFuel := fun he => by
    rw [failedAttempt_err]; exact mt Option.some.inj he
  unfold failedThenRecorded Outcome.Unchanged
  split
  · exact ⟨failedAttempt_unchanged .., failedAttempt_seq .., Or.inl (failedAttempt_isError ..), hne⟩
  · rw [recordedOutcome_state]
    exact ⟨failedAttempt_unchanged .., failedAttempt_seq .., recordedOutcome_why _ _ _ _ _ (failedAttempt_isError ..),
      fun he => recordedOutcome_not_outOfFuel _ _ _ _ _ (hne he)⟩

/-- The lookup after a key conflict: a store error, the panic when no log carries
    the key, the input-mismatch error, or the hit. -/
theorem fetchAfterConflict_cases (op : Op) (f : Faults) (s : State) (seq : Seqs) (n : Nat) (trace : List String) :
    (fetchAfterConflict op f s seq n trace).state = { s with seq := seq } ∧
    ((∃ k, (fetchAfterConflict op f s seq n trace).resp = { err := some (.store k) }) ∨
     (readLogWithIK op.ik s.db = none ∧ (fetchAfterConflict op f s seq n trace).resp = { err := some .panic }) ∨
     (fetchAfterConflict op f s seq n trace).resp = { err := some .invalidIdempotencyInput } ∨
     ∃ log, (fetchAfterConflict op f s seq n trace).resp = { hit := true, log := some log }) := by
  unfold fetchAfterConflict
  repeat' split
  · exact ⟨rfl, Or.inl ⟨_, rfl⟩⟩
  · exact ⟨rfl, Or.inl ⟨_, rfl⟩⟩
  · exact ⟨rfl, Or.inr (Or.inl ⟨‹_›, rfl⟩)⟩
  · exact ⟨rfl, Or.inr (Or.inr (Or.inl rfl))⟩
  · exact ⟨rfl, Or.inr (Or.inr (Or.inr ⟨_, rfl⟩))⟩

/-- How an operation can end (`cf`: the COMMIT is made to fail). -/
inductive Ending (strict : Bool) (s : State) (op : Op) (cf : Bool) (o : Outcome) : Prop where
  /-- tables untouched (sequences may have advanced); the answer is an error, an
      idempotency hit, or a dry run -/
  | unchanged (h : o.Unchanged s) (hs : SeqLe s.seq o.state.seq)
      (why : o.resp.err.isSome = true ∨ o.resp.hit = true ∨ op.dry = true)
  /-- committed: `runLog` ran to completion on a transaction started from the
      committed tables and its tables were installed; success, not a hit, not a dry run -/
  | committed (st0 st : RunSt) (log : Log) (hn : String) (f : Faults) (n : Nat)
      (hd : op.dry = false) (hcf : cf = false) (h0 : st0.db = s.db) (hs0 : SeqLe s.seq st0.seq)
      (hrun : run op.now hn f (runLog strict op.kind op.ik op.ihash op.sv n) st0 = (.ok log, st))
      (h : o.CommittedFrom st log)

theorem Ending.db_eq {strict : Bool} {s : State} {op : Op} {cf : Bool} {o : Outcome}
    (he : Ending strict s op cf o) (hw : o.resp.isError = true ∨ o.resp.hit = true ∨ op.dry = true) :
    o.state.db = s.db := by
  rcases he with ⟨hu, _, _⟩ | ⟨_, _, _, _, _, _, hd, _, _, _, _, hc⟩
  · exact hu
  · rw [Resp.isError, hc.2, hd] at hw
    rcases hw with h | h | h <;> cases h

theorem Ending.ind {strict : Bool} {s : State} {op : Op} {cf : Bool} {o : Outcome} (he : Ending strict s op cf o)
    {P : Db → Seqs → Prop} (hseq : ∀ sq, SeqLe s.seq sq → P s.db sq)
    (hrun : ∀ hn f n st0 st log, st0.db = s.db → SeqLe s.seq st0.seq →
      run op.now hn f (runLog strict op.kind op.ik op.ihash op.sv n) st0 = (.ok log, st) → P st.db st.seq) :
    P o.state.db o.state.seq := by
  rcases he with ⟨hu, hs, _⟩ | ⟨st0, st, log, hn, f, n, _, _, h0, hs0, hr, hc⟩
  · rw [hu]; exact hseq _ hs
  · rw [hc.1]; exact hrun hn f n st0 st log h0 hs0 hr

theorem runTx_failed {strict : Bool} {op : Op} {f : Faults} {cf : Bool} {s : State} {i tx : Nat} {seq : Seqs} {n : Nat}
    {trace : List String} {e : Err} {seq' : Seqs} {n' : Nat} {trace' : List String}
    (h : runTx strict op f cf s i tx seq n trace = .failed e seq' n' trace') :
    SeqLe seq seq' ∧ n < n' ∧
    ((∃ kind, fires f n' = some kind ∧ e = .store kind.err) ∨ (e = .commitFailed ∧ cf = true) ∨
     ∃ st1, run op.now ("t" ++ toString tx) f (runLog strict op.kind op.ik op.ihash op.sv i)
         { db := s.db, seq := seq, n := n + 1, trace := trace ++ ["root BeginTX"] } = (.error e, st1) ∧
       n' = st1.n + 1 ∧ seq' = st1.seq) := by
  unfold runTx at h
  dsimp only at h
  split at h
  · cases h; exact ⟨SeqLe.refl _, Nat.lt_succ_self _, Or.inl ⟨_, ‹_›, rfl⟩⟩
  · have hs := run_seq op.now ("t" ++ toString tx) f (runLog strict op.kind op.ik op.ihash op.sv i)
      { db := s.db, seq := seq, n := n + 1, trace := trace ++ ["root BeginTX"] }
    have hn := run_n_le op.now ("t" ++ toString tx) f (runLog strict op.kind op.ik op.ihash op.sv i)
      { db := s.db, seq := seq, n := n + 1, trace := trace ++ ["root BeginTX"] }
    split at h <;> rename_i heq <;> rw [heq] at hs hn
    · split at h <;> cases h
      exact ⟨hs, Nat.lt_succ_of_le (Nat.le_of_succ_le hn), Or.inr (Or.inr ⟨_, heq, rfl, rfl⟩)⟩
    · split at h
      · cases h
      · split at h
        · cases h; exact ⟨hs, Nat.lt_succ_of_le (Nat.le_of_succ_le hn), Or.inl ⟨_, ‹_›, rfl⟩⟩
        · split at h <;> cases h
          exact ⟨hs, Nat.lt_succ_of_le (Nat.le_of_succ_le hn), Or.inr (Or.inl ⟨rfl, ‹_›⟩)⟩

theorem runTx_done {strict : Bool} {op : Op} {f : Faults} {cf : Bool} {s : State} {i tx : Nat} {seq : Seqs} {n : Nat}
    {trace : List String} {o : Outcome} (h : runTx strict op f cf s i tx seq n trace = .done o) :
    (SeqLe s.seq seq → Ending strict s op cf o) ∧ (o.resp.err = some .panic ∨ o.resp.err = none) := by
  unfold runTx at h
  dsimp only at h
  split at h
  · cases h
  · have hs := run_seq op.now ("t" ++ toString tx) f (runLog strict op.kind op.ik op.ihash op.sv i)
      { db := s.db, seq := seq, n := n + 1, trace := trace ++ ["root BeginTX"] }
    split at h <;> rename_i heq <;> rw [heq] at hs
    · split at h <;> cases h
      exact ⟨fun hseq => .unchanged rfl (hseq.trans hs) (Or.inl rfl), Or.inl rfl⟩
    · cases hd : op.dry <;> rw [hd] at h
      · rw [if_neg Bool.false_ne_true] at h
        split at h
        · cases h
        · split at h <;> cases h
          exact ⟨fun hseq => .committed _ _ _ _ f i hd (Bool.eq_false_iff.mpr ‹_›) rfl hseq heq ⟨rfl, rfl⟩, Or.inr rfl⟩
      · cases h
        exact ⟨fun hseq => .unchanged rfl (hseq.trans hs) (Or.inr (Or.inr hd)), Or.inr rfl⟩

def pendingDeadlocks (f : Faults) (n : Nat) : Nat :=
  f.countP (fun x => decide (x.kind = .deadlock ∧ n < x.at_))

theorem countP_lt_of_witness {α : Type} (l : List α) (p q : α → Bool) (hpq : ∀ x, p x = true → q x = true)
    (x : α) (hx : x ∈ l) (hq : q x = true) (hp : p x = false) : l.countP p < l.countP q := by
  induction l with
  | nil => cases hx
  | cons y r ih =>
    simp only [List.countP_cons]
    rcases List.mem_cons.mp hx with rfl | hx'
    · have hle : r.countP p ≤ r.countP q := List.countP_mono_left (fun z _ => hpq z)
      simp only [hq, hp, ↓reduceIte, Bool.false_eq_true]
      omega
    · have := ih hx'
      by_cases hpy : p y = true
      · simp only [hpy, hpq y hpy, ↓reduceIte]; omega
      · simp only [hpy, Bool.false_eq_true, ↓reduceIte]
        split <;> omega

theorem fires_mem (f : Faults) (m : Nat) (k : FaultKind) (h : fires f m = some k) :
    ∃ x ∈ f, x.kind = k ∧ x.at_ = m := by
  unfold fires at h
  split at h <;> cases h
  rename_i x hfind
  exact ⟨x, List.mem_of_find?_eq_some hfind, rfl, by simpa using List.find?_some hfind⟩

theorem pending_decreases (f : Faults) (n m n' : Nat) (hf : fires f m = some .deadlock) (h1 : n < m) (h2 : m ≤ n') :
    pendingDeadlocks f n' < pendingDeadlocks f n := by
  obtain ⟨x, hmem, hk, hat⟩ := fires_mem f m _ hf
  refine countP_lt_of_witness f _ _ ?_ x hmem ?_ ?_
  · intro y hy
    simp only [decide_eq_true_eq] at hy ⊢
    exact ⟨hy.1, by omega⟩
  · simp only [decide_eq_true_eq]; exact ⟨hk, by omega⟩
  · simp only [decide_eq_false_iff_not, not_and]; intro _; omega

theorem runTx_deadlock_consumes {strict : Bool} {op : Op} {f : Faults} {cf : Bool} {s : State} {i tx : Nat} {seq : Seqs}
    {n : Nat} {trace : List String} {seq' : Seqs} {n' : Nat} {trace' : List String}
    (h : runTx strict op f cf s i tx seq n trace = .failed (.store .deadlock) seq' n' trace') :
    pendingDeadlocks f n' < pendingDeadlocks f n := by
  obtain ⟨_, hlt, ⟨kind, hf, he⟩ | hc | ⟨st1, hrun, rfl, _⟩⟩ := runTx_failed h
  · cases kind_err_deadlock kind (Err.store.inj he).symm
    exact pending_decreases f n n' n' hf hlt (Nat.le_refl _)
  · cases hc.1
  · obtain ⟨hf, hlt'⟩ := run_deadlock_origin (runLog_all strict op.kind op.ik op.ihash op.sv i) hrun
    exact pending_decreases f n st1.n (st1.n + 1) hf (Nat.lt_of_succ_lt hlt') (Nat.le_succ _)

theorem runTx_failed_not_outOfFuel {strict : Bool} {op : Op} {f : Faults} {cf : Bool} {s : State} {i tx : Nat} {seq : Seqs}
    {n : Nat} {trace : List String} {e : Err} {seq' : Seqs} {n' : Nat} {trace' : List String}
    (h : runTx strict op f cf s i tx seq n trace = .failed e seq' n' trace') : e ≠ .outOfFuel := by
  obtain ⟨_, _, ⟨_, _, rfl⟩ | ⟨rfl, _⟩ | ⟨st1, hrun, _⟩⟩ := runTx_failed h
  · exact nofun
  · exact nofun
  · exact run_error_not_outOfFuel (runLog_all strict op.kind op.ik op.ihash op.sv i) hrun

theorem retryLoop_ending (strict : Bool) (op : Op) (f : Faults) (cf : Bool) (s : State) (fuel i tx : Nat) (seq : Seqs)
    (n : Nat) (trace : List String) (hseq : SeqLe s.seq seq) (hfuel : pendingDeadlocks f n < fuel) :
    Ending strict s op cf (retryLoop strict op f cf s fuel i tx seq n trace) ∧
    (retryLoop strict op f cf s fuel i tx seq n trace).resp.err ≠ some .outOfFuel := by
  induction fuel generalizing i tx seq n trace with
  | zero => exact absurd hfuel (Nat.not_lt_zero _)
  | succ fuel ih =>
    unfold retryLoop
    cases hr : runTx strict op f cf s i tx seq n trace with
    | done o =>
      refine ⟨(runTx_done hr).1 hseq, ?_⟩
      rcases (runTx_done hr).2 with h | h <;> rw [h] <;> exact nofun
    | failed e seq' n' trace' =>
      have hs' := hseq.trans (runTx_failed hr).1
      dsimp only
      split
      · -- only a planned fault answers a deadlock, and it fires once: one fewer is pending
        rename_i hd
        subst hd
        have := runTx_deadlock_consumes hr
        exact ih _ _ _ _ _ hs' (by omega)
      · split
        · obtain ⟨hst, hw⟩ := fetchAfterConflict_cases op f s seq' (n' + 1) trace'
          refine (And.imp_left (.unchanged (by rw [Outcome.Unchanged, hst]) (hst ▸ hs'))) ?_
          rcases hw with ⟨_, hr⟩ | ⟨_, hr⟩ | hr | ⟨_, hr⟩ <;> rw [hr]
          · exact ⟨Or.inl rfl, nofun⟩
          · exact ⟨Or.inl rfl, nofun⟩
          · exact ⟨Or.inl rfl, nofun⟩
          · exact ⟨Or.inr (Or.inl rfl), nofun⟩
        · refine ⟨.unchanged ?_ ?_ ((recordedOutcome_why op f s (n' + 1) _ rfl).imp_right Or.inl),
            recordedOutcome_not_outOfFuel _ _ _ _ _ (mt Option.some.inj (runTx_failed_not_outOfFuel hr))⟩
          · rw [Outcome.Unchanged, recordedOutcome_state]
          · rw [recordedOutcome_state]; exact hs'

/-- The "incoherent error, received duplicate IK but log not found" panic of
    `forgeLogRetry` is unreachable under the store contract: when an attempt fails
    with a conflict the store itself reported, the lookup on the root handle finds
    the log. -/
theorem conflict_panic_unreachable (strict : Bool) (op : Op) (f : Faults) (cf : Bool) (s : State) (i tx : Nat)
    (seq : Seqs) (n : Nat) (trace : List String) (seq' : Seqs) (n' : Nat) (trace' : List String)
    (hnof : ∀ x ∈ f, x.kind ≠ .ikConflict)
    (h : runTx strict op f cf s i tx seq n trace = .failed (.store .ikConflict) seq' n' trace') :
    (fetchAfterConflict op f s seq' (n' + 1) trace').resp.err ≠ some .panic := by
  have noinj : ∀ m, fires f m ≠ some .ikConflict := fun m hm =>
    have ⟨x, hx, hk, _⟩ := fires_mem f m _ hm
    hnof x hx hk
  have hfound : (readLogWithIK op.ik s.db).isSome = true := by
    obtain ⟨_, _, ⟨kind, hf, he⟩ | hc | ⟨st1, hrun, _⟩⟩ := runTx_failed h
    · cases kind_err_conflict kind (Err.store.inj he).symm
      exact absurd hf (noinj _)
    · cases hc.1
    · exact runLog_conflict_log_found op.now _ f strict op.kind op.ik op.ihash op.sv i _ st1 noinj hrun
  rcases (fetchAfterConflict_cases op f s seq' (n' + 1) trace').2 with ⟨_, hr⟩ | ⟨hnone, _⟩ | hr | ⟨_, hr⟩
  · rw [hr]; exact nofun
  · rw [hnone] at hfound; cases hfound
  · rw [hr]; exact nofun
  · rw [hr]; exact nofun

end Ledger.Ctrl
