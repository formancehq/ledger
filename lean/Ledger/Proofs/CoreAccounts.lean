import Ledger.Proofs.CoreStore
import Ledger.Spec.Accounts

/-! C18 algebra: the `accounts` table of the abstract store follows the history. -/
namespace Ledger.Spec
open Ledger.Base Ledger.Core

/-- effect of one upsert row with a first usage on the dates of an account -/
def stepDates (ts ins : Int) : Option (Int × Int) → Option (Int × Int)
  | none => some (ts, ins)
  | some (fu, i) => some (if ts < fu then ts else fu, i)

theorem stepDates_idem (ts ins : Int) (c : Option (Int × Int)) :
    stepDates ts ins (stepDates ts ins c) = stepDates ts ins c := by
  rcases c with _ | ⟨fu, i⟩
  · simp [stepDates]
  · simp only [stepDates]; split <;> simp [*]

/-- … and of any upsert row; `fu = none` is the metadata-only upsert, which leaves the dates of an
    existing account alone. -/
def upsertDates (fu : Option Int) (date : Int) : Option (Int × Int) → Int × Int
  | none => (fu.getD date, date)
  | some (f, i) => (match fu with | some x => if x < f then x else f | none => f, i)

theorem stepDates_eq (ts ins : Int) (c : Option (Int × Int)) :
    stepDates ts ins c = some (upsertDates (some ts) ins c) := by
  rcases c with _ | ⟨fu, i⟩ <;> rfl

theorem datesStep_eq (a : String) (cur : Option (Int × Int)) (t : TxIn) :
    datesStep a cur t = if t.involves a then stepDates t.timestamp t.insertedAt cur else cur := by
  unfold datesStep
  split
  · rcases cur with _ | ⟨fu, i⟩ <;> rfl
  · rfl

def datesAt (m : Map String AccountRow) (a : String) : Option (Int × Int) := (m.get? a).map AccountRow.dates

/-- the row `UpsertAccounts` leaves at an address that held `o` (as `Reads.upsertRow`, without revisions) -/
def upsertRowO (o : Option AccountRow) (fu : Option Int) (date : Int) (md : Metadata) : AccountRow :=
  match o with
  | some a =>
    if (match fu with | some f => decide (f < a.firstUsage) | none => false) || !metaContains a.metadata md then
      { a with metadata := metaMerge a.metadata md,
               firstUsage := (match fu with | some f => if f < a.firstUsage then f else a.firstUsage | none => a.firstUsage),
               updatedAt := date }
    else a
  | none => { firstUsage := fu.getD date, insertionDate := date, updatedAt := date, metadata := md }

theorem upsertAccount_get? {m : Map String AccountRow} (hw : Map.WF m) (k : String) (fu : Option Int) (date : Int)
    (md : Metadata) :
    Map.WF (upsertAccount m k fu date md) ∧
    ∀ k', Map.get? (upsertAccount m k fu date md) k' =
      if k' = k then some (upsertRowO (Map.get? m k) fu date md) else Map.get? m k' := by
  unfold upsertAccount upsertRowO
  cases hg : Map.get? m k with
  | none => exact ⟨Map.WF_insert _ _ hw, fun k' => Map.get?_insert k k' _ m⟩
  | some a =>
    dsimp only
    generalize ((match fu with | some f => decide (f < a.firstUsage) | none => false) || !metaContains a.metadata md) = c
    cases c
    · simp only [Bool.false_eq_true, if_false]
      refine ⟨hw, fun k' => ?_⟩
      split
      · next e => rw [e, hg]
      · rfl
    · simp only [if_true]
      exact ⟨Map.WF_insert _ _ hw, fun k' => Map.get?_insert k k' _ m⟩

theorem dates_upsertRowO (o : Option AccountRow) (fu : Option Int) (date : Int) (md : Metadata) :
    (upsertRowO o fu date md).dates = upsertDates fu date (o.map AccountRow.dates) := by
  unfold upsertRowO
  rcases o with _ | a
  · rfl
  · rcases fu with _ | f <;> dsimp only [Option.map_some, upsertDates, AccountRow.dates] <;> split
    · rfl
    · rfl
    · rfl
    · next h => rw [if_neg (fun hlt => h (by simp [hlt]))]

theorem upsertAccount_dates {m : Map String AccountRow} (hw : Map.WF m) (a : String) (fu : Option Int) (date : Int)
    (md : Metadata) :
    Map.WF (upsertAccount m a fu date md) ∧
    ∀ b, datesAt (upsertAccount m a fu date md) b =
      if b = a then some (upsertDates fu date (datesAt m a)) else datesAt m b :=
  (upsertAccount_get? hw a fu date md).imp_right fun h b => by
    unfold datesAt
    rw [h b]
    split
    · exact congrArg some (dates_upsertRowO _ _ _ _)
    · rfl

theorem upsert_fold_spec {α : Type} (key : α → String) (mdOf : α → Metadata) (ts ins : Int) (L : List α)
    {m : Map String AccountRow} (hw : Map.WF m) :
    Map.WF (L.foldl (fun acc e => upsertAccount acc (key e) (some ts) ins (mdOf e)) m) ∧
    ∀ b, datesAt (L.foldl (fun acc e => upsertAccount acc (key e) (some ts) ins (mdOf e)) m) b =
      if b ∈ L.map key then stepDates ts ins (datesAt m b) else datesAt m b := by
  induction L generalizing m with
  | nil => exact ⟨hw, fun b => by simp⟩
  | cons e L ih =>
    obtain ⟨hw1, h1⟩ := upsertAccount_dates hw (key e) (some ts) ins (mdOf e)
    obtain ⟨hw2, h2⟩ := ih hw1
    refine ⟨hw2, fun b => ?_⟩
    simp only [List.foldl_cons, List.map_cons, List.mem_cons]
    rw [h2 b, h1 b, ← stepDates_eq]
    by_cases hb : b = key e <;> by_cases hL : b ∈ L.map key <;> simp [hb, hL, stepDates_idem]

theorem mem_involvedAccounts (ps : List Posting) (a : String) :
    a ∈ involvedAccounts ps ↔ ∃ p ∈ ps, p.source = a ∨ p.destination = a :=
  (Map.mem_keys_foldl_inserts (fun p : Posting => [p.source, p.destination]) ps [] a).trans
    (by simp [Map.keys, eq_comm])

theorem involves_iff (t : TxIn) (a : String) :
    t.involves a = true ↔ (t.upsertAccounts = true ∧ (a ∈ involvedAccounts t.postings ∨ a ∈ t.accountMetadata.keys)) := by
  unfold TxIn.involves
  rw [Bool.and_eq_true, Bool.or_eq_true, Map.contains_iff_mem_keys, mem_involvedAccounts]
  simp only [List.any_eq_true, Bool.or_eq_true, beq_iff_eq]

theorem commitAccounts_dates {m : Map String AccountRow} (hw : Map.WF m) (t : TxIn) :
    Map.WF (commitAccounts m t) ∧ ∀ a, datesAt (commitAccounts m t) a = datesStep a (datesAt m a) t := by
  unfold commitAccounts
  by_cases hflag : t.upsertAccounts = true
  · rw [if_pos hflag]
    obtain ⟨hw1, h1⟩ := upsert_fold_spec (fun a => a) (fun a => (t.accountMetadata.get? a).getD []) t.timestamp t.insertedAt
      (involvedAccounts t.postings) hw
    obtain ⟨hw2, h2⟩ := upsert_fold_spec Prod.fst Prod.snd t.timestamp t.insertedAt
      (t.accountMetadata.filter (fun e => !(involvedAccounts t.postings).contains e.1)) hw1
    refine ⟨hw2, fun a => ?_⟩
    have hmem2 : a ∈ (t.accountMetadata.filter (fun e => !(involvedAccounts t.postings).contains e.1)).map Prod.fst ↔
        (a ∈ t.accountMetadata.keys ∧ a ∉ involvedAccounts t.postings) := by
      simp only [List.mem_map, List.mem_filter, Map.keys, Bool.not_eq_true', List.contains_eq_mem,
        decide_eq_false_iff_not]
      constructor
      · rintro ⟨e, ⟨he, hn⟩, rfl⟩; exact ⟨⟨e, he, rfl⟩, hn⟩
      · rintro ⟨⟨e, he, rfl⟩, hn⟩; exact ⟨e, ⟨he, hn⟩, rfl⟩
    have hinv := involves_iff t a
    rw [h2 a, h1 a, datesStep_eq, List.map_id']
    by_cases hi : a ∈ involvedAccounts t.postings
    · rw [if_neg (fun h => (hmem2.mp h).2 hi), if_pos hi, if_pos (hinv.mpr ⟨hflag, Or.inl hi⟩)]
    · by_cases hk : a ∈ t.accountMetadata.keys
      · rw [if_pos (hmem2.mpr ⟨hk, hi⟩), if_neg hi, if_pos (hinv.mpr ⟨hflag, Or.inr hk⟩)]
      · rw [if_neg (fun h => hk (hmem2.mp h).1), if_neg hi, if_neg (fun h => (hinv.mp h).2.elim hi hk)]
  · rw [if_neg hflag]
    refine ⟨hw, fun a => ?_⟩
    rw [datesStep_eq, if_neg (fun h => hflag ((involves_iff t a).mp h).1)]

theorem datesOfOps_snoc (ops : List StoreOp) (o : StoreOp) (a : String) :
    datesOfOps (ops ++ [o]) a = accountEventStep a (datesOfOps ops a) o := by
  simp [datesOfOps, List.foldl_append]

structure AccountsInv (st : Store) (done : List StoreOp) : Prop where
  wf : Map.WF st.accounts
  dates : ∀ a, datesAt st.accounts a = datesOfOps done a

theorem AccountsInv_exec {st : Store} {done : List StoreOp} (o : StoreOp) (inv : AccountsInv st done) :
    AccountsInv (o.exec st) (done ++ [o]) := by
  cases o with
  | commit t =>
    obtain ⟨hw, hd⟩ := commitAccounts_dates inv.wf t
    exact ⟨hw, fun a => by rw [datesOfOps_snoc, ← inv.dates a]; exact hd a⟩
  | lock keys => exact ⟨inv.wf, fun a => by rw [datesOfOps_snoc]; exact inv.dates a⟩
  | markReverted id a => exact ⟨inv.wf, fun b => by rw [datesOfOps_snoc]; exact inv.dates b⟩
  | saveAccountMeta a at_ md =>
    obtain ⟨hw, hd⟩ := upsertAccount_dates inv.wf a none at_ md
    refine ⟨hw, fun b => ?_⟩
    rw [datesOfOps_snoc, ← inv.dates b]
    show datesAt (upsertAccount st.accounts a none at_ md) b = if a = b then _ else _
    rw [hd b]
    by_cases hb : b = a
    · subst hb; rw [if_pos rfl, if_pos rfl]; cases datesAt st.accounts b <;> rfl
    · rw [if_neg hb, if_neg (Ne.symm hb)]

theorem AccountsInv_runOps {ops : List StoreOp} {st : Store} (h : runOps ops = .ok st) :
    AccountsInv st ops := by
  simpa using runOpsFrom_induction (fun _ _ o => AccountsInv_exec o) ops (done := [])
    ⟨Map.WF_nil, fun a => rfl⟩ h

theorem accountEventStep_untouched {a : String} {o : StoreOp} (h : o.touches a = false) (cur : Option (Int × Int)) :
    accountEventStep a cur o = cur := by
  cases o with
  | commit t =>
    simp only [StoreOp.touches] at h
    simp [accountEventStep, datesStep, h]
  | saveAccountMeta a' at_ md =>
    simp only [StoreOp.touches, beq_eq_false_iff_ne, ne_eq] at h
    simp [accountEventStep, h]
  | lock keys => rfl
  | markReverted id x => rfl

theorem accountEventStep_touched_isSome {a : String} {o : StoreOp} (h : o.touches a = true) (cur : Option (Int × Int)) :
    (accountEventStep a cur o).isSome = true := by
  cases o with
  | commit t =>
    simp only [StoreOp.touches] at h
    cases cur with
    | none => simp [accountEventStep, datesStep, h]
    | some p => obtain ⟨f, i⟩ := p; simp [accountEventStep, datesStep, h]
  | saveAccountMeta a' at_ md =>
    simp only [StoreOp.touches, beq_iff_eq] at h
    cases cur <;> simp [accountEventStep, h]
  | lock keys => simp [StoreOp.touches] at h
  | markReverted id x => simp [StoreOp.touches] at h

theorem foldl_accountEventStep_isSome (a : String) (ops : List StoreOp) (cur : Option (Int × Int)) (h : cur.isSome = true) :
    (ops.foldl (accountEventStep a) cur).isSome = true := by
  induction ops generalizing cur with
  | nil => exact h
  | cons o ops ih =>
    simp only [List.foldl_cons]
    apply ih
    by_cases ht : o.touches a = true
    · exact accountEventStep_touched_isSome ht cur
    · rw [accountEventStep_untouched (by simpa using ht)]; exact h

theorem foldl_accountEventStep_none_iff (a : String) (ops : List StoreOp) (cur : Option (Int × Int)) :
    ops.foldl (accountEventStep a) cur = none ↔ (cur = none ∧ ∀ o ∈ ops, o.touches a = false) := by
  induction ops generalizing cur with
  | nil => simp
  | cons o ops ih =>
    rw [List.foldl_cons, ih, List.forall_mem_cons]
    by_cases ht : o.touches a = true
    · have hs := accountEventStep_touched_isSome ht cur
      constructor
      · rintro ⟨hn, _⟩; rw [hn] at hs; cases hs
      · rintro ⟨_, hf, _⟩; rw [ht] at hf; cases hf
    · have hf : o.touches a = false := by simpa using ht
      rw [accountEventStep_untouched hf]
      exact ⟨fun ⟨hn, hall⟩ => ⟨hn, hf, hall⟩, fun ⟨hn, _, hall⟩ => ⟨hn, hall⟩⟩

theorem datesOfOps_none_iff (ops : List StoreOp) (a : String) : datesOfOps ops a = none ↔ ∀ o ∈ ops, o.touches a = false := by
  unfold datesOfOps
  rw [foldl_accountEventStep_none_iff]
  simp

theorem StoreOp.touches_iff (o : StoreOp) (a : String) :
    o.touches a = true ↔ (∃ t, o = .commit t ∧ t.involves a = true) ∨ ∃ at_ md, o = .saveAccountMeta a at_ md := by
  cases o <;> simp [StoreOp.touches]

/-- The account has dates iff some operation touches its row: a commit involving it, or metadata saved on it. -/
theorem datesOfOps_isSome_iff (ops : List StoreOp) (a : String) :
    (datesOfOps ops a).isSome = true ↔
      ((∃ t, StoreOp.commit t ∈ ops ∧ t.involves a = true) ∨ (∃ at_ md, StoreOp.saveAccountMeta a at_ md ∈ ops)) := by
  rw [← Option.ne_none_iff_isSome, Ne, datesOfOps_none_iff]
  simp only [Classical.not_forall, Bool.not_eq_false, StoreOp.touches_iff, exists_prop]
  constructor
  · rintro ⟨_, ho, ⟨t, rfl, hi⟩ | ⟨at_, md, rfl⟩⟩
    · exact Or.inl ⟨t, ho, hi⟩
    · exact Or.inr ⟨at_, md, ho⟩
  · rintro (⟨t, ht, hi⟩ | ⟨at_, md, hm⟩)
    · exact ⟨_, ht, Or.inl ⟨t, rfl, hi⟩⟩
    · exact ⟨_, hm, Or.inr ⟨at_, md, rfl⟩⟩

theorem accountEventStep_mono (a : String) (fu ins : Int) (o : StoreOp) :
    ∃ fu', accountEventStep a (some (fu, ins)) o = some (fu', ins) ∧ fu' ≤ fu ∧
      (∀ t, o = .commit t → t.involves a = true → fu' ≤ t.timestamp) := by
  cases o with
  | commit t =>
    simp only [accountEventStep, datesStep]
    by_cases hi : t.involves a = true
    · rw [if_pos hi]
      by_cases hlt : t.timestamp < fu
      · refine ⟨t.timestamp, by simp [hlt], by omega, ?_⟩
        intro t' ht' _; cases ht'; omega
      · refine ⟨fu, by simp [hlt], by omega, ?_⟩
        intro t' ht' _; cases ht'; omega
    · rw [if_neg hi]
      refine ⟨fu, rfl, by omega, ?_⟩
      intro t' ht' hi'; cases ht'; exact absurd hi' hi
  | saveAccountMeta a' at_ md =>
    refine ⟨fu, ?_, by omega, fun t ht => by cases ht⟩
    simp only [accountEventStep]; split <;> rfl
  | lock keys => exact ⟨fu, rfl, by omega, fun t ht => by cases ht⟩
  | markReverted id x => exact ⟨fu, rfl, by omega, fun t ht => by cases ht⟩

theorem foldl_accountEventStep_bound (a : String) (ops : List StoreOp) (cur : Option (Int × Int)) (fu ins : Int)
    (hr : ops.foldl (accountEventStep a) cur = some (fu, ins)) :
    (∀ t, StoreOp.commit t ∈ ops → t.involves a = true → fu ≤ t.timestamp) ∧ (∀ f0 i0, cur = some (f0, i0) → fu ≤ f0) := by
  induction ops generalizing cur with
  | nil =>
    simp only [List.foldl_nil] at hr
    refine ⟨fun t ht => by simp at ht, ?_⟩
    intro f0 i0 hc
    rw [hc] at hr
    simp only [Option.some.injEq, Prod.mk.injEq] at hr
    omega
  | cons o ops ih =>
    simp only [List.foldl_cons] at hr
    obtain ⟨h1, h2⟩ := ih _ hr
    cases cur with
    | some p =>
      obtain ⟨f0, i0⟩ := p
      obtain ⟨fu', hs, hle, hb⟩ := accountEventStep_mono a f0 i0 o
      have hfu := h2 _ _ hs
      refine ⟨?_, ?_⟩
      · intro t ht hti
        rcases List.mem_cons.mp ht with rfl | ht
        · have := hb t rfl hti; omega
        · exact h1 t ht hti
      · intro f1 i1 hc
        simp only [Option.some.injEq, Prod.mk.injEq] at hc
        omega
    | none =>
      refine ⟨?_, fun f0 i0 hc => by simp at hc⟩
      intro t ht hti
      rcases List.mem_cons.mp ht with rfl | ht
      · have hs : accountEventStep a none (.commit t) = some (t.timestamp, t.insertedAt) := by
          simp [accountEventStep, datesStep, hti]
        exact h2 _ _ hs
      · exact h1 t ht hti

theorem foldl_accountEventStep_attained (a : String) (ops : List StoreOp) (cur : Option (Int × Int)) (fu ins : Int)
    (hr : ops.foldl (accountEventStep a) cur = some (fu, ins)) :
    (∃ t, StoreOp.commit t ∈ ops ∧ t.involves a = true ∧ t.timestamp = fu) ∨
    (∃ md, StoreOp.saveAccountMeta a fu md ∈ ops) ∨ (∃ i0, cur = some (fu, i0)) := by
  induction ops generalizing cur with
  | nil => simp only [List.foldl_nil] at hr; exact Or.inr (Or.inr ⟨ins, hr⟩)
  | cons o ops ih =>
    simp only [List.foldl_cons] at hr
    rcases ih _ hr with ⟨x, hx, hxi, hxt⟩ | ⟨md, hmd⟩ | ⟨i0, hc⟩
    · exact Or.inl ⟨x, List.mem_cons_of_mem _ hx, hxi, hxt⟩
    · exact Or.inr (Or.inl ⟨md, List.mem_cons_of_mem _ hmd⟩)
    · cases o with
      | commit t =>
        simp only [accountEventStep] at hc
        by_cases hi : t.involves a = true
        · cases cur with
          | none =>
            simp [datesStep, hi] at hc
            exact Or.inl ⟨t, List.mem_cons_self, hi, hc.1⟩
          | some p =>
            obtain ⟨f0, j0⟩ := p
            simp only [datesStep, hi, if_true, Option.some.injEq, Prod.mk.injEq] at hc
            by_cases hlt : t.timestamp < f0
            · simp only [hlt, if_true] at hc
              exact Or.inl ⟨t, List.mem_cons_self, hi, hc.1⟩
            · simp only [hlt, if_false] at hc
              exact Or.inr (Or.inr ⟨j0, by rw [← hc.1]⟩)
        · have hs : datesStep a cur t = cur := by simp [datesStep, hi]
          rw [hs] at hc
          exact Or.inr (Or.inr ⟨i0, hc⟩)
      | saveAccountMeta a' at_ md =>
        simp only [accountEventStep] at hc
        by_cases ha : a' = a
        · subst ha
          cases cur with
          | none =>
            simp at hc
            exact Or.inr (Or.inl ⟨md, by rw [← hc.1]; exact List.mem_cons_self⟩)
          | some p => simp at hc; exact Or.inr (Or.inr ⟨i0, by rw [hc]⟩)
        · simp only [if_neg ha] at hc
          exact Or.inr (Or.inr ⟨i0, hc⟩)
      | lock keys => exact Or.inr (Or.inr ⟨i0, hc⟩)
      | markReverted id x => exact Or.inr (Or.inr ⟨i0, hc⟩)

/-- The first usage a journal gives an account is the minimum it claims to be: a lower bound of the
    timestamps of the commits that involve the account, attained by one of them or by the metadata
    save that created the account. -/
theorem firstUsage_min_of_dates (a : String) (ops : List StoreOp) (fu ins : Int)
    (h : datesOfOps ops a = some (fu, ins)) :
    (∀ t, StoreOp.commit t ∈ ops → t.involves a = true → fu ≤ t.timestamp) ∧
    ((∃ t, StoreOp.commit t ∈ ops ∧ t.involves a = true ∧ t.timestamp = fu) ∨
     (∃ md, StoreOp.saveAccountMeta a fu md ∈ ops)) :=
  ⟨(foldl_accountEventStep_bound a _ none _ _ h).1,
    (foldl_accountEventStep_attained a _ none _ _ h).imp_right fun h => h.resolve_right nofun⟩

end Ledger.Spec
