import Ledger.Proofs.SqlMovesLoop
import Ledger.Proofs.SqlUpdate

/-!
# The UPDATE of `update_effective_volumes`, on any `moves` table
-/
open Ledger Ledger.Sql Ledger.Generated Ledger.Core
namespace Ledger.Sql
open Ledger.Spec

/-- `update_effective_volumes` for the NEW row `n` of ledger `ln`: which rows, and what they become -/
def bumpCond (ln : String) (n : Spec.MoveRow) (p : String × Spec.MoveRow) : Bool :=
  decide (p.2.account = n.account ∧ p.2.asset = n.asset ∧ p.1 = ln ∧ n.effectiveDate < p.2.effectiveDate)

def bumpRow (n : Spec.MoveRow) (m : Spec.MoveRow) : Spec.MoveRow := { m with pcev := m.pcev.add n.delta }

/-- `update_effective_volumes` for NEW = `n` of ledger `ln`, on a typed row -/
def bumpP (ln : String) (n : Spec.MoveRow) (p : String × Spec.MoveRow) : String × Spec.MoveRow :=
  if bumpCond ln n p then (p.1, bumpRow n p.2) else p

def mvG (ln : String) (n : Spec.MoveRow) (vals : List Value) : Bool :=
  match mvDec vals with
  | some p => bumpCond ln n p
  | none => false

def mvF (n : Spec.MoveRow) (vals : List Value) : List Value :=
  match mvDec vals with
  | some p => mvVals p.1 (bumpRow n p.2)
  | none => vals

@[simp] theorem mvG_mvVals (ln : String) (n : Spec.MoveRow) (l : String) (m : Spec.MoveRow) : mvG ln n (mvVals l m) = bumpCond ln n (l, m) := by
  simp [mvG, mvDec_mvVals]
@[simp] theorem mvF_mvVals (n : Spec.MoveRow) (l : String) (m : Spec.MoveRow) : mvF n (mvVals l m) = mvVals l (bumpRow n m) := by
  simp [mvF, mvDec_mvVals]

/-- `update_effective_volumes` keeps `seq`, the key of `moves` -/
theorem mvUpdInv (b : String) (trigs : List TriggerDef) (nr : Nat) (w : World) (xid cid : Nat) (hx : xid ≠ 0) (hc : cid < 1000000000)
    (ln : String) (n : Spec.MoveRow) (bound : Int) :
    UpdInv (mvT b trigs nr) (mvG ln n) (mvF n) (latestView w xid) xid cid (fun r => ∃ l m, r.vals = mvVals l m)
      (MvInv (latestView w xid) bound) :=
  (UpdInv.of_key (mvT b trigs nr) (mvG ln n) (mvF n) w xid cid hx hc _
    (fun r _ ⟨l, m, hv, hlt⟩ _ => by rw [hv, mvF_mvVals]; exact ⟨⟨l, bumpRow n m, rfl, hlt⟩, by simp [bumpRow]⟩)
    (fun rows v ex s hs hall ⟨l, m, hv, _⟩ hno => by
      rw [hv]
      exact exec_findConflict_mv_ex b trigs nr rows l m ex s hs.solo bound hall fun q hq hvq hex => by
        simpa [hv] using hno q hq hvq hex)).congr (MvInv.iff_keyInv _ bound)


def countAcc (a : DmlAcc) (_ : Ver) : DmlAcc := { a with affected := a.affected + 1 }

theorem mvUpdSem (b ln : String) (n : Spec.MoveRow) (found : Bool) (trigs : List TriggerDef) (nr : Nat) (setE wher : Expr)
    (hsem : UpdEffSem setE wher)
    (hnb : trigs.filter (fun tr => tr.timing == .before && tr.event == .update) = [])
    (hna : trigs.filter (fun tr => tr.timing == .after && tr.event == .update) = []) :
    UpdSem (plEnvV (mvVals ln n) found []) (mvT b trigs nr) "" "moves" [SetItem.mk "post_commit_effective_volumes" setE] (some wher) []
      (mvG ln n) (mvF n) countAcc (fun _ => []) (fun r => ∃ l m, r.vals = mvVals l m) (fun s => VolTypes s.w.types) where
  hguard := by
    intro r ⟨l, m, hv⟩ k s _
    simp only [rowScopeOf, hv, mvT_colNames, mvG_mvVals, bumpCond]
    exact exec_whereHolds (hsem.hwher (cbs (k + 1)) s.w.types l ln m n found [] (some ((mvT b trigs nr).name, r.rid)) s)
  hsets := by
    intro r ⟨l, m, hv⟩ _ k rows s hS
    have hset : SetsOk (cbs (k + 2)) s.w.types { plEnvV (mvVals ln n) found [] with locals := [rowScopeOf (mvT b trigs nr) "moves" r] }
        ((mvT b trigs nr).withRows rows) s [SetItem.mk "post_commit_effective_volumes" setE]
        [("post_commit_effective_volumes", volVal (m.pcev.add n.delta))] :=
      ⟨⟨setE, { name := "post_commit_effective_volumes", ty := tyVolumes, notNull := false, dflt := some Expr.null }, _, rfl, hsem.notDflt,
        rfl, by rw [rowScopeOf, hv]; exact hsem.hset (cbs (k + 2)) s.w.types l ln m n found [] (some ((mvT b trigs nr).name, r.rid)) s,
        castTo_volumes_row _ hS _ _ _⟩, trivial⟩
    rw [exec_applySets_all (k + 2) _ _ _ _ _ s hset, hv, mvF_mvVals]
    rfl
  hchecks := by
    intro r ⟨l, m, hv⟩ _ rows s _
    rw [hv, mvF_mvVals]
    exact exec_checkConstraints_mv b trigs nr rows _ _ s
  hfks := by
    intro r _ _ rows s _
    exact exec_checkForeignKeys_mv b trigs nr rows _ s
  hbefore := hnb
  hafter := by
    intro r _ _ k rows s _
    rw [exec_queueAfter_none _ _ _ _ _ _ _ (by simpa [mvT, Table.withRows] using hna)]
    simp
  hacc := by
    intro r _ _ k rows s a _
    rw [accReturning]
    simp [countAcc]


/-- The UPDATE of `update_effective_volumes` for the NEW row `n` of ledger `ln`, run as a (nested) command on ANY stored rows of
    `moves`: the visible rows matching `bumpCond` get NEW's delta added to their effective volumes; nothing else changes. -/
theorem mv_update_exec (k : Nat) (b ln : String) (n : Spec.MoveRow) (found : Bool) (trigs : List TriggerDef) (nr : Nat)
    (setE wher : Expr) (hsem : UpdEffSem setE wher)
    (hnb : trigs.filter (fun tr => tr.timing == .before && tr.event == .update) = [])
    (hna : trigs.filter (fun tr => tr.timing == .after && tr.event == .update) = [])
    (s : St) (hs : TxState s) (hsp : s.searchPath = b) (hvt : VolTypes s.w.types) (rows : List Ver)
    (hT : s.w.table? (mvFull b) = some ((mvT b trigs nr).withRows rows))
    (bound : Int) (hS : MvStored (latestView s.w s.xid) s.xid s.cid nr bound rows) :
    ∃ res rows', (execStmt (k + 7) (plEnvV (mvVals ln n) found [])
        (Stmt.update [] "" "moves" "" [SetItem.mk "post_commit_effective_volumes" setE] [] (some wher) [])).exec s =
        (.ok res, s.withTable ((mvT b trigs nr).withRows rows')) ∧
      MvStored (latestView s.w s.xid) s.xid (s.cid + 1) nr bound rows' ∧
      (mvAbs (latestView s.w s.xid) rows').Perm ((mvAbs (latestView s.w s.xid) rows).map (bumpP ln n)) := by
  have hI := mvUpdInv b trigs nr s.w s.xid s.cid hs.xid hs.cid ln n bound
  have hP : ∀ r ∈ rows, r.visible (latestView s.w s.xid) = true → ∃ l m, r.vals = mvVals l m := fun r hr _ => by
    obtain ⟨l, m, hv, _⟩ := hS.inv.all r hr; exact ⟨l, m, hv⟩
  have hupd := exec_execUpdate_gen (k + 1) (plEnvV (mvVals ln n) found []) "" "moves" (mvFull b) "" "moves" _ _ [] (mvT b trigs nr) _ _ _ _ _
    (fun s => VolTypes s.w.types) (fun _ _ h => h) (fun _ _ h => h) (mvUpdSem b ln n found trigs nr setE wher hsem hnb hna) s hs hvt rows
    hT rfl (hsp ▸ exec_qualify_sp "moves" s) rfl hS.stored.fresh hS.stored.nodup hP (MvInv (latestView s.w s.xid) bound) hI hS.inv []
    (fun h => by simp at h)
  refine ⟨?_, _, ?_,
    ⟨(hS.stored.mono (Nat.le_succ _)).updAll s.w s.xid (s.cid + 1) (mvG ln n) (mvF n) hs.xid hs.cid (Nat.lt_succ_self _),
      hI.runAll hS.stored.nodup hP hS.inv⟩,
    (TView.upd (dec := mvDec) (fun p => mvDec_mvVals p.1 p.2) hS.view (mvG ln n) (mvF n)
      (visVals_updRun s.w s.xid s.cid hs.xid hs.cid (mvG ln n) (mvF n) rows hS.stored.nodup) (bumpCond ln n)
      (fun p => (p.1, bumpRow n p.2)) (fun p _ => mvG_mvVals ln n p.1 p.2) (fun p _ _ => mvF_mvVals n p.1 p.2)).2⟩
  rotate_left
  simp only [updQ_nil, addQ_nil] at hupd
  rw [execStmt_update_noCte, hupd]

end Ledger.Sql
