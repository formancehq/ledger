import Ledger.Proofs.SqlUpdate

/-!
# Nested commands: `withNewCid`, `withSearchPath`, a statement followed by its queue of AFTER triggers
-/
namespace Ledger.Sql

theorem exec_withNewCid {α : Type} (act : M α) (s s2 : St) (r : α) (h : act.exec s.enter = (.ok r, s2)) :
    (withNewCid act).exec s = (.ok r, s2.withCid s.cid) := by
  simp only [withNewCid, exec_bind, exec_get, exec_set, exec_modify, exec_pure]
  show (match act.exec s.enter with | (.ok a, s') => _ | (.error e, s') => _) = _
  rw [h]
  rfl

theorem exec_withSearchPath {α : Type} (sp : String) (act : M α) (s s2 : St) (r : α) (h : act.exec (s.withSP sp) = (.ok r, s2)) :
    (withSearchPath sp act).exec s = (.ok r, s2.withSP s.searchPath) := by
  simp only [withSearchPath, exec_bind, exec_get, exec_modify, exec_pure]
  show (match act.exec (s.withSP sp) with | (.ok a, s') => _ | (.error e, s') => _) = _
  rw [h]
  rfl

/-- one queued AFTER trigger, as `drainAfter` runs it -/
def drainStep (n : Nat) (_ : Unit) (p : PendingTrig) : M Unit := do
  let t ← getTable p.table
  let _ ← runTrigger n p.fname t p.new p.old
  pure ()

theorem exec_drainAfter_queue (n : Nat) (X X' : St) (hX : X.afterQ = []) (hX' : X'.afterQ = []) (Q : List PendingTrig)
    (hfold : (Q.foldlM (drainStep (n + 1)) ()).exec X = (.ok (), X')) :
    (drainAfter (n + 2)).exec (X.addQ Q) = (.ok (), X') := by
  cases Q with
  | nil =>
    simp only [List.foldlM_nil, exec_pure, Prod.mk.injEq, true_and] at hfold
    subst hfold
    rw [addQ_nil, drainAfter]
    simp [exec_bind, exec_get, hX]
  | cons p Q =>
    -- the queue is taken off the state, run from `X`, and the queue left by that run (none) drained in turn
    rw [drainAfter]
    have hq : (X.addQ (p :: Q)).afterQ = p :: Q := by simp [St.addQ, hX]
    have hcl : ({ X.addQ (p :: Q) with afterQ := [] } : St) = X := (rfl : _ = X.clearQ).trans (clearQ_of_empty X hX)
    simp only [exec_bind, exec_get, hq, List.isEmpty_cons, Bool.false_eq_true, if_false, exec_modify, hcl]
    have hf : ((p :: Q).foldlM (fun (_ : Unit) (p : PendingTrig) => do
        let t ← getTable p.table
        let _ ← runTrigger (n + 1) p.fname t p.new p.old
        pure ()) ()).exec X = (.ok (), X') := hfold
    rw [hf]
    simp only
    rw [drainAfter]
    simp [exec_bind, hX']

/-- a statement, then its queue: the statement ends in `X` plus the queue `Q`, and running the queued triggers in order from `X`
    ends in `X'` -/
theorem exec_runStmt_queue (n : Nat) (env : Env) (stmt : Stmt) (s X X' : St) (r : DmlResult) (Q : List PendingTrig)
    (h : (execStmt (n + 2) env stmt).exec s.clearQ = (.ok r, X.addQ Q)) (hX : X.afterQ = []) (hX' : X'.afterQ = [])
    (hfold : (Q.foldlM (drainStep (n + 1)) ()).exec X = (.ok (), X')) :
    (runStmt (n + 3) env stmt).exec s = (.ok r, { X' with afterQ := s.afterQ }) := by
  rw [runStmt]
  apply exec_seq (exec_get s)
  apply exec_seq (exec_modify _ s)
  apply exec_seq h
  apply exec_seq (exec_drainAfter_queue n X X' hX hX' Q hfold)
  rfl

theorem exec_runStmt_noAfter' (n : Nat) (env : Env) (stmt : Stmt) (s s' : St) (r : DmlResult)
    (h : (execStmt (n + 1) env stmt).exec s.clearQ = (.ok r, s')) (hq : s'.afterQ = []) :
    (runStmt (n + 2) env stmt).exec s = (.ok r, { s' with afterQ := s.afterQ }) := by
  have hdrain : (drainAfter (n + 1)).exec s' = (.ok (), s') := by
    rw [drainAfter]
    apply exec_seq (exec_get s')
    rw [hq]
    rfl
  rw [runStmt]
  apply exec_seq (exec_get s)
  apply exec_seq (exec_modify _ s)
  apply exec_seq h
  apply exec_seq hdrain
  rfl

theorem exec_runStmt_noAfter (n : Nat) (env : Env) (stmt : Stmt) (s : St) (r : DmlResult) (t : Table)
    (h : (execStmt (n + 1) env stmt).exec s.clearQ = (.ok r, s.clearQ.withTable t)) :
    (runStmt (n + 2) env stmt).exec s = (.ok r, s.withTable t) :=
  exec_runStmt_noAfter' n env stmt s _ r h rfl

end Ledger.Sql
