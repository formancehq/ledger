import Ledger.Proofs.InterpUnits
import Ledger.Api.InterpCompare

/-!
The unit expansion of a posting list determines its normal form under the comparison
the C26 differential applies (`Ledger.Api.Interp.norm`: drop the zero-amount postings,
merge adjacent postings of one (source, destination, asset)): two lists of postings with
amounts ≥ 0 and the same units have the same normal form.
-/
namespace Ledger.Interp
open Ledger.Machine

abbrev Key := String × String × String

/-- Put a run of `n` units of `k` in front of a run-length encoding. -/
def consRun (k : Key) (n : Nat) : List (Key × Nat) → List (Key × Nat)
  | [] => [(k, n)]
  | (k', m) :: tl => if k = k' then (k, n + m) :: tl else (k, n) :: (k', m) :: tl

def rle : List Key → List (Key × Nat)
  | [] => []
  | x :: xs => consRun x 1 (rle xs)

theorem consRun_consRun (k : Key) (a b : Nat) (r : List (Key × Nat)) :
    consRun k a (consRun k b r) = consRun k (a + b) r := by
  cases r with
  | nil => simp [consRun]
  | cons x tl =>
    obtain ⟨k', m⟩ := x
    by_cases h : k = k'
    · subst h; simp [consRun]; omega
    · simp [consRun, h]

theorem rle_replicate_append (k : Key) (n : Nat) (U : List Key) :
    rle (List.replicate (n + 1) k ++ U) = consRun k (n + 1) (rle U) := by
  induction n with
  | zero => simp [List.replicate, rle]
  | succ n ih =>
    rw [List.replicate_succ, List.cons_append, rle, ih, consRun_consRun]
    congr 1; omega

def toP1 (p : Posting) : Ledger.Api.Interp.P :=
  { source := p.source, destination := p.destination, asset := p.asset, amount := p.amount }

def toP (ps : List Posting) : List Ledger.Api.Interp.P := ps.map toP1

def enc (r : List (Key × Nat)) : List Ledger.Api.Interp.P :=
  r.map fun x => { source := x.1.1, destination := x.1.2.1, asset := x.1.2.2, amount := (x.2 : Int) }

open Ledger.Api.Interp in
/-- The normal form is the run-length encoding of the unit list, read back as postings. -/
theorem norm_eq_enc (ps : List Posting) (h : ∀ p ∈ ps, 0 ≤ p.amount) :
    norm (toP ps) = enc (rle (unitsP ps)) := by
  induction ps with
  | nil => simp [norm, toP, dropZeros, mergeAdjacent, enc, rle]
  | cons p ps ih =>
    have hp : 0 ≤ p.amount := h p (by simp)
    have ih' := ih (fun q hq => h q (by simp [hq]))
    simp only [norm, toP] at ih' ⊢
    by_cases hz : p.amount = 0
    · -- a zero posting disappears on both sides
      have : unitsP (p :: ps) = unitsP ps := by simp [unitsP, hz]
      rw [this, ← ih']
      simp [dropZeros, toP1, hz]
    · obtain ⟨n, hn⟩ : ∃ n : Nat, p.amount.toNat = n + 1 := ⟨p.amount.toNat - 1, by omega⟩
      have hu : unitsP (p :: ps) =
          List.replicate (n + 1) (p.source, p.destination, p.asset) ++ unitsP ps := by
        simp [unitsP, hn]
      have hpn : p.amount = ((n + 1 : Nat) : Int) := by rw [← hn, Int.toNat_of_nonneg hp]
      rw [hu, rle_replicate_append]
      have hd : dropZeros (List.map toP1 (p :: ps)) = toP1 p :: dropZeros (List.map toP1 ps) := by
        simp [dropZeros, toP1, hz]
      rw [hd, mergeAdjacent, ih']
      cases hr : rle (unitsP ps) with
      | nil =>
        simp only [enc, List.map_nil, consRun, List.map_cons, toP1, hpn]
      | cons x tl =>
        obtain ⟨⟨s, d, a⟩, m⟩ := x
        simp only [enc, List.map_cons, consRun, toP1]
        by_cases hk : (p.source, p.destination, p.asset) = (s, d, a)
        · have h3 : p.source = s ∧ p.destination = d ∧ p.asset = a := by
            simpa using hk
          obtain ⟨rfl, rfl, rfl⟩ := h3
          simp only [and_self, if_true, List.map_cons, hpn, Int.natCast_add]
        · have h3 : ¬ (p.source = s ∧ p.destination = d ∧ p.asset = a) := by
            intro x; exact hk (by simp [x.1, x.2.1, x.2.2])
          simp only [h3, hk, if_false, List.map_cons, hpn]

/-- Same units and amounts ≥ 0 ⇒ same normal form (what the differential compares). -/
theorem norm_eq_of_units {ps qs : List Posting} (hp : ∀ p ∈ ps, 0 ≤ p.amount)
    (hq : ∀ p ∈ qs, 0 ≤ p.amount) (h : unitsP ps = unitsP qs) :
    Ledger.Api.Interp.norm (toP ps) = Ledger.Api.Interp.norm (toP qs) := by
  rw [norm_eq_enc ps hp, norm_eq_enc qs hq, h]

end Ledger.Interp
