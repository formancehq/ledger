import Ledger.Proofs.CoreStore

/-! C15: reversed postings trade inputs and outputs; shape of the revert transaction; absence of
    panics. -/
namespace Ledger.Spec
open Ledger.Base Ledger.Core

theorem swap_swap (p : Posting) : p.swap.swap = p := by cases p; rfl

theorem reversePostings_involutive (ps : List Posting) : reversePostings (reversePostings ps) = ps := by
  unfold reversePostings
  rw [List.map_reverse, List.reverse_reverse, List.map_map]
  have : Posting.swap ∘ Posting.swap = id := funext swap_swap
  rw [this, List.map_id]

theorem inSum_reversePostings (k : Key) (ps : List Posting) : inSum k (reversePostings ps) = outSum k ps := by
  rw [inSum_eq, outSum_eq, reversePostings, sideSum_reverse, sideSum_map _ Posting.swap (fun _ => rfl)]; rfl

theorem outSum_reversePostings (k : Key) (ps : List Posting) : outSum k (reversePostings ps) = inSum k ps := by
  rw [inSum_eq, outSum_eq, reversePostings, sideSum_reverse, sideSum_map _ Posting.swap (fun _ => rfl)]; rfl

theorem get?_markReverts (m : Metadata) (hm : Map.WF m) (id : Nat) (key : String) :
    (markReverts m id).get? key = if key = revertMetaKey then some (toString id) else m.get? key := by
  unfold markReverts Map.insert
  rw [Map.get?_insertWith _ _ _ hm]
  by_cases h : key = revertMetaKey
  · simp only [h, if_true]; cases m.get? revertMetaKey <;> rfl
  · simp only [if_neg h]

theorem buildRevertTxV_ok {v : RevertCheck} {orig : Tx} {inp : RevertInput} {balances : Balances} {tx : Tx}
    (h : buildRevertTxV v orig inp balances = .ok tx) :
    ∃ id ts, orig.id = some id ∧ revertTimestamp orig inp.atEffectiveDate = .ok ts ∧
      tx = revertTxOf orig inp ts id := by
  unfold buildRevertTxV at h
  cases hts : revertTimestamp orig inp.atEffectiveDate with
  | error e => rw [hts] at h; simp at h
  | ok ts =>
    rw [hts] at h
    simp only [] at h
    cases hid : orig.id with
    | none => rw [hid] at h; simp at h
    | some id =>
      rw [hid] at h
      simp only [] at h
      refine ⟨id, ts, rfl, rfl, ?_⟩
      by_cases hf : inp.force = true
      · simp only [hf, if_true] at h; cases h; rfl
      · simp only [hf] at h
        cases hra : revertApply v balances (reversePostings orig.postings) with
        | error e => rw [hra] at h; simp at h
        | ok b =>
          rw [hra] at h
          simp only [] at h
          by_cases ho : anyOverdrawn b = true
          · simp [ho] at h
          · simp only [ho] at h; cases h; rfl

theorem buildRevertTx_shape (v : RevertCheck) (orig : Tx) (inp : RevertInput) (balances : Balances) (tx : Tx)
    (hm : Map.WF inp.metadata) (h : buildRevertTxV v orig inp balances = .ok tx) :
    tx.postings = reversePostings orig.postings ∧
    (∃ id, orig.id = some id ∧ tx.metadata.get? revertMetaKey = some (toString id)) ∧
    (∀ key, key ≠ revertMetaKey → tx.metadata.get? key = inp.metadata.get? key) ∧
    tx.timestamp = (if inp.atEffectiveDate then orig.timestamp else orig.revertedAt) ∧
    (inp.atEffectiveDate = false → orig.revertedAt ≠ none) ∧
    tx.id = none ∧ tx.reference = "" ∧ tx.revertedAt = none := by
  obtain ⟨id, ts, hid, hts, rfl⟩ := buildRevertTxV_ok h
  have hts' : ts = (if inp.atEffectiveDate then orig.timestamp else orig.revertedAt) ∧
      (inp.atEffectiveDate = false → orig.revertedAt ≠ none) := by
    unfold revertTimestamp at hts
    by_cases ha : inp.atEffectiveDate = true
    · simp only [ha, if_true] at hts; cases hts; simp [ha]
    · simp only [ha] at hts
      cases hr : orig.revertedAt with
      | none => rw [hr] at hts; simp at hts
      | some r => rw [hr] at hts; simp at hts; subst hts; simp [ha]
  refine ⟨rfl, ⟨id, hid, ?_⟩, ?_, hts'.1, hts'.2, rfl, rfl, rfl⟩
  · simp [revertTxOf, get?_markReverts _ hm]
  · intro key hk; simp [revertTxOf, get?_markReverts _ hm, hk]

theorem hasAccount_eq_keys (b : Balances) (a : String) : hasAccount b a = b.keys.any (fun k => k.1 == a) := by
  simp [hasAccount, Map.keys, List.any_map, Function.comp_def]

/-- Neither check panics when every debited pair is tracked and — for the pre-fix check — so is
    every credited pair whose account is.  Only the key set matters, and no step changes it. -/
theorem revertApply_no_panic (v : RevertCheck) (K : List Key) (rps : List Posting)
    (h : ∀ rp ∈ rps, rp.srcKey ∈ K ∧
      (v = .preFix → K.any (fun k => k.1 == rp.destination) = true → rp.dstKey ∈ K)) :
    ∀ b : Balances, b.keys = K → revertApply v b rps ≠ .error .nilDeref := by
  induction rps with
  | nil => intro b _; simp [revertApply]
  | cons rp rps ih =>
    intro b hb
    have ih' := ih (fun q hq => h q (List.mem_cons_of_mem _ hq))
    obtain ⟨hs, hd⟩ := h rp List.mem_cons_self
    have hsome : ∀ (b' : Balances) (k : Key), b'.keys = K → k ∈ K → ∃ x, b'.get? k = some x := fun b' k hb' hk =>
      Option.isSome_iff_exists.mp (Map.get?_isSome_iff_mem_keys.mpr (hb' ▸ hk))
    have hb1 : (b.adjust rp.srcKey (· - rp.amount)).keys = K := by rw [Map.keys_adjust, hb]
    obtain ⟨x, hx⟩ := hsome b _ hb hs
    unfold revertApply
    rw [hx]
    cases v with
    | preFix =>
      simp only []
      split
      · rename_i hacc
        rw [hasAccount_eq_keys, hb1] at hacc
        obtain ⟨y, hy⟩ := hsome _ _ hb1 (hd rfl hacc)
        rw [hy]
        exact ih' _ (by rw [Map.keys_adjust, hb1])
      · exact ih' _ hb1
    | current =>
      simp only []
      split
      · exact ih' _ (by rw [Map.keys_adjust, hb1])
      · exact ih' _ hb1

theorem dstKey_mem_involvedDestinations {ps : List Posting} {p : Posting} (h : p ∈ ps) :
    p.dstKey ∈ involvedDestinations ps :=
  (Map.mem_keys_foldl_inserts (fun p : Posting => [p.dstKey]) ps [] p.dstKey).mpr
    (Or.inr ⟨p, h, List.mem_singleton.mpr rfl⟩)

theorem buildRevertTxV_no_panic (v : RevertCheck) (orig : Tx) (inp : RevertInput) (balances : Balances)
    (hid : orig.id ≠ none) (hrev : orig.revertedAt ≠ none)
    (hnp : inp.force = false → revertApply v balances (reversePostings orig.postings) ≠ .error .nilDeref) :
    buildRevertTxV v orig inp balances ≠ .error .nilDeref := by
  unfold buildRevertTxV
  have hts : ∃ ts, revertTimestamp orig inp.atEffectiveDate = .ok ts := by
    unfold revertTimestamp
    by_cases ha : inp.atEffectiveDate = true
    · exact ⟨orig.timestamp, by simp [ha]⟩
    · cases hr : orig.revertedAt with
      | none => exact absurd hr hrev
      | some r => exact ⟨some r, by simp [ha]⟩
  obtain ⟨ts, hts⟩ := hts
  rw [hts]
  simp only []
  cases hi : orig.id with
  | none => exact absurd hi hid
  | some id =>
    simp only []
    by_cases hf : inp.force = true
    · simp [hf]
    · simp only [hf]
      have hnp' := hnp (by simpa using hf)
      cases hra : revertApply v balances (reversePostings orig.postings) with
      | error e =>
        simp only []
        intro he
        apply hnp'
        rw [hra]
        simpa using he
      | ok b =>
        simp only []
        by_cases ho : anyOverdrawn b = true <;> simp [ho]

end Ledger.Spec
