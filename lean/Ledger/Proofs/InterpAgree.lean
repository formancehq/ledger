import Ledger.Proofs.InterpTop
import Ledger.Proofs.InterpNorm

/-!
The C26 statement on the two MODELS, in the executable form the differential uses
(`sameSummary`), the full (false) statement, and the concrete witnesses of the
divergence classes.
-/
namespace Ledger.Interp
open Ledger.Machine

/-- What C26 observes of a run: postings, transaction metadata, account metadata (values
    rendered as the runtime adapters render them); a failed run has none (`mSum`, `iSum`). -/
abbrev Summary := List Posting × List (String × String) × List (String × String × String)

def mSum (p : Script) (inp : Input) : Option Summary :=
  match sem Cfg.fixed p inp with
  | .ok r => some (r.postings, r.txMeta.map (fun kv => (kv.1, valStr kv.2)),
      r.accMeta.map (fun x => (x.1, x.2.1, valStr x.2.2)))
  | .error _ => none

def iSum (p : Script) (inp : Input) : Option Summary :=
  match Ledger.Interp.run p inp with
  | .ok r => some (r.postings, r.txMeta.map (fun kv => (kv.1, valStr kv.2)), r.accMeta)
  | .error _ => none

/-- Both fail, or the same non-zero postings in the same order (`Ledger.Api.Interp.norm`:
    zero postings dropped, adjacent postings of one (source, destination, asset) merged — the
    relation the differential of the two real runtimes applies), the same transaction
    metadata and the same account metadata. -/
def sameSummary (a b : Option Summary) : Bool :=
  match a, b with
  | none, none => true
  | some x, some y =>
    decide (Ledger.Api.Interp.norm (toP x.1) = Ledger.Api.Interp.norm (toP y.1)) &&
    decide (x.2.1 = y.2.1) && decide (x.2.2 = y.2.2)
  | _, _ => false

def SameResult (p : Script) (inp : Input) : Prop := sameSummary (mSum p inp) (iSum p inp) = true

/-- C26 for every program the machine compiles: FALSE (see the counterexamples). -/
def machine_interp_agree_full : Prop :=
  ∀ (p : Script) (inp : Input), compiles p = true → SameResult p inp

/-- How a witness refutes the full statement: the machine compiles it, and the two summaries differ. -/
theorem refuted_by {p : Script} {inp : Input} {m i : Option Summary} (hc : compiles p = true)
    (hm : mSum p inp = m) (hi : iSum p inp = i) (hd : sameSummary m i = false) : ¬ machine_interp_agree_full := by
  intro h
  have := h p inp hc
  rw [SameResult, hm, hi, hd] at this
  cases this

theorem sameResult_of_agree {p : Script} {inp : Input}
    (h : Agree (sem Cfg.fixed p inp) (Ledger.Interp.run p inp)) : SameResult p inp := by
  unfold SameResult mSum iSum
  cases hm : sem Cfg.fixed p inp with
  | error e =>
    cases hi : Ledger.Interp.run p inp with
    | error e' => rfl
    | ok ri => rw [hm, hi] at h; simp [Agree] at h
  | ok rm =>
    cases hi : Ledger.Interp.run p inp with
    | error e' => rw [hm, hi] at h; simp [Agree] at h
    | ok ri =>
      rw [hm, hi] at h
      obtain ⟨h1, h2, h3, h4, h5⟩ := h
      simp only [sameSummary, Bool.and_eq_true, decide_eq_true_eq]
      exact ⟨⟨norm_eq_of_units h2 h3 h1, by rw [h4]⟩, h5⟩

def coin (n : Nat) : Expr := .mon (.asset "COIN") n
def acct (a : String) : Source := .account (.acct a) .none
def toA (a : String) : Dest := .account (.acct a)
def srcs (l : List Source) : Source := .inorder (SourceList.ofList l)

/-- Balances: `l` lists (account, COIN balance); everything else is 0. -/
def coinInput (l : List (String × Int)) (vars : List (String × String) := []) : Input :=
  { vars := vars,
    balance := fun a c => if c = "COIN" then (l.lookup a).getD 0 else 0,
    accountMeta := fun _ => some [] }

/-- `send [COIN 10] from {@alice @carol} to {max [COIN 4] kept, remaining to @bob}`, alice 5, carol 5. -/
def wKept : Script :=
  { vars := [],
    stmts := [.send (coin 10) (.src (srcs [acct "alice", acct "carol"]))
      (.inorder (.cons (coin 4) .kept .nil) (.to (toA "bob")))] }
def wKeptIn : Input := coinInput [("alice", 5), ("carol", 5)]

/-- `save [COIN 112] from @alice` (balance 15) then
    `send [COIN 17] from @alice allowing overdraft up to [COIN 36] to @bob`. -/
def wSaveOd : Script :=
  { vars := [],
    stmts := [.save (coin 112) (.acct "alice"),
      .send (coin 17) (.src (.account (.acct "alice") (.upTo (coin 36)))) (toA "bob")] }
def wSaveOdIn : Input := coinInput [("alice", 15)]

/-- `send [COIN 100] from @world to {$p to @a, 25% to @b, 1/2 to @c, remaining to @d}`, `$p = 1/2`. -/
def wPortions : Script :=
  { vars := [⟨.portion, "p", .none⟩],
    stmts := [.send (coin 100) (.src (acct "world"))
      (.allot (AllotDstList.ofList [(.var "p", .to (toA "a")), (.lit "25%", .to (toA "b")),
        (.lit "1/2", .to (toA "c")), (.remaining, .to (toA "d"))]))] }
def wPortionsIn : Input := coinInput [] [("p", "1/2")]

/-- `send [COIN 20] from {max [COIN 5] - [COIN 9] from @a, @b, @world} to @d`: a negative cap. -/
def wNegCap : Script :=
  { vars := [],
    stmts := [.send (coin 20)
      (.src (srcs [.maxed (.sub (coin 5) (coin 9)) (acct "a"), acct "b", acct "world"])) (toA "d")] }
def wNegCapIn : Input := coinInput [("a", 50), ("b", 7)]

/-- An account variable holding `world` used as a source. -/
def wWorldVar : Script :=
  { vars := [⟨.account, "w", .none⟩],
    stmts := [.send (coin 20) (.src (.account (.var "w") .none)) (toA "d")] }
def wWorldVarIn : Input := coinInput [] [("w", "world")]

/-- `save` of more than the balance: `save [COIN 30] from @a` (balance 10), `send [COIN 25]
    from @world to @a`, `send [COIN *] from @a to @d`. -/
def wSaveClamp : Script :=
  { vars := [],
    stmts := [.save (coin 30) (.acct "a"),
      .send (coin 25) (.src (acct "world")) (toA "a"),
      .sendAll (.asset "COIN") (.src (acct "a")) (toA "d")] }
def wSaveClampIn : Input := coinInput [("a", 10)]

/-- `save [COIN 5] + [COIN 3] from @a` (balance 20), then `send [COIN 14] from @a to @d`. -/
def wSaveExpr : Script :=
  { vars := [],
    stmts := [.save (.add (coin 5) (coin 3)) (.acct "a"),
      .send (coin 14) (.src (acct "a")) (toA "d")] }
def wSaveExprIn : Input := coinInput [("a", 20)]

/-- `set_tx_meta("k", 010/100)`: octal for the machine, decimal for the interpreter. -/
def wOctal : Script := { vars := [], stmts := [.setTxMeta "k" (.portion "010/100")] }

/-- An in-order destination whose third maximum is in another asset, reached after the funds
    are exhausted. -/
def wLateAsset : Script :=
  { vars := [],
    stmts := [.send (coin 10) (.src (acct "world"))
      (.inorder (.cons (coin 15) (.to (toA "b")) (.cons (coin 1) (.to (toA "c"))
        (.cons (.mon (.asset "GEM") 5) (.to (toA "c")) .nil))) (.to (toA "d")))] }

/-- `monetary $b = balance(@world, COIN)` with a negative balance of `@world`. -/
def wBalWorld : Script :=
  { vars := [⟨.monetary, "b", .balance (.acct "world") (.asset "COIN")⟩],
    stmts := [.setTxMeta "k" (.var "b")] }
def wBalWorldIn : Input := coinInput [("world", -100)]

/-- A variable nobody declared. -/
def wExtraIn : Input := coinInput [] [("extra", "1")]
def wPlain : Script := { vars := [], stmts := [.send (coin 10) (.src (acct "world")) (toA "d")] }

/-- `number $n = "007"` (the interpreter accepts it, the machine's JSON reader does not). -/
def wNumFmt : Script := { vars := [⟨.number, "n", .none⟩], stmts := [.setTxMeta "k" (.var "n")] }
def wNumFmtIn : Input := coinInput [] [("n", "007")]

/-- `vars { account $u  monetary $m }`
    `send $m from {max [COIN 30] from @a, $u allowing overdraft up to [COIN 20], @world} to {max [COIN 15] to @x, remaining to {max [COIN 100] to @y, remaining to @z}}`,
    `send [COIN *] from {@x  max [COIN 5] from @a} to $u`, `set_tx_meta("k", [COIN 1] + [COIN 2])`,
    `set_account_meta($u, "tag", 3/4)`. -/
def wF1 : Script :=
  { vars := [⟨.account, "u", .none⟩, ⟨.monetary, "m", .none⟩],
    stmts := [
      .send (.var "m")
        (.src (srcs [.maxed (coin 30) (acct "a"), .account (.var "u") (.upTo (coin 20)), acct "world"]))
        (.inorder (.cons (coin 15) (.to (toA "x")) .nil)
          (.to (.inorder (.cons (coin 100) (.to (toA "y")) .nil) (.to (toA "z"))))),
      .sendAll (.asset "COIN") (.src (srcs [acct "x", .maxed (coin 5) (acct "a")])) (.account (.var "u")),
      .setTxMeta "k" (.add (coin 1) (coin 2)),
      .setAccountMeta (.var "u") "tag" (.portion "3/4")] }
def wF1In : Input := coinInput [("a", 50), ("a2", 8), ("x", 3)] [("u", "a2"), ("m", "COIN 170")]
/-- A program of F2: `send [COIN 101] from {1/3 from {@a @world}, 10% from max [COIN 40] from @b
    allowing unbounded overdraft, remaining from @c allowing overdraft up to [COIN 50]}
    to {25% to @x, remaining to {max [COIN 7] to @y, remaining to @z}, 1/8 to @x}`. -/
def wF2 : Script :=
  { vars := [],
    stmts := [.send (coin 101)
      (.allot (AllotSrcList.ofList [
        (.lit "1/3", srcs [acct "a", acct "world"]),
        (.lit "10%", .maxed (coin 40) (.account (.acct "b") .unbounded)),
        (.remaining, .account (.acct "c") (.upTo (coin 50)))]))
      (.allot (AllotDstList.ofList [
        (.lit "25%", .to (toA "x")),
        (.remaining, .to (.inorder (.cons (coin 7) (.to (toA "y")) .nil) (.to (toA "z")))),
        (.lit "1/8", .to (toA "x"))]))] }
def wF2In : Input := coinInput [("a", 20), ("b", 1), ("c", 30)]

/-- a program of F1 that is not funded: both fail -/
def wF1Poor : Script :=
  { vars := [], stmts := [.send (coin 170) (.src (srcs [.maxed (coin 30) (acct "a"), acct "a2"])) (toA "x")] }

end Ledger.Interp
