import Ledger.Proofs.SchedBasic

/-!
# Advisory locks: mutual exclusion under any schedule
-/
namespace Ledger.Sched

/-- at most one session holds a key -/
def AdvWf (w : World) : Prop := ∀ a ∈ w.adv, ∀ b ∈ w.adv, a.key = b.key → a.sid = b.sid

/-- session `s` holds `key` (in either mode) -/
def Holds (w : World) (s : Sid) (key : Nat) : Prop := ∃ a ∈ w.adv, a.key = key ∧ a.sid = s

theorem advWf_filter (w : World) (p : Adv → Bool) (h : AdvWf w) : AdvWf { w with adv := w.adv.filter p } := by
  intro a ha b hb hk
  exact h a (List.mem_filter.mp ha).1 b (List.mem_filter.mp hb).1 hk

theorem holder?_none {adv : List Adv} {key : Nat} {s : Sid} (h : holder? adv key s = none) :
    ∀ a ∈ adv, a.key = key → a.sid = s := by
  intro a ha hk
  unfold holder? at h
  simp only [Option.map_eq_none_iff] at h
  have := List.find?_eq_none.mp h a ha
  simp only [Bool.and_eq_true, decide_eq_true_eq, not_and, Decidable.not_not] at this
  exact this hk

/-- a lock is granted only when nobody else holds the key -/
theorem advWf_append (w : World) (key : Nat) (s : Sid) (x : Bool) (h : AdvWf w)
    (hn : holder? w.adv key s = none) : AdvWf { w with adv := w.adv ++ [{ key := key, sid := s, xact := x }] } := by
  intro a ha b hb hk
  simp only [List.mem_append, List.mem_singleton] at ha hb
  rcases ha with ha | ha <;> rcases hb with hb | hb
  · exact h a ha b hb hk
  · subst hb; exact holder?_none hn a ha hk
  · subst ha; exact (holder?_none hn b hb hk.symm).symm
  · subst ha; subst hb; rfl

theorem advWf_step (w : World) (s : Sid) (h : AdvWf w) : AdvWf (step w s) :=
  step_inv (P := AdvWf) h (fun _ _ h => h) (fun _ h => h) (fun _ _ _ _ h => h)
    (advWf_filter w _ h) (fun _ => advWf_filter w _ h)
    (fun _ _ _ _ he => by
      cases he with
      | lock st key x _ hn => exact advWf_append w key s x h hn
      | unlock l => exact advWf_filter w _ h
      | _ => exact h)

theorem holds_excl {w : World} {s t : Sid} {key : Nat} (hwf : AdvWf w) (h : Holds w s key) (hts : t ≠ s) :
    ¬ Holds w t key := by
  intro ⟨b, hb, hbk, hbs⟩
  obtain ⟨a, ha, hak, has⟩ := h
  exact hts (hbs.symm.trans ((hwf a ha b hb (hak.trans hbk.symm)).symm.trans has))

/-- `lock_excludes` (advisory locks), any schedule: while `s` holds a key and does not move, no
    schedule of other sessions takes the key from it or shares it. -/
theorem lock_excludes_run (s : Sid) (key : Nat) (σ : Schedule) (w : World)
    (hwf : AdvWf w) (hheld : Holds w s key) (hσ : ∀ t ∈ σ, t ≠ s) :
    Holds (run σ w) s key ∧ ∀ t, t ≠ s → ¬ Holds (run σ w) t key := by
  obtain ⟨a, ha, hk, hs⟩ := hheld
  have hh : Holds (run σ w) s key := ⟨a, (sameFor_run hσ w).adv a ha hs, hk, hs⟩
  exact ⟨hh, fun t => holds_excl (run_inv AdvWf advWf_step σ w hwf) hh⟩

end Ledger.Sched
