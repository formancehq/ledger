import Ledger.Proofs.CoreVolumes

/-! C03 algebra: the reverse-unwinding loop of `CommitTransaction` equals the forward
running fold; `SubtractPostings` undoes the transaction's own postings. -/
namespace Ledger.Core
open Ledger.Base Ledger.Spec

/-! Pure forward application: a proof device; keys are assumed present. -/

def stepFwd (m : PCV) (p : Posting) : PCV :=
  (m.adjust p.srcKey (Volumes.addOut p.amount)).adjust p.dstKey (Volumes.addIn p.amount)

def applyFwd (m : PCV) (ps : List Posting) : PCV := ps.foldl stepFwd m

def HasKeys (m : PCV) (ps : List Posting) : Prop :=
  ∀ p ∈ ps, m.contains p.srcKey = true ∧ m.contains p.dstKey = true

/-- value at a key known to be present (proof device; never used on absent keys) -/
def vAt (m : PCV) (k : Key) : Volumes :=
  match m.get? k with
  | some v => v
  | none => Volumes.zero

def srcMove (p : Posting) (v : Volumes) : Move :=
  { account := p.source, asset := p.asset, amount := p.amount, isSource := true, pcv := v }
def dstMove (p : Posting) (v : Volumes) : Move :=
  { account := p.destination, asset := p.asset, amount := p.amount, isSource := false, pcv := v }

def fwdMoves : PCV → List Posting → List Move
  | _, [] => []
  | m, p :: ps =>
    srcMove p (vAt (m.adjust p.srcKey (Volumes.addOut p.amount)) p.srcKey) ::
    dstMove p (vAt (stepFwd m p) p.dstKey) :: fwdMoves (stepFwd m p) ps

theorem get?_of_contains {m : PCV} {k : Key} (h : m.contains k = true) : m.get? k = some (vAt m k) := by
  unfold Map.contains at h
  unfold vAt
  cases hg : m.get? k with
  | none => rw [hg] at h; simp at h
  | some v => rfl

@[simp] theorem contains_stepFwd (m : PCV) (p : Posting) (k : Key) :
    (stepFwd m p).contains k = m.contains k := by simp [stepFwd]

@[simp] theorem contains_applyFwd (m : PCV) (ps : List Posting) (k : Key) :
    (applyFwd m ps).contains k = m.contains k := by
  induction ps generalizing m with
  | nil => rfl
  | cons p ps ih => simp [applyFwd, List.foldl_cons] at *; rw [ih]; simp

theorem HasKeys_stepFwd {m : PCV} {ps : List Posting} (q : Posting) (h : HasKeys m ps) :
    HasKeys (stepFwd m q) ps := by
  intro p hp; simpa using h p hp

theorem HasKeys_cons {m : PCV} {p : Posting} {ps : List Posting} :
    HasKeys m (p :: ps) ↔ (m.contains p.srcKey = true ∧ m.contains p.dstKey = true) ∧ HasKeys m ps := by
  simp [HasKeys]

theorem fwdMoves_append (m : PCV) (ps : List Posting) (q : Posting) :
    fwdMoves m (ps ++ [q]) = fwdMoves m ps ++
      [srcMove q (vAt ((applyFwd m ps).adjust q.srcKey (Volumes.addOut q.amount)) q.srcKey),
       dstMove q (vAt (stepFwd (applyFwd m ps) q) q.dstKey)] := by
  induction ps generalizing m with
  | nil => simp [fwdMoves, applyFwd]
  | cons p ps ih =>
    simp only [List.cons_append, fwdMoves, ih, applyFwd, List.foldl_cons]

theorem addOutput_ok {m : PCV} {a s : String} (x : Int) (h : m.contains (a, s) = true) :
    PCV.addOutput m a s x = .ok (m.adjust (a, s) (Volumes.addOut x)) := by simp [PCV.addOutput, h]

theorem addInput_ok {m : PCV} {a s : String} (x : Int) (h : m.contains (a, s) = true) :
    PCV.addInput m a s x = .ok (m.adjust (a, s) (Volumes.addIn x)) := by simp [PCV.addInput, h]

theorem addOutput_src {m : PCV} {p : Posting} (x : Int) (h : m.contains p.srcKey = true) :
    PCV.addOutput m p.source p.asset x = .ok (m.adjust p.srcKey (Volumes.addOut x)) := addOutput_ok x h

theorem addInput_dst {m : PCV} {p : Posting} (x : Int) (h : m.contains p.dstKey = true) :
    PCV.addInput m p.destination p.asset x = .ok (m.adjust p.dstKey (Volumes.addIn x)) := addInput_ok x h

theorem runningMoves_eq {m : PCV} {ps : List Posting} (h : HasKeys m ps) :
    runningMoves m ps = .ok (fwdMoves m ps) := by
  induction ps generalizing m with
  | nil => rfl
  | cons p ps ih =>
    obtain ⟨⟨hs, hd⟩, hr⟩ := HasKeys_cons.mp h
    have hd1 : (m.adjust p.srcKey (Volumes.addOut p.amount)).contains p.dstKey = true := by simpa using hd
    have hs2 : (m.adjust p.srcKey (Volumes.addOut p.amount)).contains p.srcKey = true := by simpa using hs
    have hd2 : ((m.adjust p.srcKey (Volumes.addOut p.amount)).adjust p.dstKey (Volumes.addIn p.amount)).contains
        p.dstKey = true := by simpa using hd
    simp only [runningMoves, addOutput_src _ hs, addInput_dst _ hd1, get?_of_contains hs2, get?_of_contains hd2]
    rw [show Map.adjust p.dstKey _ (Map.adjust p.srcKey _ m) = stepFwd m p from rfl, ih (HasKeys_stepFwd p hr)]
    rfl

theorem applyPostings_eq {m : PCV} {ps : List Posting} (h : HasKeys m ps) :
    applyPostings m ps = .ok (applyFwd m ps) := by
  induction ps generalizing m with
  | nil => rfl
  | cons p ps ih =>
    obtain ⟨⟨hs, hd⟩, hr⟩ := HasKeys_cons.mp h
    have hd1 : (m.adjust p.srcKey (Volumes.addOut p.amount)).contains p.dstKey = true := by simpa using hd
    simp only [applyPostings, addOutput_src _ hs, addInput_dst _ hd1]
    exact ih (HasKeys_stepFwd p hr)

theorem addIn_cancel (x : Int) (v : Volumes) : Volumes.addIn (-x) (Volumes.addIn x v) = v := by
  apply Volumes.ext' <;> simp only [Volumes.addIn] <;> omega
theorem addOut_cancel (x : Int) (v : Volumes) : Volumes.addOut (-x) (Volumes.addOut x v) = v := by
  apply Volumes.ext' <;> simp only [Volumes.addOut] <;> omega
theorem addIn_addOut_comm (x y : Int) (v : Volumes) :
    Volumes.addIn x (Volumes.addOut y v) = Volumes.addOut y (Volumes.addIn x v) := rfl
theorem addIn_addIn_comm (x y : Int) (v : Volumes) :
    Volumes.addIn x (Volumes.addIn y v) = Volumes.addIn y (Volumes.addIn x v) := by
  apply Volumes.ext' <;> simp only [Volumes.addIn] <;> omega
theorem addOut_addOut_comm (x y : Int) (v : Volumes) :
    Volumes.addOut x (Volumes.addOut y v) = Volumes.addOut y (Volumes.addOut x v) := by
  apply Volumes.ext' <;> simp only [Volumes.addOut] <;> omega

theorem unwind_step {M : PCV} (q : Posting) (rest : List Posting)
    (hs : M.contains q.srcKey = true) (hd : M.contains q.dstKey = true) :
    unwind (stepFwd M q) (q :: rest) =
      match unwind M rest with
      | .error e => .error e
      | .ok r => .ok (dstMove q (vAt (stepFwd M q) q.dstKey) ::
                      srcMove q (vAt (M.adjust q.srcKey (Volumes.addOut q.amount)) q.srcKey) :: r) := by
  have hd2 : (stepFwd M q).contains q.dstKey = true := by simpa using hd
  have hs2 : (M.adjust q.srcKey (Volumes.addOut q.amount)).contains q.srcKey = true := by simpa using hs
  have e1 : Map.adjust q.dstKey (Volumes.addIn (-q.amount)) (stepFwd M q) =
      M.adjust q.srcKey (Volumes.addOut q.amount) := Map.adjust_cancel _ _ _ (addIn_cancel _) _
  have e2 : Map.adjust q.srcKey (Volumes.addOut (-q.amount)) (M.adjust q.srcKey (Volumes.addOut q.amount)) = M :=
    Map.adjust_cancel _ _ _ (addOut_cancel _) _
  simp only [unwind, get?_of_contains hd2, addInput_dst _ hd2, e1, get?_of_contains hs2, addOutput_src _ hs2, e2]
  cases unwind M rest <;> rfl

theorem unwind_applyFwd (qs : List Posting) (m : PCV) (h : HasKeys m qs.reverse) :
    unwind (applyFwd m qs.reverse) qs = .ok (fwdMoves m qs.reverse).reverse := by
  induction qs with
  | nil => rfl
  | cons q qs ih =>
    rw [List.reverse_cons] at h ⊢
    obtain ⟨h1, h2⟩ := List.forall_mem_append.mp h
    obtain ⟨⟨hs, hd⟩, _⟩ := HasKeys_cons.mp h2
    rw [applyFwd, List.foldl_append]
    show unwind (stepFwd (applyFwd m qs.reverse) q) (q :: qs) = _
    rw [unwind_step q qs (by simpa using hs) (by simpa using hd), ih h1, fwdMoves_append]
    simp

theorem movesOf_applyFwd (m : PCV) (ps : List Posting) (h : HasKeys m ps) :
    movesOf (applyFwd m ps) ps = .ok (fwdMoves m ps) := by
  unfold movesOf
  have := unwind_applyFwd ps.reverse m (by simpa using h)
  rw [List.reverse_reverse] at this
  rw [this]
  simp

theorem adjust_stepFwd_comm (k : Key) (f : Volumes → Volumes)
    (hin : ∀ x v, f (Volumes.addIn x v) = Volumes.addIn x (f v))
    (hout : ∀ x v, f (Volumes.addOut x v) = Volumes.addOut x (f v))
    (m : PCV) (p : Posting) :
    Map.adjust k f (stepFwd m p) = stepFwd (Map.adjust k f m) p := by
  unfold stepFwd
  rw [Map.adjust_comm k p.dstKey f _ (hin _), Map.adjust_comm k p.srcKey f _ (hout _)]

theorem adjust_applyFwd_comm (k : Key) (f : Volumes → Volumes)
    (hin : ∀ x v, f (Volumes.addIn x v) = Volumes.addIn x (f v))
    (hout : ∀ x v, f (Volumes.addOut x v) = Volumes.addOut x (f v))
    (m : PCV) (ps : List Posting) :
    Map.adjust k f (applyFwd m ps) = applyFwd (Map.adjust k f m) ps := by
  induction ps generalizing m with
  | nil => rfl
  | cons p ps ih =>
    simp only [applyFwd, List.foldl_cons] at *
    rw [ih, adjust_stepFwd_comm k f hin hout]

theorem unstep_stepFwd (m : PCV) (p : Posting) :
    Map.adjust p.dstKey (Volumes.addIn (-p.amount))
      (Map.adjust p.srcKey (Volumes.addOut (-p.amount)) (stepFwd m p)) = m := by
  unfold stepFwd
  rw [Map.adjust_comm p.srcKey p.dstKey (Volumes.addOut (-p.amount)) (Volumes.addIn p.amount)
    (fun v => (addIn_addOut_comm _ _ v).symm)]
  rw [Map.adjust_cancel _ _ _ (addOut_cancel _), Map.adjust_cancel _ _ _ (addIn_cancel _)]

theorem subtractLoop_applyFwd (m : PCV) (ps : List Posting) (h : HasKeys m ps) :
    PCV.subtractLoop (applyFwd m ps) ps = .ok m := by
  induction ps generalizing m with
  | nil => rfl
  | cons p ps ih =>
    obtain ⟨⟨hs, hd⟩, hr⟩ := HasKeys_cons.mp h
    have hA : (applyFwd m (p :: ps)).contains p.srcKey = true := by rw [contains_applyFwd]; exact hs
    have hB : (Map.adjust p.srcKey (Volumes.addOut (-p.amount)) (applyFwd m (p :: ps))).contains p.dstKey = true := by
      rw [Map.contains_adjust, contains_applyFwd]; exact hd
    have e : Map.adjust p.dstKey (Volumes.addIn (-p.amount))
        (Map.adjust p.srcKey (Volumes.addOut (-p.amount)) (applyFwd m (p :: ps))) = applyFwd m ps := by
      show Map.adjust p.dstKey _ (Map.adjust p.srcKey _ (applyFwd (stepFwd m p) ps)) = _
      rw [adjust_applyFwd_comm p.srcKey _ (fun x v => (addIn_addOut_comm x _ v).symm) (fun x v => addOut_addOut_comm _ x v),
          adjust_applyFwd_comm p.dstKey _ (fun x v => addIn_addIn_comm _ x v) (fun x v => addIn_addOut_comm _ x v),
          unstep_stepFwd]
    simp only [PCV.subtractLoop, addOutput_src _ hA, addInput_dst _ hB, bind, Except.bind, e]
    exact ih m hr

theorem subtractPostings_applyFwd (m : PCV) (ps : List Posting) (h : HasKeys m ps) :
    PCV.subtractPostings (applyFwd m ps) ps = .ok m := by
  unfold PCV.subtractPostings
  by_cases he : (applyFwd m ps).isEmpty = true
  · rw [if_pos he]
    have hm : m = [] := by
      cases m with
      | nil => rfl
      | cons e r =>
        exfalso
        have hc : (applyFwd (e :: r) ps).contains e.1 = true := by
          rw [contains_applyFwd]; simp [Map.contains, Map.get?]
        cases hx : applyFwd (e :: r) ps with
        | nil => rw [hx] at hc; simp [Map.contains] at hc
        | cons a b => rw [hx] at he; simp at he
    rw [hm]
  · rw [if_neg he]
    exact subtractLoop_applyFwd m ps h

theorem get?_stepFwd (m : PCV) (p : Posting) (k : Key) :
    (stepFwd m p).get? k = (m.get? k).map (fun v => v.add (foldVolumes k [p])) := by
  unfold stepFwd
  rw [Map.get?_adjust, Map.get?_adjust]
  cases m.get? k with
  | none => by_cases h1 : k = p.dstKey <;> by_cases h2 : k = p.srcKey <;> simp [h1, h2]
  | some v =>
    by_cases h1 : p.dstKey = k <;> by_cases h2 : p.srcKey = k <;>
      simp only [foldVolumes, inSum, outSum, h1, h2, eq_comm (a := k), if_true, if_false, Option.map_some] <;>
      congr 1 <;> apply Volumes.ext' <;> simp [Volumes.add, Volumes.addIn, Volumes.addOut]

theorem get?_applyFwd (m : PCV) (ps : List Posting) (k : Key) :
    (applyFwd m ps).get? k = (m.get? k).map (fun v => v.add (foldVolumes k ps)) := by
  induction ps generalizing m with
  | nil =>
    simp [applyFwd, foldVolumes, inSum, outSum, Volumes.add]
  | cons p ps ih =>
    simp only [applyFwd, List.foldl_cons] at *
    rw [ih, get?_stepFwd, foldVolumes_cons k p ps]
    cases m.get? k <;> simp [Volumes.add_assoc]

theorem WF_applyFwd {m : PCV} (hw : Map.WF m) (ps : List Posting) : Map.WF (applyFwd m ps) := by
  induction ps generalizing m with
  | nil => exact hw
  | cons p ps ih =>
    simp only [applyFwd, List.foldl_cons] at *
    exact ih (Map.WF_adjust _ _ (Map.WF_adjust _ _ hw))

end Ledger.Core

namespace Ledger.Spec
open Ledger.Base Ledger.Core

theorem hasKeys_of_applyPostings {m post : PCV} {ps : List Posting} (h : applyPostings m ps = .ok post) :
    HasKeys m ps := by
  induction ps generalizing m with
  | nil => intro p hp; simp at hp
  | cons p ps ih =>
    unfold applyPostings at h
    by_cases hs : m.contains (p.source, p.asset) = true
    · rw [addOutput_ok _ hs] at h
      simp only [] at h
      by_cases hd : (m.adjust (p.source, p.asset) (Volumes.addOut p.amount)).contains (p.destination, p.asset) = true
      · rw [addInput_ok _ hd] at h
        simp only [] at h
        have hr := ih h
        apply HasKeys_cons.mpr
        refine ⟨⟨hs, by rw [Map.contains_adjust] at hd; exact hd⟩, ?_⟩
        intro q hq
        have := hr q hq
        simpa using this
      · simp [PCV.addInput, hd] at h
    · simp [PCV.addOutput, hs] at h

end Ledger.Spec
