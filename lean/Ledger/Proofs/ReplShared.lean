import Ledger.Repl.Shared

/-! The refcount invariant of shared exporter drivers (`Ledger.Repl.Shared.Live`)
holds after every sequence of manager operations. -/
namespace Ledger.Repl.Shared

theorem live_init : Live MState.init := by
  constructor <;> simp [MState.init]

theorem live_startP {s : MState} (l : Live s) (p : Pipe) : Live (startP s p) := by
  unfold startP
  split
  · exact l
  · rename_i hp
    have hm : ∀ e, e ∈ (if p.exporter ∈ s.live then s.live else p.exporter :: s.live) ↔
        e = p.exporter ∨ e ∈ s.live := by
      intro e; split <;> simp_all
    refine ⟨fun q hq => (hm _).mpr ?_, fun e he => ?_, List.nodup_cons.mpr ⟨hp, l.nodupR⟩, ?_⟩
    · exact (List.mem_cons.mp hq).imp (congrArg _) (l.driver q)
    · rcases (hm e).mp he with rfl | e1
      · exact ⟨p, List.mem_cons_self, rfl⟩
      · obtain ⟨q, hq, hqe⟩ := l.user e e1
        exact ⟨q, List.mem_cons_of_mem _ hq, hqe⟩
    · split
      · exact l.nodupL
      · exact List.nodup_cons.mpr ⟨‹_›, l.nodupL⟩

theorem live_stopP {s : MState} (l : Live s) (p : Pipe) : Live (stopP s p) := by
  unfold stopP
  split
  · have hmem : ∀ q, q ∈ s.running.erase p ↔ q ≠ p ∧ q ∈ s.running := fun q => l.nodupR.mem_erase_iff
    split
    · -- a sibling pipeline keeps the driver
      rename_i hany
      obtain ⟨q', hq', he'⟩ := List.any_eq_true.mp hany
      refine ⟨fun q hq => l.driver q ((hmem q).mp hq).2, fun e he => ?_, l.nodupR.erase p, l.nodupL⟩
      obtain ⟨q, hq, hqe⟩ := l.user e he
      by_cases hqp : q = p
      · exact ⟨q', hq', (by simpa using he' : q'.exporter = p.exporter).trans (hqp ▸ hqe)⟩
      · exact ⟨q, (hmem q).mpr ⟨hqp, hq⟩, hqe⟩
    · rename_i hany
      have hnone : ∀ q ∈ s.running.erase p, q.exporter ≠ p.exporter :=
        fun q hq he => hany (List.any_eq_true.mpr ⟨q, hq, by simp [he]⟩)
      refine ⟨fun q hq => l.nodupL.mem_erase_iff.mpr ⟨hnone q hq, l.driver q ((hmem q).mp hq).2⟩, fun e he => ?_,
        l.nodupR.erase p, l.nodupL.erase _⟩
      have he' := l.nodupL.mem_erase_iff.mp he
      obtain ⟨q, hq, hqe⟩ := l.user e he'.2
      exact ⟨q, (hmem q).mpr ⟨fun h => he'.1 (h ▸ hqe.symm), hq⟩, hqe⟩
  · exact l

theorem live_startAll {s : MState} (l : Live s) (ps : List Pipe) : Live (startAll s ps) := by
  induction ps generalizing s with
  | nil => exact l
  | cons p ps ih => exact ih (live_startP l p)

theorem live_created {s : MState} (l : Live s) (c : List Pipe) : Live { s with created := c } :=
  ⟨l.driver, l.user, l.nodupR, l.nodupL⟩

theorem live_mstep {s : MState} (l : Live s) (o : MOp) : Live (mstep s o) := by
  cases o with
  | create p => simp only [mstep]; split; exact live_startP (live_created l _) p; exact l
  | start p => simp only [mstep]; split; exact live_startP l p; exact l
  | stop p => simp only [mstep]; split; exact live_stopP l p; exact l
  | reset p =>
    simp only [mstep]; split
    · split
      · exact live_startP (live_stopP l p) p
      · exact l
    · exact l
  | delete p => simp only [mstep]; split; exact live_created (live_stopP l p) _; exact l
  | sync => simp only [mstep]; split; exact live_startAll l _; exact l
  | mgrStop =>
    simp only [mstep]; split
    · constructor <;> simp
    · exact l
  | mgrStart =>
    simp only [mstep]; split
    · exact l
    · exact live_startAll (s := { s with mgrUp := true }) ⟨l.driver, l.user, l.nodupR, l.nodupL⟩ _

theorem live_reach {s : MState} (r : MReach s) : Live s := by
  induction r with
  | init => exact live_init
  | step o _ ih => exact live_mstep ih o

end Ledger.Repl.Shared
