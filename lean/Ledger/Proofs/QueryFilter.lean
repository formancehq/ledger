import Ledger.Query.Filter

/-! `Filter` is a nested inductive (`List Filter` under `$and` / `$or`).  Its list companions are the
    library's combinators over the members, and induction on a filter may take the branches of
    `$and` / `$or` as members of the list, so a fact about all filters needs no companion about lists. -/
namespace Ledger.Query

theorem Filter.ind {P : Filter → Prop} (leaf : ∀ op k v, P (.leaf op k v)) (not : ∀ f, P f → P (.not f))
    (and : ∀ fs, (∀ f ∈ fs, P f) → P (.and fs)) (or : ∀ fs, (∀ f ∈ fs, P f) → P (.or fs)) : ∀ f, P f :=
  @Filter.rec P (fun fs => ∀ f ∈ fs, P f) and or not leaf (fun _ h => nomatch h)
    (fun _ _ hh ht _ h => by cases h with | head => exact hh | tail _ h => exact ht _ h)

theorem evalAll_eq (sem : Op → String → Val → Bool) (fs : List Filter) :
    Filter.evalAll sem fs = fs.all (Filter.eval sem) := by
  induction fs with
  | nil => rfl
  | cons g gs ih => rw [Filter.evalAll, List.all_cons, ih]

theorem evalAny_eq (sem : Op → String → Val → Bool) (fs : List Filter) :
    Filter.evalAny sem fs = fs.any (Filter.eval sem) := by
  induction fs with
  | nil => rfl
  | cons g gs ih => rw [Filter.evalAny, List.any_cons, ih]

theorem mem_leavesList {l : Op × String × Val} {fs : List Filter} :
    l ∈ Filter.leavesList fs ↔ ∃ f ∈ fs, l ∈ f.leaves := by
  induction fs with
  | nil => simp [Filter.leavesList]
  | cons g gs ih => simp [Filter.leavesList, ih]

end Ledger.Query
