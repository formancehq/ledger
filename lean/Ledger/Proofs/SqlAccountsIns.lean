import Ledger.Proofs.SqlAccountsUpd
import Ledger.Proofs.SqlInsertRow

/-!
# `UpsertAccounts`: the CTE `inserted_rows` (INSERT INTO accounts … SELECT … FROM data_batch d WHERE d.address NOT IN (…) RETURNING …)
-/
open Ledger Ledger.Sql Ledger.Generated Ledger.Core
open Ledger.Generated.WriteSql.P (AccountRow)
namespace Ledger.Sql

/-- `SELECT address FROM existing_accounts` -/
def existsQ : Query :=
  Query.mk [] (SetExpr.select (Select.mk false [] [SelItem.expr (Expr.col "" "address") ""] [FromItem.table "" "existing_accounts" ""] none [] none))
    [] none none LockMode.none

theorem exec_existsQ (n : Nat) (env : Env) (E : List String) (s : St) (hcte : env.ctes.lookup "existing_accounts" = some (exRel E)) :
    (evalQuery (n + 6) env existsQ).exec s = (.ok (exRel E), s) := by
  have h := exec_evalQuery_cte n env "existing_accounts" "" ["address"] E (fun a => [Value.text a]) [(Expr.col "" "address", "")] none s hcte
    (fun _ => true) (fun a => [Value.text a]) (fun c hc => nomatch hc) (fun _ _ _ => rfl) rfl rfl (fun a _ _ =>
      EvalsAll.cons (.col (lookup_local_unq _ (cteScope "existing_accounts" ["address"] [Value.text a]) rfl "address" (.text a) rfl)) .nil s)
  rwa [List.filter_eq_self.mpr (fun _ _ => rfl)] at h

/-- the row `inserted_rows` inserts for a batch row -/
def insRow (l : String) (d : DbR) : AcR :=
  { ledger := l, address := d.address, aa := d.aa, ins := d.ins, upd := d.upd, md := jsonConcat d.dm d.md, fu := d.fu }

/-- the values its SELECT produces, in the order of the INSERT column list -/
def insSrcVals (l : String) (d : DbR) : List Value :=
  [.text d.address, .json (jsonConcat d.dm d.md), .ts d.fu, .ts d.upd, .ts d.ins, .text l, .json d.aa]

def insCols : List String := ["address", "metadata", "first_usage", "updated_at", "insertion_date", "ledger", "address_array"]

/-- the meaning of the SELECT of `inserted_rows` -/
structure UpsertInsSem (l : String) (items : List (Expr × String)) (wher : Expr) : Prop where
  hwher : ∀ (n : Nat) (env : Env) (d : DbR) (E : List String) (s : St), env.ctes.lookup "existing_accounts" = some (exRel E) →
    (do
      let v ← evalExpr (cbs (n + 7)) s.w.types { env with locals := [cteScope "d" dbCols d.vals] } wher
      pure ((← liftR v.truth) == some true)).exec s = (.ok (!E.contains d.address), s)
  hitems : ∀ (cb : Callbacks) (te : TypeEnv) (env : Env) (d : DbR) (s : St),
    (evalExprs cb te { env with locals := [cteScope "d" dbCols d.vals], group := none, wins := [] } (items.map (·.1))).exec s =
      (.ok (insSrcVals l d), s)
  hagg : Expr.anyHasAgg (items.map (·.1)) = false
  hwin : Expr.winsList (items.map (·.1)) = []

theorem lookup_d1 (env : Env) (dv : List Value) (c : String) (v : Value) (h : lookupIn dbCols dv c = some v) :
    lookupColumn { env with locals := [cteScope "d" dbCols dv] } "d" c = .ok v :=
  lookupColumn_alias _ "d" c (cteScope "d" dbCols dv) v rfl (by rw [lastComponent_d]; rfl) h

/-- `(SELECT batch_index FROM data_batch WHERE address = "<b>.accounts".address)` of the RETURNING list -/
def biSubQ (b : String) : Query :=
  Query.mk [] (SetExpr.select (Select.mk false [] [SelItem.expr (Expr.col "" "batch_index") ""] [FromItem.table "" "data_batch" ""]
    (some (Expr.binop BinOp.eq (Expr.col "" "address") (Expr.col (b ++ ".accounts") "address"))) [] none)) [] none none LockMode.none

def insReturning (b : String) : List SelItem :=
  [SelItem.expr (Expr.col "" "address") "", SelItem.expr (Expr.col "" "metadata") "", SelItem.expr (Expr.col "" "first_usage") "",
   SelItem.expr (Expr.col "" "updated_at") "", SelItem.expr (Expr.col "" "insertion_date") "", SelItem.expr (Expr.subq (biSubQ b)) ""]

/-- the final SELECT of `UpsertAccounts` -/
def upsertBody : SetExpr :=
  SetExpr.union true (SetExpr.select (Select.mk false [] [SelItem.star ""] [FromItem.table "" "updated_rows" ""] none [] none))
    (SetExpr.select (Select.mk false [] [SelItem.star ""] [FromItem.table "" "inserted_rows" ""] none [] none))

set_option linter.unusedSimpArgs false in
open Ledger.Generated.WriteSql in
/-- **The shape of `UpsertAccounts`** and the meaning of its expressions: the SET list and WHERE clause of `updated_rows`
    (`UpsertUpdRaw` on any rows, `UpsertUpdSem` on typed rows) and the SELECT feeding `inserted_rows`. The expressions are
    quantified, not named, so that the statement may be rendered with the operands of a symmetric operator in another order. -/
theorem upsertAccounts_shape4 (b l : String) (id : Nat) :
    ∃ (eMd eFu eUp wherU : Expr) (items : List (Expr × String)) (wherI : Expr),
      (∀ rows, P.upsertAccounts b l id rows =
        [Stmt.query (Query.mk [Cte.mk "data_batch" dbCols (dataBatchStmt rows), Cte.mk "existing_accounts" [] (existingStmt b l),
            Cte.mk "updated_rows" [] (Stmt.update [] b "accounts" "a"
              [SetItem.mk "metadata" eMd, SetItem.mk "first_usage" eFu, SetItem.mk "updated_at" eUp]
              [FromItem.table "" "data_batch" "d"] (some wherU) updReturning),
            Cte.mk "inserted_rows" [] (Stmt.insert [] b "accounts" "" insCols
              (InsertSrc.query (Query.mk [] (SetExpr.select (Select.mk false [] (items.map (fun p => SelItem.expr p.1 p.2))
                [FromItem.table "" "data_batch" "d"] (some wherI) [] none)) [] none none LockMode.none)) none (insReturning b))] upsertBody [] none none LockMode.none)]) ∧
      UpsertUpdRaw l eMd eFu wherU ∧ UpsertUpdSem l eMd eFu eUp wherU ∧ UpsertInsSem l items wherI := by
  refine ⟨_, _, _, _,
    [(Expr.col "d" "address", ""), (Expr.binop BinOp.concat (Expr.col "d" "default_metadata") (Expr.col "d" "metadata"), ""),
     (Expr.call "" "coalesce" [Expr.col "d" "first_usage", Expr.call b "transaction_date" []], ""),
     (Expr.call "" "coalesce" [Expr.col "d" "updated_at", Expr.call b "transaction_date" []], ""),
     (Expr.call "" "coalesce" [Expr.col "d" "insertion_date", Expr.call b "transaction_date" []], ""),
     (Expr.str l, ""), (Expr.col "d" "address_array", "")], _, fun rows => rfl, ?raw,
    UpsertUpdRaw.typed ?raw (fun cb te env a d src => Evals.of_pv _ ?up) nofun nofun nofun,
    ⟨?_, fun cb te env d => EvalsAll.of_pvs _ ?_, rfl, rfl⟩⟩
  case raw =>
    intro cb te env la addrA aaA insA updA mdA fuA addrD mdD fuD insD updD aaD dmD biD src s
    have a := fun c v h => lookup_a env (acVals la addrA aaA insA updA mdA fuA) (dbVals addrD mdD fuD insD updD aaD dmD biD) src c v h
    have d := fun c v h => lookup_d env (acVals la addrA aaA insA updA mdA fuA) (dbVals addrD mdD fuD insD updD aaD dmD biD) src c v h
    have aFu := a "first_usage" (.ts fuA) rfl
    have dFu := d "first_usage" (optTs fuD) rfl
    have aMd := a "metadata" (.json mdA) rfl
    have dMd := d "metadata" (.json mdD) rfl
    refine ⟨Evals.of_pv _ ?_ s, Evals.of_pv _ ?_ s, (Evals.of_pv (v := ofTruth _) _ ?_).truth (truth_ofTruth _) s⟩
    · -- LEAST is symmetric: `least_optTs_ts`, `least_ts_optTs` evaluate it on the operands in either order
      simp only [pv, pvs, callV, consV_ok, aFu, dFu, least_optTs_ts, least_ts_optTs, builtinSchema_empty, isCoalesce_least,
        Bool.false_eq_true, if_false, if_true, bind, Except.bind]
    · simp only [pv, binV_ok, aMd, dMd, evalBinop_concat_json, ne_eq, reduceCtorEq, not_false_eq_true]
    · -- each comparison is evaluated whichever way round it is written; the three-valued AND / OR are then decided case by case
      simp only [pv, binV_ok, aFu, dFu, aMd, dMd, a "address" (.text addrA) rfl, d "address" (.text addrD) rfl, a "ledger" (.text la) rfl,
        lookup_unq_a env (acVals la addrA aaA insA updA mdA fuA) (dbVals addrD mdD fuD insD updD aaD dmD biD) src "ledger" (.text la) rfl,
        evalBinop_eq_text, evalBinop_lt_optTs, evalBinop_gt_ts_optTs, evalBinop_contains_json, bool_ofTruth, binV_and3, binV_or3, unopV_not3,
        ne_eq, reduceCtorEq, not_false_eq_true]
      by_cases h1 : addrA = addrD <;> by_cases h2 : la = l <;> cases jsonContains mdA mdD <;> rcases fuD with _ | x <;>
        simp [h1, h2, eq_comm (a := addrD) (b := addrA), eq_comm (a := l) (b := la), and3, or3, not3] <;> by_cases h3 : x < fuA <;> simp [h3]
  case up =>
    -- COALESCE stops at its first operand, which is not NULL: `transaction_date()` is not called
    simp only [pv, pvCoalesce, coalesceV_ok, isCoalesce_coalesce, if_true, lookup_d env a.vals d.vals src "updated_at" (.ts d.upd) rfl]
    rfl
  · -- WHERE d.address NOT IN (SELECT address FROM existing_accounts)
    intro n env d E s hcte
    have d1 := lookup_d1 env d.vals "address" (.text d.address) rfl
    have hsub : (cbs (n + 7)).sub existsQ { env with locals := [cteScope "d" dbCols d.vals] } =
        evalQuery (n + 6) (subEnv { env with locals := [cteScope "d" dbCols d.vals] }) existsQ := rfl
    have hq := exec_existsQ n (subEnv { env with locals := [cteScope "d" dbCols d.vals] }) E s hcte
    have hin : inValues (Value.text d.address) (List.map (fun r => r.headD Value.null) (exRel E).rows) = .ok (some (E.contains d.address)) := by
      have : List.map (fun r => r.headD Value.null) (exRel E).rows = E.map Value.text := by
        simp [exRel, List.map_map, Function.comp]
      rw [this, inValues_text]
    show (do
      let v ← evalExpr (cbs (n + 7)) s.w.types { env with locals := [cteScope "d" dbCols d.vals] } (Expr.inSub (Expr.col "d" "address") existsQ true)
      pure ((← liftR v.truth) == some true)).exec s = _
    simp only [evalExpr, exec_bind, d1, exec_liftR_ok, hsub, hq, hin, exec_pure, if_true, not3, ofTruth]
    cases E.contains d.address <;> rfl
  · -- the seven items, computed by `pvs` on the typed batch row (COALESCE stops at its first operand, a timestamp)
    rfl

theorem exec_buildRow_ac (n : Nat) (b l : String) (trigs : List TriggerDef) (nr : Nat) (rows : List Ver) (d : DbR) (s : St) :
    (buildRow (n + 1) ((acT b trigs nr).withRows rows) insCols ((insSrcVals l d).map some)).exec s = (.ok (insRow l d).vals, s) :=
  exec_buildRow_pure n _ insCols _ s _ rfl (show insCols.find? (fun c => !(acCols.contains c)) = none by decide)
    (.cast rfl (castTo_varchar_text _ l) <| .cast rfl (castTo_varchar_text _ _) <| .cast rfl (castTo_jsonb_json _ _) <|
     .cast rfl (castTo_ts_ts _ _) <| .cast rfl (castTo_ts_ts _ _) <| .cast rfl (castTo_jsonb_json _ _) <|
     .cast rfl (castTo_ts_ts _ _) .nil)

theorem lastComponent_dotaccounts (b : String) : lastComponent (b ++ ".accounts") = "accounts" := by
  have : b ++ ".accounts" = b ++ "." ++ "accounts" := by
    rw [String.append_assoc]; rfl
  rw [this, lastComponent_dot_accounts]

/-- the sub-query of RETURNING, under a row `av` of `accounts` whose address `x` compares with a batch address as `tv` says (a text:
    equal or not; NULL, on the all-NULL row that gives RETURNING its column names: unknown, no row passes) -/
theorem exec_biSubQ (n : Nat) (env : Env) (b : String) (ds : List DbR) (av : List Value) (x : Value) (tv : String → Option Bool) (s : St)
    (hcte : env.ctes.lookup "data_batch" = some (dbRel ds))
    (hav : lookupIn acCols av "address" = some x) (houter : ∃ rest, env.outer = ({ alias := "accounts", cols := acCols, vals := av } : Scope) :: rest)
    (hx : ∀ a, evalBinop .eq (.text a) x = .ok (ofTruth (tv a))) :
    (evalQuery (n + 6) env (biSubQ b)).exec s =
      (.ok { cols := ["batch_index"], rows := (ds.filter (fun d => tv d.address == some true)).map (fun d => [.json d.bi]) }, s) := by
  obtain ⟨rest, houter⟩ := houter
  exact exec_evalQuery_cte n env "data_batch" "" dbCols ds DbR.vals [(Expr.col "" "batch_index", "")]
    (some (Expr.binop BinOp.eq (Expr.col "" "address") (Expr.col (b ++ ".accounts") "address"))) s hcte
    (fun d => tv d.address == some true) (fun d => [.json d.bi])
    (fun c hc d _ => by
      cases hc
      have h2 : lookupColumn { env with locals := [cteScope "data_batch" dbCols d.vals] } (b ++ ".accounts") "address" = .ok x :=
        lookupColumn_alias _ _ "address" { alias := "accounts", cols := acCols, vals := av } x (by simp)
          (by rw [lastComponent_dotaccounts]; simp [Env.scopes, findScope, cteScope, houter]) hav
      exact exec_truthTest (Evals.binop (.col (lookup_local_unq _ (cteScope "data_batch" dbCols d.vals) rfl "address" (.text d.address) rfl))
        (.col h2) (hx _)) (truth_ofTruth _) s)
    (fun h => nomatch h) rfl rfl
    (fun d _ _ => EvalsAll.cons (.col (lookup_local_unq _ (cteScope "data_batch" dbCols d.vals) rfl "batch_index" (.json d.bi) rfl)) .nil s)

/-- the RETURNING row of an inserted account -/
def insRetRow (l : String) (d : DbR) : List Value :=
  [.text d.address, .json (jsonConcat d.dm d.md), .ts d.fu, .ts d.upd, .ts d.ins, .json d.bi]

theorem filter_addr_single (ds : List DbR) (hnd : (ds.map (·.address)).Nodup) (d : DbR) (hd : d ∈ ds) :
    ds.filter (fun d' => decide (d'.address = d.address)) = [d] := by
  induction ds with
  | nil => cases hd
  | cons x xs ih =>
    simp only [List.map_cons, List.nodup_cons] at hnd
    rcases List.mem_cons.mp hd with rfl | hd'
    · have : xs.filter (fun d' => decide (d'.address = d.address)) = [] := by
        apply List.filter_eq_nil_iff.mpr
        intro y hy
        simp only [decide_eq_true_eq]
        intro e
        exact hnd.1 (by rw [← e]; exact List.mem_map_of_mem hy)
      simp [List.filter_cons, this]
    · have hne : x.address ≠ d.address := by
        intro e
        exact hnd.1 (by rw [e]; exact List.mem_map_of_mem hd')
      simp [List.filter_cons, hne, ih hnd.2 hd']

/-- the scope RETURNING of `inserted_rows` reads the written row from -/
def insScope (av : List Value) : Scope := { alias := "accounts", cols := acCols, vals := av }

/-- RETURNING of `inserted_rows` on a row `av`: five of its columns, and the value of the sub-query -/
theorem exec_evalReturning_ins (k : Nat) (env : Env) (b : String) (trigs : List TriggerDef) (nr : Nat) (rows : List Ver) (av : List Value)
    (v1 v2 v3 v4 v5 bi : Value) (s : St)
    (h1 : lookupIn acCols av "address" = some v1) (h2 : lookupIn acCols av "metadata" = some v2)
    (h3 : lookupIn acCols av "first_usage" = some v3) (h4 : lookupIn acCols av "updated_at" = some v4)
    (h5 : lookupIn acCols av "insertion_date" = some v5)
    (h6 : (evalQuery (k + 6) (subEnv { env with locals := [insScope av] }) (biSubQ b)).exec s = (.ok { cols := ["batch_index"], rows := [[bi]] }, s) ∨
      bi = .null ∧ (evalQuery (k + 6) (subEnv { env with locals := [insScope av] }) (biSubQ b)).exec s = (.ok { cols := ["batch_index"], rows := [] }, s)) :
    (evalReturning (k + 8) env ((acT b trigs nr).withRows rows) "" av [] (insReturning b)).exec s = (.ok (updRetCols, [v1, v2, v3, v4, v5, bi]), s) := by
  have hbase : baseName ((acT b trigs nr).withRows rows).name = "accounts" := lastComponent_dot_accounts b
  have c := fun c v h => Evals.col (cb := cbs (k + 7)) (te := s.w.types) (lookup_local_unq { env with locals := [insScope av] } _ rfl c v h) s
  have c6 : (evalExpr (cbs (k + 7)) s.w.types { env with locals := [insScope av] } (Expr.subq (biSubQ b))).exec s = (.ok bi, s) := by
    have hsubE : (cbs (k + 7)).sub (biSubQ b) { env with locals := [insScope av] } =
      evalQuery (k + 6) (subEnv { env with locals := [insScope av] }) (biSubQ b) := rfl
    rcases h6 with h6 | ⟨rfl, h6⟩ <;> simp only [evalExpr, exec_bind, hsubE, h6] <;> rfl
  have key := exec_evalReturning_exprs (k + 7) env ((acT b trigs nr).withRows rows) "" av []
    [(Expr.col "" "address", ""), (Expr.col "" "metadata", ""), (Expr.col "" "first_usage", ""), (Expr.col "" "updated_at", ""),
     (Expr.col "" "insertion_date", ""), (Expr.subq (biSubQ b), "")] [v1, v2, v3, v4, v5, bi] s
  simp only [show ("" : String).isEmpty = true from rfl, if_true, hbase] at key
  exact key ⟨c _ _ h1, c _ _ h2, c _ _ h3, c _ _ h4, c _ _ h5, c6, trivial⟩

theorem exec_accReturning_acIns (k : Nat) (env : Env) (b l : String) (trigs : List TriggerDef) (nr : Nat) (rows : List Ver) (ds : List DbR)
    (d : DbR) (acc : DmlAcc) (s : St) (hcte : env.ctes.lookup "data_batch" = some (dbRel ds)) (hd : d ∈ ds)
    (hnd : (ds.map (·.address)).Nodup) :
    (accReturning (k + 9) env ((acT b trigs nr).withRows rows) "" (insRow l d).vals [] (insReturning b) acc).exec s =
      (.ok { retCols := updRetCols, retRows := acc.retRows ++ [insRetRow l d], affected := acc.affected + 1 }, s) := by
  have hsub := exec_biSubQ k (subEnv { env with locals := [insScope (insRow l d).vals] }) b ds (insRow l d).vals (.text d.address)
    (fun a => some (decide (a = d.address))) s hcte rfl ⟨env.outer, rfl⟩ (fun a => evalBinop_eq_text a _)
  rw [show (fun d' : DbR => some (decide (d'.address = d.address)) == some true) = fun d' => decide (d'.address = d.address) from
    funext fun d' => by cases decide (d'.address = d.address) <;> rfl, filter_addr_single ds hnd d hd] at hsub
  rw [accReturning]
  apply exec_of_eq (if_neg (by simp [insReturning]))
  exact exec_seq (exec_evalReturning_ins k env b trigs nr rows _ _ _ _ _ _ _ s rfl rfl rfl rfl rfl (.inl hsub)) rfl

theorem exec_insertRowStep_ac (k : Nat) (env : Env) (b l : String) (trigs : List TriggerDef) (nr : Nat) (rows : List Ver) (ds : List DbR)
    (d : DbR) (acc : DmlAcc) (s : St) (hs : TxState s) (hT : s.w.table? (acFull b) = some ((acT b trigs nr).withRows rows))
    (hinv : AcInv (latestView s.w s.xid) nr rows)
    (hnb : trigs.filter (fun tr => tr.timing == .before && tr.event == .insert) = [])
    (QI : AcR → List PendingTrig)
    (hqaI : ∀ (nr' : Nat) (rows' : List Ver) (a : AcR) (s' : St), a.ledger = l →
      (queueAfter (k + 9) ((acT b trigs nr').withRows rows') .insert [] (some a.vals) none).exec s' = (.ok (), s'.addQ (QI a)))
    (hno : hasAccount l (acAbs (latestView s.w s.xid) rows) d.address = false)
    (hcte : env.ctes.lookup "data_batch" = some (dbRel ds)) (hd : d ∈ ds) (hnd : (ds.map (·.address)).Nodup) :
    (insertRowStep (k + 10) env (acFull b) "accounts" "" insCols none (insReturning b) ((insSrcVals l d).map some) acc).exec s =
      (.ok { retCols := updRetCols, retRows := acc.retRows ++ [insRetRow l d], affected := acc.affected + 1 },
       (s.withTable ((acT b trigs (nr + 1)).withRows (newVer s.xid s.cid nr (insRow l d).vals :: rows))).addQ (QI (insRow l d))) := by
  rw [exec_insertRowStep_ins (k + 9) env (acFull b) "accounts" "" insCols (insReturning b) _ acc ((acT b trigs nr).withRows rows) _ s none _ s s _
    hT rfl (exec_buildRow_ac (k + 8) b l trigs nr rows d s)
    (exec_fireBefore_none (k + 8) _ .insert (by simp) [] (insRow l d).vals none s (by simpa [acT, Table.withRows] using hnb))
    hT (exec_checkConstraints_ac ..) (fun _ _ _ _ e => nomatch e)
    (exec_findConflict_ac b trigs nr rows (insRow l d) none s hs.solo hinv.typed (fun q hq hv _ => hinv.noKey hno q hq hv)) (exec_checkForeignKeys_ac ..)
    (hqaI (nr + 1) (newVer s.xid s.cid nr (insRow l d).vals :: rows) (insRow l d) _ rfl)]
  exact exec_accReturning_acIns k env b l trigs (nr + 1) _ ds d acc _ hcte hd hnd

def acInsRows (xid cid : Nat) (l : String) : Nat → List Ver → List DbR → List Ver
  | _, rows, [] => rows
  | nr, rows, d :: ds => acInsRows xid cid l (nr + 1) (newVer xid cid nr (insRow l d).vals :: rows) ds

def acInsAcc (l : String) : DmlAcc → List DbR → DmlAcc
  | acc, [] => acc
  | acc, d :: ds => acInsAcc l (DmlAcc.mk updRetCols (acc.retRows ++ [insRetRow l d]) (acc.affected + 1)) ds

/-- the AFTER INSERT triggers queued by the loop -/
def acInsQ (l : String) (QI : AcR → List PendingTrig) (D : List DbR) : List PendingTrig := D.flatMap (fun d => QI (insRow l d))

/-- one row of `inserted_rows`, for a batch row `d` without account: the storage invariant holds again, the transaction sees the new
    row before the others, and the batch rows still to come (their addresses differ from `d`'s) are still without account -/
theorem AcInv.inserted {w : World} {xid nr : Nat} {rows : List Ver} (h : AcInv (latestView w xid) nr rows) (cid : Nat) (hx : xid ≠ 0)
    (hc : cid < 1000000000) (l : String) (d : DbR) (D : List DbR) (hnd : ((d :: D).map (·.address)).Nodup)
    (hno : ∀ d' ∈ d :: D, hasAccount l (acAbs (latestView w xid) rows) d'.address = false) :
    AcInv (latestView w xid) (nr + 1) (newVer xid cid nr (insRow l d).vals :: rows) ∧
    acAbs (latestView w xid) (newVer xid cid nr (insRow l d).vals :: rows) = insRow l d :: acAbs (latestView w xid) rows ∧
    ∀ d' ∈ D, hasAccount l (acAbs (latestView w xid) (newVer xid cid nr (insRow l d).vals :: rows)) d'.address = false := by
  have habs : acAbs (latestView w xid) (newVer xid cid nr (insRow l d).vals :: rows) = insRow l d :: acAbs (latestView w xid) rows :=
    TView.tabs_eq acDec_vals (h.view.new cid nr hx hc (insRow l d))
  refine ⟨(AcInv.iff_keyInv _ _ _).mpr ⟨((AcInv.iff_keyInv _ _ _).mp h).1.new hx hc nr _ ⟨_, rfl⟩ (fun q hq _ => Nat.ne_of_lt (h.ridLt q hq))
    fun q hq hv => (acKeyOf_vals _).symm ▸ h.noKey (hno d List.mem_cons_self) q hq hv, RidLt.cons h.ridLt _ (Nat.le_succ nr) (Nat.lt_succ_self nr)⟩,
    habs, fun d' hd' => ?_⟩
  have hne : d.address ≠ d'.address := fun e => (List.nodup_cons.mp hnd).1 (List.mem_map.mpr ⟨d', hd', e.symm⟩)
  rw [habs, ← hno d' (List.mem_cons_of_mem _ hd')]
  simp [hasAccount, insRow, hne]

/-- the rows after the INSERT loop of `inserted_rows` -/
theorem acInsRows_props (w : World) (xid cid : Nat) (hx : xid ≠ 0) (hc : cid < 1000000000) (l : String) :
    ∀ (D : List DbR) (nr : Nat) (rows : List Ver), AcInv (latestView w xid) nr rows → (D.map (·.address)).Nodup →
      (∀ d ∈ D, hasAccount l (acAbs (latestView w xid) rows) d.address = false) →
      AcInv (latestView w xid) (nr + D.length) (acInsRows xid cid l nr rows D) ∧
      acAbs (latestView w xid) (acInsRows xid cid l nr rows D) = (D.map (insRow l)).reverse ++ acAbs (latestView w xid) rows := by
  intro D
  induction D with
  | nil => exact fun nr rows h _ _ => ⟨h, rfl⟩
  | cons d D ih =>
    intro nr rows hinv hnd hno
    obtain ⟨hinv', habs, hno'⟩ := hinv.inserted cid hx hc l d D hnd hno
    obtain ⟨h1, h2⟩ := ih (nr + 1) _ hinv' (List.nodup_cons.mp hnd).2 hno'
    refine ⟨by rw [show nr + 1 + D.length = nr + (d :: D).length by simp only [List.length_cons]; omega] at h1; exact h1, ?_⟩
    rw [acInsRows, h2, habs, List.map_cons, List.reverse_cons, List.append_assoc]
    rfl

theorem exec_insertLoop_ac (k : Nat) (env : Env) (b l : String) (trigs : List TriggerDef) (ds : List DbR)
    (hnb : trigs.filter (fun tr => tr.timing == .before && tr.event == .insert) = [])
    (QI : AcR → List PendingTrig)
    (hqaI : ∀ (nr' : Nat) (rows' : List Ver) (a : AcR) (s' : St), a.ledger = l →
      (queueAfter (k + 9) ((acT b trigs nr').withRows rows') .insert [] (some a.vals) none).exec s' = (.ok (), s'.addQ (QI a)))
    (hcte : env.ctes.lookup "data_batch" = some (dbRel ds)) (hnd : (ds.map (·.address)).Nodup) :
    ∀ (D : List DbR) (s0 : St) (T0 : Table) (nr : Nat) (rows : List Ver) (acc : DmlAcc), TxState s0 → s0.w.table? (acFull b) = some T0 →
      (∀ d ∈ D, d ∈ ds) → (D.map (·.address)).Nodup → AcInv (latestView s0.w s0.xid) nr rows →
      (∀ d ∈ D, hasAccount l (acAbs (latestView s0.w s0.xid) rows) d.address = false) →
      ((D.map (fun d => (insSrcVals l d).map some)).foldlM (fun acc sr =>
          insertRowStep (k + 10) env (acFull b) "accounts" "" insCols none (insReturning b) sr acc) acc).exec
          (s0.withTable ((acT b trigs nr).withRows rows)) =
        (.ok (acInsAcc l acc D),
         (s0.withTable ((acT b trigs (nr + D.length)).withRows (acInsRows s0.xid s0.cid l nr rows D))).addQ (acInsQ l QI D)) := by
  intro D
  induction D with
  | nil => intro s0 T0 nr rows acc _ _ _ _ _ _; simp [acInsAcc, acInsRows, acInsQ]
  | cons d D ih =>
    intro s0 T0 nr rows acc hs0 hT0 hmem hndD hinv hno
    have hT : (s0.withTable ((acT b trigs nr).withRows rows)).w.table? (acFull b) = some ((acT b trigs nr).withRows rows) :=
      withTable_table? s0 T0 ((acT b trigs nr).withRows rows) hT0
    have hstep := exec_insertRowStep_ac k env b l trigs nr rows ds d acc (s0.withTable ((acT b trigs nr).withRows rows)) (hs0.withTable _) hT hinv
      hnb QI hqaI (hno d List.mem_cons_self) hcte (hmem d List.mem_cons_self) hnd
    simp only [withTable_xid, withTable_cid] at hstep
    simp only [List.map_cons, exec_foldlM_cons, hstep]
    rw [withTable_withTable _ _ _ (by rfl), ← addQ_withTable]
    obtain ⟨hinv', _, hno'⟩ := hinv.inserted s0.cid hs0.xid hs0.cid l d D hndD hno
    have hih := ih (s0.addQ (QI (insRow l d))) T0 (nr + 1) (newVer s0.xid s0.cid nr (insRow l d).vals :: rows)
      (DmlAcc.mk updRetCols (acc.retRows ++ [insRetRow l d]) (acc.affected + 1)) (hs0.addQ _) hT0 (fun x hx => hmem x (List.mem_cons_of_mem _ hx))
      (List.nodup_cons.mp hndD).2 hinv' hno'
    have e : nr + 1 + D.length = nr + (D.length + 1) := by omega
    rw [e] at hih
    refine hih.trans ?_
    simp only [addQ_xid, addQ_cid, acInsAcc, acInsRows, List.length_cons, acInsQ, List.flatMap_cons]
    rw [addQ_withTable, addQ_addQ]

/-- the SELECT feeding `inserted_rows` -/
def insSelQ (items : List (Expr × String)) (wher : Expr) : Query :=
  Query.mk [] (SetExpr.select (Select.mk false [] (items.map (fun p => SelItem.expr p.1 p.2))
    [FromItem.table "" "data_batch" "d"] (some wher) [] none)) [] none none LockMode.none

theorem exec_insSelQ (k : Nat) (env : Env) (l : String) (ds : List DbR) (E : List String) (items : List (Expr × String)) (wher : Expr)
    (hsem : UpsertInsSem l items wher) (s : St)
    (hcteD : env.ctes.lookup "data_batch" = some (dbRel ds)) (hcteE : env.ctes.lookup "existing_accounts" = some (exRel E)) :
    (evalQuery (k + 10) env (insSelQ items wher)).exec s =
      (.ok { cols := outNames items, rows := (ds.filter (fun d => !E.contains d.address)).map (insSrcVals l) }, s) :=
  exec_evalQuery_cte (k + 4) env "data_batch" "d" dbCols ds DbR.vals items (some wher) s hcteD (fun d => !E.contains d.address) (insSrcVals l)
    (fun c hc d _ => by cases hc; exact hsem.hwher k env d E s hcteE) (fun h => nomatch h) hsem.hagg hsem.hwin
    (fun d _ _ => hsem.hitems (cbs (k + 7)) s.w.types env d s)

theorem exec_protoRet_ins (k : Nat) (env : Env) (b : String) (trigs : List TriggerDef) (nr : Nat) (rows : List Ver) (ds : List DbR) (s : St)
    (hcte : env.ctes.lookup "data_batch" = some (dbRel ds)) :
    (evalReturning (k + 8) env ((acT b trigs nr).withRows rows) "" ((acT b trigs nr).cols.map (fun _ => Value.null)) []
      (protoReturning (insReturning b))).exec s = (.ok (updRetCols, [.null, .null, .null, .null, .null, .null]), s) := by
  have hsub := exec_biSubQ k (subEnv { env with locals := [insScope ((acT b trigs nr).cols.map (fun _ => Value.null))] }) b ds
    ((acT b trigs nr).cols.map (fun _ => Value.null)) .null (fun _ => none) s hcte rfl ⟨env.outer, rfl⟩ evalBinop_eq_text_null
  rw [List.filter_eq_nil_iff.mpr fun _ _ => by simp] at hsub
  exact exec_evalReturning_ins k env b trigs nr rows _ _ _ _ _ _ _ s rfl rfl rfl rfl rfl (.inr ⟨rfl, hsub⟩)

theorem acInsAcc_spec (l : String) : ∀ (D : List DbR) (acc : DmlAcc),
    (acInsAcc l acc D).retRows = acc.retRows ++ D.map (insRetRow l) ∧ (acInsAcc l acc D).affected = acc.affected + D.length ∧
    (acInsAcc l acc D).retCols = if D.isEmpty then acc.retCols else updRetCols := by
  intro D
  induction D with
  | nil => intro acc; simp [acInsAcc]
  | cons d D ih =>
    intro acc
    obtain ⟨h1, h2, h3⟩ := ih (DmlAcc.mk updRetCols (acc.retRows ++ [insRetRow l d]) (acc.affected + 1))
    refine ⟨?_, ?_, ?_⟩
    · simp [acInsAcc, h1, List.append_assoc]
    · simp [acInsAcc, h2]; omega
    · simp only [acInsAcc, h3]
      cases D <;> simp

/-- the fourth CTE: the batch rows without an existing account are inserted -/
theorem exec_insertedRows (k : Nat) (env : Env) (b l : String) (trigs : List TriggerDef) (nr : Nat) (rows : List Ver) (ds : List DbR)
    (E : List String) (items : List (Expr × String)) (wher : Expr) (hsem : UpsertInsSem l items wher)
    (s : St) (hs : TxState s) (hb : b.isEmpty = false) (hT : s.w.table? (acFull b) = some ((acT b trigs nr).withRows rows))
    (hinv : AcInv (latestView s.w s.xid) nr rows)
    (hnb : trigs.filter (fun tr => tr.timing == .before && tr.event == .insert) = [])
    (QI : AcR → List PendingTrig)
    (hqaI : ∀ (nr' : Nat) (rows' : List Ver) (a : AcR) (s' : St), a.ledger = l →
      (queueAfter (k + 9) ((acT b trigs nr').withRows rows') .insert [] (some a.vals) none).exec s' = (.ok (), s'.addQ (QI a)))
    (hcteD : env.ctes.lookup "data_batch" = some (dbRel ds)) (hcteE : env.ctes.lookup "existing_accounts" = some (exRel E))
    (hnd : (ds.map (·.address)).Nodup)
    (hno : ∀ d ∈ ds, E.contains d.address = false → hasAccount l (acAbs (latestView s.w s.xid) rows) d.address = false) :
    (execStmt (k + 12) env (Stmt.insert [] b "accounts" "" insCols (InsertSrc.query (insSelQ items wher)) none (insReturning b))).exec s =
      (.ok { rel := { cols := updRetCols, rows := (ds.filter (fun d => !E.contains d.address)).map (insRetRow l) },
             affected := (ds.filter (fun d => !E.contains d.address)).length },
       (s.withTable ((acT b trigs (nr + (ds.filter (fun d => !E.contains d.address)).length)).withRows
         (acInsRows s.xid s.cid l nr rows (ds.filter (fun d => !E.contains d.address))))).addQ
         (acInsQ l QI (ds.filter (fun d => !E.contains d.address)))) := by
  have hq : (qualify b "accounts").exec s = (.ok (acFull b), s) := exec_qualify b "accounts" hb s
  have hsrc := exec_insSelQ k env l ds E items wher hsem s hcteD hcteE
  have hsub : ∀ d ∈ ds.filter (fun d => !E.contains d.address), d ∈ ds := fun d hd => (List.mem_filter.mp hd).1
  have hndD : ((ds.filter (fun d => !E.contains d.address)).map (·.address)).Nodup := (List.filter_sublist.map _).nodup hnd
  have hnoD : ∀ d ∈ ds.filter (fun d => !E.contains d.address), hasAccount l (acAbs (latestView s.w s.xid) rows) d.address = false :=
    fun d hd => hno d (List.mem_filter.mp hd).1 (by simpa using (List.mem_filter.mp hd).2)
  generalize ds.filter (fun d => !E.contains d.address) = D at hsrc hsub hndD hnoD ⊢
  have hloop := exec_insertLoop_ac k env b l trigs ds hnb QI hqaI hcteD hnd D s _ nr rows {} hs hT hsub hndD hinv hnoD
  rw [withTable_self s _ hT hs.names] at hloop
  obtain ⟨ha1, ha2, ha3⟩ := acInsAcc_spec l D {}
  rw [execStmt_insert_noCte, execInsert]
  simp only [exec_bind, exec_pure, hb, Bool.false_eq_true, if_false, hq, exec_getTable hT, hsrc, show insCols.isEmpty = false from rfl,
    List.map_map]
  rw [show ((fun r : List Value => r.map some) ∘ insSrcVals l) = fun d => (insSrcVals l d).map some from rfl, hloop]
  cases D with
  | cons d D =>
    simp only [List.isEmpty_cons, Bool.false_eq_true, if_false] at ha3
    simp only [ha3, ha1, ha2, updRetCols, List.isEmpty_cons, Bool.false_and, Bool.false_eq_true, if_false, exec_pure]
    simp
  | nil =>
    -- no row written: the column names come from RETURNING evaluated on the all-NULL row
    have hT' : ((s.withTable ((acT b trigs (nr + ([] : List DbR).length)).withRows (acInsRows s.xid s.cid l nr rows []))).addQ
        (acInsQ l QI [])).w.table? (acFull b) = some ((acT b trigs (nr + ([] : List DbR).length)).withRows (acInsRows s.xid s.cid l nr rows [])) :=
      withTable_table? s ((acT b trigs nr).withRows rows) _ hT
    have hp := exec_protoRet_ins (k + 2) env b trigs (nr + ([] : List DbR).length) (acInsRows s.xid s.cid l nr rows []) ds
      ((s.withTable ((acT b trigs (nr + ([] : List DbR).length)).withRows (acInsRows s.xid s.cid l nr rows []))).addQ (acInsQ l QI [])) hcteD
    unfold protoReturning at hp
    simp only at hp ⊢
    simp only [show (acInsAcc l {} []).retCols = [] from ha3, List.isEmpty_nil, show (insReturning b).isEmpty = false from rfl, Bool.not_false,
      Bool.and_true, if_true, exec_bind, exec_getTable hT']
    erw [hp]
    simp only [exec_pure, ha1, ha2]
    rfl

end Ledger.Sql
