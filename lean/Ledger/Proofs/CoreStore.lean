import Ledger.Proofs.CoreMoves

/-! The abstract store under any sequence of operations: a run never fails and is a fold of total
    steps (`runOpsFrom_eq`), so a property of reachable stores is proved by `runOpsFrom_induction`.
    Invariants of `accounts_volumes` and the stored post-commit volumes (C01, C02, C03), the
    Go-computed columns of `moves`, the committed history. -/
namespace Ledger.Spec
open Ledger.Base Ledger.Core

theorem balance_add (a b : Volumes) : (a.add b).balance = a.balance + b.balance := by
  simp only [Volumes.add, Volumes.balance]; omega

theorem foldVolumes_append (k : Key) (a b : List Posting) :
    foldVolumes k (a ++ b) = (foldVolumes k a).add (foldVolumes k b) := by
  simp [foldVolumes, Volumes.add, inSum_eq, outSum_eq, sideSum_append]

theorem foldVolumes_untouched {k : Key} {ps : List Posting} (h : touches k ps = false) :
    foldVolumes k ps = Volumes.zero := by
  induction ps with
  | nil => rfl
  | cons p ps ih =>
    simp only [touches, List.any_cons, Bool.or_eq_false_iff, decide_eq_false_iff_not] at h
    have := ih (by simpa [touches] using h.2)
    simp only [foldVolumes, Volumes.zero, Volumes.mk.injEq] at this ⊢
    simp [inSum, outSum, h.1, this]

theorem allPostings_append (a b : List TxRec) : allPostings (a ++ b) = allPostings a ++ allPostings b := by
  induction a with
  | nil => rfl
  | cons t a ih => simp [allPostings, ih]

theorem allPostings_eq_flatten (l : List TxRec) : allPostings l = (l.map (·.postings)).flatten := by
  induction l with
  | nil => rfl
  | cons a r ih => simp only [allPostings, ih, List.map_cons, List.flatten_cons]

theorem volumesOf_snoc (recs : List TxRec) (t : TxRec) (k : Key) :
    volumesOf (recs ++ [t]) k = (volumesOf recs k).add (foldVolumes k t.postings) := by
  simp [volumesOf, allPostings_append, allPostings, foldVolumes_append]

def upsertAll (av vu : PCV) : PCV := vu.foldl (fun m e => m.insertWith Volumes.add e.1 e.2) av

theorem upsertVolumes_fst (av vu : PCV) : (upsertVolumes av vu).1 = upsertAll av vu := rfl
theorem upsertVolumes_snd (av vu : PCV) : (upsertVolumes av vu).2 = vu.mapVal (fun k v => upsertRow av k v) := rfl

theorem netIn_volumeUpdates (s : String) (ps : List Posting) : netIn s (volumeUpdates ps) = 0 := by
  rw [netIn_eq, (volumeUpdates_sums ps s).1, (volumeUpdates_sums ps s).2]; omega

theorem netIn_upsertAll (s : String) (av vu : PCV) : netIn s (upsertAll av vu) = netIn s av + netIn s vu := by
  induction vu generalizing av with
  | nil => simp [upsertAll, netIn, Map.sumBy]
  | cons e r ih =>
    show netIn s (upsertAll (av.insertWith Volumes.add e.1 e.2) r) = _
    rw [ih]
    unfold netIn
    rw [Map.sumBy_insertWith]
    · simp only [Map.sumBy]; omega
    · intro o; split <;> simp [Volumes.add]; omega

theorem WF_upsertAll {av : PCV} (h : Map.WF av) (vu : PCV) : Map.WF (upsertAll av vu) :=
  Map.WF_foldl _ (fun _ _ h => Map.WF_insertWith _ _ _ h) vu h

theorem get?_upsertAll {av vu : PCV} (hav : Map.WF av) (hvu : vu.keys.Nodup) (k : Key) :
    (upsertAll av vu).get? k =
      match vu.get? k with
      | some v => some (upsertRow av k v)
      | none => av.get? k := by
  rw [upsertAll, Map.get?_foldl_insertWith Volumes.add hav hvu k]
  cases vu.get? k <;> simp only [upsertRow] <;> cases av.get? k <;> rfl

theorem contains_preVolumes (av : PCV) (ps : List Posting) (k : Key) :
    (preVolumes av (volumeUpdates ps)).contains k = touches k ps := by
  unfold Map.contains preVolumes
  rw [Map.get?_mapVal, get?_volumeUpdates]
  cases touches k ps <;> simp

theorem hasKeys_preVolumes (av : PCV) (ps : List Posting) : HasKeys (preVolumes av (volumeUpdates ps)) ps := by
  intro p hp
  rw [contains_preVolumes, contains_preVolumes]
  exact ⟨touches_srcKey hp, touches_dstKey hp⟩

theorem returned_eq_applyFwd (av : PCV) (ps : List Posting) :
    (upsertVolumes av (volumeUpdates ps)).2 = applyFwd (preVolumes av (volumeUpdates ps)) ps := by
  apply Map.ext_of_WF
  · rw [upsertVolumes_snd]; exact Map.WF_mapVal _ (WF_volumeUpdates ps)
  · exact WF_applyFwd (Map.WF_mapVal _ (WF_volumeUpdates ps)) ps
  · intro k
    rw [upsertVolumes_snd, Map.get?_mapVal, get?_applyFwd]
    unfold preVolumes
    rw [Map.get?_mapVal, get?_volumeUpdates]
    by_cases h : touches k ps = true
    · simp only [h, if_true, Option.map_some, upsertRow]
      cases av.get? k <;> simp [Volumes.zero_add]
    · simp [h]

theorem movesOf_returned (av : PCV) (ps : List Posting) :
    movesOf (upsertVolumes av (volumeUpdates ps)).2 ps = .ok (fwdMoves (preVolumes av (volumeUpdates ps)) ps) := by
  rw [returned_eq_applyFwd]
  exact movesOf_applyFwd _ _ (hasKeys_preVolumes av ps)

/-- The `accounts` table after `upsertTransactionAccounts`. -/
def commitAccounts (accounts : Map String AccountRow) (t : TxIn) : Map String AccountRow :=
  if t.upsertAccounts then
    (t.accountMetadata.filter (fun e => !(involvedAccounts t.postings).contains e.1)).foldl
      (fun acc e => upsertAccount acc e.1 (some t.timestamp) t.insertedAt e.2)
      ((involvedAccounts t.postings).foldl (fun acc a =>
        upsertAccount acc a (some t.timestamp) t.insertedAt ((t.accountMetadata.get? a).getD [])) accounts)
  else accounts

/-- The moves a commit inserts, before the triggers fill `pcev`. -/
def commitRows (st : Store) (t : TxIn) : List MoveRow :=
  toRows st.nextSeq st.nextTxId t.insertedAt t.timestamp
    (fwdMoves (preVolumes st.accountsVolumes (volumeUpdates t.postings)) t.postings)

/-- The store after `applyTx`, which never fails (`applyTx_eq`). -/
def commitStore (st : Store) (t : TxIn) : Store :=
  { accountsVolumes := upsertAll st.accountsVolumes (volumeUpdates t.postings)
    txs := st.txs ++ [{ tx := { id := st.nextTxId, postings := t.postings, timestamp := t.timestamp,
                                insertedAt := t.insertedAt, reference := t.reference, metadata := t.metadata },
                        pcv := (upsertVolumes st.accountsVolumes (volumeUpdates t.postings)).2 }]
    moves := insertMoves st.moves (commitRows st t)
    accounts := commitAccounts st.accounts t
    nextTxId := st.nextTxId + 1
    nextSeq := st.nextSeq + (fwdMoves (preVolumes st.accountsVolumes (volumeUpdates t.postings)) t.postings).length }

theorem applyTx_eq (st : Store) (t : TxIn) : applyTx st t = .ok (commitStore st t) := by
  unfold applyTx
  simp only [movesOf_returned]
  rfl

def StoreOp.exec (st : Store) : StoreOp → Store
  | .commit t => commitStore st t
  | .lock keys => lockBalances st keys
  | .markReverted id a => Spec.markReverted st id a
  | .saveAccountMeta a at_ md => { st with accounts := upsertAccount st.accounts a none at_ md }

theorem applyOp_eq (st : Store) (o : StoreOp) : applyOp st o = .ok (o.exec st) := by
  cases o <;> first | rfl | exact applyTx_eq st _

theorem runOpsFrom_eq (ops : List StoreOp) (st : Store) : runOpsFrom st ops = .ok (ops.foldl StoreOp.exec st) := by
  induction ops generalizing st with
  | nil => rfl
  | cons o os ih => simp only [runOpsFrom, applyOp_eq, List.foldl_cons, ih]

theorem runOpsFrom_append (a b : List StoreOp) (st : Store) :
    runOpsFrom st (a ++ b) =
      match runOpsFrom st a with
      | .error e => .error e
      | .ok s1 => runOpsFrom s1 b := by
  simp only [runOpsFrom_eq, List.foldl_append]

theorem runOpsFrom_induction {P : Store → List StoreOp → Prop}
    (step : ∀ (st : Store) (done : List StoreOp) (o : StoreOp), P st done → P (o.exec st) (done ++ [o]))
    (ops : List StoreOp) {st st' : Store} {done : List StoreOp} (h0 : P st done)
    (h : runOpsFrom st ops = .ok st') : P st' (done ++ ops) := by
  rw [runOpsFrom_eq] at h
  cases h
  induction ops generalizing st done with
  | nil => simpa using h0
  | cons o os ih => simpa using ih (step st done o h0)

theorem runOpsFrom_invariant {P : Store → Prop} (step : ∀ (st : Store) (o : StoreOp), P st → P (o.exec st))
    (ops : List StoreOp) {st st' : Store} (h0 : P st) (h : runOpsFrom st ops = .ok st') : P st' :=
  runOpsFrom_induction (P := fun st _ => P st) (done := []) (fun st _ o => step st o) ops h0 h

structure StoreInv (st : Store) : Prop where
  wf : Map.WF st.accountsVolumes
  /-- C02: a row holds the fold; no row ⇒ nothing touched the pair -/
  av : ∀ k, st.accountsVolumes.get? k = some (volumesOf st.txRecs k) ∨
            (st.accountsVolumes.get? k = none ∧ touches k (allPostings st.txRecs) = false)
  /-- C03: the stored post-commit volumes of transaction `i` are the fold of transactions `0..i` -/
  pcv : ∀ (i : Nat) (h : i < st.txs.length) (k : Key),
      (st.txs[i]).pcv.get? k =
        if touches k (st.txs[i]).tx.postings then some (volumesOf (st.txRecs.take (i + 1)) k) else none
  /-- C01: balances sum to zero per asset -/
  net : ∀ s, netIn s st.accountsVolumes = 0

theorem StoreInv_empty : StoreInv {} where
  wf := Map.WF_nil
  av := by intro k; right; simp [Store.txRecs, allPostings, touches]
  pcv := by intro i h; simp at h
  net := by intro s; simp [netIn, Map.sumBy]

theorem upsertRow_fold {st : Store} (inv : StoreInv st) (k : Key) (ps : List Posting) :
    upsertRow st.accountsVolumes k (foldVolumes k ps) = (volumesOf st.txRecs k).add (foldVolumes k ps) := by
  unfold upsertRow
  rcases inv.av k with h | ⟨h, hn⟩
  · rw [h]
  · rw [h, show volumesOf st.txRecs k = Volumes.zero from foldVolumes_untouched hn, Volumes.zero_add]

theorem StoreInv_commit {st : Store} (inv : StoreInv st) (t : TxIn) : StoreInv (commitStore st t) := by
  have hvu := WF_volumeUpdates t.postings
  refine ⟨WF_upsertAll inv.wf _, ?_, ?_, ?_⟩
  · intro k
    simp only [commitStore, Store.txRecs, List.map_append, List.map_cons, List.map_nil]
    rw [get?_upsertAll inv.wf (Map.keys_nodup hvu), get?_volumeUpdates]
    show _ ∨ _
    rw [volumesOf_snoc, allPostings_append, touches_append]
    by_cases ht : touches k t.postings = true
    · left
      simp only [ht, if_true]
      exact congrArg some (upsertRow_fold inv k _)
    · simp only [ht]
      have hz : foldVolumes k t.postings = Volumes.zero := foldVolumes_untouched (by simpa using ht)
      rcases inv.av k with h1 | ⟨h1, h2⟩
      · left; rw [h1, hz, Volumes.add_zero]; rfl
      · right
        refine ⟨h1, ?_⟩
        have h2' : touches k (allPostings (st.txs.map (·.tx))) = false := h2
        simp [allPostings, h2', ht]
  · intro i hi k
    simp only [commitStore, List.length_append, List.length_cons, List.length_nil] at hi
    by_cases hlt : i < st.txs.length
    · simp only [commitStore, Store.txRecs, List.map_append] at *
      rw [List.getElem_append_left hlt, List.take_append_of_le_length (by simp; omega)]
      exact inv.pcv i hlt k
    · obtain rfl : i = st.txs.length := by omega
      simp only [commitStore, Store.txRecs, List.map_append, List.map_cons, List.map_nil]
      rw [List.getElem_append_right (Nat.le_refl _)]
      simp only [Nat.sub_self, List.getElem_cons_zero]
      rw [List.take_of_length_le (by simp), upsertVolumes_snd, Map.get?_mapVal, get?_volumeUpdates, volumesOf_snoc]
      by_cases ht : touches k t.postings = true
      · simp only [ht, if_true, Option.map_some]
        exact congrArg some (upsertRow_fold inv k _)
      · simp [ht]
  · intro s
    show netIn s (upsertAll st.accountsVolumes (volumeUpdates t.postings)) = 0
    rw [netIn_upsertAll, inv.net s, netIn_volumeUpdates]; rfl

theorem StoreInv_applyTx {st st' : Store} (inv : StoreInv st) (t : TxIn) (h : applyTx st t = .ok st') :
    StoreInv st' := by
  rw [applyTx_eq] at h; cases h; exact StoreInv_commit inv t

def lockAll (av : PCV) (keys : List Key) : PCV :=
  keys.foldl (fun m k => m.insertWith (fun old _ => old) k Volumes.zero) av

theorem WF_lockAll {av : PCV} (h : Map.WF av) (keys : List Key) : Map.WF (lockAll av keys) :=
  Map.WF_foldl _ (fun _ _ h => Map.WF_insertWith _ _ _ h) keys h

theorem netIn_lockAll (s : String) (av : PCV) (keys : List Key) : netIn s (lockAll av keys) = netIn s av := by
  induction keys generalizing av with
  | nil => rfl
  | cons k ks ih =>
    show netIn s (lockAll (av.insertWith (fun old _ => old) k Volumes.zero) ks) = _
    rw [ih]
    unfold netIn
    rw [Map.sumBy_insertWith] <;> simp [Volumes.zero]

theorem get?_lockAll {av : PCV} (hav : Map.WF av) (keys : List Key) (k : Key) :
    (lockAll av keys).get? k = (av.get? k).or (if k ∈ keys then some Volumes.zero else none) := by
  rw [lockAll, Map.get?_foldl_insertNew (fun k => k) (fun _ => Volumes.zero) _ hav]
  congr 1
  cases hf : keys.find? (fun x => decide (x = k)) with
  | none => rw [if_neg fun hk => by simpa using List.find?_eq_none.mp hf k hk]; rfl
  | some x =>
    have hx : x = k := of_decide_eq_true (List.find?_some (p := fun x => decide (x = k)) hf)
    rw [if_pos (hx ▸ List.mem_of_find?_eq_some hf)]; rfl

theorem StoreInv_lock {st : Store} (inv : StoreInv st) (keys : List Key) : StoreInv (lockBalances st keys) := by
  refine ⟨WF_lockAll inv.wf keys, ?_, inv.pcv, ?_⟩
  · intro k
    show (lockAll st.accountsVolumes keys).get? k = some (volumesOf st.txRecs k) ∨
      (lockAll st.accountsVolumes keys).get? k = none ∧ touches k (allPostings st.txRecs) = false
    rw [get?_lockAll inv.wf]
    rcases inv.av k with h | ⟨h, hn⟩
    · rw [h]; exact Or.inl rfl
    · rw [h, Option.none_or, show volumesOf st.txRecs k = Volumes.zero from foldVolumes_untouched hn]
      split
      · exact Or.inl rfl
      · exact Or.inr ⟨rfl, hn⟩
  · intro s
    show netIn s (lockAll st.accountsVolumes keys) = 0
    rw [netIn_lockAll]; exact inv.net s

def TxRec.clearReverted (t : TxRec) : TxRec := { t with revertedAt := none }

theorem txRecs_markReverted (st : Store) (id : Nat) (a : Int) :
    (markReverted st id a).txRecs = markRevertedIn st.txRecs id a := by
  simp only [Store.txRecs, markReverted, markRevertedIn, List.map_map]
  apply List.map_congr_left
  intro r _
  simp only [Function.comp]
  split <;> rfl

theorem markRevertedIn_eq_map (txs : List TxRec) (id : Nat) (a : Int) :
    ∃ f : TxRec → TxRec, markRevertedIn txs id a = txs.map f ∧
      ∀ t, (f t).postings = t.postings ∧ (f t).insertedAt = t.insertedAt ∧ (f t).timestamp = t.timestamp ∧
        (f t).id = t.id ∧ (f t).clearReverted = t.clearReverted :=
  ⟨_, rfl, fun t => by split <;> exact ⟨rfl, rfl, rfl, rfl, rfl⟩⟩

/-- The invariant reads `accounts_volumes` and, of each transaction, its postings and its stored
    post-commit volumes; a store that agrees on these has it too. -/
theorem StoreInv_congr {st1 st2 : Store} (inv : StoreInv st1) (hav : st2.accountsVolumes = st1.accountsVolumes)
    (hp : st2.txs.map (fun r => (r.tx.postings, r.pcv)) = st1.txs.map (fun r => (r.tx.postings, r.pcv))) :
    StoreInv st2 := by
  have hlen : st2.txs.length = st1.txs.length := by simpa using congrArg List.length hp
  have hrecs : st2.txRecs.map (·.postings) = st1.txRecs.map (·.postings) := by
    have := congrArg (List.map Prod.fst) hp
    simp only [List.map_map] at this
    simp only [Store.txRecs, List.map_map]
    exact this
  have hvol : ∀ n k, volumesOf (st2.txRecs.take n) k = volumesOf (st1.txRecs.take n) k := fun n k => by
    unfold volumesOf
    rw [allPostings_eq_flatten, allPostings_eq_flatten, List.map_take, List.map_take, hrecs]
  refine ⟨hav ▸ inv.wf, fun k => ?_, fun i hi k => ?_, fun s => hav ▸ inv.net s⟩
  · unfold volumesOf
    rw [hav, allPostings_eq_flatten, hrecs, ← allPostings_eq_flatten]
    exact inv.av k
  · have hi1 : i < st1.txs.length := hlen ▸ hi
    have h := List.getElem_of_eq hp (by simpa using hi)
    simp only [List.getElem_map, Prod.mk.injEq] at h
    rw [h.1, h.2, hvol]
    exact inv.pcv i hi1 k

theorem markReverted_cols (st : Store) (id : Nat) (a : Int) :
    (markReverted st id a).txs.map (fun r => (r.tx.postings, r.pcv)) = st.txs.map (fun r => (r.tx.postings, r.pcv)) := by
  simp only [markReverted, List.map_map]
  exact List.map_congr_left fun r _ => by simp only [Function.comp]; split <;> rfl

theorem StoreInv_markReverted {st : Store} (inv : StoreInv st) (id : Nat) (a : Int) :
    StoreInv (markReverted st id a) :=
  StoreInv_congr inv rfl (markReverted_cols st id a)

theorem StoreInv_exec {st : Store} (o : StoreOp) (inv : StoreInv st) : StoreInv (o.exec st) := by
  cases o with
  | commit t => exact StoreInv_commit inv t
  | lock keys => exact StoreInv_lock inv keys
  | markReverted id a => exact StoreInv_markReverted inv id a
  | saveAccountMeta a at_ md => exact ⟨inv.wf, inv.av, inv.pcv, inv.net⟩

theorem StoreInv_runOps {ops : List StoreOp} {st : Store} (h : runOps ops = .ok st) : StoreInv st :=
  runOpsFrom_invariant (fun _ o => StoreInv_exec o) ops StoreInv_empty h

def bump (n m : MoveRow) : MoveRow :=
  if m.key = n.key ∧ n.effectiveDate < m.effectiveDate then { m with pcev := m.pcev.add n.delta } else m

def bumpAll (rs : List MoveRow) (m : MoveRow) : MoveRow := rs.foldl (fun m r => bump r m) m

theorem updateEffective_eq (n : MoveRow) (t : List MoveRow) : updateEffective n t = t.map (bump n) := rfl

theorem insertPhase1_eq (t news : List MoveRow) : insertPhase1 t news = t ++ insertedRows t news := by
  induction news generalizing t with
  | nil => simp [insertPhase1, insertedRows]
  | cons n ns ih => simp [insertPhase1, insertedRows, ih]

theorem insertPhase2_eq (t rs : List MoveRow) : insertPhase2 t rs = t.map (bumpAll rs) := by
  induction rs generalizing t with
  | nil => exact (List.map_id t).symm
  | cons r rs ih => simp only [insertPhase2, ih, updateEffective_eq, List.map_map]; rfl

/-- The AFTER triggers only write `pcev`. -/
theorem bumpAll_eq (rs : List MoveRow) (m : MoveRow) : ∃ v, bumpAll rs m = { m with pcev := v } := by
  induction rs generalizing m with
  | nil => exact ⟨_, rfl⟩
  | cons r rs ih =>
    obtain ⟨v, hv⟩ := ih (bump r m)
    refine ⟨v, hv.trans ?_⟩
    unfold bump; split <;> rfl

/-- … and so do the BEFORE triggers. -/
theorem mem_insertedRows {t news : List MoveRow} {r' : MoveRow} (h : r' ∈ insertedRows t news) :
    ∃ r ∈ news, ∃ v, r' = { r with pcev := v } := by
  induction news generalizing t with
  | nil => cases h
  | cons n ns ih =>
    rcases List.mem_cons.mp h with rfl | h
    · exact ⟨n, List.mem_cons_self, _, rfl⟩
    · obtain ⟨r, hr, hv⟩ := ih h
      exact ⟨r, List.mem_cons_of_mem _ hr, hv⟩

/-- A column that does not read `pcev` is the same before and after the triggers ran. -/
theorem map_insertMoves {β : Type} (π : MoveRow → β) (hπ : ∀ m v, π { m with pcev := v } = π m)
    (table news : List MoveRow) : (insertMoves table news).map π = table.map π ++ news.map π := by
  have hi : ∀ t, (insertedRows t news).map π = news.map π := by
    induction news with
    | nil => intro t; rfl
    | cons n ns ih => intro t; show π _ :: _ = π n :: _; rw [ih]; exact congrArg (· :: _) (hπ n _)
  have hb : π ∘ bumpAll (insertedRows table news) = π := by
    funext m; obtain ⟨v, hv⟩ := bumpAll_eq (insertedRows table news) m
    simp only [Function.comp, hv, hπ]
  unfold insertMoves
  rw [insertPhase2_eq, insertPhase1_eq, List.map_map, hb, List.map_append, hi]

theorem toMove_setEffective (table : List MoveRow) (n : MoveRow) : (setEffective table n).toMove = n.toMove := rfl

theorem pcev_none_fwdMoves (m : PCV) (ps : List Posting) : ∀ x ∈ fwdMoves m ps, x.pcev = none := by
  induction ps generalizing m with
  | nil => simp [fwdMoves]
  | cons p ps ih =>
    intro x hx
    simp only [fwdMoves, List.mem_cons] at hx
    rcases hx with rfl | rfl | hx
    · rfl
    · rfl
    · exact ih _ x hx

theorem map_toMove_toRows (seq0 txId : Nat) (ins eff : Int) (ms : List Move) (h : ∀ x ∈ ms, x.pcev = none) :
    (toRows seq0 txId ins eff ms).map MoveRow.toMove = ms := by
  induction ms generalizing seq0 with
  | nil => rfl
  | cons m ms ih =>
    simp only [toRows, List.map_cons]
    rw [ih _ (fun x hx => h x (List.mem_cons_of_mem _ hx))]
    congr 1
    have := h m List.mem_cons_self
    cases m
    simp only [MoveRow.toMove] at *
    simp [this]

/-- A commit appends exactly the running moves to the moves table and leaves the Go-computed
    columns of the existing rows untouched. -/
theorem commitStore_moves (st : Store) (t : TxIn) :
    (commitStore st t).moves.map MoveRow.toMove =
      st.moves.map MoveRow.toMove ++
        fwdMoves (preVolumes st.accountsVolumes (volumeUpdates t.postings)) t.postings := by
  show (insertMoves st.moves (commitRows st t)).map MoveRow.toMove = _
  rw [map_insertMoves _ (fun _ _ => rfl), commitRows, map_toMove_toRows _ _ _ _ _ (pcev_none_fwdMoves _ _)]

/-! The committed history; stored post-commit values never change (C02 / C03). -/

theorem commitsOf_append (a b : List StoreOp) : commitsOf (a ++ b) = commitsOf a ++ commitsOf b := by
  induction a with
  | nil => rfl
  | cons o os ih => cases o <;> simp [commitsOf, ih]

theorem recsFrom_append (id0 : Nat) (a b : List TxIn) :
    recsFrom id0 (a ++ b) = recsFrom id0 a ++ recsFrom (id0 + a.length) b := by
  induction a generalizing id0 with
  | nil => simp [recsFrom]
  | cons t a ih =>
    simp only [List.cons_append, recsFrom, ih, List.length_cons]
    rw [show id0 + 1 + a.length = id0 + (a.length + 1) by omega]

/-- The store's transaction list is the committed history (ids 1, 2, … in commit order), up to
    the `revertedAt` marks. -/
theorem runOps_txs {ops : List StoreOp} {st : Store} (h : runOps ops = .ok st) :
    st.txRecs.map TxRec.clearReverted = recsFrom 1 (commitsOf ops) ∧
    st.nextTxId = 1 + (commitsOf ops).length := by
  refine runOpsFrom_induction (done := [])
    (P := fun st done => st.txRecs.map TxRec.clearReverted = recsFrom 1 (commitsOf done) ∧
      st.nextTxId = 1 + (commitsOf done).length) ?_ ops ⟨rfl, rfl⟩ h
  intro st done o ⟨h1, h2⟩
  rw [commitsOf_append, recsFrom_append, List.length_append, ← h1, ← h2]
  cases o with
  | commit t => simp [StoreOp.exec, commitStore, Store.txRecs, commitsOf, recsFrom, TxRec.clearReverted]; omega
  | lock keys => simp [StoreOp.exec, lockBalances, Store.txRecs, commitsOf, recsFrom]; omega
  | saveAccountMeta a at_ md => simp [StoreOp.exec, Store.txRecs, commitsOf, recsFrom]; omega
  | markReverted id a =>
    obtain ⟨f, hf, hp⟩ := markRevertedIn_eq_map st.txRecs id a
    simp only [StoreOp.exec, txRecs_markReverted, hf, List.map_map, commitsOf, recsFrom, List.append_nil,
      List.length_nil, Nat.add_zero]
    exact ⟨List.map_congr_left (fun t _ => (hp t).2.2.2.2), h2.symm ▸ rfl⟩

theorem exec_prefix (st : Store) (o : StoreOp) :
    (st.txs.map (·.pcv)) <+: ((o.exec st).txs.map (·.pcv)) ∧
    (st.moves.map MoveRow.toMove) <+: ((o.exec st).moves.map MoveRow.toMove) := by
  cases o with
  | commit t => exact ⟨by simp [StoreOp.exec, commitStore], commitStore_moves st t ▸ List.prefix_append _ _⟩
  | lock keys => exact ⟨List.prefix_refl _, List.prefix_refl _⟩
  | saveAccountMeta a at_ md => exact ⟨List.prefix_refl _, List.prefix_refl _⟩
  | markReverted id a =>
    have h : (Spec.markReverted st id a).txs.map (·.pcv) = st.txs.map (·.pcv) := by
      simpa only [List.map_map, Function.comp_def] using congrArg (List.map Prod.snd) (markReverted_cols st id a)
    exact ⟨h ▸ List.prefix_refl _, List.prefix_refl _⟩

theorem runOpsFrom_prefix (ops : List StoreOp) {st st' : Store} (h : runOpsFrom st ops = .ok st') :
    (st.txs.map (·.pcv)) <+: (st'.txs.map (·.pcv)) ∧
    (st.moves.map MoveRow.toMove) <+: (st'.moves.map MoveRow.toMove) :=
  runOpsFrom_invariant
    (P := fun s : Store => (st.txs.map fun r : TxRow => r.pcv) <+: (s.txs.map fun r : TxRow => r.pcv) ∧
      (st.moves.map MoveRow.toMove) <+: (s.moves.map MoveRow.toMove))
    (fun s o hs => ⟨List.IsPrefix.trans hs.1 (exec_prefix s o).1, List.IsPrefix.trans hs.2 (exec_prefix s o).2⟩)
    ops ⟨List.prefix_refl _, List.prefix_refl _⟩ h

end Ledger.Spec
