import Ledger.Proofs.SqlVolumesStmt

/-!
# The zero rows of `GetBalances`: `INSERT … ON CONFLICT DO NOTHING` on `accounts_volumes`

Evaluator-level specification of the data-modifying CTE of `GetBalances` for any rows and any
table contents satisfying `AvInv` (`exec_execInsert_av_nothing`), in terms of the pure run `avRunN`.
-/
open Ledger.Sql Ledger.Generated
open Ledger.Generated.WriteSql.P (BalanceRow)

namespace Ledger.Sql

/-- one `VALUES` row `(l, a, c, i, o)` under `ON CONFLICT DO NOTHING` -/
def avStepN (lv : View) (xid cid : Nat) (l a c : String) (i o : Int) (st : List Ver × Nat) : List Ver × Nat :=
  match st.1.find? (avHit lv none l a c) with
  | some _ => st
  | none => (avNew xid cid st.2 l a c i o :: st.1, st.2 + 1)

/-- does the row meet a conflict (nothing is inserted then)? -/
def avStepNHit (lv : View) (l a c : String) (st : List Ver × Nat) : Bool :=
  (st.1.find? (avHit lv none l a c)).isSome

theorem avStepN_hit {lv : View} {xid cid : Nat} {l a c : String} {i o : Int} {st : List Ver × Nat} (h : avStepNHit lv l a c st = true) :
    avStepN lv xid cid l a c i o st = st := by
  unfold avStepNHit at h
  unfold avStepN
  cases hf : st.1.find? (avHit lv none l a c) with
  | none => simp [hf] at h
  | some ex => rfl

theorem exec_insertRowStep_av_nothing (n : Nat) (env : Env) (b table alias : String) (tcols : List String)
    (target : List String) (tw : Option Expr) (cn : String)
    (sr : List (Option Value)) (acc : DmlAcc)
    (l a c : String) (i o : Int) (rs : List Ver) (nr : Nat) (s : St)
    (hT : s.w.table? (avFull b) = some (avT b rs nr))
    (hsolo : ∀ x ∈ s.w.active, x = s.xid) (ht : AvTyped rs)
    (hrow : ∀ m rs nr s, (buildRow (m + 1) (avT b rs nr) tcols sr).exec s = (.ok [.text l, .text a, .text c, .int i, .int o], s))
    (harb : ∀ rs nr s, (arbiterIndexes (avT b rs nr) target).exec s = (.ok [avPkey], s)) :
    (insertRowStep (n + 3) env (avFull b) table alias tcols (some (.mk target tw cn .nothing)) [] sr acc).exec s =
      (if avStepNHit (latestView s.w s.xid) l a c (rs, nr) then (.ok acc, s)
       else (.ok { acc with affected := acc.affected + 1 },
             s.withTable (avT b (avStepN (latestView s.w s.xid) s.xid s.cid l a c i o (rs, nr)).1
                                (avStepN (latestView s.w s.xid) s.xid s.cid l a c i o (rs, nr)).2))) := by
  have hfc := exec_findConflict_av b rs nr l a c i o none s hsolo ht
  have hck := exec_checkConstraints_av b rs nr l a c i o s
  cases hf : rs.find? (avHit (latestView s.w s.xid) none l a c) with
  | none =>
    rw [hf] at hfc
    rw [exec_insertRowStep_new (n + 1) env (avFull b) table alias tcols [] sr acc (avT b rs nr) _ s _ hT rfl (hrow _ _ _ _) rfl rfl hck
      (fun _ _ _ _ e => by cases e; exact ⟨_, harb _ _ _, hfc⟩) hfc (exec_checkForeignKeys_nil _ _ _ rfl), avT_inserted, accReturning]
    simp [avStepN, avStepNHit, hf]
  | some ex =>
    rw [hf] at hfc
    rw [exec_insertRowStep_hit (n + 1) env (avFull b) table alias tcols [] sr acc (avT b rs nr) _ s target tw cn .nothing _ _ ex hT
      (hrow _ _ _ _) rfl hck (harb _ _ _) hfc]
    simp [avStepNHit, hf]

/-- One row under `ON CONFLICT DO NOTHING` on the table as a map: its key reads what it read, or `(i, o)` if it read nothing;
    every other key reads what it read; the invariant is kept. -/
theorem avStepN_sem (w : World) (xid cid : Nat) (hx : xid ≠ 0) (hc : cid < 1000000000) (l a c : String) (i o : Int) (rs : List Ver) (nr : Nat)
    (hinv : AvInv (latestView w xid) rs nr) :
    AvInv (latestView w xid) (avStepN (latestView w xid) xid cid l a c i o (rs, nr)).1 (avStepN (latestView w xid) xid cid l a c i o (rs, nr)).2 ∧
    ∀ l' a' c', avGet (latestView w xid) (avStepN (latestView w xid) xid cid l a c i o (rs, nr)).1 l' a' c' =
      if (l, a, c) = (l', a', c') then some (match avGet (latestView w xid) rs l a c with | some v => v | none => (i, o))
      else avGet (latestView w xid) rs l' a' c' := by
  cases hf : rs.find? (avHit (latestView w xid) none l a c) with
  | none =>
    simp only [avStepN, avGet, hf, Option.map_none]
    exact av_ins_sem w xid cid hx hc l a c i o rs nr hinv hf
  | some ex =>
    simp only [avStepN, hf]
    refine ⟨hinv, fun l' a' c' => ?_⟩
    split
    · next e => cases e; simp only [avGet, hf, Option.map_some]
    · rfl

/-- the pure run of the zero-row insert over all rows -/
def avRunN (lv : View) (xid cid : Nat) (l : String) : List BalanceRow → List Ver × Nat → List Ver × Nat
  | [], st => st
  | r :: rest, st => avRunN lv xid cid l rest (avStepN lv xid cid l r.accounts_address r.asset 0 0 st)

/-- number of rows actually inserted -/
def avRunNCount (lv : View) (xid cid : Nat) (l : String) : List BalanceRow → List Ver × Nat → Nat
  | [], _ => 0
  | r :: rest, st =>
    (if avStepNHit lv l r.accounts_address r.asset st then 0 else 1) +
      avRunNCount lv xid cid l rest (avStepN lv xid cid l r.accounts_address r.asset 0 0 st)

structure AvShapeN (b : String) (l : String) (tcols target : List String) (g : BalanceRow → List (Option Value)) : Prop where
  row : ∀ r m rs nr s, (buildRow (m + 1) (avT b rs nr) tcols (g r)).exec s =
    (.ok [.text l, .text r.accounts_address, .text r.asset, .int 0, .int 0], s)
  arb : ∀ rs nr s, (arbiterIndexes (avT b rs nr) target).exec s = (.ok [avPkey], s)

theorem exec_fold_av_nothing (n : Nat) (env : Env) (b table alias l : String) (tcols target : List String) (tw : Option Expr) (cn : String)
    (g : BalanceRow → List (Option Value)) (sh : AvShapeN b l tcols target g)
    (s0 : St) (rs0 : List Ver) (nr0 : Nat) (hT0 : s0.w.table? (avFull b) = some (avT b rs0 nr0))
    (hsolo : ∀ x ∈ s0.w.active, x = s0.xid) (hx : s0.xid ≠ 0) (hc : s0.cid < 1000000000) :
    ∀ (rows : List BalanceRow) (rs : List Ver) (nr : Nat) (acc : DmlAcc),
      AvInv (latestView s0.w s0.xid) rs nr →
      ((rows.map g).foldlM (fun acc sr =>
          insertRowStep (n + 3) env (avFull b) table alias tcols (some (.mk target tw cn .nothing)) [] sr acc) acc).exec
          (s0.withTable (avT b rs nr)) =
        (.ok { acc with affected := acc.affected + avRunNCount (latestView s0.w s0.xid) s0.xid s0.cid l rows (rs, nr) },
         s0.withTable (avT b (avRunN (latestView s0.w s0.xid) s0.xid s0.cid l rows (rs, nr)).1
                             (avRunN (latestView s0.w s0.xid) s0.xid s0.cid l rows (rs, nr)).2)) := by
  intro rows
  induction rows with
  | nil => intro rs nr acc _; simp [avRunN, avRunNCount]
  | cons r rest ih =>
    intro rs nr acc hinv
    have hT := withTable_av_table? s0 b rs0 rs nr0 nr hT0
    have hstep := exec_insertRowStep_av_nothing n env b table alias tcols target tw cn (g r) acc l
      r.accounts_address r.asset 0 0 rs nr (s0.withTable (avT b rs nr)) hT hsolo hinv.typed (sh.row r) sh.arb
    simp only [withTable_latestView, withTable_xid, withTable_cid, withTable_withTable_av] at hstep
    simp only [List.map_cons, exec_foldlM_cons, hstep]
    have hinv' := (avStepN_sem s0.w s0.xid s0.cid hx hc l r.accounts_address r.asset 0 0 rs nr hinv).1
    cases hh : avStepNHit (latestView s0.w s0.xid) l r.accounts_address r.asset (rs, nr) with
    | true =>
      simp only [if_true]
      rw [ih rs nr acc hinv]
      simp [avRunN, avRunNCount, hh, avStepN_hit hh]
    | false =>
      simp only [Bool.false_eq_true, if_false]
      rw [ih _ _ _ hinv']
      simp [avRunN, avRunNCount, hh, Nat.add_assoc]

/-- `INSERT INTO accounts_volumes … VALUES rows ON CONFLICT DO NOTHING` (no RETURNING) as a whole -/
theorem exec_execInsert_av_nothing (n : Nat) (env : Env) (b alias l : String) (cols target : List String) (tw : Option Expr) (cn : String)
    (f : BalanceRow → List Expr) (g : BalanceRow → List (Option Value))
    (hb : b.isEmpty = false) (hcols : cols.isEmpty = false)
    (hsrc : ∀ r m s, (evalValuesRow (m + 1) env (f r)).exec s = (.ok (g r), s))
    (sh : AvShapeN b l cols target g)
    (s : St) (rs : List Ver) (nr : Nat) (hT : s.w.table? (avFull b) = some (avT b rs nr))
    (hu : (s.w.tables.map (·.name)).Nodup)
    (hsolo : ∀ x ∈ s.w.active, x = s.xid) (hx : s.xid ≠ 0) (hc : s.cid < 1000000000)
    (hinv : AvInv (latestView s.w s.xid) rs nr) (rows : List BalanceRow) :
    (execInsert (n + 4) env b "accounts_volumes" alias cols (.values (rows.map f))
        (some (.mk target tw cn .nothing)) []).exec s =
      (.ok { rel := { cols := [], rows := [] },
             affected := avRunNCount (latestView s.w s.xid) s.xid s.cid l rows (rs, nr) },
       s.withTable (avT b (avRunN (latestView s.w s.xid) s.xid s.cid l rows (rs, nr)).1
                          (avRunN (latestView s.w s.xid) s.xid s.cid l rows (rs, nr)).2)) := by
  have hfold := exec_fold_av_nothing n env b "accounts_volumes" alias l cols target tw cn g sh s rs nr hT hsolo hx hc rows rs nr {} hinv
  rw [withTable_self s _ hT hu] at hfold
  rw [exec_execInsert_values (n + 3) env b "accounts_volumes" alias cols _ _ [] hb hcols s _ _ hT _ _
    (exec_mapM_map f _ g rows s fun x _ => hsrc x (n + 2) s) hfold (by simp)]
  simp

end Ledger.Sql
