import Ledger.Base.Regex

/-!
Correctness of the derivative matcher of `Ledger/Base/Regex.lean` with respect
to the denotational semantics `Lang` (anchor-free expressions; anchors have the
empty language in `Lang` and are never nullable / derivable, so the statement
holds for every `Re`).
-/
namespace Ledger.Regex

theorem lang_emp {s} : ¬ Lang .emp s := by intro h; cases h
theorem lang_bol {s} : ¬ Lang .bol s := by intro h; cases h
theorem lang_eol {s} : ¬ Lang .eol s := by intro h; cases h

theorem lang_eps {s} : Lang .eps s ↔ s = [] := by
  constructor
  · intro h; cases h; rfl
  · rintro rfl; exact .eps

theorem lang_cls {rs s} : Lang (.cls rs) s ↔ ∃ c, s = [c] ∧ clsMem rs c = true := by
  constructor
  · intro h; cases h with | cls hc => exact ⟨_, rfl, hc⟩
  · rintro ⟨c, rfl, hc⟩; exact .cls hc

theorem lang_cat {a b s} : Lang (.cat a b) s ↔ ∃ s1 s2, s = s1 ++ s2 ∧ Lang a s1 ∧ Lang b s2 := by
  constructor
  · intro h; cases h with | cat h1 h2 => exact ⟨_, _, rfl, h1, h2⟩
  · rintro ⟨s1, s2, rfl, h1, h2⟩; exact .cat h1 h2

theorem lang_alt {a b s} : Lang (.alt a b) s ↔ Lang a s ∨ Lang b s := by
  constructor
  · intro h; cases h with
    | altL h => exact .inl h
    | altR h => exact .inr h
  · rintro (h | h)
    · exact .altL h
    · exact .altR h

theorem lang_star_cons {a c s} :
    Lang (.star a) (c :: s) ↔ ∃ s1 s2, s = s1 ++ s2 ∧ Lang a (c :: s1) ∧ Lang (.star a) s2 := by
  constructor
  · intro h
    generalize hr : Re.star a = r at h
    generalize hw : c :: s = w at h
    induction h generalizing s with
    | eps => cases hr
    | cls _ => cases hr
    | cat _ _ => cases hr
    | altL _ => cases hr
    | altR _ => cases hr
    | starNil => cases hw
    | @starCons a' s1 t h1 h2 _ ih2 =>
      cases hr
      cases s1 with
      | nil =>
        simp only [List.nil_append] at hw
        exact ih2 rfl hw
      | cons c' s1' =>
        simp only [List.cons_append, List.cons.injEq] at hw
        obtain ⟨rfl, rfl⟩ := hw
        exact ⟨s1', t, rfl, h1, h2⟩
  · rintro ⟨s1, s2, rfl, h1, h2⟩
    have := Lang.starCons h1 h2
    simpa using this

theorem nullable_iff (r : Re) : nullable r = true ↔ Lang r [] := by
  induction r with
  | emp => simp [nullable, lang_emp]
  | eps => simp [nullable, lang_eps]
  | cls rs => simp [nullable, lang_cls]
  | cat a b iha ihb =>
    simp only [nullable, Bool.and_eq_true, iha, ihb, lang_cat]
    constructor
    · rintro ⟨h1, h2⟩; exact ⟨[], [], rfl, h1, h2⟩
    · rintro ⟨s1, s2, h, h1, h2⟩
      obtain ⟨rfl, rfl⟩ := List.append_eq_nil_iff.1 h.symm
      exact ⟨h1, h2⟩
  | alt a b iha ihb => simp [nullable, iha, ihb, lang_alt]
  | star a _ => simpa [nullable] using Lang.starNil
  | bol => simp [nullable, lang_bol]
  | eol => simp [nullable, lang_eol]

theorem lang_mkCat {a b s} : Lang (mkCat a b) s ↔ Lang (.cat a b) s := by
  unfold mkCat
  split
  · simp [lang_cat, lang_emp]
  · simp [lang_cat, lang_emp]
  · simp only [lang_cat, lang_eps]
    constructor
    · intro h; exact ⟨[], s, rfl, rfl, h⟩
    · rintro ⟨s1, s2, rfl, rfl, h⟩; simpa using h
  · rfl

theorem lang_mkAlt {a b s} : Lang (mkAlt a b) s ↔ Lang (.alt a b) s := by
  unfold mkAlt
  split
  · simp [lang_alt, lang_emp]
  · simp [lang_alt, lang_emp]
  · rfl

theorem lang_cat_cons {a b c s} : Lang (.cat a b) (c :: s) ↔
    (∃ s1 s2, s = s1 ++ s2 ∧ Lang a (c :: s1) ∧ Lang b s2) ∨ (Lang a [] ∧ Lang b (c :: s)) := by
  rw [lang_cat]
  constructor
  · rintro ⟨s1, s2, h, h1, h2⟩
    cases s1 with
    | nil => cases h; exact .inr ⟨h1, h2⟩
    | cons c' s1' => cases h; exact .inl ⟨s1', s2, rfl, h1, h2⟩
  · rintro (⟨s1, s2, rfl, h1, h2⟩ | ⟨h1, h2⟩)
    · exact ⟨c :: s1, s2, rfl, h1, h2⟩
    · exact ⟨[], c :: s, rfl, h1, h2⟩

theorem deriv_iff (c : Char) (r : Re) : ∀ s, Lang (deriv c r) s ↔ Lang r (c :: s) := by
  induction r with
  | emp => intro s; simp [deriv, lang_emp]
  | eps => intro s; simp [deriv, lang_emp, lang_eps]
  | bol => intro s; simp [deriv, lang_emp, lang_bol]
  | eol => intro s; simp [deriv, lang_emp, lang_eol]
  | cls rs =>
    intro s
    simp only [deriv]
    split <;> simp_all [lang_cls, lang_eps, lang_emp, and_assoc]
  | alt a b iha ihb =>
    intro s
    simp only [deriv, lang_mkAlt, lang_alt, iha, ihb]
  | cat a b iha ihb =>
    intro s
    rw [lang_cat_cons, ← nullable_iff]
    simp only [deriv]
    split <;> simp only [lang_mkAlt, lang_alt, lang_mkCat, lang_cat, true_and, Bool.false_eq_true, false_and, or_false, *]
  | star a iha =>
    intro s
    simp only [deriv, lang_mkCat, lang_cat, iha, lang_star_cons]

theorem accepts_iff (r : Re) (s : List Char) : accepts r s = true ↔ Lang r s := by
  induction s generalizing r with
  | nil => simp [accepts, nullable_iff]
  | cons c s ih => simp [accepts, ih, deriv_iff]

instance (r : Re) (s : List Char) : Decidable (Lang r s) :=
  decidable_of_iff _ (accepts_iff r s)

theorem lang_plus {a s} : Lang (Re.plus a) s ↔ ∃ s1 s2, s = s1 ++ s2 ∧ Lang a s1 ∧ Lang (.star a) s2 := by
  simp [Re.plus, lang_cat]

theorem lang_opt {a s} : Lang (Re.opt a) s ↔ Lang a s ∨ s = [] := by
  simp [Re.opt, lang_alt, lang_eps]

theorem lang_optN_cls (rs : List (Nat × Nat)) : ∀ (n : Nat) (s : List Char),
    s.length ≤ n → (∀ c ∈ s, clsMem rs c = true) → Lang (Re.optN (.cls rs) n) s
  | 0, s, hlen, _ => by
    have : s = [] := by cases s <;> simp_all
    subst this; exact .eps
  | n + 1, [], _, _ => lang_opt.2 (.inr rfl)
  | n + 1, c :: t, hlen, hall => by
    have ih := lang_optN_cls rs n t (by simp at hlen; omega) (fun x hx => hall x (by simp [hx]))
    have : Lang (.cat (.cls rs) (Re.optN (.cls rs) n)) ([c] ++ t) :=
      .cat (.cls (hall c (by simp))) ih
    exact lang_opt.2 (.inl (by simpa using this))

theorem lang_star_cls {rs} : ∀ {s}, Lang (.star (.cls rs)) s ↔ ∀ c ∈ s, clsMem rs c = true
  | [] => by simpa using Lang.starNil
  | c :: s => by
    rw [lang_star_cons, List.forall_mem_cons, ← lang_star_cls (s := s)]
    constructor
    · rintro ⟨s1, s2, rfl, h1, h2⟩
      obtain ⟨c', hc, hm⟩ := lang_cls.1 h1
      cases hc
      exact ⟨hm, h2⟩
    · rintro ⟨hm, h2⟩
      exact ⟨[], s, rfl, .cls hm, h2⟩

theorem lang_plus_cls {rs s} : Lang (Re.plus (.cls rs)) s ↔ s ≠ [] ∧ ∀ c ∈ s, clsMem rs c = true := by
  rw [lang_plus]
  constructor
  · rintro ⟨s1, s2, rfl, h1, h2⟩
    obtain ⟨c, rfl, hc⟩ := lang_cls.1 h1
    exact ⟨nofun, List.forall_mem_cons.2 ⟨hc, lang_star_cls.1 h2⟩⟩
  · rintro ⟨hne, h⟩
    obtain ⟨c, t, rfl⟩ := List.exists_cons_of_ne_nil hne
    exact ⟨[c], t, rfl, .cls (h c (by simp)), lang_star_cls.2 fun x hx => h x (by simp [hx])⟩

end Ledger.Regex
