import Ledger.Proofs.ReplLive

/-! Consequence of the reset race in the model: a handler restarted from a stale
cursor never delivers the logs at or below it by its own activity. -/
namespace Ledger.Repl
variable {c : Cfg} {s s' : State} {h h' : Handler} {l : Label}

/-- A running, not-stopping pipeline whose cursor and every batch received in the
    current epoch lie at or beyond `m`: ids `≤ m` can no longer be delivered by the
    pipeline's own activity. -/
def StuckBeyond (m : Nat) (s : State) : Prop :=
  (∀ b ∈ s.recv, m ≤ b.1) ∧ (∀ k ∈ s.acked, m < k) ∧ ∃ h, s.handler = some h ∧ m ≤ h.last ∧ h.stopReq = false

theorem stuck_step {m : Nat} (w : WF s) (hs : step c s l = some s')
    (hp : l.progress = true) (st : StuckBeyond m s) : StuckBeyond m s' := by
  obtain ⟨hrecv, hacked, h, hh, hm, hns⟩ := st
  -- the exporter receives and acknowledges nothing at or below the cursor
  have call : ∀ {lo hi pos : Nat} {mo b g : Bool}, h.pc = .exporting lo hi mo pos b g →
      (∀ b ∈ (exporterCall s pos (chunkEnd c pos hi) .ok).recv, m ≤ b.1) ∧
      (∀ k ∈ (exporterCall s pos (chunkEnd c pos hi) .ok).acked, m < k) ∧ m ≤ hi := by
    intro lo hi pos mo b g hpc
    have hok := w.pcOk h hh
    simp only [PcOk, hpc] at hok
    refine ⟨fun b hb' => ?_, fun k hk => ?_, by omega⟩
    · rcases List.mem_cons.mp hb' with rfl | e
      · show m ≤ pos; omega
      · exact hrecv b e
    · rcases List.mem_append.mp hk with e | e
      · have := mem_idsOf.mp e; omega
      · exact hacked k e
  cases Step.of_step hs with
  | skip | persistOrphan | persistCur => exact ⟨hrecv, hacked, h, hh, hm, hns⟩
  | halt op hl => cases op <;> cases hl <;> cases hp
  | append | create | mgrStartRun | mgrStartIdle | resetIdle | mgrStopIdle => cases hp
  | restart _ _ _ hn => cases hn.symm.trans hh
  | fetchPage _ hh0 _ _ _ _ k | fetchNone _ _ hh0 _ _ k | persistSend _ _ _ hh0 _ _ _ k =>
    cases hh.symm.trans hh0
    rw [k.run hns]
    exact ⟨hrecv, hacked, _, rfl, hm, hns⟩
  | acceptChunk r hh0 hpc =>
    cases hh.symm.trans hh0
    cases r <;> first | cases hp | skip
    exact ⟨(call hpc).1, (call hpc).2.1, _, rfl, hm, hns⟩
  | acceptFailed r hh0 hpc k =>
    cases hh.symm.trans hh0
    cases r <;> first | cases hp | skip
    rw [k.run hns]
    exact ⟨(call hpc).1, (call hpc).2.1, _, rfl, hm, hns⟩
  | acceptDone hh0 hpc _ _ _ _ k =>
    cases hh.symm.trans hh0
    rw [k.run hns]
    exact ⟨(call hpc).1, (call hpc).2.1, _, rfl, (call hpc).2.2, hns⟩
  | tickWake hh0 | tickRetry hh0 | tickFlush hh0 =>
    cases hh.symm.trans hh0
    exact ⟨hrecv, hacked, _, rfl, hm, hns⟩

theorem stuck_steps {m : Nat} (a : Steps c Label.progress s s') (w : WF s)
    (st : StuckBeyond m s) : StuckBeyond m s' := by
  obtain ⟨ls, hp, hr⟩ := a
  exact (run_keeps (P := fun s => WF s ∧ StuckBeyond m s)
    (fun l hl _ _ ⟨w, st⟩ hs => ⟨wf_step w hs, stuck_step w hs (hp l hl) st⟩) ⟨w, st⟩ hr).2

theorem stuck_not_delivered {m k : Nat} (st : StuckBeyond m s) (hk : k ≤ m) : ¬ Delivered s k := by
  rintro ⟨b, hb, h1, _⟩
  have := st.1 b hb
  omega

theorem stuck_not_acked {m k : Nat} (st : StuckBeyond m s) (hk : k ≤ m) : ¬ Acked s k := by
  intro h
  have := st.2.1 k h
  omega

theorem stuck_raceState2 : WF raceState2 ∧ StuckBeyond 2 raceState2 :=
  ⟨.of_some rfl ⟨rfl, rfl⟩ trivial (fun _ => nofun) nofun (fun _ => rfl),
    by simp [raceState2], by simp [raceState2], _, rfl, by simp, rfl⟩

end Ledger.Repl
