import Ledger.Wrap.Discipline

/-!
Invariant of the events-wrapper model (`Ledger/Wrap/Events.lean`) linking the
`atCommit` queues to the pending sets of the specification fold, and its
preservation by every wrapper method (for C31).
-/
namespace Ledger.Wrap
open List

theorem specOf_snoc (tr : List Item) (it : Item) : specOf (tr ++ [it]) = (specOf tr).step it := by
  simp [specOf, Spec.run, List.foldl_append]

/-- Items that do not concern the specification fold. -/
def Item.inert : Item → Bool
  | .begin _ _ .ok => false
  | .write _ _ false _ .ok => false
  | .commit _ .ok => false
  | .commit _ .fail => false
  | .rollback _ .ok => false
  | .rollback _ .fail => false
  | .publish _ _ => false
  | _ => true

theorem step_inert (σ : Spec) (it : Item) (h : it.inert = true) : σ.step it = σ := by
  cases it with
  | begin t p r => cases r <;> first | rfl | simp [Item.inert] at h
  | lock t r => rfl
  | release t => rfl
  | commit t r => cases r <;> first | rfl | simp [Item.inert] at h
  | rollback t r => cases r <;> first | rfl | simp [Item.inert] at h
  | write t k dry w r => cases r <;> cases dry <;> first | rfl | simp [Item.inert] at h
  | sql t tag r => rfl
  | publish k w => simp [Item.inert] at h

/-- A wrapper as the discipline produces them, when `n` transactions exist:
    outside any transaction (no `hasTx`, events are published at once), or inside
    transaction `t` (events go to the queue of the wrapper that opened `t`). -/
def Good (n : Nat) (c : W) : Prop :=
  (c.u = .none ∧ c.hasTx = false ∧ ∀ t, c.id ≠ .tx t) ∨
  (∃ t, c.u = .tx t .none ∧ 1 ≤ t ∧ t ≤ n ∧ c.hasTx = true ∧ c.sink = some (.tx t) ∧
        (c.id = .tx t ∨ ∃ k, c.id = .lk k))

theorem Good.mono {n m : Nat} {c : W} (h : Good n c) (hnm : n ≤ m) : Good m c := by
  rcases h with h | ⟨t, h1, h2, h3, h4⟩
  · exact Or.inl h
  · exact Or.inr ⟨t, h1, h2, Nat.le_trans h3 hnm, h4⟩

theorem good_root (n : Nat) : Good n .root :=
  Or.inl ⟨rfl, rfl, fun t h => by cases h⟩

theorem sink_of_not_hasTx (c : W) (h : c.hasTx = false) : c.sink = none := by
  cases c with
  | root => rfl
  | node id hasTx u p =>
    simp only [W.hasTx] at h
    subst h
    rfl

/-- The invariant, with a set `ex` of exempted transactions (those currently under
    a nested first-write path, handled by `Ledger/Proofs/WrapNest.lean`): no bad
    publish so far, everything durable has been published (in the same order),
    and for every open, non-exempted transaction: it is not nested and the queue of
    the wrapper that opened it holds exactly its pending writes. -/
structure InvE (ex : Nat → Bool) (s : St) : Prop where
  bad : (specOf s.trace).bad = false
  pub : (specOf s.trace).pub = (specOf s.trace).dur
  par : ∀ t, s.opn t = true → ex t = false → (specOf s.trace).par t = 0
  queue : ∀ t, s.opn t = true → ex t = false → s.queue (.tx t) = (specOf s.trace).pend t
  fresh : ∀ t, s.nT < t → s.opn t = false ∧ s.queue (.tx t) = []
  lockF : s.lockTx false = false

abbrev Inv (s : St) : Prop := InvE (fun _ => false) s

theorem spec_write_in (tr : List Item) (t : Nat) (k : Kind) (w : Nat) (ht : t ≠ 0) :
    specOf (tr ++ [.write t k false w .ok]) =
      { specOf tr with pend := upd (specOf tr).pend t ((specOf tr).pend t ++ [(k, w)]) } := by
  rw [specOf_snoc]; simp [Spec.step, ht]

theorem spec_write_out (tr : List Item) (k : Kind) (w : Nat) :
    specOf (tr ++ [.write 0 k false w .ok]) = { specOf tr with dur := (specOf tr).dur ++ [(k, w)] } := by
  rw [specOf_snoc]; rfl

theorem spec_begin (tr : List Item) (t p : Nat) :
    specOf (tr ++ [.begin t p .ok]) =
      { specOf tr with par := upd (specOf tr).par t p, pend := upd (specOf tr).pend t [] } := by
  rw [specOf_snoc]; rfl

theorem spec_commit_in (tr : List Item) (t : Nat) (hp : (specOf tr).par t ≠ 0) :
    specOf (tr ++ [.commit t .ok]) =
      { specOf tr with pend := upd (upd (specOf tr).pend ((specOf tr).par t)
          ((specOf tr).pend ((specOf tr).par t) ++ (specOf tr).pend t)) t [] } := by
  rw [specOf_snoc]; simp [Spec.step, hp]

theorem spec_commit_top (tr : List Item) (t : Nat) (hp : (specOf tr).par t = 0) :
    specOf (tr ++ [.commit t .ok]) =
      { specOf tr with dur := (specOf tr).dur ++ (specOf tr).pend t, pend := upd (specOf tr).pend t [] } := by
  rw [specOf_snoc]; simp [Spec.step, hp]

theorem spec_clear (tr : List Item) (t : Nat) (it : Item)
    (hit : it = .commit t .fail ∨ it = .rollback t .ok ∨ it = .rollback t .fail) :
    specOf (tr ++ [it]) = { specOf tr with pend := upd (specOf tr).pend t [] } := by
  rw [specOf_snoc]
  rcases hit with rfl | rfl | rfl <;> rfl

theorem InvE.of_eq {ex : Nat → Bool} {s s' : St} (h : InvE ex s) (ht : specOf s'.trace = specOf s.trace)
    (e : (s'.opn, s'.queue, s'.nT, s'.lockTx) = (s.opn, s.queue, s.nT, s.lockTx)) : InvE ex s' := by
  obtain ⟨ho, hq, hn, hl⟩ := by simpa only [Prod.mk.injEq] using e
  constructor
  · rw [ht]; exact h.bad
  · rw [ht]; exact h.pub
  · rw [ht, ho]; exact h.par
  · rw [ht, ho, hq]; exact h.queue
  · rw [hn, ho, hq]; exact h.fresh
  · rw [hl]; exact h.lockF

theorem InvE.emit_inert {ex : Nat → Bool} {s : St} (h : InvE ex s) (it : Item) (hi : it.inert = true) :
    InvE ex (s.emit it) :=
  h.of_eq (by simp only [St.emit, specOf_snoc]; exact step_inert _ _ hi) rfl

/-- One step of the stack: every open, non-exempted transaction of the new state is
    either untouched or satisfies its clause afresh. -/
theorem InvE.step {ex : Nat → Bool} {s s' : St} {σ' : Spec} (h : InvE ex s) (hσ : specOf s'.trace = σ')
    (hb : σ'.bad = false) (hp : σ'.pub = σ'.dur)
    (ht : ∀ t, ex t = false → s'.opn t = true →
      (s.opn t = true ∧ σ'.par t = (specOf s.trace).par t ∧ σ'.pend t = (specOf s.trace).pend t ∧
        s'.queue (.tx t) = s.queue (.tx t)) ∨
      (σ'.par t = 0 ∧ s'.queue (.tx t) = σ'.pend t))
    (hf : ∀ t, s'.nT < t → s'.opn t = false ∧ s'.queue (.tx t) = []) (hl : s'.lockTx = s.lockTx) :
    InvE ex s' := by
  subst hσ
  refine ⟨hb, hp, fun t ho hx => ?_, fun t ho hx => ?_, hf, by rw [hl]; exact h.lockF⟩
  · rcases ht t hx ho with ⟨h1, h2, _, _⟩ | h1
    · rw [h2]; exact h.par t h1 hx
    · exact h1.1
  · rcases ht t hx ho with ⟨h1, _, h3, h4⟩ | h1
    · rw [h3, h4]; exact h.queue t h1 hx
    · exact h1.2

theorem InvE.close {ex : Nat → Bool} {s s' : St} {σ' : Spec} (h : InvE ex s) (t : Nat) (htn : t ≤ s.nT)
    (hσ : specOf s'.trace = σ') (hb : σ'.bad = false) (hp : σ'.pub = σ'.dur) (ho0 : s'.opn t = false)
    (hne : ∀ t', t' ≠ t → s'.opn t' = s.opn t' ∧ σ'.par t' = (specOf s.trace).par t' ∧
      σ'.pend t' = (specOf s.trace).pend t' ∧ s'.queue (.tx t') = s.queue (.tx t'))
    (hn : s'.nT = s.nT) (hl : s'.lockTx = s.lockTx) : InvE ex s' := by
  refine h.step hσ hb hp (fun t' _ ho => .inl ?_) (fun t' ht' => ?_) hl
  · obtain ⟨h1, r⟩ := hne t' (fun e => by rw [e, ho0] at ho; cases ho)
    exact ⟨h1 ▸ ho, r⟩
  · rw [hn] at ht'
    obtain ⟨h1, _, _, h4⟩ := hne t' (by omega)
    rw [h1, h4]; exact h.fresh t' ht'

/-- What a step keeps: the allocation counter only grows, `lockTx`, the handle
    table and an `in-use` ledger state are kept. -/
structure Ext (s s' : St) : Prop where
  nT : s.nT ≤ s'.nT
  lockTx : s'.lockTx = s.lockTx
  handles : s'.handles = s.handles
  inUse : s.inUse = true → s'.inUse = true

theorem Ext.of_eq {s s' : St} (e : (s'.nT, s'.lockTx, s'.handles, s'.inUse) = (s.nT, s.lockTx, s.handles, s.inUse)) :
    Ext s s' := by
  obtain ⟨hn, hl, hh, hi⟩ := by simpa only [Prod.mk.injEq] using e
  exact ⟨Nat.le_of_eq hn.symm, hl, hh, fun h => hi ▸ h⟩

theorem Ext.trans {a b c : St} (h1 : Ext a b) (h2 : Ext b c) : Ext a c :=
  ⟨Nat.le_trans h1.nT h2.nT, h2.lockTx.trans h1.lockTx, h2.handles.trans h1.handles,
   fun h => h2.inUse (h1.inUse h)⟩

theorem live_none (opn : Nat → Bool) : UH.live opn .none = true := rfl

theorem live_tx (opn : Nat → Bool) (t : Nat) : UH.live opn (.tx t .none) = opn t := by
  simp [UH.live]

theorem publishAll_eq (s : St) (evs : List Ev) :
    publishAll s evs = { s with trace := s.trace ++ evs.map (fun e => Item.publish e.1 e.2) } := by
  induction evs generalizing s with
  | nil => simp [publishAll]
  | cons e evs ih => simp [publishAll, ih, St.emit]

theorem spec_publish_list (σ : Spec) (L : List Ev) (hb : σ.bad = false) (hd : σ.dur = σ.pub ++ L) :
    Spec.run σ (L.map (fun e => Item.publish e.1 e.2)) = { σ with pub := σ.dur } := by
  induction L generalizing σ with
  | nil => cases σ; simp_all [Spec.run]
  | cons e L ih =>
    have hcount : σ.pub.count e < σ.dur.count e := by
      rw [hd]; simp [List.count_append, List.count_cons_self]
    have h1 : σ.step (.publish e.1 e.2) = { σ with pub := σ.pub ++ [e] } := by
      simp [Spec.step, hb, hcount]
    simp only [List.map_cons, Spec.run, List.foldl_cons, h1]
    exact ih _ hb (by simp [hd])

theorem wWrite_done {s : St} {c : W} (k : Kind) (dry : Bool) (w : Nat) (hl : c.u.live s.opn = false) :
    wWrite s c k dry w = (.txdone, s.emit (.write c.u.id k dry w .done)) := by
  simp [wWrite, hl]

theorem wWrite_fail {s : St} {c : W} (k : Kind) (dry : Bool) (w : Nat) (hl : c.u.live s.opn = true)
    (hs : s.script w = false) :
    wWrite s c k dry w = (.scripted w, s.emit (.write c.u.id k dry w .fail)) := by
  simp [wWrite, hl, hs]

theorem wWrite_dry {s : St} {c : W} (k : Kind) (w : Nat) (hl : c.u.live s.opn = true)
    (hs : s.script w = true) :
    wWrite s c k true w = (.ok, s.emit (.write c.u.id k true w .ok)) := by
  simp [wWrite, hl, hs]

theorem wWrite_ok {s : St} {c : W} (k : Kind) (w : Nat) (hl : c.u.live s.opn = true)
    (hs : s.script w = true) :
    wWrite s c k false w = (.ok, handleEvent (s.emit (.write c.u.id k false w .ok)) c (k, w)) := by
  simp [wWrite, hl, hs]

theorem wWrite_state (s : St) (c : W) (k : Kind) (dry : Bool) (w : Nat) :
    (∃ it, it.inert = true ∧ (wWrite s c k dry w).2 = s.emit it) ∨
    (dry = false ∧ c.u.live s.opn = true ∧
      (wWrite s c k dry w).2 = handleEvent (s.emit (.write c.u.id k false w .ok)) c (k, w)) := by
  cases hl : c.u.live s.opn with
  | false => rw [wWrite_done k dry w hl]; exact .inl ⟨_, by cases dry <;> rfl, rfl⟩
  | true =>
    cases hs : s.script w with
    | false => rw [wWrite_fail k dry w hl hs]; exact .inl ⟨_, by cases dry <;> rfl, rfl⟩
    | true =>
      cases dry with
      | true => rw [wWrite_dry k w hl hs]; exact .inl ⟨_, rfl, rfl⟩
      | false => rw [wWrite_ok k w hl hs]; exact .inr ⟨rfl, rfl, rfl⟩

theorem updQ_same (q : WId → List Ev) (i : WId) (v : List Ev) : updQ q i v i = v := by simp [updQ]
theorem updQ_other (q : WId → List Ev) (i j : WId) (v : List Ev) (h : j ≠ i) : updQ q i v j = q j := by
  simp [updQ, h]

theorem specOf_append (a b : List Item) : specOf (a ++ b) = Spec.run (specOf a) b := by
  simp [specOf, Spec.run_append]

theorem wWrite_pres {ex : Nat → Bool} {s : St} {c : W} (h : InvE ex s) (hc : Good s.nT c)
    (k : Kind) (dry : Bool) (w : Nat) :
    InvE ex (wWrite s c k dry w).2 ∧ Ext s (wWrite s c k dry w).2 := by
  rcases wWrite_state s c k dry w with ⟨it, hi, he⟩ | ⟨rfl, hl, he⟩ <;> rw [he]
  · exact ⟨h.emit_inert _ hi, .of_eq rfl⟩
  rcases hc with ⟨hu, hh, _⟩ | ⟨t, hu, ht1, htn, hh, hsink, _⟩
  · -- outside any transaction: durable at once, published at once
    simp only [handleEvent, sink_of_not_hasTx c hh, hu, UH.id]
    refine ⟨?_, .of_eq rfl⟩
    have hσ : specOf ((s.emit (.write 0 k false w .ok)).emit (.publish k w)).trace =
        { specOf s.trace with dur := (specOf s.trace).dur ++ [(k, w)], pub := (specOf s.trace).dur ++ [(k, w)] } := by
      show specOf ((s.trace ++ [_]) ++ [_]) = _
      rw [specOf_append, spec_write_out]
      exact spec_publish_list _ [(k, w)] h.bad (by simp [h.pub])
    exact h.step hσ h.bad rfl (fun t' hx ho => .inl ⟨ho, rfl, rfl, rfl⟩) h.fresh rfl
  · -- inside transaction t: pending there, queued on the wrapper that opened t
    have hopn : s.opn t = true := by rw [hu, live_tx] at hl; exact hl
    simp only [handleEvent, hsink, hu, UH.id]
    refine ⟨?_, .of_eq rfl⟩
    have hq : ∀ t', t' ≠ t → updQ s.queue (.tx t) (s.queue (.tx t) ++ [(k, w)]) (.tx t') = s.queue (.tx t') :=
      fun t' htt => updQ_other _ _ _ _ (by intro he; cases he; exact htt rfl)
    refine h.step (spec_write_in s.trace t k w (by omega)) h.bad h.pub (fun t' hx ho => ?_)
      (fun t' ht' => ⟨(h.fresh t' ht').1, ?_⟩) rfl
    · by_cases htt : t' = t
      · subst htt
        refine .inr ⟨h.par t' hopn hx, ?_⟩
        show updQ _ _ _ _ = upd _ _ _ _
        rw [updQ_same, upd_same]; show s.queue _ ++ _ = _
        rw [h.queue t' hopn hx]
      · exact .inl ⟨ho, rfl, upd_other _ _ _ _ htt, hq t' htt⟩
    · exact (hq t' (by have : s.nT < t' := ht'; omega)).trans (h.fresh t' ht').2

theorem wBegin_fail {s : St} {c : W} (hl : c.u.live s.opn = true) (hf : s.faults.begin = true) :
    wBegin s c = (.error .begin, s.emit (.begin 0 c.u.id .fail)) := by
  simp [wBegin, hl, hf]

theorem wBegin_done {s : St} {c : W} (hl : c.u.live s.opn = false) :
    wBegin s c = (.error .txdone, s.emit (.begin 0 c.u.id .done)) := by
  simp [wBegin, hl]

theorem wBegin_ok {s : St} {c : W} (hl : c.u.live s.opn = true) (hf : s.faults.begin = false) :
    wBegin s c = (.ok (.node (.tx (s.nT + 1)) true (.tx (s.nT + 1) c.u) c),
      { s with nT := s.nT + 1, opn := upd s.opn (s.nT + 1) true }.emit (.begin (s.nT + 1) c.u.id .ok)) := by
  simp [wBegin, hl, hf]

/-- `BeginTX` on a wrapper outside any transaction. -/
theorem wBegin_pres {ex : Nat → Bool} {s : St} {c : W} (h : InvE ex s) (hc : Good s.nT c) (hu : c.u = .none) :
    InvE ex (wBegin s c).2 ∧ Ext s (wBegin s c).2 ∧
    ∀ n, (wBegin s c).1 = .ok n →
      n = .node (.tx (s.nT + 1)) true (.tx (s.nT + 1) .none) c ∧
      (wBegin s c).2.nT = s.nT + 1 ∧ (wBegin s c).2.opn (s.nT + 1) = true ∧
      Good (wBegin s c).2.nT n ∧ n.lockCreated = false := by
  have hl : c.u.live s.opn = true := by rw [hu]; rfl
  cases hf : s.faults.begin with
  | true =>
    rw [wBegin_fail hl hf]
    exact ⟨h.emit_inert _ rfl, .of_eq rfl, fun n hn => by cases hn⟩
  | false =>
    rw [wBegin_ok hl hf, hu]
    have hh : c.hasTx = false := by
      rcases hc with ⟨_, hh, _⟩ | ⟨t, hu', _⟩
      · exact hh
      · rw [hu] at hu'; cases hu'
    refine ⟨?_, ⟨Nat.le_succ _, rfl, rfl, id⟩, ?_⟩
    · refine h.step (spec_begin s.trace (s.nT + 1) 0) h.bad h.pub (fun t hx ho => ?_) (fun t ht => ?_) rfl
      · by_cases ht : t = s.nT + 1
        · subst ht
          exact .inr ⟨upd_same .., (h.fresh _ (Nat.lt_succ_self _)).2.trans (upd_same ..).symm⟩
        · exact .inl ⟨(upd_other _ _ _ _ ht).symm.trans ho, upd_other _ _ _ _ ht, upd_other _ _ _ _ ht, rfl⟩
      · have ht' : s.nT + 1 < t := ht
        have := h.fresh t (by omega)
        exact ⟨(upd_other _ _ _ _ (by omega)).trans this.1, this.2⟩
    · intro n hn
      cases hn
      refine ⟨rfl, rfl, by simp [St.emit], Or.inr ⟨s.nT + 1, rfl, by omega, Nat.le_refl _, rfl, ?_, Or.inl rfl⟩,
        rfl⟩
      simp [W.sink, hh]

theorem wLock_done {s : St} {c : W} (hl : c.u.live s.opn = false) :
    wLock s c = (.error .txdone, s.emit (.lock c.u.id .done)) := by
  simp [wLock, hl]

theorem wLock_fail {s : St} {c : W} (hl : c.u.live s.opn = true) (hf : s.faults.lock = true) :
    wLock s c = (.error .lock, s.emit (.lock c.u.id .fail)) := by
  simp [wLock, hl, hf]

theorem wLock_ok {s : St} {c : W} (hl : c.u.live s.opn = true) (hf : s.faults.lock = false) :
    wLock s c = (.ok (.node (.lk s.nK) (s.lockTx c.hasTx) c.u c),
      { s with nK := s.nK + 1 }.emit (.lock c.u.id .ok)) := by
  simp [wLock, hl, hf]

theorem wLock_state (s : St) (c : W) :
    ∃ it, it.inert = true ∧
      ((wLock s c).2 = s.emit it ∨ (wLock s c).2 = { s with nK := s.nK + 1 }.emit it) := by
  cases hl : c.u.live s.opn with
  | false => rw [wLock_done hl]; exact ⟨_, rfl, Or.inl rfl⟩
  | true =>
    cases hf : s.faults.lock with
    | true => rw [wLock_fail hl hf]; exact ⟨_, rfl, Or.inl rfl⟩
    | false => rw [wLock_ok hl hf]; exact ⟨_, rfl, Or.inr rfl⟩

theorem wLock_node {s : St} {c n : W} (h : (wLock s c).1 = .ok n) :
    n = .node (.lk s.nK) (s.lockTx c.hasTx) c.u c := by
  unfold wLock at h
  split at h
  · cases h
  split at h
  · cases h
  · exact (Except.ok.inj h).symm

/-- `LockLedger`: outside a transaction always fine; inside one only if the
    returned wrapper keeps `hasTx`. -/
theorem wLock_pres {ex : Nat → Bool} {s : St} {c : W} (h : InvE ex s) (hc : Good s.nT c)
    (hpre : c.u = .none ∨ s.lockTx true = true) :
    InvE ex (wLock s c).2 ∧ Ext s (wLock s c).2 ∧
    ∀ n, (wLock s c).1 = .ok n → Good s.nT n := by
  refine ⟨?_, ?_, fun n hn => ?_⟩
  · obtain ⟨it, hi, e | e⟩ := wLock_state s c <;> rw [e]
    · exact h.emit_inert _ hi
    · exact (h.of_eq rfl rfl : InvE ex { s with nK := s.nK + 1 }).emit_inert _ hi
  · obtain ⟨it, _, e | e⟩ := wLock_state s c <;> rw [e] <;> exact .of_eq rfl
  · cases wLock_node hn
    rcases hc with ⟨hu, hh, _⟩ | ⟨t, hu, ht1, htn, hh, hsink, _⟩
    · exact Or.inl ⟨hu, (by show s.lockTx c.hasTx = false; rw [hh]; exact h.lockF), fun t he => by cases he⟩
    · have hlt : s.lockTx true = true := hpre.resolve_left fun hp => by rw [hu] at hp; cases hp
      refine Or.inr ⟨t, hu, ht1, htn, (by show s.lockTx c.hasTx = true; rw [hh]; exact hlt), ?_, Or.inr ⟨s.nK, rfl⟩⟩
      show (if !(s.lockTx c.hasTx) then none else if c.hasTx then c.sink else some (WId.lk s.nK)) = _
      rw [hh, hlt, hsink]; rfl

theorem uSql_state (s : St) (c : W) (tag : Nat) : ∃ it, it.inert = true ∧ (uSql s c tag).2 = s.emit it := by
  unfold uSql
  split
  · exact ⟨_, rfl, rfl⟩
  · exact ⟨_, rfl, rfl⟩

theorem uSql_pres {ex : Nat → Bool} {s : St} (h : InvE ex s) (c : W) (tag : Nat) :
    InvE ex (uSql s c tag).2 ∧ Ext s (uSql s c tag).2 := by
  obtain ⟨it, hi, he⟩ := uSql_state s c tag
  rw [he]
  exact ⟨h.emit_inert _ hi, .of_eq rfl⟩

/-- the scripted `Commit` failure for a handle -/
def commitFails (s : St) (c : W) : Bool :=
  s.faults.commit || (s.faults.commitTop && c.u.parentId == 0)

theorem wCommit_done {s : St} {c : W} (h : c.u.id = 0 ∨ c.u.live s.opn = false) :
    wCommit s c = (.txdone, s.emit (.commit c.u.id .done)) := by
  rcases h with h | h <;> simp [wCommit, h]

theorem wCommit_fail {s : St} {c : W} {t : Nat} {p : UH} (hu : c.u = .tx t p) (ht : t ≠ 0)
    (hl : c.u.live s.opn = true) (hf : commitFails s c = true) :
    wCommit s c = (.commit, { s with opn := upd s.opn t false }.emit (.commit t .fail)) := by
  have hi : c.u.id = t := by rw [hu]; rfl
  unfold commitFails at hf
  simp [wCommit, hi, ht, hl, hf]

theorem wCommit_ok {s : St} {c : W} {t : Nat} {p : UH} (hu : c.u = .tx t p) (ht : t ≠ 0)
    (hl : c.u.live s.opn = true) (hf : commitFails s c = false) :
    wCommit s c = (.ok, publishAll ({ s with opn := upd s.opn t false }.emit (.commit t .ok))
      (s.queue c.id)) := by
  have hi : c.u.id = t := by rw [hu]; rfl
  unfold commitFails at hf
  simp [wCommit, hi, ht, hl, hf, St.emit]

/-- `Commit` of a non-nested, non-exempted transaction, not through a wrapper
    returned by `LockLedger` inside a transaction. -/
theorem wCommit_pres {ex : Nat → Bool} {s : St} {c : W} (h : InvE ex s) (hc : Good s.nT c)
    (hpre : c.u = .none ∨ c.lockCreated = false) (hex : ex c.u.id = false) :
    InvE ex (wCommit s c).2 ∧ Ext s (wCommit s c).2 := by
  rcases hc with ⟨hu, _, _⟩ | ⟨t, hu, ht1, htn, _, _, hid⟩
  · rw [wCommit_done (Or.inl (by rw [hu]; rfl))]
    exact ⟨h.emit_inert _ rfl, .of_eq rfl⟩
  · have hidt : c.id = .tx t := by
      rcases hid with hid | ⟨k, hid⟩
      · exact hid
      · rcases hpre with hp | hp
        · rw [hu] at hp; cases hp
        · cases c with
          | root => cases hid
          | node id hh u p => simp only [W.id] at hid; subst hid; simp [W.lockCreated] at hp
    have ht0 : t ≠ 0 := by omega
    rw [show c.u.id = t by rw [hu]; rfl] at hex
    cases hl : c.u.live s.opn with
    | false => rw [wCommit_done (Or.inr hl)]; exact ⟨h.emit_inert _ rfl, .of_eq rfl⟩
    | true =>
      have hopn : s.opn t = true := by rw [hu, live_tx] at hl; exact hl
      have hne : ∀ t', t' ≠ t → upd s.opn t false t' = s.opn t' ∧ (specOf s.trace).par t' = (specOf s.trace).par t' ∧
          upd (specOf s.trace).pend t [] t' = (specOf s.trace).pend t' ∧ s.queue (.tx t') = s.queue (.tx t') :=
        fun t' htt => ⟨upd_other _ _ _ _ htt, rfl, upd_other _ _ _ _ htt, rfl⟩
      cases hf : commitFails s c with
      | true =>
        rw [wCommit_fail hu ht0 hl hf]
        exact ⟨h.close t htn (spec_clear s.trace t _ (.inl rfl)) h.bad h.pub (upd_same ..) hne rfl rfl,
          .of_eq rfl⟩
      | false =>
        -- the queue is the pending set, which becomes durable and is published in order
        rw [wCommit_ok hu ht0 hl hf, hidt, h.queue t hopn hex, publishAll_eq]
        have hσ : specOf ((s.trace ++ [.commit t .ok]) ++ ((specOf s.trace).pend t).map fun e => .publish e.1 e.2) =
            { specOf s.trace with dur := (specOf s.trace).dur ++ (specOf s.trace).pend t,
                                  pub := (specOf s.trace).dur ++ (specOf s.trace).pend t,
                                  pend := upd (specOf s.trace).pend t [] } := by
          rw [specOf_append, spec_commit_top _ _ (h.par t hopn hex)]
          exact spec_publish_list _ _ h.bad (by simp [h.pub])
        exact ⟨h.close t htn hσ h.bad rfl (upd_same ..) hne rfl rfl, .of_eq rfl⟩

theorem wRollback_done {s : St} {c : W} (h : c.u.id = 0 ∨ c.u.live s.opn = false) :
    wRollback s c = (.txdone, { s with queue := updQ s.queue c.id [] }.emit (.rollback c.u.id .done)) := by
  rcases h with h | h <;> simp [wRollback, h]

theorem wRollback_live {s : St} {c : W} {t : Nat} {p : UH} (hu : c.u = .tx t p) (ht : t ≠ 0)
    (hl : c.u.live s.opn = true) :
    (wRollback s c).2 = { s with queue := updQ s.queue c.id [], opn := upd s.opn t false }.emit
      (.rollback t (if s.faults.rollback then .fail else .ok)) := by
  have hi : c.u.id = t := by rw [hu]; rfl
  cases hf : s.faults.rollback <;> simp [wRollback, hi, ht, hl, hf, St.emit]

/-- `c.atCommit = nil` on a wrapper that opened no transaction still open. -/
theorem InvE.clearQueue {ex : Nat → Bool} {s : St} (h : InvE ex s) (i : WId)
    (hi : ∀ t, s.opn t = true → .tx t ≠ i) : InvE ex { s with queue := updQ s.queue i [] } := by
  refine h.step rfl h.bad h.pub (fun t _ ho => .inl ⟨ho, rfl, rfl, updQ_other _ _ _ _ (hi t ho)⟩)
    (fun t ht => ⟨(h.fresh t ht).1, ?_⟩) rfl
  show updQ _ _ _ _ = _
  unfold updQ
  split
  · rfl
  · exact (h.fresh t ht).2

/-- `Rollback` on any wrapper of the discipline. -/
theorem wRollback_pres {ex : Nat → Bool} {s : St} {c : W} (h : InvE ex s) (hc : Good s.nT c) :
    InvE ex (wRollback s c).2 ∧ Ext s (wRollback s c).2 := by
  rcases hc with ⟨hu, _, hid⟩ | ⟨t, hu, ht1, htn, _, _, hid⟩
  · rw [wRollback_done (Or.inl (by rw [hu]; rfl))]
    exact ⟨(h.clearQueue c.id fun t _ e => hid t e.symm).emit_inert _ rfl, .of_eq rfl⟩
  · have hne : ∀ t', t' ≠ t → (WId.tx t') ≠ c.id := by
      intro t' htt he
      rcases hid with hid | ⟨k, hid⟩ <;> rw [hid] at he <;> cases he
      exact htt rfl
    cases hl : c.u.live s.opn with
    | false =>
      rw [wRollback_done (Or.inr hl)]
      rw [hu, live_tx] at hl
      exact ⟨(h.clearQueue c.id fun t' ho => hne t' fun e => by rw [e, hl] at ho; cases ho).emit_inert _ rfl,
        .of_eq rfl⟩
    | true =>
      rw [wRollback_live hu (by omega) hl]
      refine ⟨h.close t htn (spec_clear s.trace t _ ?_) h.bad h.pub (upd_same ..) (fun t' htt =>
        ⟨upd_other _ _ _ _ htt, rfl, upd_other _ _ _ _ htt, updQ_other _ _ _ _ (hne t' htt)⟩) rfl rfl,
        .of_eq rfl⟩
      cases s.faults.rollback
      · exact .inr (.inl rfl)
      · exact .inr (.inr rfl)

end Ledger.Wrap
