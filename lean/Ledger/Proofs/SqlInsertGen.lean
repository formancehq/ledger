import Ledger.Proofs.SqlUpdate

/-!
# One source row of `INSERT … [ON CONFLICT …]`, for any table

The paths of `insertRowStep` and `conflictUpdate` as equations over a table `t` given as a variable: the
hypotheses are the outcomes of the steps that depend on the table (row building, constraints, unique
indexes, triggers); a concrete table supplies them from its columns and indexes.
-/
namespace Ledger.Sql

theorem exec_checkConstraints_of (t : Table) (vals : List Value) (s : St)
    (hnn : notNullViolation t t.cols vals = none) (hck : t.checks = []) :
    (checkConstraints t vals).exec s = (.ok (), s) := by
  simp only [checkConstraints, hnn, hck, checkChecks, exec_pure]

theorem exec_checkForeignKeys_nil (t : Table) (vals : List Value) (s : St) (h : t.fks = []) :
    (checkForeignKeys t vals).exec s = (.ok (), s) := by
  simp only [checkForeignKeys, h, checkForeignKeysOf, exec_pure]

theorem exec_keyMatches_pred (t : Table) (idx : UniqueIdx) (key : List Value) (r : Ver) (s : St) (k p : Bool)
    (h : sameGroupKey (keyOf t idx.cols r.vals) key = .ok k) (hp : (predHolds t idx.pred r.vals).exec s = (.ok p, s)) :
    (keyMatches t idx key r).exec s = (.ok (k && p), s) := by
  simp only [keyMatches, h, exec_bind, exec_liftR_ok]
  cases k
  · rfl
  · exact hp

theorem exec_keyMatches_noPred (t : Table) (idx : UniqueIdx) (key : List Value) (r : Ver) (s : St) (b : Bool)
    (hp : idx.pred = none) (h : sameGroupKey (keyOf t idx.cols r.vals) key = .ok b) :
    (keyMatches t idx key r).exec s = (.ok b, s) := by
  have := exec_keyMatches_pred t idx key r s b true h (by rw [hp]; rfl)
  rwa [Bool.and_true] at this

theorem exec_findConflict_single (t : Table) (idx : UniqueIdx) (vals : List Value) (ex : Option Nat) (s : St)
    (hsolo : ∀ x ∈ s.w.active, x = s.xid) (hp : idx.pred = none)
    (hnn : (keyOf t idx.cols vals).any Value.isNull = false) (km : Ver → Bool)
    (hkm : ∀ r ∈ t.rows, r.visible (latestView s.w s.xid) = true → (some r.rid == ex) = false →
      (keyMatches t idx (keyOf t idx.cols vals) r).exec s = (.ok (km r), s)) :
    (findConflict t [idx] vals ex).exec s =
      (.ok ((t.rows.find? (fun r => !(some r.rid == ex) && (r.visible (latestView s.w s.xid) && km r))).map (fun r => (idx, r))), s) := by
  simp only [findConflict, hp, predHolds, exec_bind, exec_pure, Bool.not_true, Bool.false_eq_true, if_false, hnn, exec_get,
    exec_scanConflict_gen t idx _ ex _ s.xid s.w.active hsolo s km t.rows hkm]
  cases t.rows.find? (fun r => !(some r.rid == ex) && (r.visible (latestView s.w s.xid) && km r)) <;> rfl

/-- No index finds a conflict: each is skipped (its predicate fails on the row, or the key has a NULL), or no visible version
    other than `ex` carries the key. -/
theorem exec_findConflict_none (t : Table) (vals : List Value) (ex : Option Nat) (s : St) (hsolo : ∀ x ∈ s.w.active, x = s.xid) :
    ∀ (idxs : List UniqueIdx),
      (∀ idx ∈ idxs, ∃ p, (predHolds t idx.pred vals).exec s = (.ok p, s) ∧
        (p = true → (keyOf t idx.cols vals).any Value.isNull = false →
          ∀ r ∈ t.rows, r.visible (latestView s.w s.xid) = true → (some r.rid == ex) = false →
            (keyMatches t idx (keyOf t idx.cols vals) r).exec s = (.ok false, s))) →
      (findConflict t idxs vals ex).exec s = (.ok none, s)
  | [], _ => rfl
  | idx :: rest, h => by
    have ih := exec_findConflict_none t vals ex s hsolo rest (fun i hi => h i (List.mem_cons_of_mem _ hi))
    obtain ⟨p, hp, hk⟩ := h idx (List.mem_cons_self ..)
    rw [findConflict]
    simp only [exec_bind, hp]
    cases p
    · exact ih
    · cases hn : (keyOf t idx.cols vals).any Value.isNull
      · have hscan := exec_scanConflict_gen t idx _ ex _ s.xid s.w.active hsolo s (fun _ => false) t.rows (hk rfl hn)
        rw [show t.rows.find? (fun r => !(some r.rid == ex) && (r.visible (latestView s.w s.xid) && false)) = none from
          List.find?_eq_none.mpr fun r _ => by simp] at hscan
        simp only [Bool.not_true, Bool.false_eq_true, if_false, exec_bind, exec_get, hscan]
        exact ih
      · simp only [Bool.not_true, Bool.false_eq_true, if_false, if_true]
        exact ih

/-- the table after `insertVersion` -/
def Table.inserted (t : Table) (xid cid : Nat) (row : List Value) : Table :=
  { t with rows := newVer xid cid t.nextRid row :: t.rows, nextRid := t.nextRid + 1 }

/-- `INSERT INTO b.table (cols) VALUES …`, any table: the evaluated rows go through `insertRowStep` one after the other -/
theorem exec_execInsert_values (n : Nat) (env : Env) (b table alias : String) (cols : List String) (es : List (List Expr))
    (conflict : Option OnConflict) (returning : List SelItem) (hb : b.isEmpty = false) (hcols : cols.isEmpty = false)
    (s s' : St) (t : Table) (hT : s.w.table? (b ++ "." ++ table) = some t) (srcs : List (List (Option Value))) (acc : DmlAcc)
    (hsrc : (es.mapM (fun r => evalValuesRow n env r)).exec s = (.ok srcs, s))
    (hfold : (srcs.foldlM (fun acc sr => insertRowStep n env (b ++ "." ++ table) table alias cols conflict returning sr acc) {}).exec s =
      (.ok acc, s'))
    (hret : (acc.retCols.isEmpty && !returning.isEmpty) = false) :
    (execInsert (n + 1) env b table alias cols (.values es) conflict returning).exec s =
      (.ok { rel := { cols := acc.retCols, rows := acc.retRows }, affected := acc.affected }, s') := by
  rw [execInsert]
  simp only [hb, Bool.false_eq_true, if_false, exec_bind, exec_qualify b table hb, exec_getTable hT, hsrc, hcols, hfold, hret, exec_pure]

section paths
variable (n : Nat) (env : Env) (full table alias : String) (tcols : List String) (returning : List SelItem)
  (sr : List (Option Value)) (acc : DmlAcc) (t : Table) (row : List Value) (s : St)

/-- One source row that meets neither an arbiter index of the `ON CONFLICT` clause (if there is one) nor a unique index. Every step
    may change the state (a column default draws from a sequence, a BEFORE trigger runs commands, AFTER triggers are queued): each
    hypothesis is the outcome of one step in the state the step before leaves. The version is written, the AFTER INSERT triggers are
    queued and RETURNING is extended. -/
theorem exec_insertRowStep_ins (conflict : Option OnConflict) (row0 : List Value) (s1 s2 s3 : St)
    (hT : s.w.table? full = some t) (hname : t.name = full)
    (hrow : (buildRow n t tcols sr).exec s = (.ok row0, s1))
    (hfb : (fireBefore n t .insert [] (some row0) none).exec s1 = (.ok (some row), s2))
    (hT2 : s2.w.table? full = some t)
    (hck : (checkConstraints t row).exec s2 = (.ok (), s2))
    (harb : ∀ target tw cn action, conflict = some (.mk target tw cn action) →
      ∃ arb, (arbiterIndexes t target).exec s2 = (.ok arb, s2) ∧ (findConflict t arb row none).exec s2 = (.ok none, s2))
    (hfc : (findConflict t t.uniques row none).exec s2 = (.ok none, s2))
    (hfk : (checkForeignKeys t row).exec s2 = (.ok (), s2))
    (hqa : (queueAfter n (t.inserted s2.xid s2.cid row) .insert [] (some row) none).exec (s2.withTable (t.inserted s2.xid s2.cid row)) =
      (.ok (), s3)) :
    (insertRowStep (n + 1) env full table alias tcols conflict returning sr acc).exec s =
      (accReturning n env (t.inserted s2.xid s2.cid row) alias row [] returning acc).exec s3 := by
  subst hname
  have hT3 : (s2.withTable (t.inserted s2.xid s2.cid row)).w.table? t.name = some (t.inserted s2.xid s2.cid row) :=
    withTable_table? s2 t (t.inserted s2.xid s2.cid row) hT2
  have hins : (insertVersion t.name row).exec s2 = (.ok t.nextRid, s2.withTable (t.inserted s2.xid s2.cid row)) :=
    exec_insertVersion hT2 row
  rw [insertRowStep]
  simp only [exec_bind, exec_getTable hT, hrow, hfb, exec_getTable hT2, hck]
  cases conflict with
  | none => simp only [exec_pure, exec_bind, hfc, hfk, hins, exec_getTable hT3, hqa]
  | some oc =>
    obtain ⟨target, tw, cn, action⟩ := oc
    obtain ⟨arb, h1, h2⟩ := harb _ _ _ _ rfl
    simp only [exec_pure, exec_bind, h1, h2, hfc, hfk, hins, exec_getTable hT3, hqa]

/-- the same for a table without INSERT triggers, the row built without a change of state -/
theorem exec_insertRowStep_new (conflict : Option OnConflict)
    (hT : s.w.table? full = some t) (hname : t.name = full)
    (hrow : (buildRow (n + 1) t tcols sr).exec s = (.ok row, s))
    (hnb : t.triggers.filter (fun tr => tr.timing == .before && tr.event == .insert) = [])
    (hna : t.triggers.filter (fun tr => tr.timing == .after && tr.event == .insert) = [])
    (hck : (checkConstraints t row).exec s = (.ok (), s))
    (harb : ∀ target tw cn action, conflict = some (.mk target tw cn action) →
      ∃ arb, (arbiterIndexes t target).exec s = (.ok arb, s) ∧ (findConflict t arb row none).exec s = (.ok none, s))
    (hfc : (findConflict t t.uniques row none).exec s = (.ok none, s))
    (hfk : (checkForeignKeys t row).exec s = (.ok (), s)) :
    (insertRowStep (n + 2) env full table alias tcols conflict returning sr acc).exec s =
      (accReturning (n + 1) env (t.inserted s.xid s.cid row) alias row [] returning acc).exec
        (s.withTable (t.inserted s.xid s.cid row)) :=
  exec_insertRowStep_ins (n + 1) env full table alias tcols returning sr acc t row s conflict row s s _ hT hname hrow
    (exec_fireBefore_none n t .insert (by simp) _ _ _ _ hnb) hT hck harb hfc hfk (exec_queueAfter_none n _ .insert [] _ _ _ hna)

theorem exec_insertRowStep_hit (target : List String) (tw : Option Expr) (cn : String) (action : ConflictAction)
    (arb : List UniqueIdx) (idx : UniqueIdx) (existing : Ver)
    (hT : s.w.table? full = some t)
    (hrow : (buildRow (n + 1) t tcols sr).exec s = (.ok row, s))
    (hnb : t.triggers.filter (fun tr => tr.timing == .before && tr.event == .insert) = [])
    (hck : (checkConstraints t row).exec s = (.ok (), s))
    (harb : (arbiterIndexes t target).exec s = (.ok arb, s))
    (hfc : (findConflict t arb row none).exec s = (.ok (some (idx, existing)), s)) :
    (insertRowStep (n + 2) env full table alias tcols (some (.mk target tw cn action)) returning sr acc).exec s =
      (match action with
       | .nothing => (.ok acc, s)
       | .update sets wher => (conflictUpdate (n + 1) env full table alias t existing row sets wher returning acc).exec s) := by
  rw [insertRowStep]
  simp only [exec_bind, exec_getTable hT, hrow, exec_fireBefore_none _ t .insert (by simp) _ _ _ _ hnb, hck, harb, hfc, exec_pure]
  cases action <;> rfl

/-- `ON CONFLICT … DO UPDATE SET …` (no WHERE) on the conflicting version `ex`: it is locked, closed, and a
    new version with the values `newVals` of the SET list is written -/
theorem exec_conflictUpdate_gen (ex : Ver) (sets : List SetItem) (newVals : List Value)
    (hT : s.w.table? full = some t) (hname : t.name = full)
    (hsolo : ∀ x ∈ s.w.active, x = s.xid)
    (hguard : ¬(ex.xmin = s.xid ∧ ex.cmin = s.cid))
    (hnb : t.triggers.filter (fun tr => tr.timing == .before && tr.event == .update) = [])
    (hna : t.triggers.filter (fun tr => tr.timing == .after && tr.event == .update) = [])
    (hsets : ∀ s', (applySets (n + 1) { env with locals := [{ alias := if alias.isEmpty then table else alias, cols := t.colNames, vals := ex.vals },
          { alias := "excluded", cols := t.colNames, vals := row }] } t ex.vals sets).exec s' = (.ok newVals, s'))
    (hck : ∀ rows s', (checkConstraints (t.withRows rows) newVals).exec s' = (.ok (), s'))
    (hfc : (findConflict (t.withRows (t.rows.map (lockRow (latestView s.w s.xid) s.xid s.cid ex.rid))) t.uniques newVals (some ex.rid)).exec
        (s.withTable (t.withRows (t.rows.map (lockRow (latestView s.w s.xid) s.xid s.cid ex.rid)))) =
      (.ok none, s.withTable (t.withRows (t.rows.map (lockRow (latestView s.w s.xid) s.xid s.cid ex.rid)))))
    (hfk : t.fks = []) :
    (conflictUpdate (n + 2) env full table alias t ex row sets none returning acc).exec s =
      (accReturning (n + 1) env
          (t.withRows (newVer s.xid s.cid ex.rid newVals ::
            (t.rows.map (lockRow (latestView s.w s.xid) s.xid s.cid ex.rid)).map (closeRow (latestView s.w s.xid) s.xid s.cid ex.rid)))
          alias newVals [] returning acc).exec
        (s.withTable (t.withRows (newVer s.xid s.cid ex.rid newVals ::
            (t.rows.map (lockRow (latestView s.w s.xid) s.xid s.cid ex.rid)).map (closeRow (latestView s.w s.xid) s.xid s.cid ex.rid)))) := by
  subst hname
  have hg : (ex.xmin == s.xid && ex.cmin == s.cid) = false := by
    cases h1 : (ex.xmin == s.xid) <;> cases h2 : (ex.cmin == s.cid) <;> simp_all
  have hlock : (lockVersion t.name ex.rid).exec s =
      (.ok (), s.withTable (t.withRows (t.rows.map (lockRow (latestView s.w s.xid) s.xid s.cid ex.rid)))) := exec_lockVersion hT _
  have hT1 : (s.withTable (t.withRows (t.rows.map (lockRow (latestView s.w s.xid) s.xid s.cid ex.rid)))).w.table? t.name = _ :=
    withTable_table? s t (t.withRows _) hT
  have hupd : (updateVersion t.name ex.rid newVals).exec (s.withTable (t.withRows (t.rows.map (lockRow (latestView s.w s.xid) s.xid s.cid ex.rid)))) =
      (.ok (), s.withTable (t.withRows (newVer s.xid s.cid ex.rid newVals ::
        (t.rows.map (lockRow (latestView s.w s.xid) s.xid s.cid ex.rid)).map (closeRow (latestView s.w s.xid) s.xid s.cid ex.rid)))) := by
    rw [exec_updateVersion hT1]
    exact congrArg (Prod.mk _) (withTable_withTable s _ _ rfl)
  have hT2 : (s.withTable (t.withRows (newVer s.xid s.cid ex.rid newVals ::
      (t.rows.map (lockRow (latestView s.w s.xid) s.xid s.cid ex.rid)).map (closeRow (latestView s.w s.xid) s.xid s.cid ex.rid)))).w.table? t.name = _ :=
    withTable_table? s t (t.withRows _) hT
  have hfk' := fun rows => exec_checkForeignKeys_nil (t.withRows rows) newVals
  have hq := fun rows cols => exec_queueAfter_none n (t.withRows rows) .update cols (some newVals) (some ex.vals)
  simp only [withRows_fks, withRows_triggers] at hfk' hq
  rw [conflictUpdate]
  simp only [exec_bind, exec_typeEnv, exec_get, hg, Bool.false_eq_true, if_false, exec_pure, exec_heldByOther_solo s hsolo, hlock,
    Bool.not_true, hsets, exec_fireBefore_none _ t .update (by simp) _ _ _ _ hnb, exec_getTable hT1, hck, withRows_uniques, hfc,
    hfk' _ _ hfk, hupd, exec_getTable hT2, hq _ _ _ hna]

end paths

end Ledger.Sql
