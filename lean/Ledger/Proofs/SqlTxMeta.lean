import Ledger.Proofs.SqlTxInsert

/-!
# `insert_transaction_metadata_history` (AFTER INSERT ROW trigger of `transactions`, TRANSACTION_METADATA_HISTORY = SYNC)

The trigger function of `Ledger.Generated.Schema` is `INSERT INTO transactions_metadata (ledger, transactions_id, revision, date, metadata)
VALUES (new.ledger, new.id, 1, new.timestamp, new.metadata); RETURN new`. Run by LeanPG's PL/pgSQL interpreter as a nested command for ANY
NEW row (a well-typed row of `transactions`) on ANY `transactions_metadata` table whose sequence numbers are below the table's sequence:
one row is appended, numbered by the sequence (`exec_runTrigger_insTxMeta`, an instance of `exec_runTrigger_serialIns`).
`InsertTransaction` on a `transactions` table that carries the trigger for the ledger (other ledgers' triggers are skipped by their
WHEN clause) queues it for the new row and runs it at the end of the statement (`exec_runStmt_insertTx_hist`).
-/
open Ledger Ledger.Sql Ledger.Generated Ledger.Core
namespace Ledger.Sql

/-- a row of `transactions_metadata` (column order of `Schema.tbl_transactions_metadata`) -/
structure TmR where
  seq : Int
  ledger : String
  revision : Int
  date : Int
  metadata : JV
  txId : Int

def tmVals (r : TmR) : List Value := [.int r.seq, .text r.ledger, .int r.revision, .ts r.date, .json r.metadata, .int r.txId]

def tmFull (b : String) : String := b ++ "." ++ "transactions_metadata"

def tmSeqFull (b : String) : String := b ++ "." ++ "transactions_metadata_seq_seq"

/-- `transactions_metadata` of bucket `b` -/
def tmT (b : String) (nr : Nat) : Table := { Schema.tbl_transactions_metadata with name := tmFull b, nextRid := nr }

/-- the row the trigger writes for the NEW transaction `x`, numbered `q` -/
def tmOf (x : TxR) (q : Int) : TmR := { seq := q, ledger := x.ledger, revision := 1, date := x.timestamp, metadata := x.metadata, txId := x.id }

def TmAll (bound : Int) (rows : List Ver) : Prop := ∀ r ∈ rows, ∃ y : TmR, r.vals = tmVals y ∧ y.seq < bound

/-- the statement of the trigger function -/
def tmInsertStmt : Stmt :=
  Stmt.insert [] "" "transactions_metadata" "" ["ledger", "transactions_id", "revision", "date", "metadata"]
    (InsertSrc.values [[Expr.col "new" "ledger", Expr.col "new" "id", Expr.int 1, Expr.col "new" "timestamp", Expr.col "new" "metadata"]]) none []

/-- the environment of the PL body of a row trigger on `transactions` with NEW = `x` -/
def txPlEnv (x : TxR) (fd : Bool) : Env :=
  { outer := [{ alias := "", cols := ["found"], vals := [.bool fd] }, { alias := "new", cols := txCols, vals := txVals x }] }

theorem lookup_new_tx (x : TxR) (fd : Bool) (c : String) (v : Value) (h : lookupIn txCols (txVals x) c = some v) :
    lookupColumn (txPlEnv x fd) "new" c = .ok v :=
  lookupColumn_alias _ "new" c { alias := "new", cols := txCols, vals := txVals x } v rfl (by rw [lastComponent_new]; rfl) h

theorem exec_checkConstraints_tm (b : String) (nr : Nat) (rows : List Ver) (y : TmR) (s : St) :
    (checkConstraints ((tmT b nr).withRows rows) (tmVals y)).exec s = (.ok (), s) :=
  exec_checkConstraints_pv _ _ s rfl (List.forall_mem_singleton.mpr ⟨.bool true, some true,
    by rw [pv, pv, lookupColumn_head _ _ [] _ (.int y.txId) rfl rfl]; rfl, rfl, by decide⟩)

def tmIdx : UniqueIdx := { name := "transactions_metadata_pkey", cols := ["seq"], pred := none, primary := true }

theorem tmT_uniques (b : String) (nr : Nat) (rows : List Ver) : ((tmT b nr).withRows rows).uniques = [tmIdx] := rfl

theorem tm_serial (b : String) (nr : Nat) (rows : List Ver) :
    SerialTbl ((tmT b nr).withRows rows) Schema.tbl_transactions_metadata.cols.head! Schema.tbl_transactions_metadata.cols.tail
      "transactions_metadata_seq_seq" tmIdx :=
  ⟨rfl, rfl, rfl, by decide, by decide, rfl, rfl, rfl, rfl, rfl⟩

structure TmState (s : St) (b : String) (nr : Nat) (rows : List Ver) (sq : Seq) : Prop where
  table : s.w.table? (tmFull b) = some ((tmT b nr).withRows rows)
  seq : s.w.seqs.find? (·.name == tmSeqFull b) = some sq
  all : TmAll sq.next rows
  lo : 0 ≤ sq.next
  hi : sq.next ≤ 9223372036854775807

theorem TmState.serial {s : St} {b : String} {nr : Nat} {rows : List Ver} {sq : Seq} (h : TmState s b nr rows sq)
    (hsch : schemaOf (tmFull b) = b) : SerialState s ((tmT b nr).withRows rows) "transactions_metadata_seq_seq" sq :=
  ⟨h.table, by rw [show schemaOf ((tmT b nr).withRows rows).name = b from hsch]; exact h.seq,
   fun r hr => let ⟨y, hv, hlt⟩ := h.all r hr; ⟨y.seq, _, hv, hlt⟩, by have := h.lo; omega, h.hi⟩

theorem exec_runTrigger_insTxMeta (k : Nat) (b fname : String) (x : TxR) (f : PlFunc) (hdecls : f.decls = [])
    (hbody : f.body = [PlStmt.exec tmInsertStmt [], PlStmt.ret (some (Expr.col "" "new"))])
    (s : St) (hs : TxState s) (hf : s.w.funcs.lookup fname = some f) (hschema : schemaOf fname = b) (hsch : schemaOf (tmFull b) = b)
    (hnc : s.nextCid + 2 ≤ 1000000000) (t : Table) (htc : t.cols = Schema.tbl_transactions.cols)
    (nr : Nat) (rows : List Ver) (sq : Seq) (hst : TmState s b nr rows sq)
    (hi1 : -9223372036854775808 ≤ x.id) (hi2 : x.id ≤ 9223372036854775807) :
    (runTrigger (k + 10) fname t (some (txVals x)) none).exec s =
      (.ok (some (txVals x)), ((s.withSeqs (seqsSet (tmSeqFull b) sq.next s.w.seqs)).bump 2).withTable
        ((tmT b (nr + 1)).withRows (newVer s.xid s.nextCid nr (tmVals (tmOf x sq.next)) :: rows))) := by
  subst hschema
  have henv : ∀ fd : Bool, ({ vars := [], tcols := t.cols, new := some (txVals x), found := fd } : PlSt).env = txPlEnv x fd := by
    intro fd; rw [htc]; rfl
  have c := fun c v h => lookup_new_tx x false c v h
  have h := exec_runTrigger_serialIns k fname "transactions_metadata" _ _ f hdecls hbody s hs hf hnc t (txVals x) none
    (fun fd => ⟨txCols, txVals x, by rw [henv fd]; rfl⟩) _ _ _ _ _ (tm_serial (schemaOf fname) nr rows) rfl sq (hst.serial hsch)
    _ [.text x.ledger, .int 1, .ts x.timestamp, .json x.metadata, .int x.id]
    (by
      rw [henv false]
      exact exec_evalValuesRow_pv _ _ _ [.text x.ledger, .int x.id, .int 1, .ts x.timestamp, .json x.metadata] _ (by simp)
        (by simp only [pvs, pv, consV_ok, c "ledger" (.text x.ledger) rfl, c "id" (.int x.id) rfl, c "timestamp" (.ts x.timestamp) rfl,
          c "metadata" (.json x.metadata) rfl]))
    rfl rfl rfl rfl
    (.cast rfl (castTo_varchar_text _ _) <| .cast rfl rfl <| .cast rfl rfl <| .cast rfl rfl <| .cast rfl (castTo_int8 _ _ hi1 hi2) .nil)
    (exec_checkConstraints_tm (schemaOf fname) nr rows (tmOf x sq.next))
  rw [show schemaOf ((tmT (schemaOf fname) nr).withRows rows).name = schemaOf fname from hsch] at h
  exact h

structure TxInsStateH (s : St) (b ledger : String) (trigs : List TriggerDef) (nr : Nat) (rows : List Ver) (full : String) (sq : Seq)
    (A1 A2 : List TriggerDef) (trA : TriggerDef) (fA : PlFunc) (nrH : Nat) (rowsH : List Ver) (sqH : Seq) : Prop where
  ins : TxInsState s b ledger trigs nr rows full sq
  /-- exactly one AFTER INSERT row trigger fires for the ledger: `insert_transaction_metadata_history` -/
  sortedA : sortTriggers (trigs.filter (fun x => x.timing == .after && x.event == .insert)) = A1 ++ trA :: A2
  othersA1 : ∀ x ∈ A1, OtherLedgerTrig ledger x
  othersA2 : ∀ x ∈ A2, OtherLedgerTrig ledger x
  evA : trA.event = .insert
  whenA : trA.when_ = some (ledgerIs ledger)
  schA : schemaOf trA.fname = b
  funA : s.w.funcs.lookup trA.fname = some fA
  declsA : fA.decls = []
  bodyA : fA.body = [PlStmt.exec tmInsertStmt [], PlStmt.ret (some (Expr.col "" "new"))]
  schH : schemaOf (tmFull b) = b
  hist : TmState s b nrH rowsH sqH
  seqNe : full ≠ tmSeqFull b
  cidLt : s.nextCid + 2 ≤ 1000000000

/-- **`InsertTransaction`, metadata history on**: the row is inserted, the trigger queued, and run at the end of the statement as a
    nested command that appends the first revision of the transaction's metadata to `transactions_metadata` -/
theorem exec_runStmt_insertTx_hist (k : Nat) (env : Env) (b ledger : String) (id : Nat) (L : TxLits) (trigs : List TriggerDef) (nr : Nat)
    (rows : List Ver) (full : String) (sq : Seq) (A1 A2 : List TriggerDef) (trA : TriggerDef) (fA : PlFunc) (nrH : Nat) (rowsH : List Ver)
    (sqH : Seq) (s : St) (hst : TxInsStateH s b ledger trigs nr rows full sq A1 A2 trA fA nrH rowsH sqH)
    (hl : SeqLit (txSeqLit b id) full) (x : TxR) (hlit : TxLit s.w.types ledger L x) (hid : x.id = sq.next)
    (hi1 : -9223372036854775808 ≤ x.id) (hi2 : x.id ≤ 9223372036854775807)
    (href : ∀ r ∈ rows, r.visible (latestView s.w s.xid) = true → ∀ x', r.vals = txVals x' → txConf2 x x' = false) :
    (runStmt (k + 12) env (insertTxStmt b ledger id L)).exec s =
      (.ok { rel := { cols := ["id", "timestamp", "inserted_at", "updated_at"],
                      rows := [[.int x.id, .ts x.timestamp, optTs x.insertedAt, .ts x.updatedAt]] }, affected := 1 },
       ((((s.withSeqs (seqsSet (tmSeqFull b) sqH.next (seqsSet full sq.next s.w.seqs))).bump 2).withTable
          ((txT b trigs (nr + 1)).withRows (newVer s.xid s.cid nr (txVals x) :: rows))).withTable
          ((tmT b (nrH + 1)).withRows (newVer s.xid s.nextCid nrH (tmVals (tmOf x sqH.next)) :: rowsH)))) := by
  -- `S1`: the state after the INSERT, `TX` the table it leaves
  generalize hTX : (txT b trigs (nr + 1)).withRows (newVer s.xid s.cid nr (txVals x) :: rows) = TX
  have hTXt : TX.triggers = trigs := by rw [← hTX]; rfl
  have hTXn : TX.name = txFull b := by rw [← hTX]; rfl
  have hTXc : TX.cols = Schema.tbl_transactions.cols := by rw [← hTX]; rfl
  generalize hS1 : (s.withSeqs (seqsSet full sq.next s.w.seqs)).withTable TX = S1
  have hS1w : S1.w.seqs = seqsSet full sq.next s.w.seqs := by rw [← hS1]; rfl
  have hT2 : S1.w.table? TX.name = some TX := by
    rw [← hS1, ← hTX]; exact withTable_table? _ ((txT b trigs nr).withRows rows) _ hst.ins.table
  have hTm : TmState S1 b nrH rowsH sqH := by
    refine ⟨?_, ?_, hst.hist.all, hst.hist.lo, hst.hist.hi⟩
    · rw [← hS1, withTable_table?_ne _ TX (tmFull b) (by rw [hTXn]; exact bucket_ne b (by simp))]
      exact hst.hist.table
    · rw [hS1w, find_seqsSet_ne full (tmSeqFull b) sq.next (fun e => hst.seqNe e.symm)]
      exact hst.hist.seq
  have hq1 : S1.afterQ = [] := by rw [← hS1]; exact hst.ins.q0
  have htrig := exec_runTrigger_insTxMeta k b trA.fname x fA hst.declsA hst.bodyA S1 (by rw [← hS1]; exact (hst.ins.tx.withSeqs _).withTable _)
    (by rw [← hS1]; exact hst.funA) hst.schA hst.schH (by rw [← hS1]; exact hst.cidLt) TX hTXc nrH rowsH sqH hTm hi1 hi2
  have hqa := exec_queueAfter_one (k + 6) TX (txVals x) ledger S1 A1 A2 trA (by rw [hTXt]; exact hst.sortedA)
    hst.othersA1 hst.othersA2 hst.evA hst.whenA (by rw [← hTX, ← hlit.ledger]; rfl)
  generalize hS3 : ((S1.withSeqs (seqsSet (tmSeqFull b) sqH.next S1.w.seqs)).bump 2).withTable
    ((tmT b (nrH + 1)).withRows (newVer S1.xid S1.nextCid nrH (tmVals (tmOf x sqH.next)) :: rowsH)) = S3 at htrig
  have hq3 : S3.afterQ = [] := by rw [← hS3]; exact hq1
  have hfold : ([{ fname := trA.fname, table := TX.name, new := some (txVals x), old := none }].foldlM (drainStep (k + 10)) ()).exec S1 =
      (.ok (), S3) := by
    simp only [exec_foldlM_cons, List.foldlM_nil, drainStep, exec_bind, exec_getTable hT2, htrig, exec_pure]
  subst hS3 hS1 hTX
  rw [exec_runStmt_insertTx (k + 6) env b ledger id L trigs nr rows full sq s hst.ins hl x hlit hid href _ _ hqa hfold hq3]
  rfl

end Ledger.Sql
