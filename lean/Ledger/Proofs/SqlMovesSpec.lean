import Ledger.Proofs.SqlMovesStmt

/-!
# The pure model of `INSERT INTO moves` (with its triggers) against `Ledger.Spec.insertMoves`
-/
open Ledger Ledger.Sql Ledger.Generated Ledger.Core
namespace Ledger.Sql
open Ledger.Spec

theorem prevMove_perm {T T' : List Spec.MoveRow} (hp : T.Perm T') (hnd : (T.map (·.seq)).Nodup) (n : Spec.MoveRow) :
    prevMove T n = prevMove T' n := by
  rw [prevMove_eq_latest, prevMove_eq_latest, latest_perm beforeOrd hp (notAfter_sep hnd)]

theorem withPcev_eq_setEffective (tbl : List (String × Spec.MoveRow)) (ln : String) (m : Spec.MoveRow) :
    withPcev tbl ln m = setEffective (ledgerMoves ln tbl) m := by
  unfold withPcev setEffective pcevOf
  cases prevMove (ledgerMoves ln tbl) m <;> rfl

theorem ledgerMoves_cons (l ln : String) (m : Spec.MoveRow) (tbl : List (String × Spec.MoveRow)) :
    ledgerMoves l ((ln, m) :: tbl) = (if ln = l then [m] else []) ++ ledgerMoves l tbl := by
  unfold ledgerMoves
  rw [List.filter_cons]
  by_cases h : ln = l <;> simp [h]

theorem ledgerMoves_map (l : String) (f : String → Spec.MoveRow → Spec.MoveRow) (tbl : List (String × Spec.MoveRow)) :
    ledgerMoves l (tbl.map (fun p => (p.1, f p.1 p.2))) = (ledgerMoves l tbl).map (f l) := by
  unfold ledgerMoves
  rw [List.filter_map, List.map_map, List.map_map]
  exact List.map_congr_left fun p hp => by
    have : p.1 = l := of_decide_eq_true (List.mem_filter.mp hp).2
    subst this
    rfl

theorem insNew_eq_insertedRows (ln : String) : ∀ (ms : List Spec.MoveRow) (tbl : List (String × Spec.MoveRow)) (T : List Spec.MoveRow) (v : Int),
    T.Perm (ledgerMoves ln tbl) → (T.map (·.seq)).Nodup → (∀ q ∈ T, (q.seq : Int) < v) → SeqFrom v ms →
    insNew ln tbl ms = insertedRows T ms := by
  intro ms
  induction ms with
  | nil => intro _ _ _ _ _ _ _; rfl
  | cons m ms ih =>
    intro tbl T v hp hnd hlt hsf
    obtain ⟨hseq, hsf'⟩ := hsf
    have he : withPcev tbl ln m = setEffective T m := by
      rw [withPcev_eq_setEffective]
      unfold setEffective
      rw [prevMove_perm hp hnd m]
    simp only [insNew, insertedRows, he]
    congr 1
    have hs : (setEffective T m).seq = m.seq := rfl
    apply ih _ (T ++ [setEffective T m]) (v + 1)
    · rw [ledgerMoves_cons, if_pos rfl]
      exact (List.perm_append_singleton _ _).trans (List.Perm.cons _ hp)
    · rw [List.map_append, List.nodup_append]
      refine ⟨hnd, by simp, ?_⟩
      intro a ha c hc
      simp only [List.map_cons, List.map_nil, List.mem_singleton] at hc
      obtain ⟨q, hq, rfl⟩ := List.mem_map.mp ha
      have := hlt q hq
      rw [hc, hs]
      omega
    · intro q hq
      rcases List.mem_append.mp hq with hq | hq
      · have := hlt q hq; omega
      · simp only [List.mem_singleton] at hq
        rw [hq, hs]; omega
    · exact hsf'

theorem ledgerMoves_insTbl (l ln : String) : ∀ (ms : List Spec.MoveRow) (tbl : List (String × Spec.MoveRow)),
    ledgerMoves l (insTbl ln tbl ms) = (if ln = l then (insNew ln tbl ms).reverse else []) ++ ledgerMoves l tbl := by
  intro ms
  induction ms with
  | nil => intro tbl; split <;> rfl
  | cons m ms ih =>
    intro tbl
    simp only [insTbl, insNew, ih, ledgerMoves_cons]
    split <;> simp

theorem bumpP_fst (ln : String) (n : Spec.MoveRow) (p : String × Spec.MoveRow) : (bumpP ln n p).1 = p.1 := by
  unfold bumpP; split <;> rfl

theorem bumpP_same (ln : String) (n m : Spec.MoveRow) : bumpP ln n (ln, m) = (ln, bump n m) := by
  simp only [bumpP, bump, bumpCond, bumpRow, Spec.MoveRow.key, Prod.mk.injEq, true_and, and_assoc, decide_eq_true_eq]
  split <;> rfl

theorem bumpP_ne (ln : String) (n : Spec.MoveRow) (p : String × Spec.MoveRow) (hne : p.1 ≠ ln) : bumpP ln n p = p := by
  unfold bumpP bumpCond
  have : ¬ (p.2.account = n.account ∧ p.2.asset = n.asset ∧ p.1 = ln ∧ n.effectiveDate < p.2.effectiveDate) := fun ⟨_, _, c, _⟩ => hne c
  simp [this]

theorem ledgerMoves_map_bumpP (l ln : String) (n : Spec.MoveRow) (tbl : List (String × Spec.MoveRow)) :
    ledgerMoves l (tbl.map (bumpP ln n)) = (ledgerMoves l tbl).map (if l = ln then bump n else id) := by
  have h : tbl.map (bumpP ln n) = tbl.map (fun p => (p.1, (bumpP ln n (p.1, p.2)).2)) :=
    List.map_congr_left fun p _ => Prod.ext (bumpP_fst ln n p) rfl
  rw [h, ledgerMoves_map l (fun l m => (bumpP ln n (l, m)).2)]
  congr 1
  funext m
  split
  · next e => subst e; rw [bumpP_same]
  · next e => rw [bumpP_ne ln n (l, m) e]; rfl

theorem ledgerMoves_drainTbl (l ln : String) : ∀ (news : List Spec.MoveRow) (tbl : List (String × Spec.MoveRow)),
    ledgerMoves l (drainTbl ln tbl news) = (ledgerMoves l tbl).map (if l = ln then bumpAll news else id) := by
  intro news
  induction news with
  | nil => intro tbl; split <;> exact (List.map_id _).symm
  | cons n ns ih =>
    intro tbl
    have := ih (tbl.map (bumpP ln n))
    simp only [drainTbl, List.foldl_cons] at this ⊢
    rw [this, ledgerMoves_map_bumpP, List.map_map]
    congr 1
    split <;> rfl

/-- the pure model of the statement against `Spec.insertMoves`, for the ledger of the statement -/
theorem drain_ins_eq_insertMoves (ln : String) (ms : List Spec.MoveRow) (tbl : List (String × Spec.MoveRow)) (T : List Spec.MoveRow) (v : Int)
    (hp : T.Perm (ledgerMoves ln tbl)) (hnd : (T.map (·.seq)).Nodup) (hlt : ∀ q ∈ T, (q.seq : Int) < v) (hsf : SeqFrom v ms) :
    (ledgerMoves ln (drainTbl ln (insTbl ln tbl ms) (insNew ln tbl ms))).Perm (insertMoves T ms) := by
  have hnew := insNew_eq_insertedRows ln ms tbl T v hp hnd hlt hsf
  rw [ledgerMoves_drainTbl, ledgerMoves_insTbl, if_pos rfl, if_pos rfl, hnew]
  unfold insertMoves
  rw [insertPhase2_eq, insertPhase1_eq]
  apply List.Perm.map
  exact (List.perm_append_comm.trans (List.Perm.append hp.symm (List.reverse_perm _)))


/-- **`InsertMoves` refines `Spec.insertMoves`.** For ANY state satisfying the storage invariants of `moves` (`MvStmtState`), ANY
    non-empty batch of moves of ledger `ln` (literals `pm`, sequence numbers from the bucket's sequence) and ANY ordering `T` of the
    moves of ledger `ln` the transaction sees, the generated statement — run with its BEFORE / AFTER INSERT ROW triggers — returns the
    rows `Spec.insertedRows` computes and leaves a table that the transaction sees as `Spec.insertMoves T ms` (up to order) for ledger
    `ln`, unchanged for every other ledger; the storage invariants hold again. -/
theorem insertMoves_refines (p : Nat) (env : Env) (b ln : String) (trigs : List TriggerDef)
    (B1 B2 : List TriggerDef) (trB : TriggerDef) (A1 A2 : List TriggerDef) (trA : TriggerDef) (item wher dflt_ : Expr) (fB : PlFunc)
    (setE whereU : Expr) (fA : PlFunc) (nr : Nat) (rows : List Ver) (sq : Seq) (s : St)
    (hst : MvStmtState s b ln trigs B1 B2 trB A1 A2 trA item wher dflt_ fB setE whereU fA nr rows sq)
    (pm : List (WriteSql.P.MoveRow × Spec.MoveRow)) (hne : pm ≠ []) (hlits : ∀ x ∈ pm, MvLit s.w.types x.1 x.2)
    (hsf : SeqFrom sq.next (pm.map (·.2))) (hrange : sq.next + pm.length ≤ 9223372036854775808)
    (hnc : s.nextCid + 4 * pm.length ≤ 1000000000)
    (T : List Spec.MoveRow) (hT : T.Perm (ledgerMoves ln (mvAbs (latestView s.w s.xid) rows))) :
    ∃ (rows' : List Ver) (seqs' : List Seq),
      (runStmt (p + 15) env (insertMovesStmt b ln (pm.map (·.1)))).exec s =
        (.ok { rel := { cols := ["post_commit_volumes", "post_commit_effective_volumes"],
                        rows := (insertedRows T (pm.map (·.2))).map retOf },
               affected := pm.length },
         ((s.withSeqs seqs').bump (4 * pm.length)).withTable ((mvT b trigs (nr + pm.length)).withRows rows')) ∧
      (ledgerMoves ln (mvAbs (latestView s.w s.xid) rows')).Perm (insertMoves T (pm.map (·.2))) ∧
      (∀ l, l ≠ ln → (ledgerMoves l (mvAbs (latestView s.w s.xid) rows')).Perm (ledgerMoves l (mvAbs (latestView s.w s.xid) rows))) ∧
      MvInv (latestView s.w s.xid) (sq.next + pm.length) rows' ∧ Fresh s.xid (s.nextCid + 4 * pm.length) rows' ∧
      (∀ r ∈ rows', r.rid < nr + pm.length) ∧
      seqs'.find? (·.name == mvSeqFull b) = some { sq with last := sq.next + pm.length - 1, called := true } ∧
      (∀ other, other ≠ mvSeqFull b → seqs'.find? (·.name == other) = s.w.seqs.find? (·.name == other)) := by
  obtain ⟨rows', hexec, hS, hperm⟩ := exec_runStmt_insertMoves p env b ln trigs B1 B2 trB A1 A2 trA item wher dflt_ fB setE whereU fA
    nr rows sq s hst pm hne hlits hsf hrange hnc
  have hndT : (T.map (·.seq)).Nodup := nodup_seq_of_perm_ledgerMoves hT hst.stored.seqNodup
  have hltT : ∀ q ∈ T, (q.seq : Int) < sq.next := fun q hq =>
    mvAbs_bound _ _ _ hst.inv.all (ln, q) (mem_ledgerMoves.mp ((hT.mem_iff).mp hq))
  -- per ledger, the table left behind is the typed model of the statement
  have hled : ∀ l, (ledgerMoves l (mvAbs (latestView s.w s.xid) rows')).Perm (ledgerMoves l
      (drainTbl ln (insTbl ln (mvAbs (latestView s.w s.xid) rows) (pm.map (·.2))) (insNew ln (mvAbs (latestView s.w s.xid) rows) (pm.map (·.2))))) :=
    fun l => List.Perm.map _ (List.Perm.filter _ hperm)
  refine ⟨rows', _, ?_, ?_, ?_, hS.inv, hS.stored.fresh, hS.stored.ridLt, find_seqsSet _ _ _ sq hst.seq,
    fun other ho => find_seqsSet_ne (mvSeqFull b) other _ ho _⟩
  · rw [hexec, insNew_eq_insertedRows ln (pm.map (·.2)) _ T sq.next hT hndT hltT hsf]
  · exact (hled ln).trans (drain_ins_eq_insertMoves ln (pm.map (·.2)) _ T sq.next hT hndT hltT hsf)
  · intro l hl
    have := hled l
    rwa [ledgerMoves_drainTbl, ledgerMoves_insTbl, if_neg hl, if_neg (Ne.symm hl), List.map_id] at this

end Ledger.Sql
