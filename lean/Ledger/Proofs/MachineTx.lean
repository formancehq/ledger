import Ledger.Machine.TxScript
import Ledger.Proofs.MachineAsset

/-! C25: the statement `TxToScriptData` writes for one posting, run by `evalStmt`: what it
    computes (two equations, by kind of source), that it posts exactly that posting, and
    when it fails; then the run of all statements against the specification
    `applyPostings`. -/
namespace Ledger.Machine

variable {cfg : Cfg}

/-- The expressions of the statement generated for the posting `p` evaluate to its amount, source and
    destination. -/
structure TxBinding (env : Env) (monE srcE dstE : Expr) (p : TxPosting) : Prop where
  mon : evalExpr env monE = .ok (.monetary p.asset (some p.amount))
  /-- a send reads its asset off the leftmost atom of the amount (`leftmostAsset`) -/
  monAtom : monE.leftmost = monE
  src : evalExpr env srcE = .ok (.account p.source)
  dst : evalExpr env dstE = .ok (.account p.destination)

theorem take_single (a : String) (x amt : Int) :
    (amt = 0 ∨ (0 < amt ∧ amt ≤ x) → ∃ rem, take [⟨a, x⟩] amt = some ([⟨a, amt⟩], rem)) ∧
    (¬ (amt = 0 ∨ (0 < amt ∧ amt ≤ x)) → take [⟨a, x⟩] amt = none) := by
  simp only [take, takeLoop, zeroHead]
  by_cases h0 : 0 < amt
  · have hne : amt ≠ 0 := by omega
    by_cases h1 : amt < x
    · simp [h0, h1, hne]; omega
    · by_cases h2 : amt = x
      · subst h2; simp [h0, hne]
      · simp [h0, h1, hne]; omega
  · by_cases h2 : amt = 0
    · subst h2; simp
    · simp [h0, h2]

theorem finishSend_single {env : Env} {e : Expr} {d : String} (a asset : String) {amt : Int}
    (hd : evalExpr env e = .ok (.account d)) (hamt : 0 ≤ amt) (st : State) :
    ∃ st', finishSend env (.account e) ⟨asset, [⟨a, amt⟩]⟩ st = .ok st' ∧
      st'.postings = st.postings ++ [⟨a, d, asset, amt⟩] := by
  obtain ⟨rem, ht⟩ := (take_single a amt amt).1 (by omega)
  simp only [finishSend, evalDest, total, Int.add_zero, ht, evalAccount, hd]
  exact ⟨_, rfl, rfl⟩

/-- What a bounded generated statement does once OP_TAKE_ALL has yielded the part `pt`:
    `Take` of the amount, repayment of the rest, destination. -/
def txTake (env : Env) (dstE : Expr) (asset : String) (amt : Int) (st : State) (pt : Part)
    (b1 : Balances) : Except Err State :=
  match take [pt] amt with
  | none => .error (.run "exec" "insufficient")
  | some (res, rem) =>
    finishSend env (.account dstE) ⟨asset, res⟩ { st with bal := repay b1 asset rem }

theorem txTake_single {env : Env} {dstE : Expr} {d : String} (hd : evalExpr env dstE = .ok (.account d))
    (asset a : String) (amt x : Int) (st : State) (b1 : Balances) :
    (amt = 0 ∨ (0 < amt ∧ amt ≤ x) → ∃ st', txTake env dstE asset amt st ⟨a, x⟩ b1 = .ok st' ∧
      st'.postings = st.postings ++ [⟨a, d, asset, amt⟩]) ∧
    (¬ (amt = 0 ∨ (0 < amt ∧ amt ≤ x)) →
      txTake env dstE asset amt st ⟨a, x⟩ b1 = .error (.run "exec" "insufficient")) := by
  unfold txTake
  refine ⟨fun hc => ?_, fun hc => by rw [(take_single a x amt).2 hc]⟩
  obtain ⟨rem, e⟩ := (take_single a x amt).1 hc
  rw [e]
  exact finishSend_single a asset hd (by omega) _

/-- A bounded source (`source = $acc`): OP_TAKE_ALL, then `txTake`. -/
theorem txStmt_bounded_eq {env : Env} {monE srcE dstE : Expr} {p : TxPosting}
    (hb : TxBinding env monE srcE dstE p) (hw : srcE.isWorld = false) (st : State) :
    evalStmt cfg env (.send monE (.src (.account srcE .none)) (.account dstE)) st =
      match withdrawAll st.bal p.source p.asset (some 0) with
      | .error e => .error e
      | .ok (pt, b1) => txTake env dstE p.asset p.amount st pt b1 := by
  simp only [evalStmt, leftmostAsset, hb.monAtom, hb.mon, evalSource, evalAccount, hb.src, hw,
    Bool.false_eq_true, if_false, evalMonetary, Source.fallback, takeFromSource, ne_eq, needAmt,
    txTake]
  cases withdrawAll st.bal p.source p.asset (some 0) with
  | error e => rfl
  | ok r =>
    obtain ⟨pt, b1⟩ := r
    simp only [not_true_eq_false, if_false]
    generalize take [pt] p.amount = t
    rcases t with _ | ⟨res, rem⟩ <;> rfl

/-- `TakeMax` on the empty part of an unbounded account yields nothing: the overdraft
    (`missing`) supplies the whole amount, merged into one part. -/
theorem takeMax_zero_concat (a : String) {amt : Int} (h : 0 ≤ amt) :
    concatParts (takeMax [⟨a, 0⟩] amt).1
      [⟨a, if total [⟨a, (0 : Int)⟩] < amt then amt - total [⟨a, (0 : Int)⟩] else 0⟩] = [⟨a, amt⟩] := by
  simp only [total, Int.add_zero, takeMax, takeLoop, Int.sub_zero]
  by_cases hz : amt = 0
  · simp [hz, concatParts]
  · have hpos : 0 < amt := by omega
    simp [hpos, show ¬ amt < 0 by omega, concatParts]

/-- An unbounded source (`@world`, or `$acc allowing unbounded overdraft`): the whole amount
    comes from the overdraft, whatever the balance. -/
theorem txStmt_unbounded_eq {env : Env} {monE srcE dstE : Expr} {p : TxPosting} {od : Overdraft}
    (hb : TxBinding env monE srcE dstE p)
    (hod : od = .unbounded ∨ (od = .none ∧ srcE.isWorld = true)) (st : State) :
    if p.amount < 0 then
      evalStmt cfg env (.send monE (.src (.account srcE od)) (.account dstE)) st =
        .error (.run "exec" "negative-max")
    else ∃ b2, evalStmt cfg env (.send monE (.src (.account srcE od)) (.account dstE)) st =
      finishSend env (.account dstE) ⟨p.asset, [⟨p.source, p.amount⟩]⟩ { st with bal := b2 } := by
  have hfb : (Source.account srcE od).fallback = some srcE := by
    rcases hod with rfl | ⟨rfl, hw⟩
    · rfl
    · simp [Source.fallback, hw]
  have hsrc : evalSource cfg env p.asset (.account srcE od) st.bal =
      .ok (⟨p.asset, [(withdrawAlways st.bal p.source p.asset 0).1]⟩,
        (withdrawAlways st.bal p.source p.asset 0).2) := by
    rcases hod with rfl | ⟨rfl, hw⟩
    · simp [evalSource, evalAccount, hb.src]
    · simp [evalSource, evalAccount, hb.src, hw]
  have hacc : evalAccount env srcE = .ok p.source := by simp [evalAccount, hb.src]
  simp only [evalStmt, leftmostAsset, hb.monAtom, hb.mon, hsrc, evalMonetary, hfb,
    takeFromSource, takeMaxStep, needAmt, withdrawAlways_fst,
    ne_eq, not_true_eq_false, if_false, hacc]
  split
  · rfl
  next hneg =>
    rw [takeMax_zero_concat _ (by omega)]
    exact ⟨_, rfl⟩

theorem txStmt_bounded {env : Env} {monE srcE dstE : Expr} {p : TxPosting}
    (hb : TxBinding env monE srcE dstE p) (hw : srcE.isWorld = false) (st : State) :
    (∀ st', evalStmt cfg env (.send monE (.src (.account srcE .none)) (.account dstE)) st = .ok st' →
      st'.postings = st.postings ++ [p]) ∧
    (∀ bal, st.bal.get p.source p.asset = some bal → 0 ≤ p.amount →
      (0 < p.amount ∧ bal < p.amount →
        evalStmt cfg env (.send monE (.src (.account srcE .none)) (.account dstE)) st =
          .error (.run "exec" "insufficient")) ∧
      (¬ (0 < p.amount ∧ bal < p.amount) →
        ∃ st', evalStmt cfg env (.send monE (.src (.account srcE .none)) (.account dstE)) st = .ok st')) := by
  rw [txStmt_bounded_eq hb hw]
  have tail := txTake_single hb.dst p.asset p.source p.amount
  constructor
  · intro st' h
    split at h
    · cases h
    next pt b1 hwa =>
    obtain ⟨a, x⟩ := pt
    cases (withdrawAll_delta hwa).1
    by_cases hc : p.amount = 0 ∨ (0 < p.amount ∧ p.amount ≤ x)
    · obtain ⟨st'', e, hp⟩ := (tail x st b1).1 hc
      rw [e] at h; cases h; exact hp
    · rw [(tail x st b1).2 hc] at h; cases h
  · intro bal hbal hnn
    obtain ⟨b1, hwa⟩ := withdrawAll_tracked (o := 0) hbal
    rw [hwa]
    by_cases hc : p.amount = 0 ∨ (0 < p.amount ∧ p.amount ≤ max (bal + 0) 0)
    · obtain ⟨st', e, _⟩ := (tail _ st b1).1 hc
      exact ⟨fun _ => by omega, fun _ => ⟨st', e⟩⟩
    · exact ⟨fun _ => (tail _ st b1).2 hc, fun _ => by omega⟩

theorem txStmt_unbounded {env : Env} {monE srcE dstE : Expr} {p : TxPosting} {od : Overdraft}
    (hb : TxBinding env monE srcE dstE p)
    (hod : od = .unbounded ∨ (od = .none ∧ srcE.isWorld = true)) (st : State) :
    (∀ st', evalStmt cfg env (.send monE (.src (.account srcE od)) (.account dstE)) st = .ok st' →
      st'.postings = st.postings ++ [p]) ∧
    (0 ≤ p.amount →
      ∃ st', evalStmt cfg env (.send monE (.src (.account srcE od)) (.account dstE)) st = .ok st') := by
  have := txStmt_unbounded_eq (cfg := cfg) hb hod st
  split at this
  · exact ⟨fun st' h => (by rw [this] at h; cases h), fun _ => by omega⟩
  · obtain ⟨b2, e⟩ := this
    obtain ⟨st'', e2, hp⟩ := finishSend_single (amt := p.amount) p.source p.asset hb.dst
      (by omega) { st with bal := b2 }
    rw [e, e2]
    exact ⟨fun st' h => (by cases h; exact hp), fun _ => ⟨st'', rfl⟩⟩

def txAccE (accs : List String) (x : String) : Expr :=
  if x = "world" then .acct "world" else .var (accVar (indexOfStr accs x))

def txOd (force : Bool) (p : TxPosting) : Overdraft :=
  if p.source = "world" then .none else if force then .unbounded else .none

theorem txStmt_eq (accs : List String) (mons : List (String × Int)) (force : Bool) (p : TxPosting) :
    txStmt accs mons force p =
      .send (.var (monVar (indexOfMon mons p.asset p.amount)))
        (.src (.account (txAccE accs p.source) (txOd force p))) (.account (txAccE accs p.destination)) := by
  unfold txStmt txAccE txOd
  by_cases h1 : p.source = "world" <;> by_cases h2 : p.destination = "world" <;> simp [h1, h2]

theorem txAccE_iff {env : Env} {accs : List String} {x : String} :
    evalExpr env (txAccE accs x) = .ok (.account x) ↔
      x = "world" ∨ (match evalExpr env (.var (accVar (indexOfStr accs x))) with
        | .ok (.account a) => decide (a = x)
        | _ => false) = true := by
  unfold txAccE
  by_cases hw : x = "world"
  · simp [hw, evalExpr]
  · simp only [hw, if_false, false_or]
    constructor
    · intro h; simp [h]
    · intro h
      split at h
      next a heq => rw [heq, of_decide_eq_true h]
      · cases h

/-- The three expressions of the statement generated for `p` evaluate to the fields of `p`. -/
def TxBound (env : Env) (accs : List String) (mons : List (String × Int)) (p : TxPosting) : Prop :=
  TxBinding env (.var (monVar (indexOfMon mons p.asset p.amount))) (txAccE accs p.source)
    (txAccE accs p.destination) p

/-- `txEnvOK` (recursive and decidable: the `postings` handler evaluates it) in the form the
    proofs use. -/
theorem txEnvOK_iff {env : Env} {accs : List String} {mons : List (String × Int)} :
    ∀ {ps : List TxPosting}, txEnvOK env accs mons ps = true ↔ ∀ p ∈ ps, TxBound env accs mons p
  | [] => by simp [txEnvOK]
  | p :: ps => by
    rw [List.forall_mem_cons, ← txEnvOK_iff (ps := ps)]
    simp only [txEnvOK, Bool.and_eq_true, Bool.or_eq_true, decide_eq_true_eq]
    constructor
    · rintro ⟨⟨⟨hm, hs⟩, hd⟩, hr⟩
      refine ⟨⟨?_, rfl, txAccE_iff.mpr hs, txAccE_iff.mpr hd⟩, hr⟩
      split at hm
      next a v heq =>
        simp only [Bool.and_eq_true, decide_eq_true_eq] at hm
        rw [heq, hm.1, hm.2]
      · cases hm
    · rintro ⟨b, hr⟩
      exact ⟨⟨⟨by simp [b.mon], txAccE_iff.mp b.src⟩, txAccE_iff.mp b.dst⟩, hr⟩

/-- One generated statement posts exactly its posting (any variant, any state); with a
    non-negative amount it fails only as a bounded source short of funds. -/
theorem txStmt_run {env : Env} {accs : List String} {mons : List (String × Int)} {force : Bool}
    {p : TxPosting} (bind : TxBound env accs mons p) (st : State) :
    (∀ st', evalStmt cfg env (txStmt accs mons force p) st = .ok st' →
      st'.postings = st.postings ++ [p]) ∧
    (0 ≤ p.amount →
      (p.source = "world" ∨ force = true →
        ∃ st', evalStmt cfg env (txStmt accs mons force p) st = .ok st') ∧
      (p.source ≠ "world" → force = false → ∀ bal, st.bal.get p.source p.asset = some bal →
        (0 < p.amount ∧ bal < p.amount →
          evalStmt cfg env (txStmt accs mons force p) st = .error (.run "exec" "insufficient")) ∧
        (¬ (0 < p.amount ∧ bal < p.amount) →
          ∃ st', evalStmt cfg env (txStmt accs mons force p) st = .ok st'))) := by
  rw [txStmt_eq]
  unfold txOd
  by_cases hw : p.source = "world"
  · have := txStmt_unbounded (cfg := cfg) bind
      (Or.inr ⟨rfl, by simp [txAccE, hw, Expr.isWorld]⟩) st
    rw [if_pos hw]
    exact ⟨this.1, fun h => ⟨fun _ => this.2 h, fun h' => absurd hw h'⟩⟩
  · rw [if_neg hw]
    cases force with
    | true =>
      have := txStmt_unbounded (cfg := cfg) bind (Or.inl rfl) st
      exact ⟨this.1, fun h => ⟨fun _ => this.2 h, nofun⟩⟩
    | false =>
      have := txStmt_bounded (cfg := cfg) bind (by simp [txAccE, hw, Expr.isWorld]) st
      exact ⟨this.1, fun h => ⟨fun h' => by simp [hw] at h', fun _ _ bal hbal => this.2 bal hbal h⟩⟩

theorem txStmt_posts {env : Env} {accs : List String} {mons : List (String × Int)} {force : Bool}
    {p : TxPosting} (hb : TxBound env accs mons p) (st st' : State)
    (h : evalStmt cfg env (txStmt accs mons force p) st = .ok st') :
    st'.postings = st.postings ++ [p] :=
  (txStmt_run hb st).1 st' h

/-- A successful run of the generated statements appends exactly the postings. -/
theorem txRun_posts {env : Env} {accs : List String} {mons : List (String × Int)} {force : Bool} :
    (ps : List TxPosting) → (∀ p ∈ ps, TxBound env accs mons p) → (st st' : State) →
    runStmts cfg env (ps.map (txStmt accs mons force)) st = .ok st' → st'.postings = st.postings ++ ps
  | [], _, st, st', h => by simp only [List.map_nil, runStmts] at h; cases h; simp
  | p :: ps, hb, st, st', h => by
    simp only [List.map_cons, runStmts] at h
    split at h
    · cases h
    next st1 h1 =>
      rw [txRun_posts ps (fun q hq => hb q (List.mem_cons_of_mem p hq)) st1 st' h,
        txStmt_posts (hb p List.mem_cons_self) st st1 h1, List.append_assoc]
      rfl

/-- One step of the specification on a tracked pair equals the machine's accounting. -/
theorem applyPostings_step_eq (b : String → String → Int) (p : TxPosting) (a c : String) :
    b a c + flowIn a c [p] - flowOut a c [p] =
      (if a = p.destination ∧ c = p.asset then
        (if a = p.source ∧ c = p.asset then b a c - p.amount else b a c) + p.amount
       else (if a = p.source ∧ c = p.asset then b a c - p.amount else b a c)) := by
  simp only [flowIn, flowOut, Int.add_zero, @eq_comm _ p.destination a, @eq_comm _ p.source a,
    @eq_comm _ p.asset c]
  split <;> split <;> omega

/-- Invariant between the machine's tracked balances and the specification's running
    balances on the pairs `T`. -/
def TxInv (T : String → String → Prop) (st : State) (b : String → String → Int) : Prop :=
  st.bal.WF ∧ ∀ a c, T a c → a ≠ "world" ∧ st.bal.get a c = some (b a c)

theorem txInv_step {T : String → String → Prop} {env : Env} {accs : List String}
    {mons : List (String × Int)} {force : Bool} {p : TxPosting}
    (hb : TxBound env accs mons p) {st st' : State} {b : String → String → Int}
    (hinv : TxInv T st b) (h : evalStmt cfg env (txStmt accs mons force p) st = .ok st') :
    TxInv T st' (fun a c =>
      if a = p.destination ∧ c = p.asset then
        (if a = p.source ∧ c = p.asset then b a c - p.amount else b a c) + p.amount
      else (if a = p.source ∧ c = p.asset then b a c - p.amount else b a c)) := by
  obtain ⟨new, ok⟩ := evalStmt_ok h
  have hnew : new = [p] :=
    List.append_cancel_left (ok.postings.symm.trans (txStmt_posts hb st st' h))
  have hsaved := ok.savedSend (by rw [txStmt_eq]; rfl)
  refine ⟨ok.wf hinv.1, fun a c hT => ?_⟩
  obtain ⟨ha, hg⟩ := hinv.2 a c hT
  obtain ⟨v', g', e'⟩ := ok.track a c _ ha hinv.1 hg
  rw [hsaved, hnew] at e'
  -- `e'` gives `v'` as `b a c + flowIn a c [p] - flowOut a c [p]`; `applyPostings_step_eq` reads that as the step
  exact ⟨ha, g'.trans (congrArg some ((applyPostings_step_eq b p a c).subst (motive := (v' = ·)) (by omega)))⟩

/-- The run of the generated statements against the specification: without force it fails
    with insufficient funds where `applyPostings` does, and succeeds otherwise. -/
theorem txRun (env : Env) (accs : List String) (mons : List (String × Int)) (force : Bool)
    (T : String → String → Prop) :
    (ps : List TxPosting) → (∀ p ∈ ps, TxBound env accs mons p) → (∀ p ∈ ps, 0 ≤ p.amount) →
    (force = false → ∀ p ∈ ps, p.source ≠ "world" → T p.source p.asset) →
    (st : State) → (b : String → String → Int) → TxInv T st b →
    (force = false → applyPostings b ps = none →
      runStmts cfg env (ps.map (txStmt accs mons force)) st = .error (.run "exec" "insufficient")) ∧
    (force = true ∨ (applyPostings b ps).isSome →
      ∃ st', runStmts cfg env (ps.map (txStmt accs mons force)) st = .ok st')
  | [], _, _, _, st, b, _ => by
    simp [applyPostings, runStmts]
  | p :: ps, hb, hnn, hT, st, b, hinv => by
    obtain ⟨hb1, hb2⟩ := List.forall_mem_cons.mp hb
    obtain ⟨hfree, hbounded⟩ := (txStmt_run (cfg := cfg) (force := force) hb1 st).2 (hnn p List.mem_cons_self)
    have hbal := fun hf hw => hbounded hw hf _ (hinv.2 _ _ (hT hf p List.mem_cons_self hw)).2
    simp only [List.map_cons, runStmts, applyPostings]
    -- the statement fails exactly when force is off and the specification's step fails
    by_cases hfail : force = false ∧ p.source ≠ "world" ∧ 0 < p.amount ∧ b p.source p.asset < p.amount
    · obtain ⟨hf, hw, hlt⟩ := hfail
      rw [if_pos ⟨hw, hlt⟩, (hbal hf hw).1 hlt]
      simp [hf]
    · obtain ⟨st1, h1⟩ : ∃ st1, evalStmt cfg env (txStmt accs mons force p) st = .ok st1 := by
        by_cases hw : p.source = "world" ∨ force = true
        · exact hfree hw
        · have hf : force = false := Bool.eq_false_iff.mpr fun h => hw (Or.inr h)
          exact (hbal hf fun h => hw (Or.inl h)).2 fun h' => hfail ⟨hf, fun h => hw (Or.inl h), h'⟩
      obtain ⟨ih1, ih2⟩ := txRun env accs mons force T ps hb2 (fun q hq => hnn q (List.mem_cons_of_mem p hq))
        (fun hf q hq => hT hf q (List.mem_cons_of_mem p hq)) st1 _ (txInv_step hb1 hinv h1)
      rw [h1]
      by_cases hc : p.source ≠ "world" ∧ 0 < p.amount ∧ b p.source p.asset < p.amount
      · rw [if_pos hc]
        exact ⟨fun hf _ => absurd ⟨hf, hc⟩ hfail, fun hs => ih2 (hs.imp_right nofun)⟩
      · rw [if_neg hc]
        exact ⟨ih1, ih2⟩

end Ledger.Machine
