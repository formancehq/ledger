import Ledger.Proofs.CtrlSpecLink
import Ledger.Proofs.CtrlSpec

/-!
Accounts: the dates (`first_usage`, `insertion_date`) of the controller's `accounts`
table follow the Spec's fold `datesOfOps` over the store operations the journal
stands for (C18 at Spec level: `Ledger/Props/C18store.lean`).
-/
namespace Ledger.Ctrl
open Ledger.Base Ledger.Core

def datesS (m : Map String AccSpec) (a : String) : Option (Int × Int) :=
  (m.get? a).map fun r => (r.firstUsage, r.insertionDate)

theorem datesS_insert (m : Map String AccSpec) (k : String) (v : AccSpec) (b : String) :
    datesS (m.insert k v) b = if b = k then some (v.firstUsage, v.insertionDate) else datesS m b := by
  unfold datesS
  rw [Map.get?_insert]
  split <;> rfl

theorem touchWith_dates (D : Meta) (ts ins : Time) (accs : Map String AccSpec) (address : String) (m : Meta)
    (b : String) :
    datesS (touchWith D ts ins accs address m) b =
      if b = address then Spec.stepDates ts ins (datesS accs address) else datesS accs b := by
  have hd : datesS accs address = (accs.get? address).map fun r => (r.firstUsage, r.insertionDate) := rfl
  unfold touchWith
  rw [hd]
  cases hg : accs.get? address with
  | none => rw [datesS_insert]; rfl
  | some x =>
    dsimp only [Option.map_some]
    split
    · rw [datesS_insert]; rfl
    · rename_i hc
      split
      · subst b
        have hlt : ¬ ts < x.firstUsage := fun h => hc (by rw [decide_eq_true h, Bool.true_or])
        rw [hd, hg]
        simp only [Option.map_some, Spec.stepDates, hlt, if_false]
      · rfl

theorem specSave_dates (schemas : List Schema) (v : String) (date : Time) (accs : Map String AccSpec)
    (address : String) (m : Meta) (b : String) :
    datesS (specSave schemas v date accs address m) b =
      if b = address then (match datesS accs address with | none => some (date, date) | some c => some c)
      else datesS accs b := by
  have hd : datesS accs address = (accs.get? address).map fun r => (r.firstUsage, r.insertionDate) := rfl
  unfold specSave
  rw [hd]
  cases hg : accs.get? address with
  | none => rw [datesS_insert]; rfl
  | some x =>
    dsimp only [Option.map_some]
    split
    · split
      · subst b; rw [hd, hg]; rfl
      · rfl
    · rw [datesS_insert]

theorem touch_fold_dates (schemas : List Schema) (v : String) (ts ins : Time) (mOf : String → Meta)
    (addrs : List String) (accs : Map String AccSpec) (b : String) :
    datesS (addrs.foldl (fun acc a => specTouch schemas v ts ins acc a (mOf a)) accs) b =
      if b ∈ addrs then Spec.stepDates ts ins (datesS accs b) else datesS accs b := by
  induction addrs generalizing accs with
  | nil => simp
  | cons a r ih =>
    simp only [List.foldl_cons]
    rw [ih, specTouch_eq, touchWith_dates]
    by_cases hba : b = a
    · subst hba
      simp only [↓reduceIte, List.mem_cons, true_or]
      by_cases hr : b ∈ r
      · simp only [hr, ↓reduceIte, Spec.stepDates_idem]
      · simp only [hr, ↓reduceIte]
    · simp only [hba, ↓reduceIte, List.mem_cons, false_or]

theorem mem_accountsToUpsert (ps : List Posting) (am : Map String Meta) (a : String) :
    a ∈ accountsToUpsert ps am ↔ (a ∈ Spec.involvedAccounts ps ∨ a ∈ am.keys) :=
  (Map.mem_keys_foldl _ (fun (e : String × Meta) k => e.1 = k) (fun m e k => by rw [Map.mem_keys_insert, or_comm, eq_comm])
    am _ a).trans (or_congr Iff.rfl List.mem_map.symm)

theorem specStep_dates (st : SpecSt) (l : Log) (a : String) :
    datesS (specStep st l).accounts a = (opsOfLog l).foldl (Spec.accountEventStep a) (datesS st.accounts a) := by
  unfold specStep opsOfLog
  cases hp : l.payload with
  | insertedSchema s => rfl
  | created tx am =>
    simp only [List.foldl_cons, List.foldl_nil, Spec.accountEventStep, Spec.datesStep_eq]
    refine (touch_fold_dates _ _ _ _ _ _ _ _).trans ?_
    by_cases h : a ∈ accountsToUpsert tx.postings am
    · rw [if_pos h, if_pos]
      rw [Spec.involves_iff]
      exact ⟨rfl, (mem_accountsToUpsert _ _ _).mp h⟩
    · rw [if_neg h, if_neg]
      rw [Spec.involves_iff]
      rintro ⟨_, h'⟩
      exact h ((mem_accountsToUpsert _ _ _).mpr h')
  | reverted orig rev =>
    simp only [List.foldl_cons, List.foldl_nil, Spec.accountEventStep, Spec.datesStep_eq, Spec.TxIn.involves,
      Bool.false_and, Bool.false_eq_true, ↓reduceIte]
  | savedMeta t m =>
    cases t with
    | transaction id => rfl
    | account b =>
      simp only [List.foldl_cons, List.foldl_nil, Spec.accountEventStep]
      rw [specSave_dates]
      by_cases h : a = b
      · subst h; simp only [↓reduceIte]; cases datesS st.accounts a <;> rfl
      · have h' : ¬ b = a := fun e => h e.symm
        simp only [h, h', ↓reduceIte]
  | deletedMeta t key =>
    cases t with
    | transaction id => rfl
    | account b =>
      simp only [List.foldl_nil]
      cases hg : st.accounts.get? b with
      | none => rfl
      | some x =>
        simp only
        rw [datesS_insert]
        by_cases h : a = b
        · subst h; simp only [↓reduceIte, datesS, hg, Option.map_some]
        · simp only [h, ↓reduceIte]

theorem foldl_specStep_dates (logs : List Log) (st : SpecSt) (ops0 : List Spec.StoreOp) (a : String)
    (h : datesS st.accounts a = Spec.datesOfOps ops0 a) :
    datesS (logs.foldl specStep st).accounts a = Spec.datesOfOps (ops0 ++ specOpsOf logs) a := by
  induction logs generalizing st ops0 with
  | nil => simpa [specOpsOf] using h
  | cons l r ih =>
    simp only [List.foldl_cons, specOpsOf, List.flatMap_cons]
    rw [← List.append_assoc]
    apply ih
    rw [specStep_dates, h]
    unfold Spec.datesOfOps
    rw [List.foldl_append]

theorem specOf_dates (logs : List Log) (a : String) :
    datesS (specOf logs).accounts a = Spec.datesOfOps (specOpsOf logs) a := by
  have := foldl_specStep_dates logs {} [] a rfl
  simpa [specOf] using this

theorem datesOfRow_eq_datesS (accs : Map String Account) (a : String) :
    datesOfRow accs a = datesS (accs.map fun e => (e.1, projAcc e.2)) a := by
  unfold datesOfRow datesS
  rw [get?_map]
  cases accs.get? a <;> rfl

/-- In every state whose tables agree with their journal (`SpecOk`, an invariant of
    the controller's histories) the account dates follow the Spec's fold. -/
theorem accounts_follow_spec (d : Db) (h : SpecOk d) (a : String) :
    datesOfRow d.accounts a = Spec.datesOfOps (specOpsOf d.logs) a := by
  rw [datesOfRow_eq_datesS, ← specOf_dates]
  unfold SpecOk at h
  rw [h]
  rfl

end Ledger.Ctrl
