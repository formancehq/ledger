import Ledger.Proofs.WrapNest
import Ledger.Proofs.WrapBulk

/-!
The invariant of `Ledger/Proofs/WrapEvents.lean` is kept by the callers of the
events wrapper modelled in `Ledger/Wrap/Stack.lean` (state tracker `handleState` —
also nested inside an atomic bulk's transaction —, sequential `Bulker.Run`) and by
every disciplined raw call; hence by every disciplined program (for C31).
-/
namespace Ledger.Wrap
open List

/-- the facade can take its first-write path: the ledger is in use, or `LockLedger` keeps `hasTx` -/
theorem Ext.pre {s s' : St} (hx : Ext s s') (h : s.inUse = true ∨ s.lockTx true = true) :
    s'.inUse = true ∨ s'.lockTx true = true :=
  h.imp hx.inUse fun hp => by rw [hx.lockTx]; exact hp

/-- A callback of `handleState` that keeps the invariant on every good wrapper. -/
def FnOk (fn : St → W → Ret × St) : Prop :=
  ∀ s c, Inv s → Good s.nT c → Inv (fn s c).2 ∧ Ext s (fn s c).2

theorem stateUpdate_inert (I : St → Prop) (hin : ∀ s it, I s → Item.inert it = true → I (s.emit it))
    {s : St} (h : I s) (ctrl : W) : I (stateUpdate s ctrl).2 := by
  have step : ∀ s tag, I s → I (uSql s ctrl tag).2 := fun s tag hs => by
    obtain ⟨it, hi, he⟩ := uSql_state s ctrl tag
    rw [he]; exact hin s it hs hi
  unfold stateUpdate
  have h1 := step s 1 h
  generalize uSql s ctrl 1 = r1 at h1 ⊢
  obtain ⟨_ | _, s1⟩ := r1
  · exact h1
  simp only []
  split
  · have h2 := step s1 2 h1
    generalize uSql s1 ctrl 2 = r2 at h2 ⊢
    obtain ⟨_ | _, s2⟩ := r2
    · exact h2
    simp only []
    have h3 := step s2 3 h2
    generalize uSql s2 ctrl 3 = r3 at h3 ⊢
    obtain ⟨_ | _, s3⟩ := r3 <;> exact h3
  · exact h1

/-- `withLock` + state update around a callback only adds inert items (and bumps
    the lock counter): whatever they keep, and the callback keeps, is kept. -/
theorem lockedBody_inert (I : St → Prop) (hin : ∀ s it, I s → Item.inert it = true → I (s.emit it))
    (hbump : ∀ s, I s → I { s with nK := s.nK + 1 }) {s : St} (h : I s) (ctrl : W) (fn : St → W → Ret × St)
    (hfn : ∀ s' locked, (wLock s ctrl).1 = .ok locked → I s' → I (fn s' locked).2) :
    I (lockedBody s ctrl fn).2 := by
  have h1 : I (wLock s ctrl).2 := by
    obtain ⟨it, hi, e | e⟩ := wLock_state s ctrl <;> rw [e]
    · exact hin _ _ h hi
    · exact hin _ _ (hbump _ h) hi
  unfold lockedBody
  split
  · rename_i e s1 heq
    rw [heq] at h1; exact h1
  · rename_i locked s1 heq
    rw [heq] at h1 hfn
    have h2 := stateUpdate_inert I hin h1 ctrl
    refine hin _ _ ?_ rfl
    split
    · rename_i s2 heq2
      rw [heq2] at h2; exact hfn s2 locked rfl h2
    · rename_i e s2 _ heq2
      rw [heq2] at h2; exact h2

theorem lockedBody_pres {s : St} {ctrl : W} {fn : St → W → Ret × St} (h : Inv s)
    (hc : Good s.nT ctrl) (hpre : ctrl.u = .none ∨ s.lockTx true = true) (hfn : FnOk fn) :
    Inv (lockedBody s ctrl fn).2 ∧ Ext s (lockedBody s ctrl fn).2 :=
  lockedBody_inert (fun s' => Inv s' ∧ Ext s s')
    (fun _ it hs hi => ⟨hs.1.emit_inert it hi, hs.2.trans (.of_eq rfl)⟩)
    (fun _ hs => ⟨hs.1.of_eq rfl rfl, hs.2.nT, hs.2.lockTx, hs.2.handles, hs.2.inUse⟩) ⟨h, .of_eq rfl⟩ ctrl fn
    fun s' locked hl hs =>
      have := hfn s' locked hs.1 (((wLock_pres h hc hpre).2.2 locked hl).mono hs.2.nT)
      ⟨this.1, hs.2.trans this.2⟩

/-- `withLock` + state update + the write, inside the savepoint. -/
theorem lockedBody_nest {cl : Prop} {s : St} {t1 t2 : Nat} {c1 : W} (h : Nest cl s t1 t2)
    (hc1h : c1.hasTx = true) (hc1s : c1.sink = some (.tx t1)) (k : Kind) (w : Nat) :
    Nest cl (lockedBody s (.node (.tx t2) true (.tx t2 (.tx t1 .none)) c1)
      (fun s c => wWrite s c k false w)).2 t1 t2 ∧
    Ext s (lockedBody s (.node (.tx t2) true (.tx t2 (.tx t1 .none)) c1)
      (fun s c => wWrite s c k false w)).2 := by
  refine lockedBody_inert (fun s' => Nest cl s' t1 t2 ∧ Ext s s')
    (fun _ it hs hi => ⟨hs.1.emit_inert it hi, hs.2.trans (.of_eq rfl)⟩)
    (fun _ hs => ⟨hs.1.bump, hs.2.nT, hs.2.lockTx, hs.2.handles, hs.2.inUse⟩) ⟨h, .of_eq rfl⟩ _ _
    fun s' c3 hl hs => ?_
  -- the locked wrapper is bound to the savepoint and forwards its events to `t1`'s wrapper
  cases wLock_node hl
  have hs2 : (W.node (.tx t2) true (.tx t2 (.tx t1 .none)) c1).sink = some (.tx t1) := by
    simp [W.sink, hc1h, hc1s]
  exact (nest_write hs.1 rfl
    (by show (if !(s.lockTx true) then none else if true then _ else _) = _; rw [h.lk, hs2]; rfl) k w).imp_right
    hs.2.trans

/-- `handleState` on an initializing ledger, by the exits of its first-write path: `BeginTX`
    failed; the locked body succeeded and `Commit` (dry run: `Rollback`) decides; the locked
    body failed and the deferred `Rollback` runs. -/
theorem handleState_cases {s : St} {c : W} {dry : Bool} {fn : St → W → Ret × St} {P : Ret → St → Prop}
    (hB : ∀ e, (wBegin s c).1 = .error e → P e (wBegin s c).2)
    (hL : ∀ ctrl, (wBegin s c).1 = .ok ctrl →
      let b := lockedBody (wBegin s c).2 ctrl fn
      (b.1 = .ok → dry = false → P (wCommit b.2 ctrl).1 (wCommit b.2 ctrl).2) ∧
      (b.1 = .ok → dry = true → P (wRollback b.2 ctrl).1 (wRollback b.2 ctrl).2) ∧
      (b.1 ≠ .ok → P b.1 (wRollback b.2 ctrl).2)) :
    P (handleState s c false dry fn).1 (handleState s c false dry fn).2.1 := by
  unfold handleState
  revert hB hL
  rcases wBegin s c with ⟨e | ctrl, s1⟩ <;> intro hB hL
  · exact hB e rfl
  have := hL ctrl rfl
  revert this
  simp only [Bool.false_eq_true, if_false]
  rcases lockedBody s1 ctrl fn with ⟨r2, s2⟩
  rintro ⟨h1, h2, h3⟩
  split
  · rename_i heq
    cases heq
    cases dry
    · have := h1 rfl rfl
      revert this
      simp only [Bool.not_false, if_true]
      rcases wCommit s2 ctrl with ⟨r3, s3⟩
      intro h; split <;> (rename_i heq; cases heq; exact h)
    · have := h2 rfl rfl
      revert this
      simp only [Bool.not_true, Bool.false_eq_true, if_false]
      rcases wRollback s2 ctrl with ⟨r3, s3⟩
      intro h; split <;> (rename_i heq; cases heq; exact h)
  · rename_i hne heq
    cases heq
    exact h3 hne

/-- `handleState` on a facade over a wrapper outside any transaction (the root). -/
theorem handleState_pres {s : St} {c : W} {inUse dry : Bool} {fn : St → W → Ret × St} (h : Inv s)
    (hc : Good s.nT c) (hu : c.u = .none)
    (hpre : inUse = true ∨ s.lockTx true = true) (hfn : FnOk fn) :
    Inv (handleState s c inUse dry fn).2.1 ∧ Ext s (handleState s c inUse dry fn).2.1 ∧
    (inUse = true → (handleState s c inUse dry fn).2.2 = true) := by
  cases inUse with
  | true => exact ⟨(hfn s c h hc).1, (hfn s c h hc).2, fun _ => rfl⟩
  | false =>
    obtain ⟨hi1, he1, hg⟩ := wBegin_pres h hc hu
    refine (fun (x : _ ∧ _) => ⟨x.1, x.2, nofun⟩)
      (handleState_cases (P := fun _ s' => Inv s' ∧ Ext s s') (fun _ _ => ⟨hi1, he1⟩) fun ctrl hok => ?_)
    obtain ⟨_, _, _, hgc, hlc⟩ := hg ctrl hok
    have hlb := lockedBody_pres (fn := fn) hi1 hgc
      (.inr (by rw [he1.lockTx]; exact hpre.resolve_left nofun)) hfn
    have hgc2 := hgc.mono hlb.2.nT
    have hx := he1.trans hlb.2
    exact ⟨fun _ _ => (wCommit_pres hlb.1 hgc2 (.inr hlc) rfl).imp_right hx.trans,
      fun _ _ => (wRollback_pres hlb.1 hgc2).imp_right hx.trans,
      fun _ => (wRollback_pres hlb.1 hgc2).imp_right hx.trans⟩

theorem facadeWrite_pres {s : St} (h : Inv s) (hpre : s.inUse = true ∨ s.lockTx true = true)
    (k : Kind) (dry : Bool) (w : Nat) :
    Inv (facadeWrite s k dry w).2 ∧ Ext s (facadeWrite s k dry w).2 := by
  have := handleState_pres (c := .root) (inUse := s.inUse) (dry := dry) h (good_root _) rfl hpre
    fun _ _ h hc => wWrite_pres h hc k dry w
  exact ⟨this.1.of_eq rfl rfl, this.2.1.nT, this.2.1.lockTx, this.2.1.handles, this.2.2⟩

theorem wWrite_frame (s : St) (c : W) (k : Kind) (dry : Bool) (w : Nat) :
    (wWrite s c k dry w).2.opn = s.opn ∧ (wWrite s c k dry w).2.nT = s.nT ∧
    ∀ i, c.sink ≠ some i → (wWrite s c k dry w).2.queue i = s.queue i := by
  rcases wWrite_state s c k dry w with ⟨it, _, he⟩ | ⟨_, _, he⟩ <;> rw [he]
  · exact ⟨rfl, rfl, fun _ _ => rfl⟩
  unfold handleEvent
  split
  · exact ⟨rfl, rfl, fun _ _ => rfl⟩
  · rename_i j hj
    exact ⟨rfl, rfl, fun i hi => updQ_other _ _ _ _ fun he => hi (he ▸ hj)⟩

/-- Properties of the wrapper returned by the bulk's `BeginTX` on the root. -/
structure Owner (c1 : W) (t1 : Nat) : Prop where
  u : c1.u = .tx t1 .none
  h : c1.hasTx = true
  s : c1.sink = some (.tx t1)
  id : c1.id = .tx t1
  lc : c1.lockCreated = false

theorem Owner.good {c1 : W} {t1 n : Nat} (ho : Owner c1 t1) (h1 : 1 ≤ t1) (hn : t1 ≤ n) : Good n c1 :=
  Or.inr ⟨t1, ho.u, h1, hn, ho.h, ho.s, Or.inl ho.id⟩

/-- A write directly on the bulk's transaction wrapper (the bulk's facade is in use). -/
theorem binv_write {cl : Prop} {s : St} {t1 : Nat} {c1 : W} (h : BInv cl s t1) (ho : Owner c1 t1)
    (k : Kind) (dry : Bool) (w : Nat) :
    BInv cl (wWrite s c1 k dry w).2 t1 ∧ Ext s (wWrite s c1 k dry w).2 := by
  have hg := ho.good h.lo h.hi
  obtain ⟨hopn, hnT, hq⟩ := wWrite_frame s c1 k dry w
  refine ⟨⟨(wWrite_pres h.e hg k dry w).1, fun hc => (wWrite_pres (h.c hc) hg k dry w).1, ?_, h.lo, ?_, ?_⟩,
    (wWrite_pres h.e hg k dry w).2⟩
  · rw [hopn]; exact h.o1
  · rw [hnT]; exact h.hi
  · intro t ht
    rw [hopn, hq (.tx t) (by rw [ho.s]; intro he; cases he; omega)]
    exact h.above t ht

/-- **The first-write path nested in the bulk's transaction**, and more generally a
    write method of the facade returned by `controllerFacade.BeginTX`. -/
theorem handleState_nested {cl : Prop} {s : St} {t1 : Nat} {c1 : W} {iu : Bool} (h : BInv cl s t1)
    (ho : Owner c1 t1) (hlk : iu = true ∨ s.lockTx true = true) (k : Kind) (w : Nat) :
    BInv (cl ∧ (handleState s c1 iu false (fun s c => wWrite s c k false w)).1 = .ok)
      (handleState s c1 iu false (fun s c => wWrite s c k false w)).2.1 t1 ∧
    Ext s (handleState s c1 iu false (fun s c => wWrite s c k false w)).2.1 ∧
    (iu = true → (handleState s c1 iu false (fun s c => wWrite s c k false w)).2.2 = true) := by
  cases iu with
  | true =>
    have := binv_write h ho k false w
    exact ⟨this.1.weaken (·.1), this.2, fun _ => rfl⟩
  | false =>
    refine (fun (x : _ ∧ _) => ⟨x.1, x.2, nofun⟩) ?_
    rcases nest_begin (c1 := c1) h ho.u (hlk.resolve_left nofun) with ⟨e, he, hb, hx⟩ | ⟨hok, hn, hx⟩
    · exact handleState_cases (P := fun r s' => BInv (cl ∧ r = .ok) s' t1 ∧ Ext s s')
        (fun _ _ => ⟨hb.weaken (·.1), hx⟩) fun _ hc => nomatch he.symm.trans hc
    refine handleState_cases (P := fun r s' => BInv (cl ∧ r = .ok) s' t1 ∧ Ext s s')
      (fun _ hc => nomatch hok.symm.trans hc) fun c2 hc => ?_
    cases hok.symm.trans hc
    have hlb := lockedBody_nest hn ho.h ho.s k w
    have hx2 := hx.trans hlb.2
    -- a failed inner transaction is rolled back and leaves the bulk unclean
    exact ⟨fun _ _ => (nest_commit hlb.1 rfl rfl).imp_right hx2.trans, nofun,
      fun hne => ⟨(nest_rollback hlb.1 rfl rfl).1.weaken fun hc => (hne hc.2).elim,
        hx2.trans (nest_rollback hlb.1 rfl rfl).2⟩⟩

theorem bulkApply_ok {e : BEl} {s : St} {c : W} {iu : Bool} {r : Unit}
    (h : (bulkApply e (s, some (c, iu))).1 = .ok r) :
    (handleState s c iu false (fun s c => wWrite s c e.kind false e.w)).1 = .ok := by
  unfold bulkApply at h
  simp only [] at h
  split at h
  · assumption
  · cases h

/-- Invariant of a non-atomic bulk run started in `s0`. -/
def PlainP (s0 : St) (p : BSt) : Prop := ∃ s, p = (s, none) ∧ Inv s ∧ Ext s0 s

theorem bulkApply_plain {s0 : St} (hfac : s0.inUse = true ∨ s0.lockTx true = true)
    (e : BEl) (p : BSt) (hp : PlainP s0 p) : PlainP s0 (Bulk.outcomeOf bulkApply e p).2 := by
  obtain ⟨s, rfl, hi, hx⟩ := hp
  have := facadeWrite_pres hi (hx.pre hfac) e.kind false e.w
  rw [Bulk.outcomeOf_state]
  exact ⟨_, rfl, this.1, hx.trans this.2⟩

/-- Invariant of an atomic bulk run: `hasError = false` means the bulk is still clean. -/
def AtomP (s1 : St) (c1 : W) (t1 : Nat) (p : BSt) (he : Bool) : Prop :=
  ∃ s iu, p = (s, some (c1, iu)) ∧ (iu = true ∨ s.lockTx true = true) ∧
    BInv (he = false) s t1 ∧ Ext s1 s

theorem bulkApply_atom {s1 : St} {c1 : W} {t1 : Nat} (ho : Owner c1 t1) (e : BEl) (p : BSt)
    (he : Bool) (hp : AtomP s1 c1 t1 p he) :
    AtomP s1 c1 t1 (Bulk.outcomeOf bulkApply e p).2
      (he || (Bulk.outcomeOf bulkApply e p).1.isErr) := by
  obtain ⟨s, iu, rfl, hlk, hb, hx⟩ := hp
  have hn := handleState_nested hb ho hlk e.kind e.w
  rw [Bulk.outcomeOf_state]
  refine ⟨_, _, rfl, hlk.imp hn.2.2 fun hl => hn.2.1.lockTx.symm ▸ hl, hn.1.weaken fun hhe => ?_,
    hx.trans hn.2.1⟩
  simp only [Bool.or_eq_false_iff] at hhe
  obtain ⟨r, hr⟩ := (Bulk.outcomeOf_isErr bulkApply e _).1 hhe.2
  exact ⟨hhe.1, bulkApply_ok hr⟩

/-- `controllerFacade.BeginTX` is the events wrapper's `BeginTX` on the root; the new facade
    takes a snapshot of the cached ledger state. -/
theorem bulkCtrl_begin (s : St) (cw : Option (W × Bool)) :
    (bulkCtrl.begin (s, cw)).2.1 = (wBegin s .root).2 ∧
    ((bulkCtrl.begin (s, cw)).1 = .ok () → ∃ c, (wBegin s .root).1 = .ok c ∧
      (bulkCtrl.begin (s, cw)).2.2 = some (c, (wBegin s .root).2.inUse)) := by
  have : bulkCtrl.begin (s, cw) = match wBegin s .root with
      | (.ok c, s) => (.ok (), (s, some (c, s.inUse)))
      | (.error e, s) => (.error e, (s, none)) := rfl
  rw [this]
  rcases wBegin s .root with ⟨e | c, s2⟩
  · exact ⟨rfl, nofun⟩
  · exact ⟨rfl, fun _ => ⟨c, rfl, rfl⟩⟩

theorem bulkCtrl_commit_some (s : St) (c : W) (iu : Bool) :
    (bulkCtrl.commit (s, some (c, iu))).2 = ((wCommit s c).2, some (c, iu)) := by
  show (match wCommit s c with
        | (.ok, s) => ((Except.ok () : Except Ret Unit), (s, some (c, iu)))
        | (e, s) => (.error e, (s, some (c, iu)))).2 = _
  split <;> simp_all

theorem bulkCtrl_rollback_some (s : St) (c : W) (iu : Bool) :
    bulkCtrl.rollback (s, some (c, iu)) = ((wRollback s c).2, some (c, iu)) := rfl

/-- Leaving the bulk by `Rollback`: whatever happened inside, the invariant is back. -/
theorem binv_rollback {cl : Prop} {s : St} {t1 : Nat} {c1 : W} (h : BInv cl s t1) (ho : Owner c1 t1) :
    Inv (wRollback s c1).2 ∧ Ext s (wRollback s c1).2 := by
  have hg := ho.good h.lo h.hi
  have hr := wRollback_pres h.e hg
  have hl : c1.u.live s.opn = true := by rw [ho.u, live_tx]; exact h.o1
  have hopn : (wRollback s c1).2.opn = upd s.opn t1 false := by
    rw [wRollback_live ho.u (by have := h.lo; omega) hl]; rfl
  refine ⟨hr.1.change ?_, hr.2⟩
  intro t _ hex hopen
  rw [hopn] at hopen
  have hge : t1 ≤ t := by simpa [exFrom] using hex
  by_cases ht : t = t1
  · subst ht; rw [upd_same] at hopen; cases hopen
  · rw [upd_other _ _ _ _ ht, (h.above t (by omega)).1] at hopen; cases hopen

/-- Leaving a clean bulk by `Commit`. -/
theorem binv_commit {s : St} {t1 : Nat} {c1 : W} (h : BInv True s t1) (ho : Owner c1 t1) :
    Inv (wCommit s c1).2 ∧ Ext s (wCommit s c1).2 := by
  have hg := ho.good h.lo h.hi
  have hi : Inv s := by
    refine (h.c trivial).change ?_
    intro t _ hex hopen
    have hgt : t1 < t := by simpa [exAbove] using hex
    rw [(h.above t hgt).1] at hopen; cases hopen
  exact wCommit_pres hi hg (Or.inr ho.lc) rfl

/-- A sequential `Bulker.Run` over the facade. -/
theorem runBulk_pres {s : St} (h : Inv s) (atomic cof : Bool) (els : List BEl)
    (hpre : s.inUse = true ∨ s.lockTx true = true) :
    Inv (Bulk.runBulk bulkCtrl { atomic := atomic, cof := cof }
      (fun p => Bulk.runSeq Bulk.elementTag bulkApply cof els 0 false p) (s, none)).2.2.1 ∧
    Ext s (Bulk.runBulk bulkCtrl { atomic := atomic, cof := cof }
      (fun p => Bulk.runSeq Bulk.elementTag bulkApply cof els 0 false p) (s, none)).2.2.1 := by
  cases atomic with
  | false =>
    rw [Bulk.runBulk_state_nonatomic]
    obtain ⟨_, he, hi, hx⟩ := Bulk.runSeq_inv Bulk.elementTag bulkApply (fun p _ => PlainP s p)
      (fun e p _ => bulkApply_plain hpre e p) cof els 0 false (s, none) ⟨s, rfl, h, .of_eq rfl⟩
    rw [he]; exact ⟨hi, hx⟩
  | true =>
    obtain ⟨hi2, hx2, hg⟩ := wBegin_pres h (good_root s.nT) rfl
    obtain ⟨hst, hok⟩ := bulkCtrl_begin s none
    refine Bulk.runBulk_atomic (P := fun p : _ × BSt => Inv p.2.1 ∧ Ext s p.2.1)
      (fun _ _ => by rw [hst]; exact ⟨hi2, hx2⟩) fun hbo => ?_
    obtain ⟨c, hc, hfac⟩ := hok hbo
    obtain ⟨rfl, hnT2, hopn2, -, -⟩ := hg c hc
    rw [show (bulkCtrl.begin (s, none)).2 = ((wBegin s .root).2, some (_, (wBegin s .root).2.inUse)) from
      Prod.ext hst hfac]
    generalize (wBegin s .root).2 = s2 at *
    have ho : Owner (.node (.tx (s.nT + 1)) true (.tx (s.nT + 1) .none) .root) (s.nT + 1) :=
      ⟨rfl, rfl, rfl, rfl, rfl⟩
    have hrun := Bulk.runSeq_inv Bulk.elementTag bulkApply (AtomP s2 _ (s.nT + 1)) (bulkApply_atom ho)
      cof els 0 false (s2, some (_, s2.inUse))
      ⟨s2, _, rfl, hx2.pre hpre, ⟨hi2.weaken fun _ _ => rfl, fun _ => hi2.weaken fun _ _ => rfl, hopn2,
        by omega, by rw [hnT2], fun t ht => hi2.fresh t (by rw [hnT2]; exact ht)⟩, .of_eq rfl⟩
    revert hrun
    rcases Bulk.runSeq Bulk.elementTag bulkApply cof els 0 false (s2, some (_, s2.inUse)) with ⟨rs, hE, p⟩
    rintro ⟨s3, iu, rfl, -, hpb, hpx⟩
    constructor
    · rintro rfl
      rw [bulkCtrl_rollback_some]
      exact (binv_rollback hpb ho).imp_right (hx2.trans hpx).trans
    · rintro rfl
      rw [bulkCtrl_commit_some]
      exact (binv_commit (hpb.weaken fun _ => rfl) ho).imp_right (hx2.trans hpx).trans

theorem bulkOp_pres {s : St} (h : Inv s) (atomic cof : Bool) (els : List BEl)
    (hpre : s.inUse = true ∨ s.lockTx true = true) :
    Inv (bulkOp s atomic cof els).2.2 ∧ Ext s (bulkOp s atomic cof els).2.2 := by
  have := runBulk_pres (s := { s with script := els.foldl (fun f e => upd f e.w e.ok) s.script })
    (h.of_eq rfl rfl) atomic cof els hpre
  exact ⟨this.1, this.2.nT, this.2.lockTx, this.2.handles, this.2.inUse⟩

/-- Every handle of the raw-call table is a wrapper of the discipline. -/
def HG (s : St) : Prop := ∀ c ∈ s.handles, Good s.nT c

theorem HG.of_ext {s s' : St} (hg : HG s) (hx : Ext s s') : HG s' := by
  intro c hc
  rw [hx.handles] at hc
  exact (hg c hc).mono hx.nT

/-- a `BeginTX` / `LockLedger` through the handle table registers the new wrapper -/
theorem HG.push {s s1 : St} {n : W} (hg : HG s) (hx : Ext s s1) (hn : Good s1.nT n) :
    HG { s1 with handles := s1.handles ++ [n] } := by
  intro c hc
  rcases List.mem_append.mp hc with hc | hc
  · exact hg.of_ext hx c hc
  · cases List.mem_singleton.mp hc; exact hn

structure Keep (s s' : St) : Prop where
  lockTx : s'.lockTx = s.lockTx

theorem settle {s s' : St} (h : Inv s' ∧ Ext s s') (hg : HG s) :
    Inv s' ∧ HG s' ∧ s'.lockTx = s.lockTx :=
  ⟨h.1, hg.of_ext h.2, h.2.lockTx⟩

theorem settle_push {s : St} (r : Except Ret W × St) (hi : Inv r.2) (hx : Ext s r.2)
    (hn : ∀ n, r.1 = .ok n → Good r.2.nT n) (hg : HG s) :
    let out : Ret × St := match (generalizing := false) r with
      | (.ok n, s) => (.ok, { s with handles := s.handles ++ [n] })
      | (.error e, s) => (e, s)
    Inv out.2 ∧ HG out.2 ∧ out.2.lockTx = s.lockTx := by
  obtain ⟨e | n, s1⟩ := r
  · exact settle ⟨hi, hx⟩ hg
  · exact ⟨hi.of_eq rfl rfl, hg.push hx (hn n rfl), hx.lockTx⟩

theorem callOn_pres {lockInTx : Bool} {s : St} {w : W} (h : Inv s) (hg : HG s) (hw : Good s.nT w)
    (hL : lockInTx = true → s.lockTx true = true) (c : Call) (hok : callOk lockInTx w c = true) :
    Inv (callOn s w c).2 ∧ HG (callOn s w c).2 ∧ (callOn s w c).2.lockTx = s.lockTx := by
  cases c with
  | write hh k dry ok wid =>
    exact (settle (wWrite_pres (s := { s with script := upd s.script wid ok }) (h.of_eq rfl rfl) hw k dry wid) hg :)
  | begin hh ok =>
    have hb := wBegin_pres (s := { s with faults := { begin := !ok } }) (h.of_eq rfl rfl) hw
      (by simpa [callOk] using hok)
    exact (settle_push _ hb.1 hb.2.1 (fun n hn => (hb.2.2 n hn).2.2.2.1) hg :)
  | lock hh ok =>
    simp only [callOk, Bool.or_eq_true, beq_iff_eq] at hok
    have hb := wLock_pres (s := { s with faults := { lock := !ok } }) (h.of_eq rfl rfl) hw (hok.imp_right hL)
    exact (settle_push _ hb.1 hb.2.1 (fun n hn => (hb.2.2 n hn).mono hb.2.1.nT) hg :)
  | commit hh ok =>
    exact (settle (wCommit_pres (s := { s with faults := { commit := !ok } }) (h.of_eq rfl rfl) hw
      (by simpa [callOk] using hok) rfl) hg :)
  | rollback hh ok =>
    exact (settle (wRollback_pres (s := { s with faults := { rollback := !ok } }) (h.of_eq rfl rfl) hw) hg :)

theorem stepOp_pres {lockInTx : Bool} {s : St} (h : Inv s) (hg : HG s)
    (hL : lockInTx = true → s.lockTx true = true) (op : Op) (hok : opOk lockInTx s op = true) :
    Inv (stepOp s op).2 ∧ HG (stepOp s op).2 ∧ (stepOp s op).2.lockTx = s.lockTx := by
  -- every operation ends by resetting the scripted faults
  have reset : ∀ {s1 : St}, Inv s1 ∧ HG s1 ∧ s1.lockTx = s.lockTx →
      Inv { s1 with faults := {} } ∧ HG { s1 with faults := {} } ∧ s1.lockTx = s.lockTx :=
    fun h => ⟨h.1.of_eq rfl rfl, h.2⟩
  cases op with
  | raw c =>
    simp only [stepOp, rawCall]
    simp only [opOk] at hok
    cases hh : s.handles[c.h]? with
    | none => exact ⟨h, hg, rfl⟩
    | some w =>
      rw [hh] at hok
      exact reset (callOn_pres h hg (hg w (List.mem_of_getElem? hh)) hL c hok)
  | swrite k dry ok w f =>
    simp only [opOk, Bool.or_eq_true] at hok
    exact reset (settle (facadeWrite_pres (s := { s with script := upd s.script w ok, faults := f })
      (h.of_eq rfl rfl) (hok.imp id hL) k dry w) hg :)
  | bulk atomic cof els f =>
    simp only [opOk, Bool.or_eq_true] at hok
    exact reset (settle (bulkOp_pres (s := { s with faults := f }) (h.of_eq rfl rfl) atomic cof els
      (hok.imp id hL)) hg :)

theorem runOps_pres {lockInTx : Bool} (ops : List Op) (s : St) (h : Inv s) (hg : HG s)
    (hL : lockInTx = true → s.lockTx true = true) (hd : disciplined lockInTx s ops = true) :
    Inv (runOps s ops).2 := by
  induction ops generalizing s with
  | nil => exact h
  | cons op ops ih =>
    simp only [disciplined, Bool.and_eq_true] at hd
    have hs := stepOp_pres h hg hL op hd.1
    simp only [runOps]
    exact ih (stepOp s op).2 hs.1 hs.2.1 (fun hl => by rw [hs.2.2]; exact hL hl) hd.2

theorem inv_init (lockTx : Bool → Bool) (hl : lockTx false = false) (inUse : Bool) :
    Inv { lockTx := lockTx, inUse := inUse } ∧ HG { lockTx := lockTx, inUse := inUse } := by
  refine ⟨⟨rfl, rfl, fun _ _ _ => rfl, ?_, fun t _ => ⟨rfl, rfl⟩, hl⟩, ?_⟩
  · intro t ho
    exact absurd ho (by simp)
  · intro c hc
    simp only [List.mem_singleton] at hc
    subst hc
    exact good_root _

theorem c31Ok_of_inv {s : St} (h : Inv s) : c31Ok s.trace = true := by
  unfold c31Ok
  simp only [h.bad, Bool.not_false, Bool.true_and, List.all_eq_true, beq_iff_eq]
  intro x _
  rw [h.pub]

end Ledger.Wrap
