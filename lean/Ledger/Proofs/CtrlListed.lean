import Ledger.Proofs.CtrlSpecLinkAcc

/-!
Which accounts the reference reading of a journal lists: exactly those some log
involves — read off the account dates, which follow the Spec's fold over the store
operations the journal stands for.
-/
namespace Ledger.Ctrl
open Ledger.Base Ledger.Core

/-- The log names the account: a committed transaction with it as source,
    destination or account-metadata key, or a metadata save on it. -/
def Log.involves (l : Log) (a : String) : Prop :=
  match l.payload with
  | .created tx am => a ∈ accountsToUpsert tx.postings am
  | .savedMeta (.account b) _ => a = b
  | _ => False

theorem opsOfLog_touches (l : Log) (a : String) : (∃ o ∈ opsOfLog l, o.touches a = true) ↔ l.involves a := by
  unfold opsOfLog Log.involves
  cases l.payload with
  | created tx am =>
    constructor
    · rintro ⟨o, ho, ht⟩
      cases List.mem_singleton.mp ho
      exact (mem_accountsToUpsert _ _ _).mpr ((Spec.involves_iff _ _).mp ht).2
    · intro h
      exact ⟨_, List.mem_singleton.mpr rfl, (Spec.involves_iff _ _).mpr ⟨rfl, (mem_accountsToUpsert _ _ _).mp h⟩⟩
  | reverted orig rev => simp [Spec.StoreOp.touches, Spec.TxIn.involves]
  | savedMeta t m =>
    cases t with
    | transaction id => simp
    | account b =>
      simp only [List.mem_singleton, exists_eq_left, Spec.StoreOp.touches, beq_iff_eq]
      exact eq_comm
  | deletedMeta t key => simp
  | insertedSchema s => simp

theorem specOf_listed_ops (logs : List Log) (a : String) :
    ((specOf logs).accounts.get? a).isSome = true ↔ ∃ o ∈ specOpsOf logs, o.touches a = true := by
  have hd : (datesS (specOf logs).accounts a).isSome = ((specOf logs).accounts.get? a).isSome := Option.isSome_map ..
  rw [← hd, specOf_dates, Option.isSome_iff_ne_none, ne_eq, Spec.datesOfOps_none_iff]
  constructor
  · intro h
    apply Classical.byContradiction
    intro hne
    refine h fun o ho => ?_
    cases ht : o.touches a with
    | false => rfl
    | true => exact absurd ⟨o, ho, ht⟩ hne
  · rintro ⟨o, ho, ht⟩ h
    rw [h o ho] at ht
    cases ht

theorem specOf_listed (logs : List Log) (a : String) :
    ((specOf logs).accounts.get? a).isSome = true ↔ ∃ l ∈ logs, l.involves a := by
  rw [specOf_listed_ops]
  simp only [specOpsOf, List.mem_flatMap, ← opsOfLog_touches]
  constructor
  · rintro ⟨o, ⟨l, hl, ho⟩, ht⟩
    exact ⟨l, hl, o, ho, ht⟩
  · rintro ⟨l, hl, o, ho, ht⟩
    exact ⟨o, ⟨l, hl, ho⟩, ht⟩

theorem projAccounts_listed (d : Db) (a : String) :
    ((projAccounts d).get? a).isSome = (d.accounts.get? a).isSome := by
  rw [projAccounts_eq, get?_map]
  cases d.accounts.get? a <;> rfl

end Ledger.Ctrl
