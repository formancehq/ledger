import Ledger.Proofs.MachineBal

/-! Accounting lemmas for sources: the funding a source yields is exactly what was
    removed from the tracked balances, and a bounded account never goes below its
    floor. -/
namespace Ledger.Machine

/-- Funds of account `a`, asset `c`, inside one funding. -/
def fl (a c : String) (f : Funding) : Int := if f.asset = c then acctTotal a f.parts else 0

def inFlight (a c : String) : List Funding → Int
  | [] => 0
  | f :: fs => fl a c f + inFlight a c fs

theorem fl_nonneg (a c : String) (f : Funding) (h : partsNonneg f.parts) : 0 ≤ fl a c f := by
  unfold fl; split
  · exact totalOf_nonneg _ _ h
  · omega

theorem fl_cons (a c asset : String) (p : Part) (ps : List Part) :
    fl a c ⟨asset, p :: ps⟩ = (if a = p.account ∧ c = asset then p.amount else 0) + fl a c ⟨asset, ps⟩ := by
  simp only [fl, acctTotal, totalOf, beq_iff_eq, @eq_comm _ a, @eq_comm _ c]
  by_cases x : p.account = a <;> by_cases y : asset = c <;> simp [x, y]

theorem fl_single (a c asset acc : String) (amt : Int) :
    fl a c ⟨asset, [⟨acc, amt⟩]⟩ = if a = acc ∧ c = asset then amt else 0 := by
  rw [fl_cons]; simp [fl, acctTotal, totalOf]

theorem fl_split {f : Funding} {x y : List Part}
    (h : ∀ P, totalOf P x + totalOf P y = totalOf P f.parts) (a c : String) :
    fl a c ⟨f.asset, x⟩ + fl a c ⟨f.asset, y⟩ = fl a c f := by
  have := h (fun z => z == a)
  simp only [fl, acctTotal]
  split <;> omega

theorem fl_concat (a c asset : String) (x y : List Part) :
    fl a c ⟨asset, concatParts x y⟩ = fl a c ⟨asset, x⟩ + fl a c ⟨asset, y⟩ :=
  (fl_split (f := ⟨asset, concatParts x y⟩) (fun P => (concatParts_totalOf P x y).symm) a c).symm

theorem needAmt_ok {o : Option Int} {v : Int} : needAmt o = .ok v ↔ o = some v := by
  cases o <;> simp [needAmt]

theorem repay_delta (b : Balances) (asset : String) (parts : List Part) :
    Delta b (repay b asset parts) (fun a c => fl a c ⟨asset, parts⟩) := by
  induction parts generalizing b with
  | nil => exact (Delta.refl b).congr fun a c => by simp [fl, acctTotal, totalOf]
  | cons p ps ih =>
    exact (repayPart_delta asset b p).trans (ih (repayPart asset b p)) fun a c => fl_cons a c asset p ps

theorem checkOverdraft_spec {cfg : Cfg} {asset : String} {od r : String × Option Int}
    (h : checkOverdraft cfg asset od = .ok r) :
    r.1 = od.1 ∧ nilAsZero r.2 = nilAsZero od.2 ∧ (cfg.overdraftAssetCheck = true → od.1 = asset) := by
  unfold checkOverdraft at h
  split at h
  · rename_i hc
    split at h
    · cases h
    · rename_i ha
      cases h
      refine ⟨rfl, by simp [nilAsZero], fun _ => by simpa using ha⟩
  · rename_i hc
    cases h
    exact ⟨rfl, rfl, fun x => absurd x hc⟩

/-- What C23 assumes of a source leaf that resolves to account `a`: it is not
    declared unbounded, and an overdraft allowance in asset `c` is at most `B`. -/
def leafOK (env : Env) (a c : String) (B : Int) (e : Expr) (od : Overdraft) : Prop :=
  evalAccount env e = .ok a →
    match od with
    | .none => True
    | .unbounded => False
    | .upTo x => ∀ c' ov, evalMonetary env x = .ok (c', ov) → c' = c → nilAsZero ov ≤ B

mutual
  /-- `leafOK` at every leaf. -/
  def SrcBound (env : Env) (a c : String) (B : Int) : Source → Prop
    | .account e od => leafOK env a c B e od
    | .maxed _ s => SrcBound env a c B s
    | .inorder ss => SrcsBound env a c B ss
  def SrcsBound (env : Env) (a c : String) (B : Int) : SourceList → Prop
    | .nil => True
    | .cons s ss => SrcBound env a c B s ∧ SrcsBound env a c B ss
end

mutual
  theorem fallback_ne (env : Env) (a c : String) (B : Int) (ha : a ≠ "world") :
      (s : Source) → SrcBound env a c B s → ∀ e, s.fallback = some e → evalAccount env e ≠ .ok a
    | .account e od, hb, e', he => by
      intro hacc
      cases od with
      | none =>
        -- only `@world` has a fallback here, and `a` is not world
        simp only [Source.fallback] at he
        split at he <;> cases he
        rename_i hw
        cases e <;> simp [Expr.isWorld] at hw
        subst hw
        simp [evalAccount, evalExpr] at hacc
        exact ha hacc.symm
      | upTo x => cases he
      | unbounded => cases he; exact hb hacc
    | .maxed _ s, _, e', he => by simp [Source.fallback] at he
    | .inorder ss, hb, e', he => fallbacks_ne env a c B ha ss hb e' he
  theorem fallbacks_ne (env : Env) (a c : String) (B : Int) (ha : a ≠ "world") :
      (ss : SourceList) → SrcsBound env a c B ss → ∀ e, ss.fallback = some e → evalAccount env e ≠ .ok a
    | .nil, _, e', he => by cases he
    | .cons s .nil, hb, e', he => fallback_ne env a c B ha s hb.1 e' he
    | .cons _ (.cons s ss), hb, e', he => fallbacks_ne env a c B ha (.cons s ss) hb.2 e' he
end

/-- What `takeMaxStep` and `takeFromSource` do with the funding `f` a source yielded: `r` is kept, the rest goes
    back to the balances; only a fallback account `fb` may be drawn further, so floors hold for every other one. -/
structure TakeOK (env : Env) (fb : Option Expr) (f : Funding) (mon : String × Option Int)
    (b : Balances) (r : Funding) (b' : Balances) : Prop where
  assetR : r.asset = mon.1
  assetF : f.asset = mon.1
  nonneg : partsNonneg f.parts → partsNonneg r.parts
  delta : Delta b b' (fun a c => fl a c f - fl a c r)
  floor : ∀ a c B, a ≠ "world" → b.WF → partsNonneg f.parts →
    (∀ e, fb = some e → evalAccount env e ≠ .ok a) → Floor a c B b b'

/-- What was split off a funding and repaid: the tracked balances get back `rem`, so no
    floor is crossed. -/
theorem Split.repaid {f : Funding} {x rem : List Part} (h : Split f.parts x rem) (b : Balances) :
    Delta b (repay b f.asset rem) (fun a c => fl a c f - fl a c ⟨f.asset, x⟩) ∧
    ∀ a c B, a ≠ "world" → b.WF → partsNonneg f.parts → Floor a c B b (repay b f.asset rem) := by
  have d := repay_delta b f.asset rem
  refine ⟨d.congr fun a c => ?_, fun a c B ha hwf hf =>
    d.floor B ha hwf (fl_nonneg a c _ (h.nonneg hf).2)⟩
  have := fl_split h.totalOf a c
  omega

theorem takeMaxStep_ok {env : Env} {fb : Option Expr} {f : Funding} {mon : String × Option Int}
    {b b' : Balances} {r : Funding} (h : takeMaxStep env fb f mon b = .ok (r, b')) :
    TakeOK env fb f mon b r b' ∧
    (partsNonneg f.parts → ∃ amt, mon.2 = some amt ∧ 0 ≤ amt ∧
      (fb.isSome → total r.parts = amt) ∧ (fb = none → total r.parts ≤ amt)) := by
  unfold takeMaxStep at h
  split at h
  · cases h
  next amt hamt =>
  split at h
  · cases h
  next hneg =>
  split at h
  · cases h
  next hasset =>
  have hasset' : f.asset = mon.1 := Decidable.not_not.mp hasset
  have hamt0 : 0 ≤ amt := Int.not_lt.mp hneg
  have hs := Split.of_takeMax f.parts amt
  obtain ⟨dRepay, fRepay⟩ := hs.repaid b
  have hmiss : 0 ≤ (if total f.parts < amt then amt - total f.parts else 0) := by split <;> omega
  have htot := takeMax_total f.parts amt
  generalize (if total f.parts < amt then amt - total f.parts else 0) = miss at h hmiss htot
  cases fb with
  | none =>
    cases h
    refine ⟨⟨hasset', hasset', fun hf => (hs.nonneg hf).1, dRepay, fun a c B ha hwf hf _ => fRepay a c B ha hwf hf⟩,
      fun hf => ⟨amt, needAmt_ok.mp hamt, hamt0, nofun, fun _ => ?_⟩⟩
    have := htot hf hamt0
    show total (takeMax f.parts amt).1 ≤ amt
    omega
  | some fbE =>
    simp only at h
    split at h
    · cases h
    next fbAcc hfb =>
    cases h
    have dW := withdrawAlways_delta (repay b f.asset (takeMax f.parts amt).2) fbAcc mon.1 miss
    rw [withdrawAlways_fst]
    refine ⟨⟨rfl, hasset', fun hf => concatParts_nonneg _ _ (hs.nonneg hf).1
        (partsNonneg_cons.mpr ⟨hmiss, partsNonneg_nil⟩), Delta.trans dRepay dW fun a c => ?_,
      fun a c B ha hwf hf hne => (fRepay a c B ha hwf hf).trans (dW.floor B ha (dRepay.wf hwf) ?_)⟩,
      fun hf => ⟨amt, needAmt_ok.mp hamt, hamt0, fun _ => ?_, nofun⟩⟩
    · rw [fl_concat, fl_single, ← hasset']; split <;> omega
    · -- the fallback account is not `a`: its withdrawal does not concern `(a, c)`
      rw [if_neg fun x : a = fbAcc ∧ c = mon.1 => hne fbE rfl (x.1 ▸ hfb)]; exact Int.le_refl _
    · have := htot hf hamt0
      show total (concatParts _ _) = amt
      rw [concatParts_total]; simp only [total]; omega

theorem takeFromSource_ok {env : Env} {fb : Option Expr} {f : Funding} {mon : String × Option Int}
    {b b' : Balances} {r : Funding} (h : takeFromSource env fb f mon b = .ok (r, b')) :
    TakeOK env fb f mon b r b' ∧
    (partsNonneg f.parts → mon.2 = some (total r.parts)) := by
  unfold takeFromSource at h
  split at h
  · obtain ⟨h1, h2⟩ := takeMaxStep_ok h
    refine ⟨h1, fun hf => ?_⟩
    obtain ⟨amt, e1, _, e2, _⟩ := h2 hf
    rw [e1, e2 rfl]
  · split at h
    · cases h
    next hasset =>
    have hasset' : f.asset = mon.1 := Decidable.not_not.mp hasset
    split at h
    · cases h
    next amt hamt =>
    split at h
    · cases h
    next res rem htake =>
    cases h
    have hs := Split.of_take htake
    exact ⟨⟨hasset', hasset', fun hf => (hs.nonneg hf).1, (hs.repaid b).1,
      fun a c B ha hwf hf _ => (hs.repaid b).2 a c B ha hwf hf⟩,
      fun _ => by rw [needAmt_ok.mp hamt, take_total htake]⟩

/-- The fundings `fs` are what left the tracked balances between `b` and `b'`. -/
structure SrcOK (b b' : Balances) (fs : List Funding) : Prop where
  nonneg : ∀ f ∈ fs, partsNonneg f.parts
  delta : Delta b b' (fun a c => - inFlight a c fs)

theorem concatAll_totalOf_aux (P : String → Bool) (fs : List Funding) (acc : List Part) :
    totalOf P (fs.foldl (fun acc f => concatParts acc f.parts) acc) =
      totalOf P acc + (fs.map (fun f => totalOf P f.parts)).sum := by
  induction fs generalizing acc with
  | nil => simp
  | cons f fs ih =>
    simp only [List.foldl_cons, List.map_cons, List.sum_cons]
    rw [ih, concatParts_totalOf]; omega

theorem concatAll_nonneg_aux (fs : List Funding) (acc : List Part) (hacc : partsNonneg acc)
    (h : ∀ f ∈ fs, partsNonneg f.parts) :
    partsNonneg (fs.foldl (fun acc f => concatParts acc f.parts) acc) := by
  induction fs generalizing acc with
  | nil => simpa using hacc
  | cons f fs ih =>
    simp only [List.foldl_cons]
    exact ih _ (concatParts_nonneg _ _ hacc (h f (by simp))) (fun g hg => h g (by simp [hg]))

theorem inFlight_same_asset (a c asset : String) (fs : List Funding) (h : ∀ g ∈ fs, g.asset = asset) :
    (if asset = c then (fs.map (fun f => totalOf (fun x => x == a) f.parts)).sum else 0) =
      inFlight a c fs := by
  induction fs with
  | nil => simp [inFlight]
  | cons g gs ih =>
    have hg : g.asset = asset := h g (by simp)
    have := ih (fun x hx => h x (by simp [hx]))
    simp only [List.map_cons, List.sum_cons, inFlight, fl, acctTotal, hg]
    by_cases hc : asset = c
    · rw [if_pos hc] at this ⊢
      rw [if_pos hc, this]
    · rw [if_neg hc] at this ⊢
      rw [if_neg hc, ← this]; simp

theorem assemble_ok {fs : List Funding} {f : Funding} (h : assemble fs = .ok f) :
    (∀ a c, fl a c f = inFlight a c fs) ∧ ((∀ g ∈ fs, partsNonneg g.parts) → partsNonneg f.parts) ∧
    (∀ g ∈ fs, g.asset = f.asset) ∧
    (total f.parts = (fs.map (fun g => total g.parts)).sum) := by
  unfold assemble at h
  split at h
  · cases h
  · rename_i l _
    split at h
    · rename_i hall
      cases h
      have hall' : ∀ g ∈ fs, g.asset = l.asset := by
        intro g hg
        have := List.all_eq_true.mp hall g hg
        simpa using this
      refine ⟨?_, ?_, hall', ?_⟩
      · intro a c
        simp only [fl, acctTotal, concatAll]
        rw [concatAll_totalOf_aux]
        simp only [totalOf, Int.zero_add]
        exact inFlight_same_asset a c l.asset fs hall'
      · intro hnn
        exact concatAll_nonneg_aux fs [] partsNonneg_nil hnn
      · simp only [concatAll, total_eq_totalOf]
        rw [concatAll_totalOf_aux]
        simp [totalOf]
    · cases h

theorem SrcOK.cons {b b1 b2 : Balances} {f : Funding} {fs : List Funding}
    (h1 : SrcOK b b1 [f]) (h2 : SrcOK b1 b2 fs) : SrcOK b b2 (f :: fs) where
  nonneg := by
    intro g hg
    rcases List.mem_cons.mp hg with rfl | hg
    · exact h1.nonneg _ (by simp)
    · exact h2.nonneg g hg
  delta := Delta.trans h1.delta h2.delta (by intro a c; simp [inFlight]; omega)

theorem SrcOK.single_of_delta {b b' : Balances} {f : Funding} (hn : partsNonneg f.parts)
    (hd : Delta b b' (fun a c => - fl a c f)) : SrcOK b b' [f] where
  nonneg := by intro g hg; simp at hg; subst hg; exact hn
  delta := hd.congr (by intro a c; simp [inFlight])

theorem SrcOK.nil (b : Balances) : SrcOK b b [] :=
  ⟨nofun, (Delta.refl b).congr fun _ _ => by simp [inFlight]⟩

theorem SrcOK.single_part {b b' : Balances} {asset : String} {p : Part} (hp : 0 ≤ p.amount)
    (hd : Delta b b' (fun a c => if a = p.account ∧ c = asset then -p.amount else 0)) :
    SrcOK b b' [⟨asset, [p]⟩] :=
  SrcOK.single_of_delta (partsNonneg_cons.mpr ⟨hp, partsNonneg_nil⟩)
    (hd.congr fun a c => by rw [fl_single]; split <;> rfl)

theorem SrcOK.assemble {b b' : Balances} {fs : List Funding} {f : Funding} (h : SrcOK b b' fs)
    (hasm : assemble fs = .ok f) : SrcOK b b' [f] :=
  have ⟨a1, a2, _, _⟩ := assemble_ok hasm
  SrcOK.single_of_delta (a2 h.nonneg) (h.delta.congr fun a c => by rw [a1])

theorem assemble_asset {fs : List Funding} {f : Funding} {asset : String} (hasm : assemble fs = .ok f)
    (h : ∀ g ∈ fs, g.asset = asset) : f.asset = asset := by
  cases fs with
  | nil => simp [assemble] at hasm
  | cons g gs => rw [← (assemble_ok hasm).2.2.1 g List.mem_cons_self]; exact h g List.mem_cons_self

/-- The fundings `fs` were drawn from `b`, leaving `b'`: they are what left the balances (`SrcOK`),
    and no pair went below the floor that `bound a c B` grants it. `bound` is the C23 hypothesis on
    whatever ran: `SrcBound`, `SrcsBound`, `AllotSrcBound`, `StmtBound`. -/
structure Drawn (bound : String → String → Int → Prop) (b b' : Balances) (fs : List Funding) : Prop
    extends SrcOK b b' fs where
  floor : ∀ a c B, a ≠ "world" → 0 ≤ B → b.WF → bound a c B → Floor a c B b b'

section
variable {P Q : String → String → Int → Prop} {b b0 b1 b2 : Balances} {f f0 : Funding} {fs : List Funding}

theorem Drawn.nil (P : String → String → Int → Prop) (b : Balances) : Drawn P b b [] :=
  { SrcOK.nil b with floor := fun a c B _ _ _ _ => Floor.refl a c B b }

theorem Drawn.cons (h1 : Drawn P b b1 [f]) (h2 : Drawn Q b1 b2 fs) :
    Drawn (fun a c B => P a c B ∧ Q a c B) b b2 (f :: fs) :=
  { h1.toSrcOK.cons h2.toSrcOK with
    floor := fun a c B ha hB hwf hb =>
      (h1.floor a c B ha hB hwf hb.1).trans (h2.floor a c B ha hB (h1.delta.wf hwf) hb.2) }

theorem Drawn.assemble (h : Drawn P b b1 fs) (hasm : assemble fs = .ok f) : Drawn P b b1 [f] :=
  { h.toSrcOK.assemble hasm with floor := h.floor }

/-- `f` taken (`TakeOK`) from the funding `f0` drawn before: `f` is what left the balances, and the
    floors still hold where the fallback account of the take is not the bounded account. -/
theorem Drawn.take {env : Env} {fb : Option Expr} {m : String × Option Int} (i : Drawn P b b0 [f0])
    (t : TakeOK env fb f0 m b0 f b1)
    (hfb : ∀ a c B, a ≠ "world" → P a c B → ∀ e, fb = some e → evalAccount env e ≠ .ok a) :
    Drawn P b b1 [f] :=
  have hn0 : partsNonneg f0.parts := i.nonneg f0 (List.mem_singleton_self _)
  { SrcOK.single_of_delta (t.nonneg hn0) (i.delta.trans t.delta fun a c => by simp [inFlight]; omega) with
    floor := fun a c B ha hB hwf hb => (i.floor a c B ha hB hwf hb).trans
      (t.floor a c B ha (i.delta.wf hwf) hn0 (hfb a c B ha hb)) }

end

/-- OP_TAKE_ALWAYS of nothing (an unbounded or world leaf): an empty part, no balance moves. -/
theorem withdrawAlways_zero_drawn (P : String → String → Int → Prop) (b : Balances) (acc asset : String) :
    Drawn P b (withdrawAlways b acc asset 0).2 [⟨asset, [(withdrawAlways b acc asset 0).1]⟩] := by
  have d := withdrawAlways_delta b acc asset 0
  rw [withdrawAlways_fst]
  refine { SrcOK.single_part (p := ⟨acc, 0⟩) (Int.le_refl 0) d with
    floor := fun a c B ha _ hwf _ => d.floor B ha hwf ?_ }
  split <;> exact Int.le_refl _

/-- OP_TAKE_ALL (a bounded leaf): the part taken is what left the balance of `(acc, asset)`,
    which stays at or above minus the overdraft allowed. -/
theorem withdrawAll_drawn {P : String → String → Int → Prop} {b b' : Balances} {acc asset : String}
    {od : Option Int} {p : Part} (h : withdrawAll b acc asset od = .ok (p, b'))
    (hod : ∀ B, P acc asset B → 0 ≤ B → nilAsZero od ≤ B) : Drawn P b b' [⟨asset, [p]⟩] := by
  obtain ⟨hp, hfl⟩ := withdrawAll_floor h
  obtain ⟨rfl, d⟩ := withdrawAll_delta h
  refine { SrcOK.single_part hp d with floor := fun a c B ha hB hwf hb => ?_ }
  by_cases hx : a = p.account ∧ c = asset
  · obtain ⟨rfl, rfl⟩ := hx
    intro v hv
    obtain ⟨v', g1, g2⟩ := hfl v hv
    exact ⟨v', g1, Int.le_trans (Int.le_min.mpr ⟨Int.min_le_left _ _,
      Int.le_trans (Int.min_le_right _ _) (Int.neg_le_neg (hod B hb hB))⟩) g2⟩
  · exact d.floor B ha hwf (by rw [if_neg hx]; exact Int.le_refl 0)

/-- The rules by which sources run successfully, as closure conditions on two predicates
    (source or list, balances before, funding(s) yielded, balances after). -/
structure SrcRules (cfg : Cfg) (env : Env) (asset : String)
    (S : Source → Balances → Funding → Balances → Prop)
    (L : SourceList → Balances → List Funding → Balances → Prop) : Prop where
  /-- `@world`, or `allowing unbounded overdraft`: OP_TAKE_ALWAYS of nothing -/
  always : ∀ {e od b acc}, evalAccount env e = .ok acc →
    od = .unbounded ∨ od = .none ∧ e.isWorld = true →
    S (.account e od) b ⟨asset, [(withdrawAlways b acc asset 0).1]⟩ (withdrawAlways b acc asset 0).2
  bounded : ∀ {e b acc p b1}, evalAccount env e = .ok acc →
    withdrawAll b acc asset (some 0) = .ok (p, b1) → S (.account e .none) b ⟨asset, [p]⟩ b1
  upTo : ∀ {e x b acc odv oa ov p b1}, evalAccount env e = .ok acc → evalMonetary env x = .ok odv →
    checkOverdraft cfg asset odv = .ok (oa, ov) → withdrawAll b acc oa ov = .ok (p, b1) →
    S (.account e (.upTo x)) b ⟨oa, [p]⟩ b1
  maxed : ∀ {m s b f0 b1 mon f b'}, S s b f0 b1 → evalMonetary env m = .ok mon →
    takeMaxStep env s.fallback f0 mon b1 = .ok (f, b') → S (.maxed m s) b f b'
  inorder : ∀ {ss b fs b1 f}, L ss b fs b1 → assemble fs = .ok f → S (.inorder ss) b f b1
  nil : ∀ {b}, L .nil b [] b
  cons : ∀ {s ss b f b1 fs b2}, S s b f b1 → L ss b1 fs b2 → L (.cons s ss) b (f :: fs) b2

section
variable {cfg : Cfg} {env : Env} {asset : String} {S L} (R : SrcRules cfg env asset S L)
include R

mutual
  theorem evalSource_rules : (s : Source) → ∀ {b f b'},
      evalSource cfg env asset s b = .ok (f, b') → S s b f b'
    | .account e od, b, f, b', h => by
      rw [evalSource] at h
      split at h
      · cases h
      next acc hacc =>
      cases od with
      | none =>
        dsimp only at h
        split at h
        next hw => cases h; exact R.always hacc (.inr ⟨rfl, hw⟩)
        split at h <;> cases h
        next p b1 hw => exact R.bounded hacc hw
      | upTo x =>
        dsimp only at h
        split at h
        · cases h
        next odv hmon =>
        split at h
        · cases h
        next oa ov hchk =>
        split at h <;> cases h
        next p b1 hw => exact R.upTo hacc hmon hchk hw
      | unbounded => cases h; exact R.always hacc (.inl rfl)
    | .maxed m s, b, f, b', h => by
      rw [evalSource] at h
      split at h
      · cases h
      next f0 b1 hs =>
      split at h
      · cases h
      next mon hmon => exact R.maxed (evalSource_rules s hs) hmon h
    | .inorder ss, b, f, b', h => by
      rw [evalSource] at h
      split at h
      · cases h
      next fs b1 hs =>
      split at h <;> cases h
      next hasm => exact R.inorder (evalSources_rules ss hs) hasm
  theorem evalSources_rules : (ss : SourceList) → ∀ {b fs b'},
      evalSources cfg env asset ss b = .ok (fs, b') → L ss b fs b'
    | .nil, b, fs, b', h => by cases h; exact R.nil
    | .cons s ss, b, fs, b', h => by
      rw [evalSources] at h
      split at h
      · cases h
      next f b1 hs =>
      split at h <;> cases h
      next fs' b2 hss => exact R.cons (evalSource_rules s hs) (evalSources_rules ss hss)
end

end

theorem drawn_rules (cfg : Cfg) (env : Env) (asset : String) :
    SrcRules cfg env asset (fun s b f b' => Drawn (SrcBound env · · · s) b b' [f])
      (fun ss b fs b' => Drawn (SrcsBound env · · · ss) b b' fs) where
  always := fun {_ _ b acc} _ _ => withdrawAlways_zero_drawn _ b acc asset
  bounded := fun _ hw => withdrawAll_drawn hw fun _ _ hB => hB
  upTo := @fun _ _ _ _ odv _ _ _ _ hacc hmon hchk hw => withdrawAll_drawn hw fun B hb _ => by
    obtain ⟨c1, c2, _⟩ := checkOverdraft_spec hchk
    exact c2 ▸ hb hacc odv.1 odv.2 (by rw [hmon]) c1.symm
  maxed := fun i _ ht => i.take (takeMaxStep_ok ht).1 fun a c B ha hb => fallback_ne env a c B ha _ hb
  inorder := fun i hasm => i.assemble hasm
  nil := Drawn.nil _ _
  cons := fun i j => i.cons j

theorem evalSource_ok (cfg : Cfg) (env : Env) (asset : String) (s : Source) (b : Balances)
    (f : Funding) (b' : Balances) (h : evalSource cfg env asset s b = .ok (f, b')) :
    Drawn (SrcBound env · · · s) b b' [f] :=
  evalSource_rules (drawn_rules cfg env asset) s h

theorem evalSources_ok (cfg : Cfg) (env : Env) (asset : String) (ss : SourceList) (b : Balances)
    (fs : List Funding) (b' : Balances) (h : evalSources cfg env asset ss b = .ok (fs, b')) :
    Drawn (SrcsBound env · · · ss) b b' fs :=
  evalSources_rules (drawn_rules cfg env asset) ss h

/-- A source evaluated and an amount taken from what it yielded (a `send` from one source,
    one share of a source allotment). -/
theorem evalSource_take {cfg : Cfg} {env : Env} {asset : String} {s : Source} {b b0 b1 : Balances}
    {f0 f : Funding} {m : String × Option Int} (hs : evalSource cfg env asset s b = .ok (f0, b0))
    (ht : takeFromSource env s.fallback f0 m b0 = .ok (f, b1)) :
    Drawn (SrcBound env · · · s) b b1 [f] ∧ f.asset = m.1 ∧ m.2 = some (total f.parts) := by
  have i := evalSource_ok cfg env asset s b f0 b0 hs
  obtain ⟨t, tsum⟩ := takeFromSource_ok ht
  exact ⟨i.take t fun a c B ha hb => fallback_ne env a c B ha s hb, t.assetR,
    tsum (i.nonneg f0 (List.mem_singleton_self _))⟩

end Ledger.Machine
