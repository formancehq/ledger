import Ledger.Proofs.MachineBCVars

/-! Byte-code level: a small simulation framework for compile steps (`Act`) — each step emits
    a code segment whose execution by the VM model is a known stack / state transformer — with
    sequencing (`Sim.seq` along a list of steps, `Emit.trans` where the compiler binds a value
    between two steps), the primitive steps, and the effect of each opcode on the stack shapes the
    compiler produces. -/
namespace Ledger.Machine

/-- `a` simulates `f` on stacks satisfying `P`, from compile states satisfying `C`. -/
structure Sim (ds : Decls) (env : Env) (C : CS → Prop) (a : Act) (P : Stack → Prop) (f : Kl) : Prop where
  ok : ∀ cs cs', Good ds cs → C cs → a cs = .ok cs' →
    ∃ seg, Ext cs cs' seg ∧ Good ds cs' ∧
      ∀ R resv, Final cs' R → Resolved env R resv → ∀ stk st, P stk → runSeg resv seg stk st = f stk st

theorem Sim.congr {ds : Decls} {env : Env} {C : CS → Prop} {a : Act} {P : Stack → Prop} {f g : Kl}
    (h : Sim ds env C a P f) (hfg : ∀ stk st, P stk → f stk st = g stk st) : Sim ds env C a P g :=
  ⟨fun cs cs' hg hc ha => by
    obtain ⟨seg, e, gd, r⟩ := h.ok cs cs' hg hc ha
    exact ⟨seg, e, gd, fun R resv hf hr stk st hs => by rw [r R resv hf hr stk st hs, hfg stk st hs]⟩⟩

theorem Sim.strengthen {ds : Decls} {env : Env} {C D : CS → Prop} {a : Act} {P : Stack → Prop} {f : Kl}
    (h : Sim ds env C a P f) (hd : ∀ cs, D cs → C cs) : Sim ds env D a P f :=
  ⟨fun cs cs' hg hc ha => h.ok cs cs' hg (hd cs hc) ha⟩

theorem Sim.nil (ds : Decls) (env : Env) (C : CS → Prop) : Sim ds env C (seqA []) (fun _ => True) Kl.id :=
  ⟨fun cs cs' hg _ ha => by
    have := seqA_nil ha; subst this
    exact ⟨[], Ext.refl _, hg, fun _ _ _ _ _ _ _ => rfl⟩⟩

/-- Two steps in a row (`ab` runs `a`, then `b`); `hpost`: the first leaves a stack on which the second is
    specified. -/
theorem Sim.comp {ds : Decls} {env : Env} {C : CS → Prop} (hC : Stable C) {a b ab : Act}
    (hab : ∀ cs cs', ab cs = .ok cs' → ∃ cs1, a cs = .ok cs1 ∧ b cs1 = .ok cs')
    {P Q : Stack → Prop} {f g : Kl} (h1 : Sim ds env C a P f) (h2 : Sim ds env C b Q g)
    (hpost : ∀ stk st s1 t1, P stk → f stk st = .ok (s1, t1) → Q s1) : Sim ds env C ab P (f.comp g) :=
  ⟨fun cs cs' hg hc ha => by
    obtain ⟨cs1, ha1, ha2⟩ := hab cs cs' ha
    obtain ⟨s1, e1, g1, r1⟩ := h1.ok cs cs1 hg hc ha1
    obtain ⟨s2, e2, g2, r2⟩ := h2.ok cs1 cs' g1 (hC cs cs1 s1 hc e1) ha2
    refine ⟨s1 ++ s2, e1.trans e2, g2, ?_⟩
    intro R resv hf hr stk st hs
    rw [runSeg_append, r1 R resv (Final.of_ext e2 hf) hr stk st hs]
    simp only [Kl.comp]
    cases hfs : f stk st with
    | error e => rfl
    | ok r =>
      obtain ⟨x1, t1⟩ := r
      exact r2 R resv hf hr x1 t1 (hpost stk st x1 t1 hs hfs)⟩

theorem Sim.cons {ds : Decls} {env : Env} {C : CS → Prop} (hC : Stable C) {a : Act} {as : List Act}
    {P Q : Stack → Prop} {f g : Kl} (h1 : Sim ds env C a P f) (h2 : Sim ds env C (seqA as) Q g)
    (hpost : ∀ stk st s1 t1, P stk → f stk st = .ok (s1, t1) → Q s1) :
    Sim ds env C (seqA (a :: as)) P (f.comp g) :=
  Sim.comp hC (fun _ _ => seqA_cons) h1 h2 hpost

theorem Sim.append {ds : Decls} {env : Env} {C : CS → Prop} (hC : Stable C) {as bs : List Act}
    {P Q : Stack → Prop} {f g : Kl} (h1 : Sim ds env C (seqA as) P f) (h2 : Sim ds env C (seqA bs) Q g)
    (hpost : ∀ stk st s1 t1, P stk → f stk st = .ok (s1, t1) → Q s1) :
    Sim ds env C (seqA (as ++ bs)) P (f.comp g) :=
  Sim.comp hC (fun cs cs' ha => by
    rw [seqA_append] at ha
    split at ha
    · cases ha
    · exact ⟨_, ‹_›, ha⟩) h1 h2 hpost

theorem Sim.single {ds : Decls} {env : Env} {C : CS → Prop} (hC : Stable C) {a : Act}
    {P : Stack → Prop} {f : Kl} (h : Sim ds env C a P f) : Sim ds env C (seqA [a]) P f := by
  have := Sim.cons hC h (Sim.nil ds env C) (fun _ _ _ _ _ _ => trivial)
  refine this.congr ?_
  intro stk st _
  simp only [Kl.comp, Kl.id]
  cases f stk st with
  | error e => rfl
  | ok r => rfl

/-- No condition on the stack: the `P` of a `Sim` whose code runs as stated on every stack. -/
abbrev T : Stack → Prop := fun _ => True

/-- Sequencing when no stack-shape side conditions are tracked. -/
theorem Sim.seq {ds : Decls} {env : Env} {C : CS → Prop} (hC : Stable C) {a : Act} {as : List Act}
    {f g : Kl} (h1 : Sim ds env C a T f) (h2 : Sim ds env C (seqA as) T g) :
    Sim ds env C (seqA (a :: as)) T (f.comp g) :=
  Sim.cons hC h1 h2 (fun _ _ _ _ _ _ => trivial)

/-- The code of `a` runs, on EVERY stack, as some transformer `g` (so it composes by `Sim.seq` with no
    side condition), and `g` is the specification `f` on the stacks `P`.  In a proof of `Runs` the
    shape of an intermediate stack is never an obligation: the tower of `Sim.seq` fixes `g`, and `g`
    is compared with `f` in one computation from a literal stack, in which the `Runs` of a
    sub-construct is used by rewriting at the literal stack reached. -/
def Runs (ds : Decls) (env : Env) (C : CS → Prop) (a : Act) (P : Stack → Prop) (f : Kl) : Prop :=
  ∃ g, Sim ds env C a T g ∧ ∀ stk st, P stk → g stk st = f stk st

theorem Runs.sim {ds : Decls} {env : Env} {C : CS → Prop} {a : Act} {P : Stack → Prop} {f : Kl}
    (h : Runs ds env C a P f) : Sim ds env C a P f :=
  let ⟨_, e, r⟩ := h
  ⟨fun cs cs' hg hc ha =>
    let ⟨seg, x, g, run⟩ := e.ok cs cs' hg hc ha
    ⟨seg, x, g, fun R resv hf hr stk st hp => (run R resv hf hr stk st trivial).trans (r stk st hp)⟩⟩

theorem Sim.emit {ds : Decls} {env : Env} {C : CS → Prop} {a : Act} {g : Kl} (h : Sim ds env C a T g) {cs cs' : CS}
    (hg : Good ds cs) (hc : C cs) (ha : a cs = .ok cs') : Emit ds env cs cs' g :=
  let ⟨seg, e, g', r⟩ := h.ok cs cs' hg hc ha
  ⟨seg, e, g', fun R resv hf hr stk st => r R resv hf hr stk st trivial⟩

theorem Sim.of_emit {ds : Decls} {env : Env} {C : CS → Prop} {a : Act} {g : Kl}
    (h : ∀ cs cs', Good ds cs → C cs → a cs = .ok cs' → Emit ds env cs cs' g) : Sim ds env C a T g :=
  ⟨fun cs cs' hg hc ha =>
    let ⟨seg, e, g', r⟩ := h cs cs' hg hc ha
    ⟨seg, e, g', fun R resv hf hr stk st _ => r R resv hf hr stk st⟩⟩

theorem sim_skip (ds : Decls) (env : Env) (C : CS → Prop) : Sim ds env C (fun cs => .ok cs) T Kl.id :=
  .of_emit fun _ _ hg _ ha => by cases ha; exact Emit.refl hg

theorem sim_emitOp (ds : Decls) (env : Env) (C : CS → Prop) (c : Nat) : Sim ds env C (emitOp c) T (opK c) :=
  .of_emit fun _ _ hg _ ha => by cases ha; exact opIf_emit true c hg

theorem sim_emitPush (ds : Decls) (env : Env) (a : Nat) (v : Value) :
    Sim ds env (AddrVal env a v) (emitPush a) T (pushK v) :=
  .of_emit fun _ _ hg hc ha => by cases ha; exact pushIf_emit true hg hc

theorem sim_pushConst (ds : Decls) (env : Env) (C : CS → Prop) (c : CValue) :
    Sim ds env C (pushConst c) T (pushK (cvalue c)) :=
  .of_emit fun cs cs' hg _ ha => by
    simp only [pushConst] at ha
    split at ha
    · cases ha
    · rename_i a cs1 hal
      cases ha
      obtain ⟨e1, _, hres⟩ := allocConst_emit hal hg
      exact (e1.trans (pushIf_emit true e1.good (.const hres))).congr fun _ _ => rfl

theorem sim_pushInteger (ds : Decls) (env : Env) (C : CS → Prop) (n : Int) :
    Sim ds env C (pushInteger n) T (pushK (.number n)) :=
  sim_pushConst ds env C (.number n)

theorem sim_pushExpr {ds : Decls} {env : Env} (henv : EnvTyped ds env) (C : CS → Prop) {e : Expr} {ty : Ty}
    (ht : typeExpr ds e = .ok ty) : Sim ds env C (pushExpr e) T (exprK env e) :=
  .of_emit fun _ _ hg _ ha => pushExpr_emit henv ht hg ha

/-- `BUMP n`: the element `n` below the top moves to the top. -/
def bumpK (n : Nat) : Kl := fun stk st =>
  match stk[n]? with
  | some v => .ok (v :: stk.eraseIdx n, st)
  | none => .error (.fault "bump index")

theorem opK_BUMP_int (n : Int) (stk : Stack) (st : State) :
    opK OP_BUMP (.val (.number n) :: stk) st =
      if n < 0 then .error (.fault "bump index")
      else
        match stk[n.toNat]? with
        | none => .error (.fault "bump index")
        | some v => .ok (v :: stk.eraseIdx n.toNat, st) := rfl

theorem opK_BUMP (n : Nat) (stk : Stack) (st : State) :
    opK OP_BUMP (.val (.number n) :: stk) st = bumpK n stk st := by
  rw [opK_BUMP_int, if_neg (by omega), Int.toNat_natCast, bumpK]
  cases stk[n]? <;> rfl

theorem sim_bump (ds : Decls) (env : Env) (C : CS → Prop) (hC : Stable C) (n : Nat) :
    Sim ds env C (bump n) T (bumpK n) :=
  (Sim.seq hC (sim_pushInteger ds env C n) (Sim.single hC (sim_emitOp ds env C OP_BUMP))).congr
    (fun stk st _ => opK_BUMP n stk st)

theorem bumpK_one (a b : SVal) (s : Stack) (st : State) : bumpK 1 (a :: b :: s) st = .ok (b :: a :: s, st) := rfl

theorem bumpK_two (a b c : SVal) (s : Stack) (st : State) :
    bumpK 2 (a :: b :: c :: s) st = .ok (c :: a :: b :: s, st) := rfl

theorem bumpK_three (a b c d : SVal) (s : Stack) (st : State) :
    bumpK 3 (a :: b :: c :: d :: s) st = .ok (d :: a :: b :: c :: s, st) := rfl

theorem bumpK_append (xs : List SVal) (v : SVal) (rest : Stack) (st : State) :
    bumpK xs.length (xs ++ v :: rest) st = .ok (v :: (xs ++ rest), st) := by
  simp [bumpK, List.eraseIdx_append_of_length_le]

theorem opK_ASSET_mon (a : String) (v : Option Int) (rest : Stack) (st : State) :
    opK OP_ASSET (.val (.monetary a v) :: rest) st = .ok (.val (.asset a) :: rest, st) := rfl

theorem opK_ASSET_asset (a : String) (rest : Stack) (st : State) :
    opK OP_ASSET (.val (.asset a) :: rest) st = .ok (.val (.asset a) :: rest, st) := rfl

theorem opK_ASSET_funding (f : Funding) (rest : Stack) (st : State) :
    opK OP_ASSET (.funding f :: rest) st = .ok (.val (.asset f.asset) :: rest, st) := rfl

theorem opK_MONETARY_NEW (n : Int) (a : String) (rest : Stack) (st : State) :
    opK OP_MONETARY_NEW (.val (.number n) :: .val (.asset a) :: rest) st =
      .ok (.val (.monetary a (some n)) :: rest, st) := rfl

theorem opK_MONETARY_ADD (a b : String) (x y : Option Int) (rest : Stack) (st : State) :
    opK OP_MONETARY_ADD (.val (.monetary b y) :: .val (.monetary a x) :: rest) st =
      if a ≠ b then .error (.run "exec" "add-asset")
      else .ok (.val (.monetary a (some (nilAsZero x + nilAsZero y))) :: rest, st) := rfl

theorem opK_TAKE_ALL (a : String) (od : Option Int) (acc : String) (rest : Stack) (st : State) :
    opK OP_TAKE_ALL (.val (.monetary a od) :: .val (.account acc) :: rest) st =
      match withdrawAll st.bal acc a od with
      | .error e => .error e
      | .ok (p, b1) => .ok (.funding ⟨a, [p]⟩ :: rest, { st with bal := b1 }) := rfl

theorem opK_TAKE_ALWAYS (a : String) (v : Option Int) (acc : String) (rest : Stack) (st : State) :
    opK OP_TAKE_ALWAYS (.val (.monetary a v) :: .val (.account acc) :: rest) st =
      match needAmt v with
      | .error e => .error e
      | .ok amt => .ok (.funding ⟨a, [(withdrawAlways st.bal acc a amt).1]⟩ :: rest,
          { st with bal := (withdrawAlways st.bal acc a amt).2 }) := rfl

theorem opK_TAKE (a : String) (v : Option Int) (f : Funding) (rest : Stack) (st : State) :
    opK OP_TAKE (.val (.monetary a v) :: .funding f :: rest) st =
      if f.asset ≠ a then .error (.run "exec" "take-asset")
      else
        match needAmt v with
        | .error e => .error e
        | .ok amt =>
          match take f.parts amt with
          | none => .error (.run "exec" "insufficient")
          | some (res, rem) => .ok (.funding ⟨f.asset, res⟩ :: .funding ⟨f.asset, rem⟩ :: rest, st) := rfl

theorem opK_TAKE_MAX (a : String) (v : Option Int) (f : Funding) (rest : Stack) (st : State) :
    opK OP_TAKE_MAX (.val (.monetary a v) :: .funding f :: rest) st =
      match needAmt v with
      | .error e => .error e
      | .ok amt =>
        if amt < 0 then .error (.run "exec" "negative-max")
        else if f.asset ≠ a then .error (.run "exec" "take-asset")
        else .ok (.funding ⟨f.asset, (takeMax f.parts amt).1⟩ :: .funding ⟨f.asset, (takeMax f.parts amt).2⟩ ::
          .val (.monetary a (some (if total f.parts < amt then amt - total f.parts else 0))) :: rest, st) := rfl

theorem opK_REPAY (f : Funding) (rest : Stack) (st : State) :
    opK OP_REPAY (.funding f :: rest) st = .ok (rest, { st with bal := repay st.bal f.asset f.parts }) := rfl

theorem opK_FUNDING_SUM (f : Funding) (rest : Stack) (st : State) :
    opK OP_FUNDING_SUM (.funding f :: rest) st =
      .ok (.val (.monetary f.asset (some (total f.parts))) :: .funding f :: rest, st) := rfl

theorem opK_SEND (dest : String) (f : Funding) (rest : Stack) (st : State) :
    opK OP_SEND (.val (.account dest) :: .funding f :: rest) st = .ok (rest, sendTo f.asset dest f.parts st) := rfl

theorem opK_DELETE_val (v : Value) (rest : Stack) (st : State) :
    opK OP_DELETE (.val v :: rest) st = .ok (rest, st) := rfl

theorem opK_PRINT (v : SVal) (rest : Stack) (st : State) : opK OP_PRINT (v :: rest) st = .ok (rest, st) := rfl

theorem opK_FAIL (stk : Stack) (st : State) : opK OP_FAIL stk st = .error (.run "exec" "failed") := rfl

theorem opK_TX_META (k : String) (v : Value) (rest : Stack) (st : State) :
    opK OP_TX_META (.val (.str k) :: .val v :: rest) st =
      .ok (rest, { st with txMeta := setMeta st.txMeta k v }) := rfl

theorem opK_ACCOUNT_META (a k : String) (v : Value) (rest : Stack) (st : State) :
    opK OP_ACCOUNT_META (.val (.account a) :: .val (.str k) :: .val v :: rest) st =
      .ok (rest, { st with accMeta := setAccMeta st.accMeta a k v }) := rfl

theorem opK_SAVE_mon (a asset : String) (amt : Option Int) (rest : Stack) (st : State) :
    opK OP_SAVE (.val (.account a) :: .val (.monetary asset amt) :: rest) st =
      match st.bal.get a asset with
      | some bal =>
        .ok (rest, { st with bal := st.bal.set a asset (bal - nilAsZero amt),
                             saved := fun a' c' => if a' = a ∧ c' = asset then st.saved a' c' + nilAsZero amt
                                                   else st.saved a' c' })
      | none => .ok (rest, st) := rfl

theorem opK_SAVE_asset (a asset : String) (rest : Stack) (st : State) :
    opK OP_SAVE (.val (.account a) :: .val (.asset asset) :: rest) st =
      match st.bal.get a asset with
      | some bal =>
        if 0 < bal then
          .ok (rest, { st with bal := st.bal.set a asset 0,
                               saved := fun a' c' => if a' = a ∧ c' = asset then st.saved a' c' + bal
                                                     else st.saved a' c' })
        else .ok (rest, st)
      | none => .ok (rest, st) := rfl

theorem opK_ASSEMBLE_pop (n : Int) (first : Funding) (s : Stack) (st : State) :
    opK OP_FUNDING_ASSEMBLE (.val (.number n) :: .funding first :: s) st =
      if n.toNat = 0 then .error (.run "exec" "invalid-script")
      else
        match popFundings first.asset (n.toNat - 1) s with
        | .error e => .error e
        | .ok (others, s') => .ok (.funding ⟨first.asset, concatAll ((first :: others).reverse)⟩ :: s', st) := rfl

/-- OP_FUNDING_ASSEMBLE of two fundings (top = the later one). -/
theorem opK_ASSEMBLE2 (f2 f1 : Funding) (rest : Stack) (st : State) :
    opK OP_FUNDING_ASSEMBLE (.val (.number 2) :: .funding f2 :: .funding f1 :: rest) st =
      if f1.asset ≠ f2.asset then .error (.run "exec" "assemble-asset")
      else .ok (.funding ⟨f2.asset, concatParts f1.parts f2.parts⟩ :: rest, st) := by
  rw [opK_ASSEMBLE_pop]
  by_cases h : f1.asset = f2.asset
  · simp [popFundings, h, concatAll, concatParts]
  · simp [popFundings, h]

end Ledger.Machine
