import Ledger.Proofs.MachineBal

/-! Accounting lemma for destinations: whatever a destination does with a funding,
    every unit is either posted or handed back, postings are in the funding's
    asset, balances change by the credits only. -/
namespace Ledger.Machine

def inTo (a : String) : List Posting → Int
  | [] => 0
  | p :: ps => (if p.destination = a then p.amount else 0) + inTo a ps

theorem inTo_append (a : String) (x y : List Posting) : inTo a (x ++ y) = inTo a x + inTo a y := by
  induction x with
  | nil => simp [inTo]
  | cons p ps ih => simp [inTo, ih]; omega

theorem inTo_mkPostings (a asset dest : String) (parts : List Part) :
    inTo a (mkPostings asset dest parts) = if dest = a then total parts else 0 := by
  induction parts with
  | nil => simp [mkPostings, inTo, total]
  | cons p ps ih =>
    simp only [mkPostings, List.map_cons, inTo, total] at *
    rw [ih]
    by_cases h1 : dest = a <;> simp [h1]

theorem flowIn_cases (a c asset : String) (ps : List Posting) (h : ∀ p ∈ ps, p.asset = asset) :
    flowIn a c ps = if asset = c then inTo a ps else 0 := by
  induction ps with
  | nil => simp [flowIn, inTo]
  | cons p ps ih =>
    obtain ⟨hp, hps⟩ := List.forall_mem_cons.mp h
    simp only [flowIn, inTo, ih hps, hp]
    by_cases hc : asset = c <;> by_cases hd : p.destination = a <;> simp [hc, hd]

theorem inTo_nonneg (a : String) (ps : List Posting) (h : ∀ p ∈ ps, 0 ≤ p.amount) : 0 ≤ inTo a ps := by
  induction ps with
  | nil => exact Int.le_refl 0
  | cons p ps ih =>
    obtain ⟨hp, hps⟩ := List.forall_mem_cons.mp h
    have := ih hps
    simp only [inTo]; split <;> omega

/-- The effect of a destination on the state: `new` postings appended, all in
    `asset`; tracked balances credited with what each account received. -/
structure Step (asset : String) (st st' : State) (new : List Posting) : Prop where
  postings : st'.postings = st.postings ++ new
  assetOk : ∀ p ∈ new, p.asset = asset
  bal : ∀ a c v, st.bal.get a c = some v →
    st'.bal.get a c = some (v + (if c = asset ∧ a ≠ "world" then inTo a new else 0))
  hasAcct : st'.bal.hasAcct = st.bal.hasAcct
  wf : st.bal.WF → st'.bal.WF
  txMeta : st'.txMeta = st.txMeta
  accMeta : st'.accMeta = st.accMeta
  saved : st'.saved = st.saved

theorem Step.refl (asset : String) (st : State) : Step asset st st [] where
  postings := by simp
  assetOk := by intro p hp; cases hp
  bal := by intro a c v h; simp [inTo, h]
  hasAcct := rfl
  wf := id
  txMeta := rfl
  accMeta := rfl
  saved := rfl

theorem Step.trans {asset : String} {s1 s2 s3 : State} {n1 n2 : List Posting}
    (h1 : Step asset s1 s2 n1) (h2 : Step asset s2 s3 n2) : Step asset s1 s3 (n1 ++ n2) where
  postings := by rw [h2.postings, h1.postings, List.append_assoc]
  assetOk := by
    intro p hp
    rcases List.mem_append.mp hp with hp | hp
    · exact h1.assetOk p hp
    · exact h2.assetOk p hp
  bal := by
    intro a c v h
    rw [h2.bal a c _ (h1.bal a c v h), inTo_append]
    split <;> simp <;> omega
  hasAcct := h2.hasAcct.trans h1.hasAcct
  wf := fun h => h2.wf (h1.wf h)
  txMeta := h2.txMeta.trans h1.txMeta
  accMeta := h2.accMeta.trans h1.accMeta
  saved := h2.saved.trans h1.saved

theorem Step.sendTo (asset acc : String) (res : List Part) (st : State) :
    Step asset st (sendTo asset acc res st) (mkPostings asset acc res) where
  postings := rfl
  assetOk := by
    intro p hp
    simp only [mkPostings, List.mem_map] at hp
    obtain ⟨q, _, rfl⟩ := hp
    rfl
  bal := by
    intro a c v h
    obtain ⟨_, _, h3⟩ := credit_spec st.bal acc asset res
    simp only [Ledger.Machine.sendTo]
    rw [h3 a c v h, inTo_mkPostings]
    by_cases h1 : c = asset <;> by_cases h2 : a = "world" <;> by_cases h4 : acc = a <;>
      simp [h1, h2, h4, eq_comm] <;> (try subst h4) <;> simp_all
  hasAcct := (credit_spec st.bal acc asset res).1
  wf := (credit_spec st.bal acc asset res).2.1
  txMeta := rfl
  accMeta := rfl
  saved := rfl

theorem Step.delta {asset : String} {st st' : State} {new : List Posting} (h : Step asset st st' new) :
    Delta st.bal st'.bal (fun a c => flowIn a c new) where
  hasAcct := h.hasAcct
  wf := h.wf
  bal := fun a c v ha _ hg => by
    rw [h.bal a c v hg, flowIn_cases a c asset new h.assetOk]
    simp only [ha, ne_eq, not_false_eq_true, and_true, @eq_comm _ c]

/-- A destination run on the parts `f` leaves `rem`: every unit of `f`, account by account (`P`), is in `rem`
    or in a posting of `new`. -/
def DestOK (asset : String) (f : List Part) (st : State) (rem : List Part) (st' : State) : Prop :=
  ∃ new, Step asset st st' new ∧ (∀ P, totalOf P f = totalOf P rem + outOf P new) ∧
    (partsNonneg f → partsNonneg rem ∧ ∀ p ∈ new, 0 ≤ p.amount)

theorem DestOK.refl (asset : String) (f : List Part) (st : State) : DestOK asset f st f st :=
  ⟨[], Step.refl asset st, fun P => by simp [outOf], fun h => ⟨h, by intro p hp; cases hp⟩⟩

/-- Split a funding in two (`res`, `rem`), run a destination on `res`, glue what is
    left in front of `rem`. -/
theorem DestOK.glue {asset : String} {f res rem r : List Part} {st st1 : State}
    (hs : Split f res rem) (h : DestOK asset res st r st1) : DestOK asset f st (concatParts r rem) st1 := by
  obtain ⟨new, hst, ht, hn⟩ := h
  refine ⟨new, hst, fun P => ?_, fun hf => ?_⟩
  · rw [concatParts_totalOf, ← hs.totalOf P, ht P]; omega
  · obtain ⟨h1, h2⟩ := hs.nonneg hf
    exact ⟨concatParts_nonneg _ _ (hn h1).1 h2, (hn h1).2⟩

theorem DestOK.trans {asset : String} {f g h : List Part} {s1 s2 s3 : State}
    (h1 : DestOK asset f s1 g s2) (h2 : DestOK asset g s2 h s3) : DestOK asset f s1 h s3 := by
  obtain ⟨n1, a1, b1, c1⟩ := h1
  obtain ⟨n2, a2, b2, c2⟩ := h2
  refine ⟨n1 ++ n2, a1.trans a2, ?_, ?_⟩
  · intro P; rw [b1 P, b2 P, outOf_append]; omega
  · intro hf
    obtain ⟨x1, x2⟩ := c1 hf
    obtain ⟨y1, y2⟩ := c2 x1
    refine ⟨y1, ?_⟩
    intro p hp
    rcases List.mem_append.mp hp with hp | hp
    · exact x2 p hp
    · exact y2 p hp

/-- The rules by which destinations run successfully, as closure conditions on four predicates
    (destination or list, funding and state before, what is left and state after). -/
structure DestRules (env : Env) (asset : String)
    (D : Dest → List Part → State → List Part → State → Prop)
    (K : KeptOrDest → List Part → State → List Part → State → Prop)
    (I : InOrderDstList → Int → List Part → State → Int → List Part → State → Prop)
    (A : AllotDstList → List Int → List Part → State → List Part → State → Prop) : Prop where
  account : ∀ {e f st res rem acc}, take f (total f) = some (res, rem) → evalAccount env e = .ok acc →
    D (.account e) f st rem (sendTo asset acc res st)
  /-- `kept` is taken from the far end of what the items left -/
  inorder : ∀ {items remaining f st kept f1 st1 resR remR r st2}, I items 0 f st kept f1 st1 →
    take f1.reverse kept = some (resR, remR) → K remaining remR.reverse st1 r st2 →
    D (.inorder items remaining) f st (concatParts r resR.reverse) st2
  allot : ∀ {items f st a rem st'}, makeAllotment env items.portions = .ok a →
    A items (allocate a (total f)) f st rem st' → D (.allot items) f st rem st'
  kept : ∀ {f st}, K .kept f st f st
  toDest : ∀ {d f st rem st'}, D d f st rem st' → K (.to d) f st rem st'
  inil : ∀ {k f st}, I .nil k f st k f st
  /-- the cap `amt` is left free: no instance needs that it is the value of `m` -/
  icons : ∀ {m d rest k f st amt r st1 k' f' st'}, K d (takeMax f amt).1 st r st1 →
    I rest (total r + k) (concatParts r (takeMax f amt).2) st1 k' f' st' →
    I (.cons m d rest) k f st k' f' st'
  anil : ∀ {ps f st}, A .nil ps f st f st
  acons : ∀ {x d rest p ps f st res rem r st1 rem' st'}, take f p = some (res, rem) →
    K d res st r st1 → A rest ps (concatParts r rem) st1 rem' st' →
    A (.cons x d rest) (p :: ps) f st rem' st'

section
variable {env : Env} {asset : String} {D K I A} (R : DestRules env asset D K I A)
include R

mutual
  theorem evalDest_rules : (d : Dest) → ∀ {f st rem st'},
      evalDest env asset d f st = .ok (rem, st') → D d f st rem st'
    | .account e, f, st, rem, st', h => by
      rw [evalDest] at h
      split at h
      · cases h
      next res rm htake =>
      split at h <;> cases h
      next acc hacc => exact R.account htake hacc
    | .inorder items remaining, f, st, rem, st', h => by
      rw [evalDest] at h
      split at h
      · cases h
      next kept f1 st1 hio =>
      split at h
      · cases h
      next resR remR htake =>
      split at h <;> cases h
      next r st2 hkd => exact R.inorder (evalInOrder_rules items hio) htake (evalKD_rules remaining hkd)
    | .allot items, f, st, rem, st', h => by
      rw [evalDest] at h
      split at h
      · cases h
      next a ha => exact R.allot ha (evalAllotDst_rules items h)
  theorem evalKD_rules : (d : KeptOrDest) → ∀ {f st rem st'},
      evalKD env asset d f st = .ok (rem, st') → K d f st rem st'
    | .kept, f, st, rem, st', h => by cases h; exact R.kept
    | .to d, f, st, rem, st', h => R.toDest (evalDest_rules d (by rwa [evalKD] at h))
  theorem evalInOrder_rules : (items : InOrderDstList) → ∀ {k f st k' f' st'},
      evalInOrder env asset items k f st = .ok (k', f', st') → I items k f st k' f' st'
    | .nil, k, f, st, k', f', st', h => by cases h; exact R.inil
    | .cons m d rest, k, f, st, k', f', st', h => by
      rw [evalInOrder] at h
      split at h
      · cases h
      split at h
      · cases h
      split at h
      · cases h
      split at h
      · cases h
      dsimp only at h
      split at h
      · cases h
      next r st1 hkd => exact R.icons (evalKD_rules d hkd) (evalInOrder_rules rest h)
  theorem evalAllotDst_rules : (items : AllotDstList) → ∀ {ps f st rem st'},
      evalAllotDst env asset items ps f st = .ok (rem, st') → A items ps f st rem st'
    | .nil, ps, f, st, rem, st', h => by cases h; exact R.anil
    | .cons _ _ _, [], f, st, rem, st', h => by cases h
    | .cons _ d rest, p :: ps, f, st, rem, st', h => by
      rw [evalAllotDst] at h
      split at h
      · cases h
      next res rm htake =>
      split at h
      · cases h
      next r st1 hkd => exact R.acons htake (evalKD_rules d hkd) (evalAllotDst_rules rest h)
end

end

/-- Every destination function conserves the funding: the leaves post what they take, the
    combinators split, recurse and glue. -/
theorem destOK_rules (env : Env) (asset : String) :
    DestRules env asset (fun _ f st rem st' => DestOK asset f st rem st')
      (fun _ f st rem st' => DestOK asset f st rem st')
      (fun _ _ f st _ f' st' => DestOK asset f st f' st')
      (fun _ _ f st rem st' => DestOK asset f st rem st') where
  account := fun {_ _ st res _ acc} htake _ =>
    have hs := Split.of_take htake
    ⟨mkPostings asset acc res, Step.sendTo asset acc res st,
      fun P => by rw [outOf_mkPostings, ← hs.totalOf P]; omega,
      fun hf => ⟨(hs.nonneg hf).2, fun p hp => by
        obtain ⟨q, hq, rfl⟩ := List.mem_map.mp hp
        exact (hs.nonneg hf).1 q hq⟩⟩
  inorder := fun io htake kd => io.trans (kd.glue (Split.of_take htake).reverse)
  allot := fun _ h => h
  kept := DestOK.refl asset _ _
  toDest := id
  inil := DestOK.refl asset _ _
  icons := fun kd rest => (kd.glue (Split.of_takeMax _ _)).trans rest
  anil := DestOK.refl asset _ _
  acons := fun htake kd rest => (kd.glue (Split.of_take htake)).trans rest

theorem evalDest_ok (env : Env) (asset : String) (d : Dest) (f : List Part) (st : State)
    (rem : List Part) (st' : State) (h : evalDest env asset d f st = .ok (rem, st')) :
    DestOK asset f st rem st' :=
  evalDest_rules (destOK_rules env asset) d h

theorem evalAllotDst_ok (env : Env) (asset : String) :
    (items : AllotDstList) → (parts : List Int) → (f : List Part) → (st : State) →
    (rem : List Part) → (st' : State) →
    evalAllotDst env asset items parts f st = .ok (rem, st') → DestOK asset f st rem st' :=
  fun items _ _ _ _ _ h => evalAllotDst_rules (destOK_rules env asset) items h

end Ledger.Machine
