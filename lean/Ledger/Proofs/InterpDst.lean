import Ledger.Proofs.InterpPush
import Ledger.Proofs.MachineAllot

/-!
Destinations: the machine hands sub-fundings down the destination tree (`Take`,
`TakeMax`, `Concat`), the interpreter hands amounts down and pulls from the front of
its queue; the postings are the same units addressed to the same receivers.  On an
allotment of F2 both runtimes compute the same shares (`allocate`).  `dst_sim` / `kd_sim` /
`inorder_sim` / `allotdst_sim`: the simulation of kept-free destinations, by mutual
structural induction.
-/
namespace Ledger.Interp
open Ledger.Machine

theorem ne_kept_of_valid {a : String} (h : validAccount a = true) : a ≠ KEPT := by
  rintro rfl; exact absurd h (by decide)

theorem mem_units_of_pos {out : List Part} (h : Pos out) {p : Part} (hp : p ∈ out) :
    p.account ∈ units out := by
  induction out with
  | nil => cases hp
  | cons q qs ih =>
    obtain ⟨hq, hqs⟩ := Pos.cons.mp h
    simp only [units_cons, List.mem_append]
    rcases List.mem_cons.mp hp with rfl | hp
    · left; exact List.mem_replicate.mpr ⟨by omega, rfl⟩
    · right; exact ih hqs hp

theorem pushReceiver_eq (name : String) (amt : Int) (ist : IState) :
    pushReceiver name amt ist =
      receive name (pull ist.queue amt).1 { ist with queue := (pull ist.queue amt).2 } := by
  unfold pushReceiver
  by_cases h : amt = 0
  · subst h; simp [pull, receive]
  · rw [if_neg h]

/-- The relation between the two states during the destination phase of a send in
    asset `c` (and between statements, with an empty queue). `nnM` and `okI` (no posting the
    interpreter's final `badPosting` test refuses) are for the comparison of the two results at the end;
    `validQ` keeps `okI` when a queued unit becomes a posting. -/
structure DRel (P : List (String × String)) (c : String) (st : State) (ist : IState) : Prop where
  rel : Rel P st.bal ist.bal
  wf : st.bal.WF
  posts : unitsP st.postings = unitsP ist.postings
  nnM : ∀ p ∈ st.postings, 0 ≤ p.amount
  okI : ∀ p ∈ ist.postings, badPosting p = false
  tx : st.txMeta = ist.txMeta
  acc : st.accMeta.map (fun x => (x.1, x.2.1, valStr x.2.2)) = ist.accMeta
  asset : ist.asset = c
  pos : Pos ist.queue
  validQ : ∀ x ∈ units ist.queue, validAccount x = true

theorem take_zero (ps : List Part) : take ps 0 = some (zeroHead ps 0, ps) := by
  cases ps <;> simp [take, takeLoop]

theorem dst_account {env ienv : Env} (heq : EnvEq env ienv) (henv : EnvOK env)
    {P : List (String × String)} {c : String} (hvc : validAsset c = true) {e : Expr}
    (hwf : okAcct env e = true) {f : List Part} {Z : List String} {st : State} {ist : IState}
    (hn : partsNonneg f) (hd : DRel P c st ist) (hq : units ist.queue = units f ++ Z) :
    ∃ rem st' ist', evalDest env c (.account e) f st = .ok (rem, st') ∧ partsNonneg rem ∧
      units rem = [] ∧ Interp.sendTo ienv (.account e) (total f) ist = .ok ist' ∧
      DRel P c st' ist' ∧ units ist'.queue = Z := by
  obtain ⟨hl, a, ha, hva⟩ := okAcct_spec hwf
  have hlen := total_eq_length f hn
  obtain ⟨res, rem, ht, nres, nrem, hsplit, htres, htrem⟩ := take_split hn (total_nonneg f hn) (Int.le_refl _)
  have hrem : units rem = [] := units_eq_nil_of_total_zero rem nrem (by rw [htrem, Int.sub_self])
  have hres : units res = units f := by rw [hsplit, hrem, List.append_nil]
  have h0 : 0 ≤ total f := total_nonneg f hn
  obtain ⟨po1, po2, po3, po4⟩ := pull_spec ist.queue (total f) hd.pos h0
  have hout : units (pull ist.queue (total f)).1 = units f := by
    rw [po1, hq, hlen, Int.toNat_natCast, List.take_left]
  have hq' : units (pull ist.queue (total f)).2 = Z := by
    rw [po2, hq, hlen, Int.toNat_natCast, List.drop_left]
  have htout : total (pull ist.queue (total f)).1 = total f := by
    rw [total_eq_length _ po3.nonneg, hout, hlen]
  have hrs := receive_spec a (ne_kept_of_valid hva) (pull ist.queue (total f)).1
    { ist with queue := (pull ist.queue (total f)).2 }
  dsimp only at hrs
  obtain ⟨r1, r2, r3, r4, r5, r6⟩ := hrs
  refine ⟨rem, Machine.sendTo c a res st,
    receive a (pull ist.queue (total f)).1 { ist with queue := (pull ist.queue (total f)).2 },
    ?_, nrem, hrem, ?_, ?_, ?_⟩
  · simp [evalDest, ht, ha]
  · simp only [Interp.sendTo, evalAcct_agree heq henv hl ha, pushReceiver_eq]
  · obtain ⟨c1, c2, c3⟩ := credit_spec st.bal a c res
    refine ⟨?_, c2 hd.wf, ?_, ?_, ?_, ?_, ?_, ?_, ?_, ?_⟩
    · intro x c' hp hw
      simp only [Machine.sendTo]
      rw [c3 x c' _ (hd.rel x c' hp hw), r2]
      simp only [upd, hd.asset, htout, htres]
      by_cases hx : x = a ∧ c' = c
      · have : x = a ∧ c' = c ∧ a ≠ "world" := ⟨hx.1, hx.2, hx.1 ▸ hw⟩
        rw [if_pos hx, if_pos this]
      · have : ¬ (x = a ∧ c' = c ∧ a ≠ "world") := fun h => hx ⟨h.1, h.2.1⟩
        rw [if_neg hx, if_neg this]; simp
    · simp only [Machine.sendTo]
      rw [r1, unitsP_append, unitsP_append, unitsP_mkPostings, unitsP_mkPostings, hd.posts, hres, hout]
      simp only [hd.asset]
    · refine List.forall_mem_append.mpr ⟨hd.nnM, fun p hp => ?_⟩
      obtain ⟨q, hq1, rfl⟩ := List.mem_map.mp hp
      exact nres q hq1
    · rw [r1]
      refine List.forall_mem_append.mpr ⟨hd.okI, fun p hp => ?_⟩
      obtain ⟨q, hq1, rfl⟩ := List.mem_map.mp hp
      have hqa : validAccount q.account = true := by
        apply hd.validQ
        have := mem_units_of_pos po3 hq1
        rw [po1] at this
        exact List.mem_of_mem_take this
      have hqp := po3 q hq1
      simp only [badPosting, hd.asset, hvc, hqa, hva]
      simp; omega
    · rw [r4]; exact hd.tx
    · rw [r5]; exact hd.acc
    · rw [r6]; exact hd.asset
    · rw [r3]; exact po4
    · rw [r3, po2]
      intro x hx; exact hd.validQ x (List.mem_of_mem_drop hx)
  · rw [r3]; exact hq'

theorem evalAllotItems_env (env ienv : Env) : ∀ ps : List PortionE, noVarPortions ps = true →
    evalAllotItems ienv ps = evalAllotItems env ps := by
  intro ps
  induction ps with
  | nil => intro _; rfl
  | cons p ps ih =>
    intro h
    cases p with
    | var x => simp [noVarPortions] at h
    | lit t => simp only [noVarPortions] at h; simp [evalAllotItems, evalAllotItem, ih h]
    | remaining => simp only [noVarPortions] at h; simp [evalAllotItems, evalAllotItem, ih h]

theorem makeAllotment_agree {env : Env} (ienv : Env) {ps : List PortionE} (h : allotOK env ps = true) :
    ∃ a, Machine.makeAllotment env ps = .ok a ∧ a.sum = 1 ∧ (∀ p ∈ a, 0 ≤ p) ∧
      ∀ amt, Interp.makeAllotment ienv amt ps = .ok (allocate a amt) := by
  simp only [allotOK, Bool.and_eq_true] at h
  obtain ⟨hnv, h2⟩ := h
  split at h2
  · rename_i a items hm hi
    simp only [Bool.and_eq_true, decide_eq_true_eq, Bool.not_eq_true', List.all_eq_true] at h2
    obtain ⟨⟨⟨ha, hnone⟩, hsum⟩, hpos⟩ := h2
    refine ⟨a, hm, hsum, hpos, ?_⟩
    intro amt
    simp only [Interp.makeAllotment, evalAllotItems_env env ienv ps hnv, hi]
    have hc : ¬ ((lastRemaining items).isNone = true ∧ sumSome items ≠ 1) := by
      intro hx
      have : ((lastRemaining items).isNone && decide (sumSome items ≠ 1)) = true := by
        simp [hx.1, hx.2]
      rw [this] at hnone; cases hnone
    rw [if_neg hc, ← ha]
    rfl
  · cases h2

theorem allocate_mem_nonneg (a : List Rat) (amt : Int) (hsum : a.sum = 1) (hamt : 0 ≤ amt)
    (hpos : ∀ p ∈ a, 0 ≤ p) : ∀ p ∈ allocate a amt, 0 ≤ p := by
  intro p hp
  obtain ⟨i, hi, rfl⟩ := List.mem_iff_getElem.mp hp
  have hi' : i < a.length := by rw [Machine.allocate_length] at hi; exact hi
  exact Machine.allocate_nonneg a amt hsum hamt hpos i hi'

theorem allocate_length_eq (a : List Rat) (amt : Int) : (allocate a amt).length = a.length :=
  Machine.allocate_length a amt

theorem allocate_sum_eq (a : List Rat) (amt : Int) (hsum : a.sum = 1) : (allocate a amt).sum = amt :=
  Machine.allocate_sum a amt hsum

theorem distribute_nonpos (xs : List Int) (r : Int) (h : r ≤ 0) : distribute xs r = xs := by
  induction xs with
  | nil => rfl
  | cons x xs ih => simp [distribute, ih]; omega

theorem allocate_zero (a : List Rat) : ∀ p ∈ allocate a 0, p = 0 := by
  have hm : a.map (floorPart 0) = a.map (fun _ => (0 : Int)) := by
    apply List.map_congr_left; intro p _; simp [floorPart]
  have hs : (a.map (fun _ => (0 : Int))).sum = 0 := by simp
  intro p hp
  simp only [allocate, hm, hs] at hp
  rw [distribute_nonpos _ _ (by omega)] at hp
  simp only [List.mem_map] at hp
  obtain ⟨_, _, rfl⟩ := hp
  rfl

theorem makeAllotment_length {env : Env} {ps : List PortionE} {a : List Rat}
    (h : Machine.makeAllotment env ps = .ok a) : a.length = ps.length :=
  Machine.makeAllotment_length h

/-! ## Sending nothing is a no-op for the interpreter -/

theorem sendInOrder_zero {env ienv : Env} (heq : EnvEq env ienv) (henv : EnvOK env) {c : String}
    (items : InOrderDstList) (hwf : inOrderWf env c items = true) (ist : IState) (hc : ist.asset = c) :
    sendInOrder ienv items 0 ist = .ok (0, ist) := by
  cases items with
  | nil => rfl
  | cons m d rest =>
    simp only [inOrderWf, Bool.and_eq_true] at hwf
    obtain ⟨hlm, cap, hcap, _⟩ := okCap_spec hwf.1.1
    simp [sendInOrder, hc, evalMonOf_agree heq henv hlm hcap]

/-- One clause of an in-order destination, given that sending nothing is a no-op: the
    interpreter's two early exits are special cases of the general step. -/
theorem sendInOrder_cons {ienv : Env} {m : Expr} {d : KeptOrDest} {rest : InOrderDstList} {cap left : Int}
    {ist : IState} (hmo : evalMonOf ienv ist.asset m = .ok cap) (hcap : 0 ≤ cap) (hleft : 0 ≤ left)
    (hz : sendKD ienv d 0 ist = .ok ist) (hz' : sendInOrder ienv rest 0 ist = .ok (0, ist)) :
    sendInOrder ienv (.cons m d rest) left ist =
      match sendKD ienv d (min cap left) ist with
      | .error err => .error err
      | .ok ist1 => sendInOrder ienv rest (left - min cap left) ist1 := by
  have hmax : max (min cap left) 0 = min cap left := Int.max_eq_left (Int.le_min.mpr ⟨hcap, hleft⟩)
  simp only [sendInOrder, hmo, hmax]
  by_cases h0 : left = 0
  · subst h0
    simp [Int.min_eq_right hcap, hz, hz']
  · by_cases hm : min cap left = 0
    · simp [h0, hm, hz]
    · simp only [h0, hm, if_false]
      cases sendKD ienv d (min cap left) ist <;> rfl

mutual
  theorem sendTo_zero {env ienv : Env} (heq : EnvEq env ienv) (henv : EnvOK env) {c : String} :
      (d : Dest) → dstWf env c d = true → ∀ (ist : IState), ist.asset = c →
      Interp.sendTo ienv d 0 ist = .ok ist
    | .account e, hwf, ist, _ => by
      obtain ⟨hl, a, ha, _⟩ := okAcct_spec (by simpa [dstWf] using hwf)
      simp [Interp.sendTo, evalAcct_agree heq henv hl ha, pushReceiver]
    | .inorder items remaining, hwf, ist, hc => by
      simp only [dstWf, Bool.and_eq_true] at hwf
      simp [Interp.sendTo, sendInOrder_zero heq henv items hwf.1 ist hc]
    | .allot items, hwf, ist, hc => by
      simp only [dstWf, Bool.and_eq_true] at hwf
      obtain ⟨a, hm, _, _, hi⟩ := makeAllotment_agree ienv hwf.1
      have hlen : (allocate a 0).length = items.length := by
        rw [allocate_length_eq, makeAllotment_length hm, AllotDstList.portions_length]
      simp only [Interp.sendTo, hi 0]
      exact sendAllot_zero heq henv items hwf.2 (allocate a 0) hlen (allocate_zero a) ist hc
  theorem sendKD_zero {env ienv : Env} (heq : EnvEq env ienv) (henv : EnvOK env) {c : String} :
      (d : KeptOrDest) → kdWf env c d = true → ∀ (ist : IState), ist.asset = c →
      sendKD ienv d 0 ist = .ok ist
    | .kept, hwf, _, _ => by simp [kdWf] at hwf
    | .to d, hwf, ist, hc => by
      rw [sendKD]
      exact sendTo_zero heq henv d (by simpa [kdWf] using hwf) ist hc
  theorem sendAllot_zero {env ienv : Env} (heq : EnvEq env ienv) (henv : EnvOK env) {c : String} :
      (items : AllotDstList) → allotDstWf env c items = true → ∀ (ps : List Int),
      ps.length = items.length → (∀ p ∈ ps, p = 0) → ∀ (ist : IState), ist.asset = c →
      sendAllot ienv items ps ist = .ok ist
    | .nil, _, ps, _, _, ist, _ => by simp [sendAllot]
    | .cons _ d rest, hwf, ps, hlen, hz, ist, hc => by
      simp only [allotDstWf, Bool.and_eq_true] at hwf
      cases ps with
      | nil => simp [AllotDstList.length] at hlen
      | cons p ps =>
        have hp : p = 0 := hz p (by simp)
        subst hp
        simp only [sendAllot, sendKD_zero heq henv d hwf.1 ist hc]
        exact sendAllot_zero heq henv rest hwf.2 ps (by simpa [AllotDstList.length] using hlen)
          (fun q hq => hz q (by simp [hq])) ist hc
end

theorem list_sum_nonneg (ps : List Int) (h : ∀ p ∈ ps, 0 ≤ p) : 0 ≤ ps.sum := by
  induction ps with
  | nil => simp
  | cons p ps ih =>
    have := h p (by simp)
    have := ih (fun q hq => h q (by simp [hq]))
    simp; omega

theorem zeroHead_reverse_units (ps : List Part) (a : Int) : units (zeroHead ps a).reverse = [] := by
  unfold zeroHead
  split
  · split <;> simp
  · rfl

mutual
  /-- `Z`: the units queued behind those of `f`; they belong to the enclosing destinations and are left as
      they are. -/
  theorem dst_sim {env ienv : Env} (heq : EnvEq env ienv) (henv : EnvOK env)
      {P : List (String × String)} {c : String} (hvc : validAsset c = true) :
      (d : Dest) → dstWf env c d = true →
      ∀ (f : List Part) (Z : List String) (st : State) (ist : IState), partsNonneg f →
        DRel P c st ist → units ist.queue = units f ++ Z →
      ∃ rem st' ist', evalDest env c d f st = .ok (rem, st') ∧ partsNonneg rem ∧ units rem = [] ∧
        Interp.sendTo ienv d (total f) ist = .ok ist' ∧ DRel P c st' ist' ∧ units ist'.queue = Z
    | .account e, hwf, f, Z, st, ist, hn, hd, hq =>
      dst_account heq henv hvc (by simpa [dstWf] using hwf) hn hd hq
    | .inorder items remaining, hwf, f, Z, st, ist, hn, hd, hq => by
      simp only [dstWf, Bool.and_eq_true] at hwf
      obtain ⟨f1, st1, left', ist1, h1, h2, h3, h4, h5, h6⟩ :=
        inorder_sim heq henv hvc items hwf.1 f Z st ist hn hd hq
      obtain ⟨r, st2, ist2, k1, k2, k3, k4, k5, k6⟩ :=
        kd_sim heq henv hvc remaining hwf.2 f1 Z st1 ist1 h2 h5 h6
      refine ⟨concatParts r (zeroHead f1.reverse 0).reverse, st2, ist2, ?_, ?_, ?_, ?_, k5, k6⟩
      · simp [evalDest, h1, take_zero, k1]
      · exact concatParts_nonneg _ _ k2 (partsNonneg_reverse (zeroHead_nonneg _ _))
      · rw [concatParts_units _ _ k2 (partsNonneg_reverse (zeroHead_nonneg _ _)), k3,
          zeroHead_reverse_units]; rfl
      · simp only [Interp.sendTo, h3]
        split
        · rename_i hz
          rw [← h4, hz, sendKD_zero heq henv remaining hwf.2 ist1 h5.asset] at k4
          exact k4
        · rw [h4]; exact k4
    | .allot items, hwf, f, Z, st, ist, hn, hd, hq => by
      simp only [dstWf, Bool.and_eq_true] at hwf
      obtain ⟨a, hm, hsum, hpos, hi⟩ := makeAllotment_agree ienv hwf.1
      have h0 := total_nonneg f hn
      have hlen : (allocate a (total f)).length = items.length := by
        rw [allocate_length_eq, makeAllotment_length hm, AllotDstList.portions_length]
      obtain ⟨rem, st', ist', k1, k2, k3, k4, k5, k6⟩ :=
        allotdst_sim heq henv hvc items hwf.2 (allocate a (total f)) f Z st ist hlen
          (allocate_mem_nonneg a _ hsum h0 hpos) (allocate_sum_eq a _ hsum) hn hd hq
      exact ⟨rem, st', ist', by simp [evalDest, hm, k1], k2, k3, by simp [Interp.sendTo, hi, k4], k5, k6⟩
  theorem kd_sim {env ienv : Env} (heq : EnvEq env ienv) (henv : EnvOK env)
      {P : List (String × String)} {c : String} (hvc : validAsset c = true) :
      (d : KeptOrDest) → kdWf env c d = true →
      ∀ (f : List Part) (Z : List String) (st : State) (ist : IState), partsNonneg f →
        DRel P c st ist → units ist.queue = units f ++ Z →
      ∃ rem st' ist', evalKD env c d f st = .ok (rem, st') ∧ partsNonneg rem ∧ units rem = [] ∧
        sendKD ienv d (total f) ist = .ok ist' ∧ DRel P c st' ist' ∧ units ist'.queue = Z
    | .kept, hwf, _, _, _, _, _, _, _ => by simp [kdWf] at hwf
    | .to d, hwf, f, Z, st, ist, hn, hd, hq => by
      rw [evalKD, sendKD]
      exact dst_sim heq henv hvc d (by simpa [kdWf] using hwf) f Z st ist hn hd hq
  theorem inorder_sim {env ienv : Env} (heq : EnvEq env ienv) (henv : EnvOK env)
      {P : List (String × String)} {c : String} (hvc : validAsset c = true) :
      (items : InOrderDstList) → inOrderWf env c items = true →
      ∀ (f : List Part) (Z : List String) (st : State) (ist : IState), partsNonneg f →
        DRel P c st ist → units ist.queue = units f ++ Z →
      ∃ f1 st1 left' ist1, evalInOrder env c items 0 f st = .ok (0, f1, st1) ∧ partsNonneg f1 ∧
        sendInOrder ienv items (total f) ist = .ok (left', ist1) ∧ left' = total f1 ∧
        DRel P c st1 ist1 ∧ units ist1.queue = units f1 ++ Z
    | .nil, _, f, Z, st, ist, hn, hd, hq =>
      ⟨f, st, total f, ist, rfl, hn, rfl, rfl, hd, hq⟩
    | .cons m d rest, hwf, f, Z, st, ist, hn, hd, hq => by
      simp only [inOrderWf, Bool.and_eq_true] at hwf
      obtain ⟨⟨hwm, hwd⟩, hwr⟩ := hwf
      obtain ⟨hlm, cap, hcap, hcap0⟩ := okCap_spec hwm
      have hmo : evalMonOf ienv ist.asset m = .ok cap := by
        rw [hd.asset]; exact evalMonOf_agree heq henv hlm hcap
      obtain ⟨tn1, tn2, hsplit, ht1, ht2⟩ := takeMax_split f hn cap hcap0
      -- the sub-destination receives `(takeMax f cap).1`
      obtain ⟨r, st1, ist1, k1, k2, k3, k4, k5, k6⟩ :=
        kd_sim heq henv hvc d hwd (takeMax f cap).1 (units (takeMax f cap).2 ++ Z) st ist tn1 hd
          (by rw [hq, hsplit, List.append_assoc])
      -- the rest of the clauses receive `r ++ (takeMax f cap).2`
      obtain ⟨hn', hu', htot', hr0⟩ := concatParts_empty k2 k3 tn2
      obtain ⟨f1, st2, left', ist2, i1, i2, i3, i4, i5, i6⟩ :=
        inorder_sim heq henv hvc rest hwr (concatParts r (takeMax f cap).2) Z st1 ist1 hn' k5
          (by rw [k6, hu'])
      refine ⟨f1, st2, left', ist2, ?_, i2, ?_, i4, i5, i6⟩
      · simp only [evalInOrder, hcap, needAmt]
        rw [if_neg (Int.not_lt.mpr hcap0), if_neg (by simp)]
        simp only [k1, hr0]
        exact i1
      · rw [ht1] at k4
        rw [htot', ht2] at i3
        rw [sendInOrder_cons hmo hcap0 (total_nonneg f hn) (sendKD_zero heq henv d hwd ist hd.asset)
          (sendInOrder_zero heq henv rest hwr ist hd.asset), k4]
        exact i3
  theorem allotdst_sim {env ienv : Env} (heq : EnvEq env ienv) (henv : EnvOK env)
      {P : List (String × String)} {c : String} (hvc : validAsset c = true) :
      (items : AllotDstList) → allotDstWf env c items = true →
      ∀ (ps : List Int) (f : List Part) (Z : List String) (st : State) (ist : IState),
        ps.length = items.length → (∀ p ∈ ps, 0 ≤ p) → ps.sum = total f → partsNonneg f →
        DRel P c st ist → units ist.queue = units f ++ Z →
      ∃ rem st' ist', evalAllotDst env c items ps f st = .ok (rem, st') ∧ partsNonneg rem ∧
        units rem = [] ∧ sendAllot ienv items ps ist = .ok ist' ∧ DRel P c st' ist' ∧
        units ist'.queue = Z
    | .nil, _, ps, f, Z, st, ist, hlen, _, hsum, hn, hd, hq => by
      have hps : ps = [] := List.eq_nil_of_length_eq_zero (by simpa [AllotDstList.length] using hlen)
      subst hps
      have hu : units f = [] := units_eq_nil_of_total_zero f hn (by simpa using hsum.symm)
      exact ⟨f, st, ist, by simp [evalAllotDst], hn, hu, by simp [sendAllot], hd, by simpa [hu] using hq⟩
    | .cons _ d rest, hwf, ps, f, Z, st, ist, hlen, hnn, hsum, hn, hd, hq => by
      simp only [allotDstWf, Bool.and_eq_true] at hwf
      cases ps with
      | nil => simp [AllotDstList.length] at hlen
      | cons p ps =>
        have hp0 : 0 ≤ p := hnn p (by simp)
        have hrest0 := list_sum_nonneg ps (fun q hq => hnn q (by simp [hq]))
        simp only [List.sum_cons] at hsum
        obtain ⟨res, rem, ht, nres, nrem, hsplit, htres, htrem⟩ :=
          take_split hn hp0 (by rw [← hsum]; exact Int.le_add_of_nonneg_right hrest0)
        obtain ⟨r, st1, ist1, k1, k2, k3, k4, k5, k6⟩ :=
          kd_sim heq henv hvc d hwf.1 res (units rem ++ Z) st ist nres hd
            (by rw [hq, hsplit, List.append_assoc])
        obtain ⟨hn', hu', htot, _⟩ := concatParts_empty k2 k3 nrem
        have htot' : ps.sum = total (concatParts r rem) := by
          rw [htot, htrem]; omega
        obtain ⟨rem2, st2, ist2, i1, i2, i3, i4, i5, i6⟩ :=
          allotdst_sim heq henv hvc rest hwf.2 ps (concatParts r rem) Z st1 ist1
            (by simpa [AllotDstList.length] using hlen) (fun q hq => hnn q (by simp [hq])) htot' hn' k5
            (by rw [k6, hu'])
        refine ⟨rem2, st2, ist2, ?_, i2, i3, ?_, i5, i6⟩
        · simp only [evalAllotDst, ht, k1]; exact i1
        · rw [htres] at k4
          simp only [sendAllot, k4]; exact i4
end

end Ledger.Interp
