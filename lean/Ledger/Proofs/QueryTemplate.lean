import Ledger.Query.RunQuery
import Ledger.Proofs.ListBasic

/-! Lemmas about template resolution and parameter overwriting (C37). -/
namespace Ledger.Query

def firstError (leaf : Op → String → Val → Except TErr Val) (ls : List (Op × String × Val)) :
    Option TErr :=
  ls.findSome? fun l => match leaf l.1 l.2.1 l.2.2 with | .error e => some e | .ok _ => none

theorem firstError_append (leaf : Op → String → Val → Except TErr Val)
    (a b : List (Op × String × Val)) :
    firstError leaf (a ++ b) = (firstError leaf a).or (firstError leaf b) :=
  List.findSome?_append

theorem firstError_eq_none {leaf : Op → String → Val → Except TErr Val}
    {ls : List (Op × String × Val)} (h : firstError leaf ls = none) :
    ∀ l ∈ ls, ∃ v', leaf l.1 l.2.1 l.2.2 = .ok v' := by
  intro l hl
  have := List.findSome?_eq_none_iff.mp h l hl
  cases hv : leaf l.1 l.2.1 l.2.2 with
  | ok v' => exact ⟨v', rfl⟩
  | error e => rw [hv] at this; cases this

theorem firstError_eq_some {leaf : Op → String → Val → Except TErr Val}
    {ls : List (Op × String × Val)} {e : TErr} (h : firstError leaf ls = some e) :
    ∃ l ∈ ls, leaf l.1 l.2.1 l.2.2 = .error e := by
  obtain ⟨l, hl, he⟩ := List.exists_of_findSome?_eq_some h
  refine ⟨l, hl, ?_⟩
  cases hv : leaf l.1 l.2.1 l.2.2 with
  | ok v' => rw [hv] at he; cases he
  | error e' => rw [hv] at he; cases he; rfl

mutual
theorem resolveTree_eq (leaf : Op → String → Val → Except TErr Val) : ∀ (f : Filter),
    resolveTree leaf f =
      match firstError leaf f.leaves with
      | some e => .error e
      | none => .ok (substTree (resolvedValue leaf) f)
  | .leaf op k v => by
    simp only [resolveTree, Filter.leaves, firstError, List.findSome?_cons, List.findSome?_nil,
      substTree, resolvedValue]
    cases leaf op k v <;> rfl
  | .not f => by
    rw [resolveTree, resolveTree_eq leaf f, Filter.leaves, substTree]
    cases firstError leaf f.leaves <;> rfl
  | .and fs => by
    rw [resolveTree, resolveTreeList_eq leaf fs, Filter.leaves, substTree]
    cases firstError leaf (Filter.leavesList fs) <;> rfl
  | .or fs => by
    rw [resolveTree, resolveTreeList_eq leaf fs, Filter.leaves, substTree]
    cases firstError leaf (Filter.leavesList fs) <;> rfl
theorem resolveTreeList_eq (leaf : Op → String → Val → Except TErr Val) : ∀ (fs : List Filter),
    resolveTreeList leaf fs =
      match firstError leaf (Filter.leavesList fs) with
      | some e => .error e
      | none => .ok (substTreeList (resolvedValue leaf) fs)
  | [] => rfl
  | f :: fs => by
    rw [resolveTreeList, resolveTree_eq leaf f, resolveTreeList_eq leaf fs, Filter.leavesList,
      firstError_append, substTreeList]
    cases firstError leaf f.leaves <;> cases firstError leaf (Filter.leavesList fs) <;> rfl
end

theorem resolveTree_ok (leaf : Op → String → Val → Except TErr Val) (f g : Filter)
    (h : resolveTree leaf f = .ok g) :
    (∀ l ∈ f.leaves, ∃ v', leaf l.1 l.2.1 l.2.2 = .ok v') ∧ g = substTree (resolvedValue leaf) f := by
  rw [resolveTree_eq] at h
  split at h <;> cases h
  exact ⟨firstError_eq_none ‹_›, rfl⟩

theorem resolveTreeList_ok (leaf : Op → String → Val → Except TErr Val) : ∀ (fs gs : List Filter),
    resolveTreeList leaf fs = .ok gs →
    (∀ l ∈ Filter.leavesList fs, ∃ v', leaf l.1 l.2.1 l.2.2 = .ok v') ∧
      gs = substTreeList (resolvedValue leaf) fs := by
  intro fs gs h
  rw [resolveTreeList_eq] at h
  split at h <;> cases h
  exact ⟨firstError_eq_none ‹_›, rfl⟩

theorem resolveTreeList_error (leaf : Op → String → Val → Except TErr Val) :
    ∀ (fs : List Filter) (e : TErr),
    resolveTreeList leaf fs = .error e → ∃ l ∈ Filter.leavesList fs, leaf l.1 l.2.1 l.2.2 = .error e := by
  intro fs e h
  rw [resolveTreeList_eq] at h
  split at h <;> cases h
  exact firstError_eq_some ‹_›

mutual
theorem leaves_substTree (σ : Op → String → Val → Val) : ∀ (f : Filter),
    (substTree σ f).leaves = f.leaves.map fun l => (l.1, l.2.1, σ l.1 l.2.1 l.2.2)
  | .leaf op k v => by simp [substTree, Filter.leaves]
  | .not f => by simp [substTree, Filter.leaves, leaves_substTree σ f]
  | .and fs => by simp [substTree, Filter.leaves, leavesList_substTree σ fs]
  | .or fs => by simp [substTree, Filter.leaves, leavesList_substTree σ fs]
theorem leavesList_substTree (σ : Op → String → Val → Val) : ∀ (fs : List Filter),
    Filter.leavesList (substTreeList σ fs) =
      (Filter.leavesList fs).map fun l => (l.1, l.2.1, σ l.1 l.2.1 l.2.2)
  | [] => by simp [substTreeList, Filter.leavesList]
  | f :: fs => by
    simp [substTreeList, Filter.leavesList, leaves_substTree σ f, leavesList_substTree σ fs]
end

theorem parseTemplateAux_noDollar : ∀ (cps : List Nat) (cur : List Char) (fuel : Nat),
    (∀ c ∈ cps, c ≠ 36) → fuel > cps.length →
    parseTemplateAux fuel cps cur =
      .ok (if (cur.reverse ++ cps.map Char.ofNat).isEmpty then [] else [.lit (cur.reverse ++ cps.map Char.ofNat)])
  | [], cur, fuel + 1, _, _ => by
    simp only [parseTemplateAux, List.map_nil, List.append_nil, List.isEmpty_reverse]
  | c :: cs, cur, fuel + 1, hc, hf => by
    have h36 : (c == 36) = false := beq_false_of_ne (hc c List.mem_cons_self)
    rw [parseTemplateAux, h36, if_neg Bool.false_ne_true, parseTemplateAux_noDollar cs (Char.ofNat c :: cur) fuel
      (fun x hx => hc x (List.mem_cons_of_mem _ hx)) (Nat.lt_of_succ_lt_succ hf)]
    simp only [List.reverse_cons, List.append_assoc, List.singleton_append, List.map_cons]

theorem applySortOpts_keeps (p p' : Params) (j : ParamsJson) (h : applySortOpts p j = .ok p') :
    p'.pit = p.pit ∧ p'.oot = p.oot ∧ p'.expand = p.expand ∧ p'.pageSize = p.pageSize ∧
    p'.opts.groupLvl = j.groupBy.getD p.opts.groupLvl ∧
    p'.opts.useInsertionDate = j.insertionDate.getD p.opts.useInsertionDate ∧
    (j.sort = none → p'.sortColumn = p.sortColumn ∧ p'.sortOrder = p.sortOrder) := by
  obtain ⟨q, hq, h⟩ := Except.bind_ok h
  cases h
  -- however the sort string is read, only column and order change, and only when there is one
  repeat' split at hq
  all_goals cases hq
  all_goals simp [*]

theorem optDate_ok {pd : String → Option Int} {o : Option String} {r : Option Int}
    (h : optDate pd o = .ok r) : r = o.bind pd := by
  cases o with
  | none => cases h; rfl
  | some s =>
    simp only [optDate] at h
    split at h <;> cases h
    exact (‹pd s = some _›).symm

/-- One `params` object: each key it gives overrides, each key it omits is kept. -/
theorem applyParams_fields (pd : String → Option Int) (p p' : Params) (j : ParamsJson)
    (h : applyParams pd p j = .ok p') :
    p'.pageSize = j.pageSize.getD p.pageSize ∧ p'.expand = j.expand.getD p.expand ∧
    p'.pit = (if j.endTime.isSome then j.endTime.bind pd else p.pit) ∧
    p'.oot = (if j.startTime.isSome then j.startTime.bind pd else p.oot) ∧
    p'.opts.groupLvl = j.groupBy.getD p.opts.groupLvl ∧
    p'.opts.useInsertionDate = j.insertionDate.getD p.opts.useInsertionDate ∧
    (j.sort = none → p'.sortColumn = p.sortColumn ∧ p'.sortOrder = p.sortOrder) := by
  obtain ⟨pit, h1, h⟩ := Except.bind_ok h
  obtain ⟨oot, h2, h⟩ := Except.bind_ok h
  obtain ⟨k1, k2, k3, k4, k5, k6, k7⟩ := applySortOpts_keeps _ p' j h
  exact ⟨k4, k3, by rw [k1, optDate_ok h1], by rw [k2, optDate_ok h2], k5, k6, k7⟩

/-- `Overwrite` succeeds on a first object that is present: that object applies, and the rest go on from its result. -/
theorem overwrite_cons_some {pd : String → Option Int} {p q : Params} {j : ParamsJson} {rest : List (Option ParamsJson)}
    (h : overwrite pd p (some j :: rest) = .ok q) :
    ∃ p', applyParams pd p j = .ok p' ∧ overwrite pd p' rest = .ok q := by
  rw [overwrite] at h
  split at h
  · cases h
  · exact ⟨_, ‹_›, h⟩

end Ledger.Query
