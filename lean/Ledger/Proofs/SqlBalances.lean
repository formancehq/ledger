import Ledger.Proofs.SqlLock
import Ledger.Proofs.SqlVolumesZeroSpec
import Ledger.Proofs.CoreMap

/-!
# `GetBalances`: the whole statement (zero-row insert, SELECT … ORDER BY … FOR UPDATE) in general
-/
open Ledger Ledger.Sql Ledger.Generated
open Ledger.Generated.WriteSql.P (BalanceRow)

namespace Ledger.Sql

section
variable {cb : Callbacks} {te : TypeEnv} {env : Env} {α : Type} (f : α → Expr) (v : α → Bool)

/-- `(f x₁) OR (f x₂) OR …` over Boolean-valued operands -/
theorem Evals.orChain (xs : List α) (h : ∀ x ∈ xs, Evals cb te env (f x) (.bool (v x))) :
    Evals cb te env (WriteSql.P.orChain (xs.map f)) (.bool (xs.any v)) := by
  cases xs with
  | nil => exact .of_pv _ rfl
  | cons x xs => exact Evals.orFold f v xs _ _ (h x (by simp)) (fun y hy => h y (by simp [hy]))

end

def avColNames : List String := ["ledger", "accounts_address", "asset", "input", "output"]

theorem avT_colNames (b : String) (rs : List Ver) (nr : Nat) : (avT b rs nr).colNames = avColNames := rfl

def avScopeOf (vals : List Value) (src : Option (String × Nat)) : Scope :=
  { alias := "accounts_volumes", cols := avColNames, vals := vals, src := src }

theorem lookup_av_unq (env : Env) (vals : List Value) (src : Option (String × Nat)) (c : String) (v : Value)
    (h : lookupIn avColNames vals c = some v) :
    lookupColumn { env with locals := [avScopeOf vals src] } "" c = .ok v :=
  lookupColumn_head _ (avScopeOf vals src) env.outer c v rfl h

theorem lookup_av_q (env : Env) (vals : List Value) (src : Option (String × Nat)) (c : String) (v : Value)
    (h : lookupIn avColNames vals c = some v) :
    lookupColumn { env with locals := [avScopeOf vals src] } "accounts_volumes" c = .ok v :=
  lookupColumn_alias _ "accounts_volumes" c (avScopeOf vals src) v rfl (by rw [lastComponent_av]; rfl) h

/-- `cond k` is the test "this row of `accounts_volumes` carries the key `k` of ledger `l`", whatever way the statement writes it -/
def BalCond (l : String) (cond : BalanceRow → Expr) : Prop :=
  ∀ (te : TypeEnv) (env : Env) (k : BalanceRow) (l' a' c' : String) (i o : Int) (src : Option (String × Nat)),
    pv te { env with locals := [avScopeOf [.text l', .text a', .text c', .int i, .int o] src] } (cond k) =
      .ok (.bool (avKeyIs l k.accounts_address k.asset [.text l', .text a', .text c', .int i, .int o]))

def balItems : List (Expr × String) :=
  [(Expr.col "accounts_volumes" "accounts_address", ""), (Expr.col "accounts_volumes" "asset", ""),
   (Expr.col "accounts_volumes" "input", ""), (Expr.col "accounts_volumes" "output", "")]

theorem evals_balItems (cb : Callbacks) (te : TypeEnv) (env : Env) (l' a' c' : String) (i o : Int) (src : Option (String × Nat)) :
    EvalsAll cb te { env with locals := [avScopeOf [.text l', .text a', .text c', .int i, .int o] src], group := none, wins := [] }
      (balItems.map (·.1)) [.text a', .text c', .int i, .int o] :=
  have q (c : String) (v : Value) (h : lookupIn avColNames [.text l', .text a', .text c', .int i, .int o] c = some v) :=
    Evals.col (cb := cb) (te := te) (lookup_av_q { env with group := none, wins := [] } _ src c v h)
  .cons (q "accounts_address" _ rfl) (.cons (q "asset" _ rfl) (.cons (q "input" _ rfl) (.cons (q "output" _ rfl) .nil)))

theorem outNames_bal : outNames balItems = ["accounts_address", "asset", "input", "output"] := rfl

theorem exec_balOrderKeys (cb : Callbacks) (te : TypeEnv) (env : Env) (o : OutRow) (s : St) (a c : Value) (rest : List Value)
    (hv : o.vals = a :: c :: rest) :
    (balOrder.mapM (orderKeyM cb te env ["accounts_address", "asset", "input", "output"] o)).exec s = (.ok [a, c], s) := by
  simp [balOrder, exec_mapM_cons, orderKeyM, colIndex, colIndex.go, hv]

open Ledger.Generated.WriteSql in
set_option linter.unusedSimpArgs false in
/-- `GetBalances` taken apart: the CTE `ins`, then `SELECT balItems FROM accounts_volumes WHERE cond k₁ OR cond k₂ … ORDER BY balOrder
    FOR UPDATE` -/
theorem getBalances_query_shape (b l : String) (id : Nat) (rows : List BalanceRow) :
    ∃ ins cond, (P.getBalances b l id rows).flatMap cteStmts = [ins] ∧
      P.getBalances b l id rows =
        [Stmt.query (Query.mk [Cte.mk "ins" [] ins]
          (SetExpr.select (Select.mk false [] (balItems.map (fun p => SelItem.expr p.1 p.2)) [FromItem.table b "accounts_volumes" ""]
            (some (P.orChain (rows.map cond))) [] none))
          balOrder none none LockMode.forUpdate)] ∧ BalCond l cond := by
  refine ⟨_, _, rfl, rfl, fun te env k l' a' c' i o src => ?_⟩
  have c := fun c v h => lookup_av_unq env [.text l', .text a', .text c', .int i, .int o] src c v h
  simp only [pv, c "ledger" _ rfl, c "accounts_address" _ rfl, c "asset" _ rfl, binV_and, binV_ok, evalBinop_eq_text, ne_eq, reduceCtorEq,
    not_false_eq_true, avKeyIs, Bool.beq_eq_decide_eq, Bool.decide_and, Bool.and_assoc, Bool.and_comm, Bool.and_left_comm, eq_comm]

/-- which keys a row is asked for -/
def balWanted (l : String) (keys : List BalanceRow) (vals : List Value) : Bool :=
  keys.any (fun k => avKeyIs l k.accounts_address k.asset vals)

/-- the SELECT … ORDER BY … FOR UPDATE of GetBalances, from the state `s1` left by its CTE -/
theorem exec_getBalances_select (p : Nat) (env : Env) (b l : String) (keys : List BalanceRow) (cond : BalanceRow → Expr)
    (hcond : BalCond l cond) (hb : b.isEmpty = false)
    (s1 : St) (hs1 : TxState s1) (rows1 : List Ver) (nr1 : Nat) (hT1 : s1.w.table? (avFull b) = some (avT b rows1 nr1))
    (htyped : AvTyped rows1) :
    ∃ (sorted : List OutRow) (tie : Bool),
      (evalSetExpr (p + 5) env (SetExpr.select (Select.mk false [] (balItems.map (fun p => SelItem.expr p.1 p.2))
          [FromItem.table b "accounts_volumes" ""] (some (WriteSql.P.orChain (keys.map cond))) [] none))
          balOrder).exec s1 = (.ok (["accounts_address", "asset", "input", "output"], sorted), s1.tie tie) ∧
      sorted.Perm ((((rows1.filter (fun r => r.visible (cv s1))).reverse).filter (fun r => balWanted l keys r.vals)).map
        (fun r => outRowV (fun sc => [sc]) (fun _ => none) (fun _ => []) (fun sc => sc.vals.drop 1)
          (rowScopeOf (avT b rows1 nr1) "accounts_volumes" r))) ∧
      sorted.Pairwise (fun x y => balCmp (y.vals.take 2) (x.vals.take 2) ≠ .lt) := by
  have hq : (qualify b "accounts_volumes").exec s1 = (.ok (avFull b), s1) := exec_qualify b _ hb s1
  have hfrom := exec_evalFromList_table p env b "accounts_volumes" "" (avFull b) (avT b rows1 nr1) s1 hs1 (by simp [hb]) hq hT1
  rw [scan_eq] at hfrom
  simp only [show ("" : String).isEmpty = true from by decide, if_true] at hfrom
  have hrows : (avT b rows1 nr1).rows = rows1 := rfl
  rw [hrows] at hfrom
  have hsc : ∀ sc ∈ ((rows1.filter (fun r => r.visible (cv s1))).reverse).map (rowScopeOf (avT b rows1 nr1) "accounts_volumes"),
      ∃ r ∈ rows1, ∃ l' a' c' i o, r.vals = [.text l', .text a', .text c', .int i, .int o] ∧
        sc = avScopeOf [.text l', .text a', .text c', .int i, .int o] (some ((avT b rows1 nr1).name, r.rid)) := by
    intro sc hsc
    obtain ⟨r, hr, rfl⟩ := List.mem_map.mp hsc
    have hr' := (List.mem_filter.mp (List.mem_reverse.mp hr)).1
    obtain ⟨l', a', c', i, o, hv⟩ := htyped r hr'
    exact ⟨r, hr', l', a', c', i, o, hv, by simp [rowScopeOf, avScopeOf, hv, avT_colNames]⟩
  -- the rows that pass WHERE, each a typed row of the table
  have hys : ∀ sc ∈ (((rows1.filter (fun r => r.visible (cv s1))).reverse).map (rowScopeOf (avT b rows1 nr1) "accounts_volumes")).filter
      (fun sc => balWanted l keys sc.vals), ∃ l' a c i o', sc.vals = [.text l', .text a, .text c, .int i, .int o'] := by
    intro sc hscm
    obtain ⟨r, _, l', a', c', i, o', _, rfl⟩ := hsc sc (List.mem_filter.mp hscm).1
    exact ⟨l', a', c', i, o', rfl⟩
  obtain ⟨zs, tie, hsortEq, hperm, hpw, -⟩ := exec_sortOut_of (p + 2) env ["accounts_address", "asset", "input", "output"] _
    (outRowV (fun sc => [sc]) (fun _ => none) (fun _ => []) (fun sc : Scope => sc.vals.drop 1)) balOrder (by simp [balOrder]) s1
    (fun sc => (sc.vals.drop 1).take 2) balCmp balKeyOk
    (by
      intro sc hscm
      obtain ⟨l', a, c, i, o', hv⟩ := hys sc hscm
      rw [exec_balOrderKeys _ _ _ _ s1 (.text a) (.text c) [.int i, .int o'] (by rw [outRowV, hv]; rfl), hv]; rfl)
    (by
      have : orderDescs balOrder = [false, false] ∧ orderNulls balOrder = [NullsOrder.dflt, NullsOrder.dflt] := ⟨rfl, rfl⟩
      rw [this.1, this.2]; exact balCmpOk)
    (by
      intro sc hscm
      obtain ⟨l', a, c, i, o', hv⟩ := hys sc hscm
      exact ⟨a, c, by rw [hv]; rfl⟩)
    (fun _ => True)
    (by
      intro lst hl
      refine (hasTieR_ok lst fun p hp q hq => ?_).imp fun _ hb => ⟨hb, trivial⟩
      obtain ⟨y1, hy1, rfl⟩ := List.mem_map.mp ((hl.mem_iff).mp hp)
      obtain ⟨y2, hy2, rfl⟩ := List.mem_map.mp ((hl.mem_iff).mp hq)
      obtain ⟨_, a, c, i, o', hv⟩ := hys y1 hy1
      obtain ⟨_, a', c', i', o'', hv'⟩ := hys y2 hy2
      constructor <;> apply sameGroupKey_ok <;> simp [outRowV, hv, hv', compareForSort_text, compareForSort_int])
  refine ⟨zs.map (outRowV (fun sc => [sc]) (fun _ => none) (fun _ => []) (fun sc : Scope => sc.vals.drop 1)), tie, ?_, ?_, ?_⟩
  · rw [evalSetExpr]
    refine exec_evalSelect_of (p + 3) env balItems _ (some _) [] [] balOrder s1 _ (fun sc => [sc]) (fun sc => balWanted l keys sc.vals) hfrom
      (fun _ hc sc hscm => ?_) (fun h => nomatch h) _ _ _ (.rows rfl) [] rfl _ .none (fun sc => sc.vals.drop 1) (fun sc hscm => ?_) _ _ hsortEq _
      (.none _ _)
    · -- WHERE
      cases hc
      obtain ⟨r, _, l', a', c', i, o', _, rfl⟩ := hsc sc hscm
      exact (Evals.orChain _ _ keys (fun k _ => .of_pv _ (hcond _ env k l' a' c' i o' _))).whereHolds s1
    · -- projection
      obtain ⟨r, _, l', a', c', i, o', _, rfl⟩ := hsc sc (List.mem_filter.mp hscm).1
      exact evals_balItems _ _ env l' a' c' i o' _ s1
  · refine (hperm.map _).trans (.of_eq ?_)
    rw [List.filter_map, List.map_map]
    rfl
  · exact List.pairwise_map.mpr hpw

/-- hypotheses on the state for GetBalances -/
structure BalState (s : St) (b : String) (rs : List Ver) (nr : Nat) : Prop where
  tx : TxState s
  table : s.w.table? (avFull b) = some (avT b rs nr)
  inv : AvInv (latestView s.w s.xid) rs nr
  fresh : Fresh s.xid s.cid rs
  ridNodup : ((rs.filter (fun r => r.visible (latestView s.w s.xid))).map (·.rid)).Nodup

theorem cv_withTable (s : St) (t : Table) : cv (s.withTable t) = cv s := rfl
theorem cv_tie (s : St) (b : Bool) : cv (s.tie b) = cv s := by cases b <;> rfl

/-- What the zero-row insert leaves: the statement's own snapshot sees the rows it saw (the SELECT of `GetBalances` does not return the
    zero rows its CTE inserts), every old version is still there, and the storage facts hold at the next command id. -/
theorem avRunN_live (s : St) (hs : TxState s) (l : String) : ∀ (keys : List BalanceRow) (rs : List Ver) (nr : Nat),
    Stored (latestView s.w s.xid) s.xid (s.cid + 1) nr rs →
    Stored (latestView s.w s.xid) s.xid (s.cid + 1) (avRunN (latestView s.w s.xid) s.xid s.cid l keys (rs, nr)).2
      (avRunN (latestView s.w s.xid) s.xid s.cid l keys (rs, nr)).1 ∧
    (avRunN (latestView s.w s.xid) s.xid s.cid l keys (rs, nr)).1.filter (fun r => r.visible (cv s)) = rs.filter (fun r => r.visible (cv s)) ∧
    ∀ r ∈ rs, r ∈ (avRunN (latestView s.w s.xid) s.xid s.cid l keys (rs, nr)).1
  | [], _, _, h => ⟨h, rfl, fun _ h => h⟩
  | k :: rest, rs, nr, h => by
    have hstep : Stored (latestView s.w s.xid) s.xid (s.cid + 1) (avStepN (latestView s.w s.xid) s.xid s.cid l k.accounts_address k.asset 0 0 (rs, nr)).2
          (avStepN (latestView s.w s.xid) s.xid s.cid l k.accounts_address k.asset 0 0 (rs, nr)).1 ∧
        (avStepN (latestView s.w s.xid) s.xid s.cid l k.accounts_address k.asset 0 0 (rs, nr)).1.filter (fun r => r.visible (cv s)) =
          rs.filter (fun r => r.visible (cv s)) ∧
        ∀ r ∈ rs, r ∈ (avStepN (latestView s.w s.xid) s.xid s.cid l k.accounts_address k.asset 0 0 (rs, nr)).1 := by
      unfold avStepN
      split
      · exact ⟨h, rfl, fun _ h => h⟩
      · exact ⟨h.new hs.xid hs.cid (Nat.lt_succ_self _) _, filter_cv_new s hs _ _ _, fun _ h => List.mem_cons_of_mem _ h⟩
    obtain ⟨i1, i2, i3⟩ := avRunN_live s hs l rest _ _ hstep.1
    exact ⟨i1, i2.trans hstep.2.1, fun r hr => i3 r (hstep.2.2 r hr)⟩

theorem avGet_lockRun (lv : View) (xid cid : Nat) (l a c : String) : ∀ (rids : List Nat) (rows : List Ver),
    avGet lv (lockRun lv xid cid rows rids) l a c = avGet lv rows l a c
  | [], _ => rfl
  | rid :: rest, rows => by
    show avGet lv (lockRun lv xid cid (rows.map (lockRow lv xid cid rid)) rest) l a c = _
    rw [avGet_lockRun lv xid cid l a c rest, avGet_eq, avGet_eq, get_lock]

end Ledger.Sql
