import Ledger.Machine.Resolve
import Ledger.Proofs.MachineLookup

/-! What `prepare` (SetVarsFromJSON + ResolveResources + ResolveBalances) guarantees
    about the environment and the initial tracked balances. -/
namespace Ledger.Machine

variable {cfg : Cfg}

/-- What the accounting (C22, C23) needs of a value in the environment, `EnvGood`: no negative amount. The nil
    amount (the placeholder of a `balance()` variable) passes. -/
def ValGood : Value → Prop
  | .monetary _ (some n) => 0 ≤ n
  | .portion .remaining => False
  | _ => True

def EnvGood (env : Env) : Prop := ∀ kv ∈ env, ValGood kv.2

def valueTy : Value → Ty
  | .account _ => .account
  | .asset _ => .asset
  | .number _ => .number
  | .str _ => .string
  | .monetary _ _ => .monetary
  | .portion _ => .portion

/-- What the no-fault proofs (C27) need of a value: no nil amount, on which the run panics (`needAmt`); the sign
    does not matter there. -/
def ValOK : Value → Prop
  | .monetary _ none => False
  | .portion .remaining => False
  | _ => True

theorem EnvGood.portion {env : Env} (h : EnvGood env) {x : String} {p : Portion}
    (hl : env.lookup x = some (.portion p)) : ∃ r, p = .specific r := by
  have := h (x, _) (lookup_mem env x _ hl)
  cases p with
  | remaining => exact absurd this (by simp [ValGood])
  | specific r => exact ⟨r, rfl⟩

theorem newPortionSpecific_specific {r : Rat} {p : Portion} (h : newPortionSpecific r = .ok p) :
    p = .specific r := by
  unfold newPortionSpecific at h
  split at h
  · cases h
  · cases h; rfl

theorem parsePortionSpecific_specific {t : String} {p : Portion} (h : parsePortionSpecific t = .ok p) :
    ∃ r, p = .specific r := by
  unfold parsePortionSpecific at h
  simp only at h
  split at h
  · exact ⟨_, newPortionSpecific_specific h⟩
  · split at h
    · split at h
      · cases h
      · exact ⟨_, newPortionSpecific_specific h⟩
    · cases h

theorem parsePortionGo_specific {t : String} {p : Portion} (h : parsePortionGo t = .ok p) :
    ∃ r, p = .specific r := by
  unfold parsePortionGo at h
  split at h
  · exact parsePortionSpecific_specific h
  · split at h
    · split at h
      · split at h
        · cases h
        · exact ⟨_, newPortionSpecific_specific h⟩
      · cases h
    · cases h

/-- `parseValue`, outcome by outcome.  A value is of the declared type, an amount is present and not negative,
    a portion specific; only `nullNumberIsNil` lets a JSON `null` through as the nil number. -/
theorem parseValue_spec (cfg : Cfg) (ty : Ty) (data : String) :
    match parseValue cfg ty data with
    | .bad => True
    | .nilNumber => cfg.nullNumberIsNil = true
    | .val v => valueTy v = ty ∧ ValGood v ∧ ValOK v := by
  generalize hp : parseValue cfg ty data = p
  unfold parseValue at hp
  cases ty with
  | account | asset =>
    simp only at hp
    split at hp <;> subst hp
    · exact ⟨rfl, trivial, trivial⟩
    · trivial
  | number =>
    simp only at hp
    split at hp
    · subst hp; trivial
    · split at hp <;> subst hp
      · assumption
      · trivial
    · subst hp; exact ⟨rfl, trivial, trivial⟩
  | string => subst hp; exact ⟨rfl, trivial, trivial⟩
  | monetary =>
    simp only at hp
    split at hp
    · subst hp; trivial
    · split at hp
      · subst hp; trivial
      · split at hp
        · subst hp; trivial
        · split at hp
          · subst hp; trivial
          · subst hp; exact ⟨rfl, by simp only [ValGood]; omega, trivial⟩
  | portion =>
    simp only at hp
    split at hp
    · rename_i q hq
      subst hp
      obtain ⟨r, rfl⟩ := parsePortionGo_specific hq
      exact ⟨rfl, trivial, trivial⟩
    · subst hp; trivial

theorem parseValue_val {ty : Ty} {data : String} {v : Value} (h : parseValue cfg ty data = .val v) :
    valueTy v = ty ∧ ValGood v ∧ ValOK v := by
  have := parseValue_spec cfg ty data
  rwa [h] at this

theorem parseValue_good {ty : Ty} {data : String} {v : Value} (h : parseValue cfg ty data = .val v) :
    ValGood v :=
  (parseValue_val h).2.1

theorem parseValue_fixed_ne_nil (ty : Ty) (data : String) : parseValue Cfg.fixed ty data ≠ .nilNumber := by
  intro h
  have := parseValue_spec Cfg.fixed ty data
  rw [h] at this
  cases this

/-- The text given for a plain declaration, parsed. -/
def plainOf (cfg : Cfg) (vars : List (String × String)) (d : VarDecl) : String × Parsed :=
  (d.name, parseValue cfg d.ty ((vars.lookup d.name).getD ""))

/-- `ParseVariablesJSON` succeeds with the plain declarations in order, each with the parsed text of its
    variable: every one of them is given and none parses badly. -/
theorem parsePlainVars_eq (cfg : Cfg) (vars : List (String × String)) :
    (ds : List VarDecl) → (out : List (String × Parsed)) → parsePlainVars cfg vars ds = .ok out →
    out = (ds.filter isPlain).map (plainOf cfg vars) ∧
      ∀ d ∈ ds.filter isPlain, (vars.lookup d.name).isSome ∧ (plainOf cfg vars d).2 ≠ .bad
  | [], out, h => by cases h; exact ⟨rfl, nofun⟩
  | d :: ds, out, h => by
    rw [parsePlainVars] at h
    split at h
    next ho =>
      rw [List.filter_cons_of_pos (by simp [isPlain, ho])]
      split at h
      · cases h
      next data hdata =>
      have e : plainOf cfg vars d = (d.name, parseValue cfg d.ty data) := by rw [plainOf, hdata]; rfl
      split at h
      · cases h
      next hnb =>
      split at h <;> cases h
      next r hr =>
      obtain ⟨rfl, i2⟩ := parsePlainVars_eq cfg vars ds r hr
      exact ⟨by rw [List.map_cons, e], List.forall_mem_cons.mpr
        ⟨⟨by rw [hdata]; rfl, by rw [e]; exact fun hb => hnb hb⟩, i2⟩⟩
    next ho =>
      rw [List.filter_cons_of_neg (by cases hd : d.orig <;> simp_all [isPlain])]
      exact parsePlainVars_eq cfg vars ds out h

theorem mem_filter_isPlain {ds : List VarDecl} {d : VarDecl} :
    d ∈ ds.filter isPlain ↔ d ∈ ds ∧ d.orig = Origin.none := by
  rw [List.mem_filter]
  cases h : d.orig <;> simp [isPlain, h]

theorem parsePlainVars_mem (cfg : Cfg) (vars : List (String × String)) (ds : List VarDecl)
    (out : List (String × Parsed)) (h : parsePlainVars cfg vars ds = .ok out) :
    ∀ kv ∈ out, ∃ d ∈ ds, d.name = kv.1 ∧ ∃ data, vars.lookup kv.1 = some data ∧
      kv.2 = parseValue cfg d.ty data := by
  obtain ⟨rfl, hall⟩ := parsePlainVars_eq cfg vars ds out h
  intro kv hkv
  obtain ⟨d, hd, rfl⟩ := List.mem_map.mp hkv
  obtain ⟨data, hdata⟩ := Option.isSome_iff_exists.mp (hall d hd).1
  exact ⟨d, (mem_filter_isPlain.mp hd).1, rfl, data, hdata, by rw [plainOf, hdata]; rfl⟩

theorem parsePlainVars_lookup (cfg : Cfg) (vars : List (String × String)) :
    (ds : List VarDecl) → (out : List (String × Parsed)) → parsePlainVars cfg vars ds = .ok out →
    ∀ name p, out.lookup name = some p →
      ∃ d ∈ ds, d.name = name ∧ ∃ data, vars.lookup name = some data ∧ p = parseValue cfg d.ty data :=
  fun ds out h name p hl => parsePlainVars_mem cfg vars ds out h (name, p) (lookup_mem out name p hl)

theorem EnvGood.append {env : Env} (h : EnvGood env) {x : String} {v : Value} (hv : ValGood v) :
    EnvGood (env ++ [(x, v)]) := by
  intro kv hkv
  rcases List.mem_append.mp hkv with hkv | hkv
  · exact h kv hkv
  · simp at hkv; subst hkv; exact hv

theorem resolveVars_good (cfg : Cfg) (inp : Input) (plain : List (String × Parsed))
    (hplain : ∀ kv ∈ plain, ∀ v, kv.2 = .val v → ValGood v) :
    (ds : List VarDecl) → (env : Env) → (bvs : List BalVar) → (env' : Env) → (bvs' : List BalVar) →
    resolveVars cfg inp plain ds env bvs = .ok (env', bvs') → EnvGood env → EnvGood env'
  | [], env, bvs, env', bvs', h, hg => by
    simp only [resolveVars] at h; cases h; exact hg
  | d :: ds, env, bvs, env', bvs', h, hg => by
    simp only [resolveVars] at h
    split at h
    · split at h
      · rename_i v hl
        exact resolveVars_good cfg inp plain hplain ds _ _ env' bvs' h
          (hg.append (hplain _ (lookup_mem plain _ _ hl) v rfl))
      · cases h
      · cases h
    · split at h
      · cases h
      · split at h
        · cases h
        · split at h
          · cases h
          · split at h
            · cases h
            · cases h
            · rename_i v hp
              exact resolveVars_good cfg inp plain hplain ds _ _ env' bvs' h (hg.append (parseValue_good hp))
    · split at h
      · cases h
      · split at h
        · cases h
        · exact resolveVars_good cfg inp plain hplain ds _ _ env' bvs' h (hg.append (by simp [ValGood]))

theorem mem_setEnv {env : Env} {x : String} {v : Value} {kv : String × Value} (h : kv ∈ setEnv env x v) :
    kv = (x, v) ∨ (kv.1 ≠ x ∧ kv ∈ env) := by
  simp only [setEnv, List.mem_map] at h
  obtain ⟨kv0, h0, rfl⟩ := h
  split
  · rename_i hx; exact .inl (by rw [hx])
  · rename_i hx; exact .inr ⟨hx, h0⟩

theorem lookup_setEnv (env : Env) (n : String) (v : Value) (x : String) :
    (setEnv env n v).lookup x = if x = n then (env.lookup x).map (fun _ => v) else env.lookup x := by
  induction env with
  | nil => simp [setEnv]
  | cons kv rest ih =>
    -- the keys stay, so `x` is found at the same entry
    have hfst : (if kv.1 = n then (kv.1, v) else kv).1 = kv.1 := by split <;> rfl
    rw [setEnv] at ih ⊢
    rw [List.map_cons, List.lookup_cons, List.lookup_cons, ih, hfst]
    cases hx : x == kv.1
    · rfl
    · obtain rfl : x = kv.1 := by simpa using hx
      by_cases hk : kv.1 = n <;> simp [hk]

/-- After the variables `bvs` are overwritten with values that satisfy `Q`, every value of the environment
    does, provided those not overwritten did. -/
theorem foldl_setEnv_all {Q : Value → Prop} (val : BalVar → Value) :
    (bvs : List BalVar) → (env : Env) → (∀ kv ∈ env, Q kv.2 ∨ kv.1 ∈ bvs.map (·.1)) →
    (∀ bv ∈ bvs, Q (val bv)) → ∀ kv ∈ bvs.foldl (fun e bv => setEnv e bv.1 (val bv)) env, Q kv.2
  | [], env, hv, _ => fun kv hkv => (hv kv hkv).resolve_right (by simp)
  | bv :: rest, env, hv, hq => by
    refine foldl_setEnv_all val rest _ (fun kv hkv => ?_) fun b hb => hq b (by simp [hb])
    rcases mem_setEnv hkv with rfl | ⟨hne, h0⟩
    · exact .inl (hq bv (by simp))
    · exact (hv kv h0).imp_right fun h => (List.mem_cons.mp h).resolve_left hne

theorem foldl_setEnv_good (inp : Input) (live : List BalVar) (hl : ∀ bv ∈ live, 0 ≤ inp.balance bv.2.1 bv.2.2)
    (env : Env) (h : EnvGood env) :
    EnvGood (live.foldl (fun e bv => setEnv e bv.1 (.monetary bv.2.2 (some (inp.balance bv.2.1 bv.2.2)))) env) :=
  foldl_setEnv_all (fun bv => .monetary bv.2.2 (some (inp.balance bv.2.1 bv.2.2))) live env
    (fun kv hkv => .inl (h kv hkv)) hl

/-- `prepare`, stage by stage: plain variables parsed, resources resolved, needed balances
    listed (none of world), the surviving `balance()` variables non-negative and bound, the
    tracked pairs initialised from the store. -/
theorem prepare_inv {s : Script} {inp : Input} {env : Env} {bal : Balances} {pairs : List (String × String)}
    (h : prepare cfg s inp = .ok (env, bal, pairs)) :
    ∃ plain env0 bvs needed live,
      parsePlainVars cfg inp.vars s.vars = .ok plain ∧
      resolveVars cfg inp plain s.vars [] [] = .ok (env0, bvs) ∧
      neededPairs env0 s.stmts = .ok needed ∧ (∀ pr ∈ needed, pr.1 ≠ "world") ∧
      live = (if cfg.balanceVarsPerAddress then liveBalVars bvs else bvs) ∧
      (∀ bv ∈ live, 0 ≤ inp.balance bv.2.1 bv.2.2) ∧
      env = live.foldl (fun e bv =>
        setEnv e bv.1 (.monetary bv.2.2 (some (inp.balance bv.2.1 bv.2.2)))) env0 ∧
      pairs = live.map (fun bv => (bv.2.1, bv.2.2)) ++ needed ∧
      bal = { hasAcct := fun a => pairs.any (fun p => p.1 = a),
              get := fun a c => if pairs.any (fun p => p.1 = a ∧ p.2 = c) then some (inp.balance a c)
                                else none } := by
  unfold prepare at h
  split at h
  · cases h
  next plain hsv =>
  unfold setVars at hsv
  split at hsv
  · cases hsv
  next ps hps =>
  dsimp only at hsv
  split at hsv <;> cases hsv
  split at h
  · cases h
  next env0 bvs hrv =>
  unfold initBalances at h
  split at h
  · cases h
  next needed hneeded =>
  split at h
  · cases h
  next hworld =>
  dsimp only at h
  generalize hl : (if cfg.balanceVarsPerAddress = true then liveBalVars bvs else bvs) = live at h
  split at h <;> cases h
  next hneg =>
  refine ⟨plain, env0, bvs, needed, live, hps, hrv, hneeded, fun pr hpr hw => hworld ?_, hl.symm,
    fun bv hbv => ?_, rfl, rfl, rfl⟩
  · exact List.any_eq_true.mpr ⟨pr, hpr, by simpa using hw⟩
  · exact Int.not_lt.mp fun hlt => hneg (List.any_eq_true.mpr ⟨bv, hbv, decide_eq_true hlt⟩)

/-- The pairs one statement adds to `NeededBalances`: its asset with each bounded leaf of its source. -/
def stmtPairs (env : Env) (st : Stmt) : Except Err (List (String × String)) :=
  match st with
  | .send mon src _ =>
    match leftmostAsset env mon with
    | .error e => .error e
    | .ok asset =>
      match evalAccounts env src.neededAccts with
      | .error e => .error e
      | .ok accs => .ok (accs.map fun a => (a, asset))
  | .sendAll assetE src _ =>
    match evalAssetE env assetE with
    | .error e => .error e
    | .ok asset =>
      match evalAccounts env src.neededAccts with
      | .error e => .error e
      | .ok accs => .ok (accs.map fun a => (a, asset))
  | _ => .ok []

theorem neededPairs_cons (env : Env) (st : Stmt) (rest : List Stmt) :
    neededPairs env (st :: rest) =
      match stmtPairs env st with
      | .error e => .error e
      | .ok h =>
        match neededPairs env rest with
        | .error e => .error e
        | .ok r => .ok (h ++ r) := by
  cases st <;> rfl

theorem neededPairs_cons_ok {env : Env} {st : Stmt} {rest : List Stmt} {h r : List (String × String)}
    (hs : stmtPairs env st = .ok h) (hr : neededPairs env rest = .ok r) :
    neededPairs env (st :: rest) = .ok (h ++ r) := by
  rw [neededPairs_cons, hs, hr]

/-- `NeededBalances` succeeded: every statement's pairs were computed and are in the result. -/
theorem neededPairs_sub {env : Env} : ∀ {ss : List Stmt} {needed : List (String × String)},
    neededPairs env ss = .ok needed → ∀ st ∈ ss, ∃ h, stmtPairs env st = .ok h ∧ ∀ p ∈ h, p ∈ needed
  | s :: ss, needed, hn, st, hm => by
    rw [neededPairs_cons] at hn
    split at hn
    · cases hn
    next h hs =>
    split at hn <;> cases hn
    next r hr =>
    rcases List.mem_cons.mp hm with rfl | hm
    · exact ⟨h, hs, fun p hp => List.mem_append_left _ hp⟩
    · obtain ⟨h', e, sub⟩ := neededPairs_sub hr st hm
      exact ⟨h', e, fun p hp => List.mem_append_right _ (sub p hp)⟩

/-- `Program.NeededBalances` lists the account of a `send` whose source is one bounded, non-world
    account, with the statement's asset. -/
theorem neededPairs_mem {env : Env} {ss : List Stmt} {needed : List (String × String)}
    (h : neededPairs env ss = .ok needed) {mon e dst a c}
    (hm : Stmt.send mon (.src (.account e .none)) dst ∈ ss) (hw : e.isWorld = false)
    (ha : evalAccount env e = .ok a) (hc : leftmostAsset env mon = .ok c) : (a, c) ∈ needed := by
  obtain ⟨here, hs, sub⟩ := neededPairs_sub h _ hm
  simp only [stmtPairs, hc, VSource.neededAccts, Source.neededAccts, hw, Bool.false_eq_true, if_false,
    evalAccounts, ha] at hs
  cases hs
  exact sub _ (by simp)

end Ledger.Machine
