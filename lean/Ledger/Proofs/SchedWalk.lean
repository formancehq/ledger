import Ledger.Sched.Writers

/-!
# The control structure of `forgeLog`, walked once

The predicates on programs used for the schedule theorems (`Safe`, `Guarded`) all say: every statement
on every path is acceptable in a state that the answers move along. `Walk W ok nx poss` records the
rule by which such a predicate `W` is established at a statement; `recordedOutcome`, `forgeLogRetry` and
`forgeLogG` are walked for any such `W`, given a set `K` of states that BEGIN leads into, that the
key lookup stays in, and from which the operation body is fine.
-/
namespace Ledger.Sched

structure Walk {σ : Type} (W : σ → Prog → Prop) (ok : σ → Stmt → Prop) (nx : σ → Stmt → Out → σ)
    (poss : Stmt → Out → Prop) : Prop where
  stmt : ∀ m st k, ok m st → (∀ o, poss st o → W (nx m st o) (k o)) → W m (.stmt st k)

/-- `body` is fine from a state in `K` as soon as its three continuations are fine from every state in `K` -/
def BodyKeeps {σ : Type} (W : σ → Prog → Prop) (K : σ → Prop) (body : Body) : Prop :=
  ∀ m fail refuse succ, K m → (∀ m' e, K m' → W m' (fail e)) → (∀ m' r, K m' → W m' (refuse r)) →
    (∀ m' a b, K m' → W m' (succ a b)) → W m (body fail refuse succ)

section
variable {σ : Type} {W : σ → Prog → Prop} {ok : σ → Stmt → Prop} {nx : σ → Stmt → Out → σ}
  {poss : Stmt → Out → Prop} (hW : Walk W ok nx poss) {K : σ → Prop} {ops : TxOps} {body : Body}
  {fin : Resp → Prog} (recheck : Bool) (l ik hash : Nat)
include hW

theorem walk_recorded (hread : ∀ m, ok m (.readIK l ik)) (hfin : ∀ m r, W m (fin r)) (m : σ) (own : Resp) :
    W m (recordedOutcome recheck l ik hash fin own) := by
  unfold recordedOutcome
  split
  · exact hfin _ _
  · exact hW.stmt _ _ _ (hread m) fun o _ => by split <;> exact hfin _ _

variable (hctl : ∀ m, ok m ops.begin_ ∧ ok m ops.commit_ ∧ ok m ops.rollback_) (hread : ∀ m, ok m (.readIK l ik))
  (hbegin : ∀ m o, poss ops.begin_ o → K (nx m ops.begin_ o)) (hb : BodyKeeps W K body) (hfin : ∀ m r, W m (fin r))
include hctl hread hbegin hb hfin

theorem walk_retry : ∀ fuel m, W m (forgeLogRetry recheck ops l ik hash body fin fuel) := by
  intro fuel
  induction fuel with
  | zero => intro m; exact hfin _ _
  | succ n ih =>
    intro m
    unfold forgeLogRetry
    refine hW.stmt _ _ _ (hctl m).1 fun o ho => hb _ _ _ _ (hbegin m o ho) (fun m' e _ => ?_)
      (fun m' r _ => hW.stmt _ _ _ (hctl m').2.2 fun _ _ => walk_recorded hW recheck l ik hash hread hfin _ _)
      (fun m' a b _ => hW.stmt _ _ _ (hctl m').2.1 fun _ _ => hfin _ _)
    split
    · exact hfin _ _
    · refine hW.stmt _ _ _ (hctl m').2.2 fun _ _ => ?_
      split
      · exact ih _
      · exact hW.stmt _ _ _ (hread _) fun o _ => by split <;> exact hfin _ _
      · exact walk_recorded hW recheck l ik hash hread hfin _ _

theorem walk_forgeLog (hK : ∀ m o, K m → K (nx m (.readIK l ik) o)) (m : σ) :
    W m (forgeLogG recheck ops l ik hash body fin) := by
  unfold forgeLogG
  extract_lets run
  have hrun : ∀ m', K m' → W m' run := fun m' hk =>
    hb _ _ _ _ hk (fun m'' e _ => by
        split
        · exact hfin _ _
        · refine hW.stmt _ _ _ (hctl m'').2.2 fun _ _ => ?_
          split
          · exact walk_retry hW recheck l ik hash hctl hread hbegin hb hfin _ _
          · exact walk_recorded hW recheck l ik hash hread hfin _ _)
      (fun m'' r _ => hW.stmt _ _ _ (hctl m'').2.2 fun _ _ => walk_recorded hW recheck l ik hash hread hfin _ _)
      (fun m'' a b _ => hW.stmt _ _ _ (hctl m'').2.1 fun _ _ => hfin _ _)
  refine hW.stmt _ _ _ (hctl m).1 fun o ho => ?_
  have hk := hbegin m o ho
  split
  · exact hrun _ hk
  · refine hW.stmt _ _ _ (hread _) fun o' _ => ?_
    split
    · exact hW.stmt _ _ _ (hctl _).2.2 fun _ _ => hfin _ _
    · exact hrun _ (hK _ o' hk)

end

end Ledger.Sched
