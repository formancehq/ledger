import Ledger.Proofs.ReplSafe

/-! Liveness of the replication model: finite failure-free paths to delivery. -/
namespace Ledger.Repl

theorem run_append (c : Cfg) (s : State) (l1 l2 : List Label) :
    run c s (l1 ++ l2) = (run c s l1).bind (fun s1 => run c s1 l2) := by
  induction l1 generalizing s with
  | nil => simp [run]
  | cons l ls ih =>
    simp only [List.cons_append, run]
    cases step c s l with
    | none => simp
    | some s1 => simpa using ih s1

theorem run_keeps {c : Cfg} {P : State → Prop} {s s' : State} {ls : List Label}
    (hP : ∀ l ∈ ls, ∀ s s', P s → step c s l = some s' → P s') (h0 : P s) (h : run c s ls = some s') : P s' := by
  induction ls generalizing s with
  | nil => cases h; exact h0
  | cons l ls ih =>
    simp only [run] at h
    split at h
    · cases h
    · rename_i s1 hs
      exact ih (fun l' hl' => hP l' (List.mem_cons_of_mem _ hl')) (hP l List.mem_cons_self _ _ h0 hs) h

theorem reach_run {c : Cfg} {s s' : State} {ls : List Label} (r : Reach c s) (h : run c s ls = some s') : Reach c s' :=
  run_keeps (fun l _ _ _ r hs => Reach.step l r hs) r h

def Steps (c : Cfg) (p : Label → Bool) (s s' : State) : Prop :=
  ∃ ls : List Label, (∀ l ∈ ls, p l = true) ∧ run c s ls = some s'

theorem Steps.refl {c : Cfg} {p : Label → Bool} (s : State) : Steps c p s s := ⟨[], by simp, rfl⟩

theorem Steps.trans {c : Cfg} {p : Label → Bool} {s1 s2 s3 : State} (a : Steps c p s1 s2) (b : Steps c p s2 s3) :
    Steps c p s1 s3 := by
  obtain ⟨l1, p1, r1⟩ := a
  obtain ⟨l2, p2, r2⟩ := b
  refine ⟨l1 ++ l2, ?_, ?_⟩
  · intro l hl
    rcases List.mem_append.mp hl with h | h
    · exact p1 l h
    · exact p2 l h
  · rw [run_append, r1]; simpa using r2

theorem Steps.single {c : Cfg} {p : Label → Bool} {s s' : State} (l : Label) (hp : p l = true)
    (h : step c s l = some s') : Steps c p s s' := ⟨[l], by simpa using hp, by simp [run, h]⟩

theorem Steps.mono {c : Cfg} {p q : Label → Bool} {s s' : State} (h : ∀ l, p l = true → q l = true)
    (a : Steps c p s s') : Steps c q s s' := by
  obtain ⟨ls, hp, hr⟩ := a
  exact ⟨ls, fun l hl => h l (hp l hl), hr⟩

theorem Steps.reach {c : Cfg} {p : Label → Bool} {s s' : State} (a : Steps c p s s') (r : Reach c s) : Reach c s' := by
  obtain ⟨ls, _, hr⟩ := a
  exact reach_run r hr

variable {c : Cfg} {s s' : State} {h h' : Handler} {l : Label}

theorem Steps.wf {p : Label → Bool} (a : Steps c p s s') (w : WF s) : WF s' := by
  obtain ⟨ls, _, hr⟩ := a
  exact run_keeps (fun _ _ _ _ w hs => wf_step w hs) w hr

@[simp] theorem write_nLogs (ok : Bool) (v : Nat) (s : State) : (write ok v s).nLogs = s.nLogs := by
  unfold write; split <;> rfl

@[simp] theorem write_created (ok : Bool) (v : Nat) (s : State) : (write ok v s).created = s.created := by
  unfold write; split <;> rfl

/-- Variant rule for failure-free runs: if from every `P`-state that is not yet a goal state
    some enabled progress step leads to a `P`-state with a smaller `μ`, then every `P`-state
    reaches the goal by progress steps. -/
theorem steps_of_variant {α : Type} [wf : WellFoundedRelation α] {P G : State → Prop} (μ : State → α)
    (next : ∀ s, P s → G s ∨ ∃ l s', l.progress = true ∧ step c s l = some s' ∧ P s' ∧ wf.rel (μ s') (μ s)) :
    ∀ s, P s → ∃ s', Steps c Label.progress s s' ∧ G s' := by
  intro s
  induction hm : μ s using wf.wf.induction generalizing s with
  | _ m ih =>
    intro p
    rcases next s p with g | ⟨l, s1, hl, e, p1, lt⟩
    · exact ⟨s, .refl s, g⟩
    · obtain ⟨s2, st, g⟩ := ih (μ s1) (hm ▸ lt) s1 rfl p1
      exact ⟨s2, (Steps.single l hl e).trans st, g⟩

/-- How far the handler is from moving its cursor: first the stage (a page without failure so
    far < waiting for the retry < a page with a failure < no page), then what is left of the page. -/
def phase : Pc → Nat × Nat
  | .exporting _ hi _ pos false gate => (0, 2 * (hi - pos) + (if gate then 0 else 1))
  | .retry .. => (1, 0)
  | .exporting _ hi _ pos true gate => (2, 2 * (hi - pos) + (if gate then 0 else 1))
  | .atFetch => (3, 0)
  | .idle => (4, 0)
  | .fetchErr | .sending _ => (5, 0)

/-- the next chunk of a page leaves less of it -/
theorem phase_chunk {hi pos e : Nat} (g : Bool) (h1 : pos < e) (h2 : e ≤ hi) :
    2 * (hi - e) + (if g then 0 else 1) < 2 * (hi - pos) + (if true then 0 else 1) := by
  cases g <;> simp only [ite_true, Bool.false_eq_true, ite_false] <;> omega

/-- what the variant argument carries: a running handler that is not being stopped, whose
    cursor is still before `k` unless `k` has been acknowledged -/
def Toward (k : Nat) (s : State) : Prop :=
  WF s ∧ Clean s ∧ k ≤ s.nLogs ∧ ∃ h, s.handler = some h ∧ h.stopReq = false ∧ (h.last < k ∨ Acked s k)

/-- the variant: distance of the cursor from `k`, then `phase` -/
def variant (k : Nat) (s : State) : Nat × Nat × Nat :=
  match s.handler with
  | some h => (k - h.last, phase h.pc)
  | none => (0, 0, 0)

theorem toward_next (hps : 1 ≤ c.ps) {k : Nat} (s : State) (p : Toward k s) :
    Acked s k ∨ ∃ l s', l.progress = true ∧ step c s l = some s' ∧ Toward k s' ∧
      WellFoundedRelation.rel (variant k s') (variant k s) := by
  obtain ⟨w, cl, hk, h, hh, hns, hlt | a⟩ := p
  case inr => exact .inl a
  refine .inr ?_
  -- a step after which the handler is `h'` with the same cursor and a lower phase
  have stay : ∀ {l s'} (h' : Handler), l.progress = true → step c s l = some s' → s'.nLogs = s.nLogs →
      s'.handler = some h' → h'.stopReq = false → h'.last = h.last →
      Prod.Lex (· < ·) (· < ·) (phase h'.pc) (phase h.pc) →
      ∃ l s', l.progress = true ∧ step c s l = some s' ∧ Toward k s' ∧
        WellFoundedRelation.rel (variant k s') (variant k s) :=
    fun h' hl e hn hh' hns' hla hph =>
      ⟨_, _, hl, e, ⟨wf_step w e, clean_step cl e, hn ▸ hk, h', hh', hns', .inl (hla ▸ hlt)⟩,
        by simp only [variant, hh, hh', hla]; exact .right _ hph⟩
  cases hpc : h.pc with
  | atFetch =>
    have hm : h.last < min (h.last + c.ps) s.nLogs := by omega
    have e : step c s (.fetch true) = some { s with handler := some { h with
        pc := enterExport c h.last (min (h.last + c.ps) s.nLogs) (decide (h.last + c.ps < s.nLogs)) } } := by
      simp [step, hh, hpc, hns, hm, atSelect]
    exact stay _ rfl e rfl rfl hns rfl (by rw [hpc]; exact .left _ _ (by decide))
  | idle =>
    have e : step c s .tick = some { s with handler := some { h with pc := .atFetch } } := by
      simp only [step, hh, hpc]
    exact stay _ rfl e rfl rfl hns rfl (by rw [hpc]; exact .left _ _ (by decide))
  | fetchErr =>
    have e : step c s .tick =
        some { s with handler := some { h with pc := if h.zero then .atFetch else .idle } } := by
      simp only [step, hh, hpc]
    exact stay _ rfl e rfl rfl hns rfl (by rw [hpc]; cases h.zero <;> exact .left _ _ (by decide))
  | sending m =>
    cases hcur : s.cur with
    | none => exact absurd hcur (w.sendingBusy h m hh hpc)
    | some v =>
      obtain ⟨S, hn, e⟩ : ∃ S : State, S.nLogs = s.nLogs ∧
          step c s (.persist s.orphans.length true false) = some (afterSend c S h m false) := by
        simp only [step, Nat.lt_irrefl, dite_false, if_true, hcur, hh, hpc]
        exact ⟨_, by simp, rfl⟩
      obtain ⟨pc, z, q', kc⟩ := afterSend_cont (c := c) (s := S) (h := h) (more := m) (coin := false)
      rw [kc.run hns] at e
      exact stay _ rfl e hn rfl hns rfl (by rcases q' with rfl | rfl <;> rw [hpc] <;> exact .left _ _ (by decide))
  | retry lo hi m =>
    have e : step c s .tick = some { s with handler := some { h with pc := enterExport c lo hi m } } := by
      simp only [step, hh, hpc]
    exact stay _ rfl e rfl rfl hns rfl (by rw [hpc]; exact .left _ _ (by decide))
  | exporting lo hi m pos bad gate =>
    have hok := w.pcOk h hh
    simp only [PcOk, hpc] at hok
    cases gate with
    | false =>
      have e : step c s .tick =
          some { s with handler := some { h with pc := .exporting lo hi m pos bad true } } := by
        simp only [step, hh, hpc]
      exact stay _ rfl e rfl rfl hns rfl (by rw [hpc]; cases bad <;> exact .right _ (Nat.lt_succ_self _))
    | true =>
      have hb := chunkEnd_bounds (c := c) hok.2.2.2.2
      by_cases hlt' : chunkEnd c pos hi < hi
      · have e : step c s (.accept .ok) = some { exporterCall s pos (chunkEnd c pos hi) .ok with
            handler := some { h with
              pc := .exporting lo hi m (chunkEnd c pos hi) bad (chunkFull c (chunkEnd c pos hi) hi) } } := by
          simp [step, hh, hpc, hlt', AcceptRes.isOk]
        exact stay _ rfl e (exporterCall_nLogs ..) rfl hns rfl
          (by rw [hpc]; cases bad <;> exact .right _ (phase_chunk _ hb.1 hb.2))
      · cases bad with
        | true =>
          have e : step c s (.accept .ok) = some { exporterCall s pos (chunkEnd c pos hi) .ok with
              handler := some { h with pc := .retry lo hi m } } := by
            simp [step, hh, hpc, hlt', atSelect, hns]
          exact stay _ rfl e (exporterCall_nLogs ..) rfl hns rfl (by rw [hpc]; exact .left _ _ (by decide))
        | false =>
          -- the cursor moves to the end of the page: `cursor_advance_acked` says what it passed
          have e : step c s (.accept .ok) =
              some (exportDone c (exporterCall s pos (chunkEnd c pos hi) .ok) h hi m) := by
            simp [step, hh, hpc, hlt', AcceptRes.isOk]
          obtain ⟨pc, z, _, _, _, _, kc⟩ := exportDone_cont (c := c)
            (s := exporterCall s pos (chunkEnd c pos hi) .ok) (h := h) (hi := hi) (more := m)
          have ed := kc.run hns
          have hacked := cursor_advance_acked w cl e hh (congrArg State.handler ed) (h' := { h with last := hi, pc := pc, zero := z })
            (show h.last < hi by omega)
          refine ⟨_, _, rfl, e, ⟨wf_step w e, clean_step cl e, ?_, _, congrArg State.handler ed, hns, ?_⟩, ?_⟩
          · rw [ed]; exact (exporterCall_nLogs ..).symm ▸ hk
          · by_cases hkh : k ≤ hi
            · exact .inr (hacked k hlt hkh)
            · exact .inl (show hi < k by omega)
          · simp only [variant, hh, ed]; exact .left _ _ (show k - hi < k - h.last by omega)

/-- **Progress from the cursor**, by the variant argument. -/
theorem deliver_beyond_cursor (hps : 1 ≤ c.ps) {k : Nat} (w : WF s)
    (cl : Clean s) (hh : s.handler = some h) (hns : h.stopReq = false) (h1 : h.last < k) (h2 : k ≤ s.nLogs) :
    ∃ s', Steps c Label.progress s s' ∧ Acked s' k :=
  steps_of_variant (variant k) (toward_next hps) s ⟨w, cl, h2, h, hh, hns, .inl h1⟩

theorem progress_recovery (l : Label) (h : l.progress = true) : l.recovery = true := by
  cases l <;> first | rfl | exact h

def Runs (s : State) : Prop := ∃ h, s.handler = some h ∧ h.stopReq = false

/-- the handler goroutine is gone, or a reset has started the next one already -/
theorem exit_result (c : Cfg) (s : State) :
    (exitHandler c s).nLogs = s.nLogs ∧ (exitHandler c s).created = s.created ∧
    ((exitHandler c s).handler = none ∨ Runs (exitHandler c s)) := by
  have fin : ∀ {s : State}, s.handler = none → (finishOp s).nLogs = s.nLogs ∧ (finishOp s).created = s.created ∧
      ((finishOp s).handler = none ∨ Runs (finishOp s)) := by
    intro s hn
    unfold finishOp
    split <;> first | exact ⟨rfl, rfl, .inl hn⟩ | exact ⟨rfl, rfl, .inr ⟨_, rfl, rfl⟩⟩
  unfold exitHandler
  split
  · exact fin rfl
  · split <;> exact fin rfl

theorem steps_stop_completes (w : WF s) (hh : s.handler = some h) (hst : h.stopReq = true) :
    ∃ s', Steps c Label.progress s s' ∧ s'.nLogs = s.nLogs ∧ s'.created = s.created ∧
      (s'.handler = none ∨ Runs s') := by
  rcases (w.stopPending h hh hst).2 with hpc | ⟨m, hpc⟩
  · have e : step c s (.fetch true) = some (exitHandler c s) := by
      simp [step, hh, hpc, atSelect, hst]
    exact ⟨_, Steps.single _ rfl e, exit_result c s⟩
  · cases hcur : s.cur with
    | none => exact absurd hcur (w.sendingBusy h m hh hpc)
    | some v =>
      obtain ⟨S, hS, e⟩ : ∃ S : State, (S.nLogs = s.nLogs ∧ S.created = s.created) ∧
          step c s (.persist s.orphans.length true true) = some (exitHandler c S) := by
        refine ⟨{ write true v { s with cur := none } with cur := some h.last }, ⟨by simp, by simp⟩, ?_⟩
        cases m <;> simp [step, hh, hpc, hcur, afterSend, atSelect, hst]
      have hx := exit_result c S
      rw [hS.1, hS.2] at hx
      exact ⟨_, .single _ rfl e, hx⟩

/-- a stopped pipeline / manager is brought back by `sync` / manager start -/
theorem steps_restart (w : WF s) (hn : s.handler = none) (hc : s.created = true) :
    ∃ s', Steps c Label.recovery s s' ∧ s'.nLogs = s.nLogs ∧ Runs s' := by
  have hp := w.pending_none hn
  cases hm : s.mgrUp with
  | true =>
    exact ⟨startHandler s s.persisted, .single .sync rfl (by simp [step, opsOpen, hm, hp, hc, hn]), rfl, _, rfl, rfl⟩
  | false =>
    exact ⟨startHandler { s with mgrUp := true } s.persisted, .single .mgrStart rfl (by simp [step, hm, hp, hc]),
      rfl, _, rfl, rfl⟩

theorem steps_to_running (w : WF s) (hc : s.created = true) :
    ∃ s', Steps c Label.recovery s s' ∧ s'.nLogs = s.nLogs ∧ Runs s' := by
  cases hh : s.handler with
  | none => exact steps_restart w hh hc
  | some h =>
    cases hst : h.stopReq with
    | false => exact ⟨s, .refl s, rfl, h, hh, hst⟩
    | true =>
      obtain ⟨s1, st, hn, hcr, hnone | hrun⟩ := steps_stop_completes (c := c) w hh hst
      · obtain ⟨s2, st2, hn2, p⟩ := steps_restart (c := c) (st.wf w) hnone (hcr ▸ hc)
        exact ⟨s2, (st.mono progress_recovery).trans st2, hn2.trans hn, p⟩
      · exact ⟨s1, st.mono progress_recovery, hn, hrun⟩

end Ledger.Repl
