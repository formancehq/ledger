import Ledger.Proofs.SqlAcMetaDrain
import Ledger.Proofs.SqlAccountsSpec
import Ledger.Proofs.SqlTrigSched

/-!
# `UpsertAccounts` with ACCOUNT_METADATA_HISTORY = SYNC

`accounts` carries, for the ledger, the AFTER UPDATE ROW trigger `update_account_metadata_history` and the AFTER INSERT ROW trigger
`insert_account_metadata_history` (other ledgers' triggers are skipped by their WHEN clause). The statement of `SqlAccountsStmt.lean`
queues one trigger per updated and per inserted row; they are drained at the end of the statement, in queue order (updates first),
each as a nested command appending a revision to `accounts_metadata` (`SqlAcMetaDrain.lean`).
-/
open Ledger Ledger.Sql Ledger.Generated Ledger.Core
namespace Ledger.Sql

/-- the WHEN clause `new.ledger = '<name>'` on a written row of ledger `ln`; `hof`: no `UPDATE OF` column list stands before it -/
theorem exec_triggerApplies_ledgerIs (n : Nat) (t : Table) (tr : TriggerDef) (setCols : List String) (nv : List Value)
    (old : Option (List Value)) (s : St) (name ln : String) (hof : tr.event = .insert ∨ tr.ofCols = [])
    (hw : tr.when_ = some (ledgerIs name)) (hl : lookupIn t.colNames nv "ledger" = some (.text ln)) :
    (triggerApplies (n + 1) t tr setCols (some nv) old).exec s = (.ok (decide (ln = name)), s) := by
  rw [triggerApplies]
  have hin : ∀ olds : List Scope, (withSearchPath (schemaOf t.name) (evalExpr (cbs n) s.w.types
      { outer := ({ alias := "new", cols := t.colNames, vals := nv } : Scope) :: olds } (ledgerIs name))).exec s =
      (.ok (.bool (decide (ln = name))), s) := by
    intro olds
    have hlk : lookupColumn { outer := ({ alias := "new", cols := t.colNames, vals := nv } : Scope) :: olds } "new" "ledger" = .ok (.text ln) :=
      lookupColumn_alias _ "new" "ledger" { alias := "new", cols := t.colNames, vals := nv } _ rfl (by rw [lastComponent_new]; rfl) hl
    have hpv : pv s.w.types { outer := ({ alias := "new", cols := t.colNames, vals := nv } : Scope) :: olds } (ledgerIs name) =
        .ok (.bool (decide (ln = name))) := by
      simp only [ledgerIs, pv, hlk, binV_ok, evalBinop_eq_text, ne_eq, reduceCtorEq, not_false_eq_true]
    have := exec_withSearchPath (schemaOf t.name) _ s _ _ (Evals.of_pv (cb := cbs n) _ hpv (s.withSP (schemaOf t.name)))
    rwa [withSP_withSP_self] at this
  have hskip : (tr.event == .update && !tr.ofCols.isEmpty && !(tr.ofCols.any setCols.contains)) = false := by
    rcases hof with h | h <;> simp [h]
  simp only [hskip, Bool.false_eq_true, if_false, hw, exec_bind, exec_typeEnv, List.cons_append, List.nil_append, hin, truth_bool,
    exec_liftR_ok, exec_pure]
  cases decide (ln = name) <;> rfl

/-- a per-ledger UPDATE trigger that is not for ledger `ln` -/
def OtherLedgerTrigU (ln : String) (x : TriggerDef) : Prop :=
  ∃ name, x.ofCols = [] ∧ x.when_ = some (ledgerIs name) ∧ name ≠ ln

theorem exec_triggerApplies_otherU (n : Nat) (t : Table) (setCols : List String) (nv ov : List Value) (ln : String)
    (hl : lookupIn t.colNames nv "ledger" = some (.text ln)) (s : St) (x : TriggerDef) (h : OtherLedgerTrigU ln x) :
    (triggerApplies (n + 1) t x setCols (some nv) (some ov)).exec s = (.ok false, s) := by
  obtain ⟨name, h1, h2, h3⟩ := h
  rw [exec_triggerApplies_ledgerIs n t x setCols nv (some ov) s name ln (.inr h1) h2 hl, decide_eq_false (fun e => h3 e.symm)]

/-- the queued triggers of the updated rows, in scan order -/
def acUpdItems (l : String) (ds : List DbR) (ts : List Ver) : List AmItem :=
  ts.filterMap (fun r =>
    match acDec r.vals with
    | some a => if (ds.find? (updCond l a)).isSome then some { upd := true, a := updOf l ds a, old := some a } else none
    | none => none)

/-- the queued triggers of the inserted rows -/
def acInsItems (l : String) (D : List DbR) : List AmItem := D.map (fun d => { upd := false, a := insRow l d, old := none })

def pendU (b fU l : String) (ds : List DbR) (r : Ver) : List PendingTrig :=
  [{ fname := fU, table := acFull b, new := some (acUpdF l ds r.vals), old := some r.vals }]

def pendI (b fI : String) (a : AcR) : List PendingTrig := [{ fname := fI, table := acFull b, new := some a.vals, old := none }]

theorem updQ_items (b fI fU l : String) (ds : List DbR) : ∀ (ts : List Ver), (∀ r ∈ ts, ∃ a : AcR, r.vals = a.vals) →
    updQ (fun v => (acMatch l ds v).isSome) (pendU b fU l ds) ts = (acUpdItems l ds ts).map (amPending b fI fU) := by
  intro ts
  induction ts with
  | nil => intro _; rfl
  | cons r rest ih =>
    intro h
    obtain ⟨a, ha⟩ := h r List.mem_cons_self
    have ih' := ih (fun x hx => h x (List.mem_cons_of_mem _ hx))
    unfold updQ at ih' ⊢
    rw [List.flatMap_cons, ih', ha]
    simp only [isSome_acMatch, acUpdItems, List.filterMap_cons, ha, acDec_vals]
    cases (ds.find? (updCond l a)).isSome with
    | false => rfl
    | true => simp only [if_true, List.map_cons, pendU, amPending, ha, acUpdF_vals]; rfl

theorem acInsQ_items (b fI fU l : String) (D : List DbR) : acInsQ l (pendI b fI) D = (acInsItems l D).map (amPending b fI fU) := by
  induction D with
  | nil => rfl
  | cons d rest ih =>
    simp only [acInsQ, List.flatMap_cons, acInsItems, List.map_cons] at ih ⊢
    rw [ih]
    rfl

/-- the hypotheses on the state in which `UpsertAccounts` runs, ACCOUNT_METADATA_HISTORY on -/
structure UpsertStateH (s : St) (b l : String) (trigs : List TriggerDef) (nr : Nat) (rows : List Ver)
    (AU1 AU2 : List TriggerDef) (trU : TriggerDef) (AI1 AI2 : List TriggerDef) (trI : TriggerDef) (fnI fnU : PlFunc)
    (nrH : Nat) (rowsH : List Ver) (sqH : Seq) (tblH : List AmR) : Prop where
  tbl : AcTblState s b trigs nr rows
  q0 : s.afterQ = []
  noInsB : trigs.filter (fun tr => tr.timing == .before && tr.event == .insert) = []
  sortedU : sortTriggers (trigs.filter (fun x => x.timing == .after && x.event == .update)) = AU1 ++ trU :: AU2
  othersU1 : ∀ x ∈ AU1, OtherLedgerTrigU l x
  othersU2 : ∀ x ∈ AU2, OtherLedgerTrigU l x
  ofU : trU.ofCols = []
  whenU : trU.when_ = some (ledgerIs l)
  sortedI : sortTriggers (trigs.filter (fun x => x.timing == .after && x.event == .insert)) = AI1 ++ trI :: AI2
  othersI1 : ∀ x ∈ AI1, OtherLedgerTrig l x
  othersI2 : ∀ x ∈ AI2, OtherLedgerTrig l x
  evI : trI.event = .insert
  whenI : trI.when_ = some (ledgerIs l)
  stat : AmStatic s.w.funcs b trI.fname trU.fname fnI fnU
  hist : AmState s b nrH rowsH sqH
  histView : AmView (latestView s.w s.xid) rowsH tblH
  histFresh : Fresh s.xid s.nextCid rowsH

end Ledger.Sql

namespace Ledger.Sql
open Ledger.Generated.WriteSql
open Ledger.Generated.WriteSql.P (AccountRow)

/-- **`UpsertAccounts`, metadata history on** -/
theorem exec_runStmt_upsertAccounts_hist (k : Nat) (env : Env) (b l : String) (id : Nat) (trigs : List TriggerDef) (nr : Nat) (rows : List Ver)
    (AU1 AU2 : List TriggerDef) (trU : TriggerDef) (AI1 AI2 : List TriggerDef) (trI : TriggerDef) (fnI fnU : PlFunc)
    (nrH : Nat) (rowsH : List Ver) (sqH : Seq) (tblH : List AmR)
    (s : St) (hst : UpsertStateH s b l trigs nr rows AU1 AU2 trU AI1 AI2 trI fnI fnU nrH rowsH sqH tblH) (henv : env.ctes = [])
    (pm : List (AccountRow × DbR)) (hlits : ∀ x ∈ pm, DbLit s.w.types x.1 x.2) (hnd : ((pm.map (·.2)).map (·.address)).Nodup)
    (items : List AmItem)
    (hitems : items = acUpdItems l (pm.map (·.2)) ((rows.filter (fun r => r.visible (latestView s.w s.xid))).reverse) ++
      acInsItems l ((pm.map (·.2)).filter (fun d => !(exAddrs b l trigs nr rows (cv s) (pm.map (·.2))).contains d.address)))
    (hnc : s.nextCid + 2 * items.length ≤ 1000000000) (hrange : sqH.next + items.length ≤ 9223372036854775807) :
    ∃ res : DmlResult,
      ((P.upsertAccounts b l id (pm.map (·.1))).mapM (runStmt (k + 19) env)).exec s =
        (.ok [res],
         amDrainSt b s.xid
           (s.withTable ((acT b trigs (nr + ((pm.map (·.2)).filter (fun d => !(exAddrs b l trigs nr rows (cv s) (pm.map (·.2))).contains d.address)).length)).withRows
             (acInsRows s.xid s.cid l nr (acUpdRows (latestView s.w s.xid) s.xid s.cid l (pm.map (·.2)) rows)
               ((pm.map (·.2)).filter (fun d => !(exAddrs b l trigs nr rows (cv s) (pm.map (·.2))).contains d.address)))))
           nrH sqH.next rowsH tblH items) := by
  have htb := hst.tbl
  refine exec_runStmt_upsertAccounts_gen k env b l id trigs nr rows s htb hst.q0 hst.noInsB
    (pendU b trU.fname l (pm.map (·.2))) (pendI b trI.fname) pm
    (by
      intro r a hv hm m rows' s'
      -- the new row is `updOf … a`, of the ledger of `a`, which the matching batch row (`updCond`) says is `l`
      obtain ⟨d, hf⟩ := Option.isSome_iff_exists.mp ((isSome_acMatch l _ a).symm.trans (hv ▸ hm))
      have hal : (updOf l (pm.map (·.2)) a).ledger = l := by
        have := List.find?_some hf
        simp only [updCond, Bool.and_eq_true, decide_eq_true_eq] at this
        exact (updOf_key l _ a).1.trans this.1.2
      have hl : lookupIn ((acT b trigs nr).withRows rows').colNames (acUpdF l (pm.map (·.2)) r.vals) "ledger" = some (.text l) := by
        rw [hv, acUpdF_vals]; exact (AcR.ledger_col _).trans (by rw [hal])
      exact exec_queueAfter_single _ ((acT b trigs nr).withRows rows') .update _ (some _) (some r.vals) s' AU1 AU2 trU hst.sortedU
        (fun x hx s => exec_triggerApplies_otherU (m + 1) _ _ _ r.vals l hl s x (hst.othersU1 x hx))
        (fun x hx s => exec_triggerApplies_otherU (m + 1) _ _ _ r.vals l hl s x (hst.othersU2 x hx))
        (by rw [exec_triggerApplies_ledgerIs (m + 1) _ trU _ _ (some r.vals) s' l l (.inr hst.ofU) hst.whenU hl, decide_eq_true rfl]))
    (by
      intro nr' rows' a s' hal
      have hl : lookupIn ((acT b trigs nr').withRows rows').colNames a.vals "ledger" = some (.text l) :=
        (AcR.ledger_col a).trans (by rw [hal])
      exact exec_queueAfter_one (k + 7) ((acT b trigs nr').withRows rows') a.vals l s' AI1 AI2 trI hst.sortedI hst.othersI1 hst.othersI2
        hst.evI hst.whenI hl)
    hlits hnd _ ((amDrainSt_afterQ b s.xid items _ nrH sqH.next rowsH tblH).trans hst.q0) ?_
  rw [updQ_items b trI.fname trU.fname l (pm.map (·.2)) _ (by
      intro r hr
      exact htb.inv.typed r (List.mem_filter.mp (List.mem_reverse.mp hr)).1),
    acInsQ_items b trI.fname trU.fname, ← List.map_append, ← hitems]
  -- the table the statement leaves is named before it is compared with itself
  obtain ⟨T4, hT4⟩ : ∃ T4 : Table, T4 = ((acT b trigs (nr + ((pm.map (·.2)).filter (fun d => !(exAddrs b l trigs nr rows (cv s) (pm.map (·.2))).contains d.address)).length)).withRows
      (acInsRows s.xid s.cid l nr (acUpdRows (latestView s.w s.xid) s.xid s.cid l (pm.map (·.2)) rows)
        ((pm.map (·.2)).filter (fun d => !(exAddrs b l trigs nr rows (cv s) (pm.map (·.2))).contains d.address)))) := ⟨_, rfl⟩
  rw [← hT4]
  have hn : T4.name = acFull b := by rw [hT4]; rfl
  exact exec_drainFold_am (k + 3) b trI.fname trU.fname fnI fnU items (s.withTable T4) nrH rowsH sqH tblH
    (htb.tx.withTable _) hst.stat hnc ⟨T4, hn ▸ withTable_table? s _ T4 (hn ▸ htb.table), by rw [hT4]; rfl⟩
    ⟨(withTable_table?_ne s _ (amFull b) (by rw [hn]; exact bucket_ne b (by simp))).trans hst.hist.table, hst.hist.seq, hst.hist.all,
      hst.hist.lo, hst.hist.hi⟩
    hrange hst.histView hst.histFresh

end Ledger.Sql
