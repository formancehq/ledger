import Ledger.Proofs.SqlInsertRow
import Ledger.Proofs.SqlLive
import Ledger.Proofs.SqlValues
import Ledger.Proofs.SqlText
import Ledger.Proofs.SqlPurePhases
import Ledger.Generated.Schema
import Ledger.Generated.WriteSql

/-!
# `UpdateVolumes` over LeanPG: the evaluator on `accounts_volumes`

One `VALUES` row of INSERT … ON CONFLICT DO UPDATE on the table `accounts_volumes` of `Ledger.Generated.Schema`, for any row
versions satisfying the storage invariants `AvInv`: what the evaluator does to the row versions (`exec_insertRowStep_av`, through
the paths of `insertRowStep` for any table, `Ledger/Proofs/SqlInsertGen.lean`, against the function `avStep`), and what that
means for the table read as a map from primary keys to volumes (`avStep_sem`: a function update of `avGet` that keeps `AvInv`;
the map interface is that of `Ledger/Proofs/SqlLive.lean`, put beside `avGet` / `AvInv` by `avGet_eq`, `AvInv.keyed`,
`AvInv.of_keyed`). The statement's own shape (column order, SET expressions, RETURNING list) enters only through `AvShape`,
which `Ledger/Proofs/SqlVolumesStmt.lean` establishes for the generated AST.
-/
open Ledger.Sql Ledger.Generated
open Ledger.Generated.WriteSql.P (VolumeRow)

namespace Ledger.Sql

/-- `accounts_volumes` of bucket `b` with the given row versions -/
def avT (b : String) (rows : List Ver) (nextRid : Nat) : Table :=
  { Schema.tbl_accounts_volumes with name := b ++ "." ++ "accounts_volumes", rows := rows, nextRid := nextRid }

def avCols : List String := ["accounts_address", "asset", "input", "output", "ledger"]

theorem exec_buildRow_av (n : Nat) (b : String) (rs : List Ver) (nr : Nat) (s : St) (l a c : String) (i o : Int) :
    (buildRow (n + 1) (avT b rs nr) avCols [some (.text a), some (.text c), some (.text (toString i)), some (.text (toString o)), some (.text l)]).exec s
      = (.ok [.text l, .text a, .text c, .int i, .int o], s) :=
  exec_buildRow_pure n (avT b rs nr) avCols _ s _ rfl rfl
    (.cast rfl (castTo_varchar_text _ l) (.cast rfl (castTo_varchar_text _ a) (.cast rfl (castTo_varchar_text _ c)
      (.cast rfl (castTo_numeric_text _ i) (.cast rfl (castTo_numeric_text _ o) .nil)))))

def avPkey : UniqueIdx := { name := "accounts_volumes_pkey", cols := ["ledger", "accounts_address", "asset"], pred := none, primary := true }

/-- does a row carry the key `(l, a, c)`? -/
def avKeyIs (l a c : String) : List Value → Bool
  | [.text l', .text a', .text c', _, _] => l' == l && a' == a && c' == c
  | _ => false

/-- all rows have the shape (varchar, varchar, varchar, numeric, numeric) -/
def AvTyped (rs : List Ver) : Prop :=
  ∀ r ∈ rs, ∃ l a c i o, r.vals = [.text l, .text a, .text c, .int i, .int o]

theorem sameGroupKey_text3 (l a c l' a' c' : String) :
    sameGroupKey [.text l', .text a', .text c'] [.text l, .text a, .text c] = .ok (l' == l && a' == a && c' == c) := by
  show _ = Except.ok (decide (l' = l) && decide (a' = a) && decide (c' = c))
  simp only [sameGroupKey, compareForSort_text, bind, Except.bind, cmpStr_eq]
  cases decide (l' = l) <;> cases decide (a' = a) <;> cases decide (c' = c) <;> rfl

theorem exec_keyMatches_av (b : String) (rs : List Ver) (nr : Nat) (l a c : String) (r : Ver) (s : St)
    (ht : ∃ l a c i o, r.vals = [.text l, .text a, .text c, .int i, .int o]) :
    (keyMatches (avT b rs nr) avPkey [.text l, .text a, .text c] r).exec s = (.ok (avKeyIs l a c r.vals), s) := by
  obtain ⟨l', a', c', i, o, hv⟩ := ht
  rw [hv]
  exact exec_keyMatches_noPred _ avPkey _ r s _ rfl (by rw [hv]; exact sameGroupKey_text3 l a c l' a' c')

/-- the rows `scanConflict` answers with: visible under `lv`, carrying the key, not the excluded row -/
def avHit (lv : View) (ex : Option Nat) (l a c : String) (r : Ver) : Bool :=
  !(some r.rid == ex) && (r.visible lv && avKeyIs l a c r.vals)

theorem exec_findConflict_av (b : String) (rs : List Ver) (nr : Nat) (l a c : String) (i o : Int) (ex : Option Nat)
    (s : St) (hsolo : ∀ x ∈ s.w.active, x = s.xid) (ht : AvTyped rs) :
    (findConflict (avT b rs nr) [avPkey] [.text l, .text a, .text c, .int i, .int o] ex).exec s =
      (.ok ((rs.find? (avHit (latestView s.w s.xid) ex l a c)).map (fun r => (avPkey, r))), s) :=
  exec_findConflict_single (avT b rs nr) avPkey _ ex s hsolo rfl rfl (fun r => avKeyIs l a c r.vals)
    (fun r hr _ _ => exec_keyMatches_av b rs nr l a c r s (ht r hr))

theorem uniques_av (b : String) (rs : List Ver) (nr : Nat) : (avT b rs nr).uniques = [avPkey] := rfl

theorem exec_checkConstraints_av (b : String) (rs : List Ver) (nr : Nat) (l a c : String) (i o : Int) (s : St) :
    (checkConstraints (avT b rs nr) [.text l, .text a, .text c, .int i, .int o]).exec s = (.ok (), s) :=
  exec_checkConstraints_of _ _ s rfl rfl

def avNew (xid cid rid : Nat) (l a c : String) (i o : Int) : Ver :=
  { rid := rid, xmin := xid, cmin := cid, vals := [.text l, .text a, .text c, .int i, .int o] }

def avVols : List Value → Int × Int
  | [_, _, _, .int i, .int o] => (i, o)
  | _ => (0, 0)

/-- The effect of one `VALUES` row `(l, a, c, i, o)` of `UpdateVolumes` on the row versions
    of `accounts_volumes` (and its row-id counter), and the RETURNING values. -/
def avStep (lv : View) (xid cid : Nat) (l a c : String) (i o : Int) (st : List Ver × Nat) : (List Ver × Nat) × (Int × Int) :=
  match st.1.find? (avHit lv none l a c) with
  | some ex =>
    ((avNew xid cid ex.rid l a c ((avVols ex.vals).1 + i) ((avVols ex.vals).2 + o) ::
        (st.1.map (lockRow lv xid cid ex.rid)).map (closeRow lv xid cid ex.rid), st.2),
     ((avVols ex.vals).1 + i, (avVols ex.vals).2 + o))
  | none => ((avNew xid cid st.2 l a c i o :: st.1, st.2 + 1), (i, o))

def avFull (b : String) : String := b ++ "." ++ "accounts_volumes"

theorem avT_name (b : String) (rs : List Ver) (nr : Nat) : (avT b rs nr).name = avFull b := rfl

/-- the scopes `ON CONFLICT DO UPDATE` evaluates its SET list in -/
def avConflictEnv (env : Env) (a : String) (b : String) (rs : List Ver) (nr : Nat) (old row : List Value) : Env :=
  { env with locals := [{ alias := a, cols := (avT b rs nr).colNames, vals := old },
                        { alias := "excluded", cols := (avT b rs nr).colNames, vals := row }] }

def avReturning : List SelItem := [SelItem.expr (Expr.col "" "input") "", SelItem.expr (Expr.col "" "output") ""]

theorem exec_accReturning_av (m : Nat) (env : Env) (b alias : String) (acc : DmlAcc)
    (l a c : String) (x y : Int) (rs : List Ver) (nr : Nat) (s : St) :
    (accReturning (m + 2) env (avT b rs nr) alias [.text l, .text a, .text c, .int x, .int y] [] avReturning acc).exec s =
      (.ok { retCols := ["input", "output"], retRows := acc.retRows ++ [[.int x, .int y]], affected := acc.affected + 1 }, s) :=
  exec_accReturning_cols m env _ alias _ ["input", "output"] [.int x, .int y] acc s rfl rfl

theorem AvTyped_map (rs : List Ver) (f : Ver → Ver) (hf : ∀ r, (f r).vals = r.vals) (ht : AvTyped rs) : AvTyped (rs.map f) := by
  intro r hr
  obtain ⟨r0, hr0, rfl⟩ := List.mem_map.mp hr
  rw [hf]; exact ht r0 hr0

theorem AvTyped_cons (rs : List Ver) (xid cid rid : Nat) (l a c : String) (i o : Int) (ht : AvTyped rs) :
    AvTyped (avNew xid cid rid l a c i o :: rs) := by
  intro r hr
  rcases List.mem_cons.mp hr with rfl | h
  · exact ⟨l, a, c, i, o, rfl⟩
  · exact ht r h

theorem vals_of_keyIs (r : Ver) (l a c : String) (ht : ∃ l a c i o, r.vals = [.text l, .text a, .text c, .int i, .int o])
    (hk : avKeyIs l a c r.vals = true) : ∃ i o, r.vals = [.text l, .text a, .text c, .int i, .int o] := by
  obtain ⟨l', a', c', i, o, hv⟩ := ht
  rw [hv] at hk
  simp [avKeyIs] at hk
  obtain ⟨⟨h1, h2⟩, h3⟩ := hk
  subst h1 h2 h3
  exact ⟨i, o, hv⟩

theorem avT_inserted (b : String) (rs : List Ver) (nr xid cid : Nat) (l a c : String) (i o : Int) :
    (avT b rs nr).inserted xid cid [.text l, .text a, .text c, .int i, .int o] = avT b (avNew xid cid nr l a c i o :: rs) (nr + 1) := rfl

theorem avT_withRows (b : String) (rs rs' : List Ver) (nr : Nat) : (avT b rs nr).withRows rs' = avT b rs' nr := rfl

theorem withTable_av_table? (s : St) (b : String) (rs rs' : List Ver) (nr nr' : Nat) (hT : s.w.table? (avFull b) = some (avT b rs nr)) :
    (s.withTable (avT b rs' nr')).w.table? (avFull b) = some (avT b rs' nr') :=
  withTable_table? s (avT b rs nr) (avT b rs' nr') hT

theorem withTable_withTable_av (s : St) (b : String) (rs rs' : List Ver) (nr nr' : Nat) :
    (s.withTable (avT b rs nr)).withTable (avT b rs' nr') = s.withTable (avT b rs' nr') :=
  withTable_withTable s _ _ rfl

theorem exec_insertRowStep_av (n : Nat) (env : Env) (b table alias : String) (tcols : List String)
    (target : List String) (tw : Option Expr) (cn : String) (sets : List SetItem) (returning : List SelItem)
    (sr : List (Option Value)) (acc : DmlAcc)
    (l a c : String) (i o : Int) (rs : List Ver) (nr : Nat) (s : St)
    (hT : s.w.table? (avFull b) = some (avT b rs nr))
    (hsolo : ∀ x ∈ s.w.active, x = s.xid) (ht : AvTyped rs)
    (hrow : ∀ m rs nr s, (buildRow (m + 1) (avT b rs nr) tcols sr).exec s = (.ok [.text l, .text a, .text c, .int i, .int o], s))
    (harb : ∀ rs nr s, (arbiterIndexes (avT b rs nr) target).exec s = (.ok [avPkey], s))
    (hsets : ∀ m rs nr s i0 o0,
      (applySets (m + 1) (avConflictEnv env (if alias.isEmpty then table else alias) b rs nr
          [.text l, .text a, .text c, .int i0, .int o0] [.text l, .text a, .text c, .int i, .int o])
          (avT b rs nr) [.text l, .text a, .text c, .int i0, .int o0] sets).exec s =
        (.ok [.text l, .text a, .text c, .int (i0 + i), .int (o0 + o)], s))
    (hret : returning = avReturning)
    (hnot2 : ∀ r ∈ rs, avHit (latestView s.w s.xid) none l a c r = true → ¬(r.xmin = s.xid ∧ r.cmin = s.cid))
    (huniq : ∀ r1 ∈ rs, ∀ r2 ∈ rs, avHit (latestView s.w s.xid) none l a c r1 = true → avHit (latestView s.w s.xid) none l a c r2 = true → r1.rid = r2.rid) :
    (insertRowStep (n + 4) env (avFull b) table alias tcols (some (.mk target tw cn (.update sets none))) returning sr acc).exec s =
      (let r := avStep (latestView s.w s.xid) s.xid s.cid l a c i o (rs, nr)
       (.ok { retCols := ["input", "output"], retRows := acc.retRows ++ [[.int r.2.1, .int r.2.2]], affected := acc.affected + 1 },
        s.withTable (avT b r.1.1 r.1.2))) := by
  subst hret
  have hfc := exec_findConflict_av b rs nr l a c i o none s hsolo ht
  have hck := exec_checkConstraints_av b rs nr l a c i o s
  cases hf : rs.find? (avHit (latestView s.w s.xid) none l a c) with
  | none =>
    rw [hf] at hfc
    rw [exec_insertRowStep_new (n + 2) env (avFull b) table alias tcols avReturning sr acc (avT b rs nr) _ s _ hT rfl (hrow _ _ _ _) rfl rfl hck
      (fun _ _ _ _ e => by cases e; exact ⟨_, harb _ _ _, hfc⟩) hfc (exec_checkForeignKeys_nil _ _ _ rfl),
      avT_inserted, exec_accReturning_av _ env b alias acc l a c i o]
    simp only [avStep, hf]
  | some ex =>
    rw [hf] at hfc
    have hmem : ex ∈ rs := List.mem_of_find?_eq_some hf
    have hhit : avHit (latestView s.w s.xid) none l a c ex = true := List.find?_some hf
    have hhit' := hhit
    simp only [avHit, Bool.and_eq_true] at hhit'
    obtain ⟨i0, o0, hv⟩ := vals_of_keyIs ex l a c (ht ex hmem) hhit'.2.2
    -- after the row lock no other version carries the key
    have hnone : (rs.map (lockRow (latestView s.w s.xid) s.xid s.cid ex.rid)).find? (avHit (latestView s.w s.xid) (some ex.rid) l a c) = none := by
      rw [List.find?_eq_none]
      intro x hx
      obtain ⟨r0, hr0, rfl⟩ := List.mem_map.mp hx
      simp only [avHit, lockRow_rid, lockRow_visible, lockRow_vals]
      by_cases hh : avHit (latestView s.w s.xid) none l a c r0 = true
      · simp [huniq r0 hr0 ex hmem hh hhit]
      · simp only [avHit] at hh
        have hh' : (r0.visible (latestView s.w s.xid) && avKeyIs l a c r0.vals) = false := by simpa using hh
        simp [hh']
    have hfc2 := exec_findConflict_av b (rs.map (lockRow (latestView s.w s.xid) s.xid s.cid ex.rid)) nr l a c (i0 + i) (o0 + o) (some ex.rid)
      (s.withTable (avT b (rs.map (lockRow (latestView s.w s.xid) s.xid s.cid ex.rid)) nr)) hsolo (AvTyped_map rs _ (by simp) ht)
    simp only [withTable_latestView, withTable_xid, hnone, Option.map_none] at hfc2
    rw [exec_insertRowStep_hit (n + 2) env (avFull b) table alias tcols avReturning sr acc (avT b rs nr) _ s target tw cn _ _ _ ex hT
      (hrow _ _ _ _) rfl hck (harb _ _ _) hfc]
    show (conflictUpdate _ _ _ _ _ _ _ _ _ _ _ _).exec s = _
    rw [exec_conflictUpdate_gen (n + 1) env (avFull b) table alias avReturning acc (avT b rs nr) _ s ex sets
      [.text l, .text a, .text c, .int (i0 + i), .int (o0 + o)] hT rfl hsolo (hnot2 ex hmem hhit) rfl rfl
      (fun s' => by rw [hv]; exact hsets _ _ _ s' i0 o0) (fun _ _ => exec_checkConstraints_av ..) hfc2 rfl,
      avT_withRows, exec_accReturning_av _ env b alias acc l a c]
    simp only [avStep, hf, hv, avVols]
    rfl

theorem avHit_none (lv : View) (l a c : String) (r : Ver) :
    avHit lv none l a c r = (r.visible lv && avKeyIs l a c r.vals) := by
  simp [avHit]

/-- storage invariants of `accounts_volumes` as seen by the running transaction:
    well-typed rows, row ids below the counter, and among the visible versions
    "same row id" coincides with "same primary key" -/
structure AvInv (lv : View) (rs : List Ver) (nr : Nat) : Prop where
  typed : AvTyped rs
  ridLt : ∀ r ∈ rs, r.rid < nr
  inj : ∀ r1 ∈ rs, ∀ r2 ∈ rs, r1.visible lv = true → r2.visible lv = true →
    (r1.rid = r2.rid ↔ r1.vals.take 3 = r2.vals.take 3)

/-- rows written by the running command carry a key of `done` -/
def AvDone (xid cid : Nat) (l : String) (rs : List Ver) (done : List (String × String)) : Prop :=
  ∀ r ∈ rs, r.xmin = xid → r.cmin = cid → ∃ k ∈ done, avKeyIs l k.1 k.2 r.vals = true

/-- the volumes the running transaction sees for a key -/
def avGet (lv : View) (rs : List Ver) (l a c : String) : Option (Int × Int) :=
  (rs.find? (avHit lv none l a c)).map (fun r => avVols r.vals)

theorem avKeyIs_new (l a c l' a' c' : String) (i o : Int) :
    avKeyIs l' a' c' [.text l, .text a, .text c, .int i, .int o] = (l == l' && a == a' && c == c') := rfl

theorem avVols_new (xid cid rid : Nat) (l a c : String) (i o : Int) : avVols (avNew xid cid rid l a c i o).vals = (i, o) := rfl

/-! ### the table as a map from primary keys to rows (`get` / `Keyed` of `Ledger/Proofs/SqlLive.lean`) -/

/-- the primary key of a row of `accounts_volumes` -/
def avKey : List Value → Option (String × String × String)
  | [.text l, .text a, .text c, _, _] => some (l, a, c)
  | _ => none

/-- as a key in the sense of `get`: it does not depend on the row id -/
abbrev avK : Nat → List Value → Option (String × String × String) := fun _ v => avKey v

theorem avKeyIs_eq (l a c : String) (v : List Value) : avKeyIs l a c v = decide (avKey v = some (l, a, c)) := by
  unfold avKeyIs avKey
  split <;> simp [Bool.decide_and, Bool.and_assoc] <;> rfl

theorem avGet_eq (lv : View) (rs : List Ver) (l a c : String) :
    avGet lv rs l a c = (get avK lv rs (some (l, a, c))).map avVols := by
  unfold avGet get
  rw [show avHit lv none l a c = fun r => r.visible lv && decide (avKey r.vals = some (l, a, c)) from
    funext fun r => by simp [avHit, avKeyIs_eq], Option.map_map]
  rfl

theorem avKey_typed {v v' : List Value} (h : ∃ l a c i o, v = [.text l, .text a, .text c, .int i, .int o])
    (h' : ∃ l a c i o, v' = [.text l, .text a, .text c, .int i, .int o]) : v.take 3 = v'.take 3 ↔ avKey v = avKey v' := by
  obtain ⟨l, a, c, i, o, rfl⟩ := h
  obtain ⟨l', a', c', i', o', rfl⟩ := h'
  simp [avKey]

theorem AvInv.keyed {lv : View} {rs : List Ver} {nr : Nat} (h : AvInv lv rs nr) : Keyed avK lv rs :=
  ⟨fun r1 h1 r2 h2 v1 v2 => (h.inj r1 h1 r2 h2 v1 v2).trans (avKey_typed (h.typed r1 h1) (h.typed r2 h2))⟩

theorem AvInv.of_keyed {lv : View} {rs : List Ver} {nr : Nat} (ht : AvTyped rs) (hlt : RidLt rs nr) (h : Keyed avK lv rs) : AvInv lv rs nr :=
  ⟨ht, hlt, fun r1 h1 r2 h2 v1 v2 => (h.inj r1 h1 r2 h2 v1 v2).trans (avKey_typed (ht r1 h1) (ht r2 h2)).symm⟩

theorem AvInv.uniq {lv : View} {rs : List Ver} {nr : Nat} (h : AvInv lv rs nr) (l a c : String) :
    ∀ r1 ∈ rs, ∀ r2 ∈ rs, avHit lv none l a c r1 = true → avHit lv none l a c r2 = true → r1.rid = r2.rid := by
  intro r1 h1 r2 h2 e1 e2
  simp only [avHit_none, Bool.and_eq_true, avKeyIs_eq, decide_eq_true_eq] at e1 e2
  exact (h.keyed.inj r1 h1 r2 h2 e1.1 e2.1).mpr (e1.2.trans e2.2.symm)

theorem AvDone.not2 {xid cid : Nat} {l : String} {rs : List Ver} {done : List (String × String)} (h : AvDone xid cid l rs done)
    (lv : View) (a c : String) (hk : (a, c) ∉ done) :
    ∀ r ∈ rs, avHit lv none l a c r = true → ¬(r.xmin = xid ∧ r.cmin = cid) := by
  intro r hr e ⟨h1, h2⟩
  obtain ⟨⟨a', c'⟩, hkd, hkk⟩ := h r hr h1 h2
  simp only [avHit_none, Bool.and_eq_true, avKeyIs_eq, decide_eq_true_eq] at e hkk
  cases e.2.symm.trans hkk
  exact hk hkd

theorem avGet_none {lv : View} {rs : List Ver} {l a c : String} (h : rs.find? (avHit lv none l a c) = none) :
    get avK lv rs (some (l, a, c)) = none :=
  Option.map_eq_none_iff.mp ((avGet_eq lv rs l a c).symm.trans (congrArg (Option.map _) h))

section step
variable (w : World) (xid cid : Nat) (hx : xid ≠ 0) (hc : cid < 1000000000)
include hx hc

/-- a row for a key nobody carries: an insertion into the map -/
theorem av_ins_sem (l a c : String) (i o : Int) (rs : List Ver) (nr : Nat) (hinv : AvInv (latestView w xid) rs nr)
    (hf : rs.find? (avHit (latestView w xid) none l a c) = none) :
    AvInv (latestView w xid) (avNew xid cid nr l a c i o :: rs) (nr + 1) ∧
    ∀ l' a' c', avGet (latestView w xid) (avNew xid cid nr l a c i o :: rs) l' a' c' =
      if (l, a, c) = (l', a', c') then some (i, o) else avGet (latestView w xid) rs l' a' c' := by
  refine ⟨.of_keyed (AvTyped_cons rs xid cid nr l a c i o hinv.typed)
    (RidLt.cons hinv.ridLt _ (Nat.le_succ nr) (Nat.lt_succ_self nr)) (hinv.keyed.ins w xid cid hinv.ridLt _ (avGet_none hf)), fun l' a' c' => ?_⟩
  rw [avGet_eq, avGet_eq, show avNew xid cid nr l a c i o = newVer xid cid nr [.text l, .text a, .text c, .int i, .int o] from rfl,
    get_new w xid cid hx hc, show avK nr [.text l, .text a, .text c, .int i, .int o] = some (l, a, c) from rfl]
  by_cases e : (l, a, c) = (l', a', c')
  · rw [if_pos e, if_pos (congrArg some e)]; rfl
  · rw [if_neg e, if_neg (fun h => e (Option.some.inj h))]

/-- new values for the row that carries the key (locked first, as `ON CONFLICT DO UPDATE` does): a replacement -/
theorem av_upd_sem (l a c : String) (i o : Int) (rs : List Ver) (nr : Nat) (hinv : AvInv (latestView w xid) rs nr)
    (ex : Ver) (hf : rs.find? (avHit (latestView w xid) none l a c) = some ex) :
    AvInv (latestView w xid) (avNew xid cid ex.rid l a c i o ::
      (rs.map (lockRow (latestView w xid) xid cid ex.rid)).map (closeRow (latestView w xid) xid cid ex.rid)) nr ∧
    ∀ l' a' c', avGet (latestView w xid) (avNew xid cid ex.rid l a c i o ::
        (rs.map (lockRow (latestView w xid) xid cid ex.rid)).map (closeRow (latestView w xid) xid cid ex.rid)) l' a' c' =
      if (l, a, c) = (l', a', c') then some (i, o) else avGet (latestView w xid) rs l' a' c' := by
  have hmem : ex ∈ rs := List.mem_of_find?_eq_some hf
  have hhit : avHit (latestView w xid) none l a c ex = true := List.find?_some hf
  simp only [avHit_none, Bool.and_eq_true, avKeyIs_eq, decide_eq_true_eq] at hhit
  have hk := hinv.keyed.lock (latestView w xid) xid cid ex.rid
  have hex' : lockRow (latestView w xid) xid cid ex.rid ex ∈ rs.map (lockRow (latestView w xid) xid cid ex.rid) := List.mem_map_of_mem hmem
  have hkey : avKey [.text l, .text a, .text c, .int i, .int o] = avKey (lockRow (latestView w xid) xid cid ex.rid ex).vals := by
    rw [lockRow_vals, hhit.2]; rfl
  have hvis : (lockRow (latestView w xid) xid cid ex.rid ex).visible (latestView w xid) = true := by rw [lockRow_visible]; exact hhit.1
  have hupd := get_upd w xid cid hx hc hk _ hex' hvis _ hkey
  have hinv' := hk.upd w xid cid hx hc _ hex' hvis _ hkey
  simp only [lockRow_rid] at hupd hinv'
  refine ⟨.of_keyed (AvTyped_cons _ xid cid ex.rid l a c i o (AvTyped_map _ _ (by simp) (AvTyped_map rs _ (by simp) hinv.typed)))
      (((RidLt.map (nr := nr) hinv.ridLt _ (lockRow_rid _ xid cid ex.rid)).map _ (closeRow_rid _ xid cid ex.rid)).cons _ (Nat.le_refl nr) (hinv.ridLt ex hmem)) hinv',
    fun l' a' c' => ?_⟩
  rw [avGet_eq, avGet_eq, show avNew xid cid ex.rid l a c i o = newVer xid cid ex.rid [.text l, .text a, .text c, .int i, .int o] from rfl,
    hupd, get_lock, show avK ex.rid [.text l, .text a, .text c, .int i, .int o] = some (l, a, c) from rfl]
  by_cases e : (l, a, c) = (l', a', c')
  · rw [if_pos e, if_pos (congrArg some e)]; rfl
  · rw [if_neg e, if_neg (fun h => e (Option.some.inj h))]

/-- One row of `UpdateVolumes` on the table as a map: the key `(l, a, c)` now reads the returned volumes, which are the old ones
    plus `(i, o)` or `(i, o)` itself; every other key reads what it read; the invariant is kept. -/
theorem avStep_sem (l a c : String) (i o : Int) (rs : List Ver) (nr : Nat) (hinv : AvInv (latestView w xid) rs nr) :
    AvInv (latestView w xid) (avStep (latestView w xid) xid cid l a c i o (rs, nr)).1.1 (avStep (latestView w xid) xid cid l a c i o (rs, nr)).1.2 ∧
    (∀ l' a' c', avGet (latestView w xid) (avStep (latestView w xid) xid cid l a c i o (rs, nr)).1.1 l' a' c' =
      if (l, a, c) = (l', a', c') then some (avStep (latestView w xid) xid cid l a c i o (rs, nr)).2 else avGet (latestView w xid) rs l' a' c') ∧
    (avStep (latestView w xid) xid cid l a c i o (rs, nr)).2 =
      (match avGet (latestView w xid) rs l a c with
       | some v => (v.1 + i, v.2 + o)
       | none => (i, o)) := by
  cases hf : rs.find? (avHit (latestView w xid) none l a c) with
  | none =>
    simp only [avStep, avGet, hf, Option.map_none]
    exact ⟨(av_ins_sem w xid cid hx hc l a c i o rs nr hinv hf).1, (av_ins_sem w xid cid hx hc l a c i o rs nr hinv hf).2, trivial⟩
  | some ex =>
    simp only [avStep, avGet, hf, Option.map_some]
    exact ⟨(av_upd_sem w xid cid hx hc l a c _ _ rs nr hinv ex hf).1, (av_upd_sem w xid cid hx hc l a c _ _ rs nr hinv ex hf).2, trivial⟩

end step

theorem avStep_done (xid cid : Nat) (lv : View) (l a c : String) (i o : Int) (rs : List Ver) (nr : Nat) (done : List (String × String))
    (hd : AvDone xid cid l rs done) : AvDone xid cid l (avStep lv xid cid l a c i o (rs, nr)).1.1 ((a, c) :: done) := by
  unfold avStep
  have hnewk : ∀ rid i o, ∃ k ∈ (a, c) :: done, avKeyIs l k.1 k.2 (avNew xid cid rid l a c i o).vals = true :=
    fun rid i o => ⟨(a, c), by simp, by simp [avNew, avKeyIs]⟩
  cases hf : rs.find? (avHit lv none l a c) with
  | none =>
    intro r hr e1 e2
    rcases List.mem_cons.mp hr with rfl | h
    · exact hnewk _ _ _
    · obtain ⟨k, hk, hkk⟩ := hd r h e1 e2
      exact ⟨k, by simp [hk], hkk⟩
  | some ex =>
    intro r hr e1 e2
    simp only [List.map_map, List.mem_cons, List.mem_map, Function.comp] at hr
    rcases hr with rfl | ⟨q, hq, rfl⟩
    · exact hnewk _ _ _
    · simp only [closeRow_xmin, lockRow_xmin, closeRow_cmin, lockRow_cmin, closeRow_vals, lockRow_vals] at e1 e2 ⊢
      obtain ⟨k, hk, hkk⟩ := hd q hq e1 e2
      exact ⟨k, by simp [hk], hkk⟩

def avKeyOf (r : VolumeRow) : String × String := (r.accounts_address, r.asset)

/-- what the proof needs to know about the shape of the rendered statement
    (established by evaluation for the generated AST) -/
structure AvShape (env : Env) (b table alias l : String) (tcols target : List String) (sets : List SetItem)
    (returning : List SelItem) (g : VolumeRow → List (Option Value)) : Prop where
  row : ∀ r m rs nr s, (buildRow (m + 1) (avT b rs nr) tcols (g r)).exec s =
    (.ok [.text l, .text r.accounts_address, .text r.asset, .int r.input_, .int r.output_], s)
  arb : ∀ rs nr s, (arbiterIndexes (avT b rs nr) target).exec s = (.ok [avPkey], s)
  sets : ∀ (r : VolumeRow) m rs nr s i0 o0,
    (applySets (m + 1) (avConflictEnv env (if alias.isEmpty then table else alias) b rs nr
        [.text l, .text r.accounts_address, .text r.asset, .int i0, .int o0]
        [.text l, .text r.accounts_address, .text r.asset, .int r.input_, .int r.output_])
        (avT b rs nr) [.text l, .text r.accounts_address, .text r.asset, .int i0, .int o0] sets).exec s =
      (.ok [.text l, .text r.accounts_address, .text r.asset, .int (i0 + r.input_), .int (o0 + r.output_)], s)
  ret : returning = avReturning

end Ledger.Sql
