import Ledger.Wrap.Bulk
import Mathlib.Data.List.Sort

/-!
Helper lemmas about the bulker model (`Ledger/Wrap/Bulk.lean`) for C32.
-/
namespace Ledger.Wrap.Bulk
open List

variable {El S R E : Type} (tag : Nat → Nat) (apply : El → S → Except E R × S)

theorem runSeq_nil (cof : Bool) (i : Nat) (he : Bool) (s : S) :
    runSeq tag apply cof [] i he s = ([], he, s) := rfl

theorem runSeq_cons (cof : Bool) (e : El) (es : List El) (i : Nat) (he : Bool) (s : S) :
    runSeq tag apply cof (e :: es) i he s =
      if he && !cof then
        (mkRes tag i .skipped :: (runSeq tag apply cof es (i + 1) he s).1,
         (runSeq tag apply cof es (i + 1) he s).2.1, (runSeq tag apply cof es (i + 1) he s).2.2)
      else
        (mkRes tag i (outcomeOf apply e s).1 ::
            (runSeq tag apply cof es (i + 1) (he || (outcomeOf apply e s).1.isErr) (outcomeOf apply e s).2).1,
         (runSeq tag apply cof es (i + 1) (he || (outcomeOf apply e s).1.isErr) (outcomeOf apply e s).2).2.1,
         (runSeq tag apply cof es (i + 1) (he || (outcomeOf apply e s).1.isErr) (outcomeOf apply e s).2).2.2) := by
  rw [runSeq]

theorem length_runSeq (cof : Bool) (es : List El) (i : Nat) (he : Bool) (s : S) :
    (runSeq tag apply cof es i he s).1.length = es.length := by
  induction es generalizing i he s with
  | nil => rfl
  | cons e es ih =>
    rw [runSeq_cons]
    split <;> simp [ih]

theorem runSeq_append (cof : Bool) (es1 es2 : List El) (i : Nat) (he : Bool) (s : S) :
    runSeq tag apply cof (es1 ++ es2) i he s =
      ((runSeq tag apply cof es1 i he s).1 ++
          (runSeq tag apply cof es2 (i + es1.length) (runSeq tag apply cof es1 i he s).2.1
            (runSeq tag apply cof es1 i he s).2.2).1,
       (runSeq tag apply cof es2 (i + es1.length) (runSeq tag apply cof es1 i he s).2.1
            (runSeq tag apply cof es1 i he s).2.2).2.1,
       (runSeq tag apply cof es2 (i + es1.length) (runSeq tag apply cof es1 i he s).2.1
            (runSeq tag apply cof es1 i he s).2.2).2.2) := by
  induction es1 generalizing i he s with
  | nil => simp [runSeq_nil]
  | cons e es ih =>
    have h1 : i + (e :: es).length = i + 1 + es.length := by simp; omega
    rw [List.cons_append, runSeq_cons, runSeq_cons, h1]
    split
    · rw [ih]; simp
    · rw [ih]; simp

theorem outcomeOf_state (e : El) (s : S) : (outcomeOf apply e s).2 = (apply e s).2 := by
  unfold outcomeOf; split <;> simp_all

theorem outcomeOf_ok (e : El) (s : S) (r : R) :
    (outcomeOf apply e s).1 = .ok r ↔ (apply e s).1 = .ok r := by
  unfold outcomeOf; split <;> simp_all

theorem outcomeOf_isErr (e : El) (s : S) :
    (outcomeOf apply e s).1.isErr = false ↔ ∃ r, (apply e s).1 = .ok r := by
  unfold outcomeOf; split <;> simp_all [Outcome.isErr]

theorem outcomeOf_ne_skipped (e : El) (s : S) : (outcomeOf apply e s).1 ≠ .skipped := by
  unfold outcomeOf; split <;> simp

theorem runSeq_after_error (es : List El) (i : Nat) (s : S) :
    (runSeq tag apply false es i true s).2 = (true, s) ∧
    ∀ r ∈ (runSeq tag apply false es i true s).1, r.out = .skipped := by
  induction es generalizing i with
  | nil => simp [runSeq_nil]
  | cons e es ih =>
    rw [runSeq_cons]
    simp only [Bool.not_false, Bool.and_self, if_true]
    refine ⟨(ih (i + 1)).1, ?_⟩
    intro r hr
    simp only [List.mem_cons] at hr
    rcases hr with rfl | hr
    · rfl
    · exact (ih (i + 1)).2 r hr

theorem runSeq_cof_state (es : List El) (i : Nat) (he : Bool) (s : S) :
    (runSeq tag apply true es i he s).2.2 = es.foldl (fun s e => (apply e s).2) s ∧
    ∀ r ∈ (runSeq tag apply true es i he s).1, r.out ≠ .skipped := by
  induction es generalizing i he s with
  | nil => simp [runSeq_nil]
  | cons e es ih =>
    rw [runSeq_cons]
    simp only [Bool.not_true, Bool.and_false, Bool.false_eq_true, if_false, List.foldl_cons]
    refine ⟨by rw [(ih _ _ _).1, outcomeOf_state], ?_⟩
    intro r hr
    simp only [List.mem_cons] at hr
    rcases hr with rfl | hr
    · exact outcomeOf_ne_skipped apply e s
    · exact (ih _ _ _).2 r hr

theorem runSeq_error_sticky (cof : Bool) (es : List El) (i : Nat) (s : S) :
    (runSeq tag apply cof es i true s).2.1 = true := by
  induction es generalizing i s with
  | nil => rfl
  | cons e es ih =>
    rw [runSeq_cons]
    split <;> simp [ih]

theorem runSeq_inv (P : S → Bool → Prop)
    (hP : ∀ e s he, P s he → P (outcomeOf apply e s).2 (he || (outcomeOf apply e s).1.isErr))
    (cof : Bool) (es : List El) (i : Nat) (he : Bool) (s : S) (h : P s he) :
    P (runSeq tag apply cof es i he s).2.2 (runSeq tag apply cof es i he s).2.1 := by
  induction es generalizing i he s with
  | nil => exact h
  | cons e es ih =>
    rw [runSeq_cons]
    split
    · exact ih _ _ _ h
    · exact ih _ _ _ (hP e s he h)

theorem runBulk_state_nonatomic (ctl : Ctrl S E) (cof : Bool)
    (run : S → List (BRes R E) × Bool × S) (s : S) :
    (runBulk ctl { atomic := false, cof := cof } run s).2.2 = (run s).2.2 := by
  simp [runBulk]

/-- The results and the controller state after an atomic `Bulker.Run`: `BeginTX` failed and nothing
    ran, or the elements ran and then — `hasError` — `Rollback`, or — no error — `Commit`. -/
theorem runBulk_atomic {ctl : Ctrl S E} {cof : Bool} {run : S → List (BRes R E) × Bool × S} {s : S}
    {P : List (BRes R E) × S → Prop} (hb : ∀ e, (ctl.begin s).1 = .error e → P ([], (ctl.begin s).2))
    (hr : (ctl.begin s).1 = .ok () →
      ((run (ctl.begin s).2).2.1 = true →
        P ((run (ctl.begin s).2).1, ctl.rollback (run (ctl.begin s).2).2.2)) ∧
      ((run (ctl.begin s).2).2.1 = false →
        P ((run (ctl.begin s).2).1, (ctl.commit (run (ctl.begin s).2).2.2).2))) :
    P (runBulk ctl { atomic := true, cof := cof } run s).2 := by
  unfold runBulk
  simp only [Bool.and_false, Bool.false_eq_true, if_false, if_true]
  revert hb hr
  rcases ctl.begin s with ⟨e | ⟨⟩, s1⟩ <;> intro hb hr
  · exact hb e rfl
  have := hr rfl
  revert this
  simp only []
  rcases run s1 with ⟨rs, _ | _, s2⟩ <;> rintro ⟨h1, h2⟩
  · have := h2 rfl
    revert this
    simp only [Bool.false_eq_true, if_false]
    rcases ctl.commit s2 with ⟨_ | ⟨⟩, s3⟩ <;> exact id
  · exact h1 rfl

theorem runSeq_no_error (cof : Bool) (es : List El) (i : Nat) (s : S)
    (h : (runSeq tag apply cof es i false s).2.1 = false) :
    (runSeq tag apply cof es i false s).2.2 = es.foldl (fun s e => (apply e s).2) s ∧
    ∀ r ∈ (runSeq tag apply cof es i false s).1, r.out.isOk = true := by
  induction es generalizing i s with
  | nil => simp [runSeq_nil]
  | cons e es ih =>
    rw [runSeq_cons] at h ⊢
    simp only [Bool.false_and, Bool.false_eq_true, if_false, Bool.false_or, List.foldl_cons] at h ⊢
    cases hE : (outcomeOf apply e s).1.isErr with
    | true =>
      rw [hE, runSeq_error_sticky] at h
      exact Bool.noConfusion h
    | false =>
      rw [hE] at h
      have := ih (i + 1) (outcomeOf apply e s).2 h
      refine ⟨by rw [this.1, outcomeOf_state], ?_⟩
      intro r hr
      simp only [List.mem_cons] at hr
      rcases hr with rfl | hr
      · obtain ⟨r', hr'⟩ := (outcomeOf_isErr apply e s).1 hE
        have := (outcomeOf_ok apply e s r').2 hr'
        simp [mkRes, this, Outcome.isOk]
      · exact this.2 r hr

theorem seq_result_split (cof : Bool) (es1 : List El) (e : El) (es2 : List El) (s : S) :
    (runSeq tag apply cof (es1 ++ e :: es2) 0 false s).1[es1.length]? =
      some (mkRes tag es1.length
        (if (runSeq tag apply cof es1 0 false s).2.1 && !cof then .skipped
         else (outcomeOf apply e (runSeq tag apply cof es1 0 false s).2.2).1)) := by
  rw [runSeq_append]
  simp only []
  rw [List.getElem?_append_right (by rw [length_runSeq]), length_runSeq,
    Nat.sub_self, runSeq_cons]
  split <;> simp

theorem seq_result_at (cof : Bool) (els : List El) (s : S) (k : Nat) (hk : k < els.length) :
    (runSeq tag apply cof els 0 false s).1[k]? =
      some (mkRes tag k
        (if (runSeq tag apply cof (els.take k) 0 false s).2.1 && !cof then .skipped
         else (outcomeOf apply els[k] (runSeq tag apply cof (els.take k) 0 false s).2.2).1)) := by
  have h := seq_result_split tag apply cof (els.take k) els[k] (els.drop (k + 1)) s
  rw [← List.drop_eq_getElem_cons hk, List.take_append_drop, List.length_take,
    Nat.min_eq_left (Nat.le_of_lt hk)] at h
  exact h

theorem runSeq_txApply_some (cof : Bool) (es : List El) (i : Nat) (he : Bool) (d w : S) :
    runSeq tag (txApply apply) cof es i he ⟨d, some w⟩ =
      ((runSeq tag apply cof es i he w).1, (runSeq tag apply cof es i he w).2.1,
       ⟨d, some (runSeq tag apply cof es i he w).2.2⟩) := by
  induction es generalizing i he w with
  | nil => rfl
  | cons e es ih =>
    have ho : outcomeOf (txApply apply) e ⟨d, some w⟩ =
        ((outcomeOf apply e w).1, ⟨d, some (outcomeOf apply e w).2⟩) := by
      rcases h : apply e w with ⟨r | x, s'⟩ <;> simp [outcomeOf, txApply, h]
    rw [runSeq_cons, runSeq_cons]
    split
    · rw [ih]
    · rw [ho]; simp only []; rw [ih]

theorem insertByID_perm (x : BRes R E) (l : List (BRes R E)) : insertByID x l ~ x :: l := by
  induction l with
  | nil => exact Perm.refl _
  | cons y ys ih =>
    unfold insertByID
    split
    · exact Perm.refl _
    · exact (Perm.cons y ih).trans (Perm.swap x y ys)

theorem sortByID_perm (l : List (BRes R E)) : sortByID l ~ l := by
  induction l with
  | nil => exact Perm.refl _
  | cons x xs ih =>
    unfold sortByID
    exact (insertByID_perm x _).trans (Perm.cons x ih)

theorem insertByID_sorted (x : BRes R E) (l : List (BRes R E))
    (h : l.Pairwise (fun a b => a.elementID ≤ b.elementID)) :
    (insertByID x l).Pairwise (fun a b => a.elementID ≤ b.elementID) := by
  induction l with
  | nil => simp [insertByID]
  | cons y ys ih =>
    unfold insertByID
    rw [pairwise_cons] at h
    split
    · rename_i hxy
      refine pairwise_cons.2 ⟨?_, pairwise_cons.2 h⟩
      intro a ha
      rcases mem_cons.1 ha with rfl | ha
      · exact hxy
      · exact Nat.le_trans hxy (h.1 a ha)
    · rename_i hxy
      refine pairwise_cons.2 ⟨?_, ih h.2⟩
      intro a ha
      rcases mem_cons.1 ((insertByID_perm x ys).mem_iff.1 ha) with rfl | ha
      · omega
      · exact h.1 a ha

theorem sortByID_sorted (l : List (BRes R E)) :
    (sortByID l).Pairwise (fun a b => a.elementID ≤ b.elementID) := by
  induction l with
  | nil => simp [sortByID]
  | cons x xs ih => unfold sortByID; exact insertByID_sorted x _ ih

/-- The handler's sort leaves an already ordered list unchanged (it is stable). -/
theorem sortByID_eq_self (l : List (BRes R E))
    (h : l.Pairwise (fun a b => a.elementID ≤ b.elementID)) : sortByID l = l := by
  induction l with
  | nil => rfl
  | cons x xs ih =>
    rw [pairwise_cons] at h
    unfold sortByID
    rw [ih h.2]
    cases xs with
    | nil => rfl
    | cons y ys =>
      unfold insertByID
      rw [if_pos (h.1 y (mem_cons_self ..))]

theorem perm_range_of_length_mem (order : List Nat) (n : Nat) (hl : order.length = n)
    (hm : ∀ i, i < n → i ∈ order) : order ~ List.range n := by
  have hsub : List.range n <+~ order :=
    subperm_of_subset nodup_range (fun i hi => hm i (mem_range.1 hi))
  exact (hsub.perm_of_length_le (by simp [hl])).symm

/-- With every result tagged by its element index, the handler's sort puts the
    result of element `i` at position `i`, whatever the completion order. -/
theorem sortByID_tagged (out : Nat → Outcome R E) (order : List Nat) (n : Nat)
    (h : order ~ List.range n) :
    sortByID (order.map (fun i => mkRes (fun i => i) i (out i))) =
      (List.range n).map (fun i => mkRes (fun i => i) i (out i)) := by
  let f : Nat → BRes R E := fun i => mkRes (fun i => i) i (out i)
  have hf : ∀ i, (f i).elementID = i := fun i => rfl
  have hp := sortByID_perm (order.map f)
  have hkeys : (sortByID (order.map f)).map (·.elementID) = List.range n := by
    apply Perm.eq_of_pairwise' (r := (· ≤ ·))
    · exact (pairwise_map.2 (sortByID_sorted _))
    · exact pairwise_le_range
    · refine (hp.map _).trans ?_
      rw [map_map]
      have : ((fun x : BRes R E => x.elementID) ∘ f) = id := by funext i; exact hf i
      rw [this, map_id]
      exact h
  have hmem : ∀ r ∈ sortByID (order.map f), f r.elementID = r := by
    intro r hr
    obtain ⟨i, _, rfl⟩ := mem_map.1 (hp.mem_iff.1 hr)
    rw [hf]
  calc sortByID (order.map f)
      = (sortByID (order.map f)).map (fun r => f r.elementID) := by
        conv_lhs => rw [← map_id (sortByID (order.map f))]
        exact map_congr_left (fun r hr => (hmem r hr).symm)
    _ = ((sortByID (order.map f)).map (·.elementID)).map f := by rw [map_map]; rfl
    _ = (List.range n).map f := by rw [hkeys]

theorem applyInOrder_mem (els : List El) (is : List Nat) (s : S) (i : Nat) (o : Outcome R E)
    (h : (i, o) ∈ (applyInOrder apply els is s).1) :
    ∃ e pre post, els[i]? = some e ∧ is = pre ++ i :: post ∧
      o = (outcomeOf apply e (applyInOrder apply els pre s).2).1 := by
  induction is generalizing s with
  | nil => simp [applyInOrder] at h
  | cons j js ih =>
    unfold applyInOrder at h
    split at h
    · rename_i hj
      obtain ⟨e, pre, post, he, hsplit, ho⟩ := ih s h
      refine ⟨e, j :: pre, post, he, by rw [hsplit]; rfl, ?_⟩
      rw [ho]
      conv_rhs => unfold applyInOrder
      simp [hj]
    · rename_i e' hj
      simp only [mem_cons, Prod.mk.injEq] at h
      rcases h with ⟨rfl, rfl⟩ | h
      · exact ⟨e', [], js, hj, rfl, by simp [applyInOrder]⟩
      · obtain ⟨e, pre, post, he, hsplit, ho⟩ := ih _ h
        refine ⟨e, j :: pre, post, he, by rw [hsplit]; rfl, ?_⟩
        rw [ho]
        conv_rhs => unfold applyInOrder
        simp [hj]

theorem runSeq_ids (cof : Bool) (es : List El) (i : Nat) (he : Bool) (s : S) :
    (runSeq tag apply cof es i he s).1.map (·.elementID) = (List.range' i es.length).map tag := by
  induction es generalizing i he s with
  | nil => rfl
  | cons e es ih =>
    rw [runSeq_cons]
    split <;> simp [ih, mkRes, List.range'_succ]

theorem runSeq_sorted (hmono : ∀ i j, i ≤ j → tag i ≤ tag j) (cof : Bool) (es : List El) (i : Nat)
    (he : Bool) (s : S) :
    (runSeq tag apply cof es i he s).1.Pairwise (fun a b => a.elementID ≤ b.elementID) := by
  have h := runSeq_ids tag apply cof es i he s
  have : ((List.range' i es.length).map tag).Pairwise (· ≤ ·) := by
    apply pairwise_map.2
    exact (pairwise_lt_range' (s := i) (n := es.length)).imp (fun hab => hmono _ _ (Nat.le_of_lt hab))
  rw [← h] at this
  exact pairwise_map.1 this

theorem schedOk_order_perm [DecidableEq R] [DecidableEq E] (cof : Bool) (els : List El) (sc : Sched)
    (s : S) (h : schedOk apply cof els sc s = true) : sc.order ~ List.range els.length := by
  unfold schedOk at h
  simp only [Bool.and_eq_true, beq_iff_eq, all_eq_true, mem_range, contains_eq_mem,
    decide_eq_true_eq] at h
  exact perm_range_of_length_mem _ _ h.1.1.1.1 h.1.1.1.2

end Ledger.Wrap.Bulk
