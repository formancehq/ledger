import Ledger.Proofs.SchedBasic

/-!
# Unique indexes under any schedule (C13, C14, C16)

`transactions (ledger, id)`, `transactions (ledger, reference) where reference <> ''`,
`logs (ledger, id)`, `logs (ledger, idempotency_key)`: an entry is only ever appended when no entry
(committed, or in progress in ANY session) carries the same key — a committed conflict raises
23505, an in-progress one makes the statement wait — so the key stays unique among all entries,
committed or not, whatever the programs and the schedule.
-/
namespace Ledger.Sched

/-- two transaction rows are compatible with the unique indexes -/
def TxOk (a b : Tx) : Prop := a.l = b.l → a.id ≠ b.id ∧ (a.ref ≠ 0 → a.ref ≠ b.ref)

/-- two log rows are compatible with the unique indexes -/
def LgOk (a b : Lg) : Prop := a.l = b.l → a.id ≠ b.id ∧ (a.ik ≠ 0 → a.ik ≠ b.ik)

def UniqInv (w : World) : Prop := w.txs.Pairwise TxOk ∧ w.logs.Pairwise LgOk

theorem uniq_commit (w : World) (s : Sid) (h : UniqInv w) : UniqInv (w.commitTx s) := by
  constructor
  · refine List.Pairwise.map _ (fun a b hab => ?_) h.1
    unfold TxOk at *
    split <;> split <;> exact hab
  · refine List.Pairwise.map _ (fun a b hab => ?_) h.2
    unfold LgOk at *
    split <;> split <;> exact hab

/-- What the two lookups of an INSERT establish, for a table with a ledger column `pl`, an id column
    `pi` and a partially indexed column `pk` (reference, idempotency key): no row of ledger `l` has
    id `i`, nor the non-empty key `k`. -/
theorem keys_fresh {α : Type} (L : List α) (pl pi pk : α → Nat) (l i k : Nat)
    (h1 : L.find? (fun t => pl t = l && pi t = i) = none)
    (h2 : (if k = 0 then none else L.find? (fun t => pl t = l && pk t = k)) = none) :
    ∀ a ∈ L, pl a = l → pi a ≠ i ∧ (pk a ≠ 0 → pk a ≠ k) := by
  intro a ha hl
  have k1 := List.find?_eq_none.mp h1 a ha
  simp only [Bool.and_eq_true, decide_eq_true_eq] at k1
  refine ⟨fun hi => k1 ⟨hl, hi⟩, fun hk0 hk => ?_⟩
  by_cases hz : k = 0
  · exact hk0 (hk.trans hz)
  · rw [if_neg hz] at h2
    exact List.find?_eq_none.mp h2 a ha (by simp [hl, hk])

theorem uniq_step (w : World) (s : Sid) (h : UniqInv w) : UniqInv (step w s) :=
  step_inv (P := UniqInv) h (fun _ _ h => h) (fun _ h => h) (fun _ _ _ _ h => h)
    (uniq_commit w s h) (fun _ => ⟨h.1.filter _, h.2.filter _⟩)
    (fun _ _ _ _ he => by
      cases he with
      | insTx l ref id h1 h2 =>
        exact ⟨pairwise_append_one h.1 (keys_fresh w.txs (·.l) (·.id) (·.ref) l _ ref h1 h2), h.2⟩
      | insLog l ik hash sync id tx h1 h2 =>
        exact ⟨h.1, pairwise_append_one h.2 (keys_fresh w.logs (·.l) (·.id) (·.ik) l _ ik h1 h2)⟩
      | _ => exact h)

theorem uniq_run (σ : Schedule) (w : World) (h : UniqInv w) : UniqInv (run σ w) :=
  run_inv UniqInv uniq_step σ w h

end Ledger.Sched
