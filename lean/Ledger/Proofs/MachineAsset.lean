import Ledger.Proofs.MachineSend

/-! The asset of the funding a source yields (`asset_rules`); a whole run seen from one tracked
    pair (`sem_tracked`, behind C22's `balances_track` and C23's `bounded_source_floor`); small
    helpers for the property files. -/
namespace Ledger.Machine

variable {cfg : Cfg}

mutual
  /-- Every `allowing overdraft up to X` clause of the source is in asset `asset`. -/
  def OdAsset (env : Env) (asset : String) : Source → Prop
    | .account _ od =>
      match od with
      | .upTo x => ∀ c v, evalMonetary env x = .ok (c, v) → c = asset
      | _ => True
    | .maxed _ s => OdAsset env asset s
    | .inorder ss => OdsAsset env asset ss
  def OdsAsset (env : Env) (asset : String) : SourceList → Prop
    | .nil => True
    | .cons s ss => OdAsset env asset s ∧ OdsAsset env asset ss
end

/-- Every funding a source yields is in the statement's asset: an overdraft clause is the
    only place where another asset could come in. -/
theorem asset_rules (cfg : Cfg) (env : Env) (asset : String) :
    SrcRules cfg env asset
      (fun s _ f _ => cfg.overdraftAssetCheck = true ∨ OdAsset env asset s → f.asset = asset)
      (fun ss _ fs _ => cfg.overdraftAssetCheck = true ∨ OdsAsset env asset ss →
        ∀ f ∈ fs, f.asset = asset) where
  always := fun _ _ _ => rfl
  bounded := fun _ _ _ => rfl
  upTo := @fun _ _ _ _ odv _ _ _ _ _ hmon hchk _ ho => by
    obtain ⟨c1, _, c3⟩ := checkOverdraft_spec hchk
    exact c1.trans (ho.elim c3 fun ho => ho odv.1 odv.2 (by rw [hmon]))
  maxed := fun i _ ht ho => by
    obtain ⟨t, _⟩ := takeMaxStep_ok ht
    rw [t.assetR, ← t.assetF]
    exact i (ho.imp_right fun h => by rwa [OdAsset] at h)
  inorder := fun i hasm ho => assemble_asset hasm (i (ho.imp_right fun h => by rwa [OdAsset] at h))
  nil := fun _ => nofun
  cons := fun i j ho => List.forall_mem_cons.mpr
    ⟨i (ho.imp_right fun h => by rw [OdsAsset] at h; exact h.1),
      j (ho.imp_right fun h => by rw [OdsAsset] at h; exact h.2)⟩

theorem evalSource_asset (cfg : Cfg) (env : Env) (asset : String) (s : Source) (b : Balances)
    (f : Funding) (b' : Balances) (h : evalSource cfg env asset s b = .ok (f, b'))
    (ho : cfg.overdraftAssetCheck = true ∨ OdAsset env asset s) : f.asset = asset :=
  evalSource_rules (asset_rules cfg env asset) s h ho

theorem evalSources_asset (cfg : Cfg) (env : Env) (asset : String) :
    (ss : SourceList) → (b : Balances) → (fs : List Funding) → (b' : Balances) →
    evalSources cfg env asset ss b = .ok (fs, b') →
    (cfg.overdraftAssetCheck = true ∨ OdsAsset env asset ss) → ∀ f ∈ fs, f.asset = asset :=
  fun ss _ _ _ h => evalSources_rules (asset_rules cfg env asset) ss h

/-- The postings of a result, for `decide`-able examples. -/
def postingsOf (r : Except Err Result) : Option (List Posting) :=
  match r with
  | .ok x => some x.postings
  | .error _ => none

/-- The tracked balances `ResolveBalances` sets up, if the run gets that far. -/
def trackedInit (cfg : Cfg) (s : Script) (inp : Input) (a c : String) : Option Int :=
  match prepare cfg s inp with
  | .ok (_, bal, _) => bal.get a c
  | .error _ => none

/-- The environment of resolved variables, if the run gets that far. -/
def resolvedEnv (cfg : Cfg) (s : Script) (inp : Input) : Option Env :=
  match prepare cfg s inp with
  | .ok (env, _, _) => some env
  | .error _ => none

theorem sem_ok_inv {s : Script} {inp : Input} {r : Result} (h : sem cfg s inp = .ok r) :
    ∃ ds env bal pairs st, typecheck s = .ok ds ∧ prepare cfg s inp = .ok (env, bal, pairs) ∧
      runStmts cfg env s.stmts (initState bal) = .ok st ∧
      r = { postings := st.postings, txMeta := st.txMeta, accMeta := st.accMeta, final := st } := by
  unfold sem at h
  split at h
  · cases h
  · rename_i ds hds
    split at h
    · cases h
    · rename_i env bal pairs hp
      split at h
      · cases h
      · rename_i st hst
        cases h
        exact ⟨ds, env, bal, pairs, st, hds, hp, hst, rfl⟩

/-- A successful run seen from one tracked pair `(a, c)` of a non-world account: it starts
    at the store's balance; tracked balance plus `saved` moves exactly by the postings, and
    stays above the floor of a bounded account. -/
theorem sem_tracked {s : Script} {inp : Input} {r : Result} (h : sem cfg s inp = .ok r)
    {a c : String} (ha : a ≠ "world") {v0 : Int} (hv : trackedInit cfg s inp a c = some v0) :
    ∃ env, resolvedEnv cfg s inp = some env ∧ v0 = inp.balance a c ∧
      ∃ v', r.final.bal.get a c = some v' ∧
        v' + r.final.saved a c = v0 + flowIn a c r.postings - flowOut a c r.postings ∧
        ∀ B, 0 ≤ B → StmtsBound env a c B s.stmts → min v0 (-B) ≤ v' + r.final.saved a c := by
  obtain ⟨ds, env, bal, pairs, st, _, hp, hst, rfl⟩ := sem_ok_inv h
  obtain ⟨hgood, hwf, hbal⟩ := prepare_ok hp
  simp only [trackedInit, hp] at hv
  obtain ⟨new, hpost, _, hr⟩ := runStmts_ok hgood.nonneg s.stmts (initState bal) st hst hwf
  obtain ⟨v', g, e, _, fl⟩ := hr a c v0 ha hv
  simp only [initState, List.nil_append, Int.add_zero] at hpost e fl
  refine ⟨env, by simp only [resolvedEnv, hp], hbal a c v0 hv, v', g, by rw [hpost]; exact e,
    fun B hB hb => fl B hB (Int.le_refl 0) hb⟩

end Ledger.Machine
