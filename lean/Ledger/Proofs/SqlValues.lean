import Ledger.Sql.Expr

/-!
# Pure facts on LeanPG values

`==` is reflexive (needed where the evaluator compares row versions); the comparison functions `cmpInt`, `cmpStr` decide
`<` and `=`; the operators, `compareForSort` and `IN` on typed values compute by unfolding (`rfl`) to those comparisons.
-/
namespace Ledger.Sql

mutual
theorem JV.beq_refl : ∀ (j : JV), JV.beq j j = true
  | .null => rfl
  | .bool b => by simp only [JV.beq, beq_self_eq_true]
  | .num n => by simp only [JV.beq, beq_self_eq_true]
  | .dec s => by simp only [JV.beq, beq_self_eq_true]
  | .str s => by simp only [JV.beq, beq_self_eq_true]
  | .arr xs => by simp only [JV.beq, JV.beqList_refl xs]
  | .obj kvs => by simp only [JV.beq, JKV.beqList_refl kvs]
theorem JV.beqList_refl : ∀ (l : List JV), JV.beqList l l = true
  | [] => rfl
  | x :: xs => by simp only [JV.beqList, JV.beq_refl x, JV.beqList_refl xs, Bool.and_self]
theorem JKV.beqList_refl : ∀ (l : List JKV), JKV.beqList l l = true
  | [] => rfl
  | (.mk k v) :: xs => by simp only [JKV.beqList, beq_self_eq_true, JV.beq_refl v, JKV.beqList_refl xs, Bool.and_self]
end

instance : ReflBEq JV := ⟨fun {a} => JV.beq_refl a⟩

mutual
theorem Value.beq_refl : ∀ (v : Value), Value.beq v v = true
  | .null => rfl
  | .bool b => by simp only [Value.beq, beq_self_eq_true]
  | .int n => by simp only [Value.beq, beq_self_eq_true]
  | .text s => by simp only [Value.beq, beq_self_eq_true]
  | .ts t => by simp only [Value.beq, beq_self_eq_true]
  | .json j => by simp only [Value.beq, beq_self_eq_true]
  | .bytes b => by
    show (b.data == b.data) = true
    exact beq_self_eq_true _
  | .row _ vs => by simp only [Value.beq, Value.beqList_refl vs]
  | .array vs => by simp only [Value.beq, Value.beqList_refl vs]
theorem Value.beqList_refl : ∀ (l : List Value), Value.beqList l l = true
  | [] => rfl
  | x :: xs => by simp only [Value.beqList, Value.beq_refl x, Value.beqList_refl xs, Bool.and_self]
end

instance : ReflBEq Value := ⟨fun {a} => Value.beq_refl a⟩

theorem cmpInt_cases (a b : Int) : (a < b ∧ cmpInt a b = .lt) ∨ (a = b ∧ cmpInt a b = .eq) ∨ (b < a ∧ cmpInt a b = .gt) := by
  unfold cmpInt
  by_cases h : a < b
  · exact .inl ⟨h, if_pos h⟩
  · by_cases e : a = b
    · exact .inr (.inl ⟨e, by simp [e]⟩)
    · exact .inr (.inr ⟨by omega, by simp [h, e]⟩)

theorem cmpInt_lt (x y : Int) : (cmpInt x y == Ordering.lt) = decide (x < y) := by
  rcases cmpInt_cases x y with ⟨h, e⟩ | ⟨h, e⟩ | ⟨h, e⟩ <;> rw [e] <;> simp <;> omega

theorem cmpInt_eq (x y : Int) : (cmpInt x y == Ordering.eq) = decide (x = y) := by
  rcases cmpInt_cases x y with ⟨h, e⟩ | ⟨h, e⟩ | ⟨h, e⟩ <;> rw [e] <;> simp <;> omega

theorem cmpInt_gt (x y : Int) : (cmpInt x y == Ordering.gt) = decide (y < x) := by
  rcases cmpInt_cases x y with ⟨h, e⟩ | ⟨h, e⟩ | ⟨h, e⟩ <;> rw [e] <;> simp <;> omega

theorem cmpStr_eq (x y : String) : (cmpStr x y == Ordering.eq) = decide (x = y) := by
  unfold cmpStr
  by_cases h : x < y
  · have : x ≠ y := by intro e; subst e; exact String.lt_irrefl _ h
    simp [h, this]
  · by_cases e : x = y <;> simp [h, e]

theorem cmpStr_ne' (a b : String) : (cmpStr a b != Ordering.eq) = (a != b) :=
  congrArg (!·) (cmpStr_eq a b)

theorem compareForSort_text (x y : String) : compareForSort (.text x) (.text y) = .ok (cmpStr x y) := rfl
theorem compareForSort_int (a b : Int) : compareForSort (.int a) (.int b) = .ok (cmpInt a b) := rfl
theorem compareForSort_ts (a b : Int) : compareForSort (.ts a) (.ts b) = .ok (cmpInt a b) := rfl
theorem compareForSort_null_text (q : String) : compareForSort .null (.text q) = .ok Ordering.gt := rfl

theorem evalBinop_eq_text (a b : String) : evalBinop .eq (.text a) (.text b) = .ok (.bool (decide (a = b))) := by
  rw [← cmpStr_eq]; rfl
theorem evalBinop_ne_text (a b : String) : evalBinop .ne (.text a) (.text b) = .ok (.bool (a != b)) := by
  rw [← cmpStr_ne']; rfl
theorem evalBinop_eq_ts (a b : Int) : evalBinop .eq (.ts a) (.ts b) = .ok (.bool (decide (a = b))) := by
  rw [← cmpInt_eq]; rfl
theorem evalBinop_lt_ts (a b : Int) : evalBinop .lt (.ts a) (.ts b) = .ok (.bool (decide (a < b))) := by
  rw [← cmpInt_lt]; rfl
theorem evalBinop_gt_ts (a b : Int) : evalBinop .gt (.ts a) (.ts b) = .ok (.bool (decide (b < a))) := by
  rw [← cmpInt_gt]; rfl
theorem evalBinop_lt_int (a b : Int) : evalBinop .lt (.int a) (.int b) = .ok (.bool (decide (a < b))) := by
  rw [← cmpInt_lt]; rfl
theorem evalBinop_eq_int (a b : Int) : evalBinop .eq (.int a) (.int b) = .ok (.bool (decide (a = b))) := by
  rw [← cmpInt_eq]; rfl
theorem evalBinop_gt_int (a b : Int) : evalBinop .gt (.int a) (.int b) = .ok (.bool (decide (b < a))) := by
  rw [← cmpInt_gt]; rfl
theorem evalBinop_add_int (a b : Int) : evalBinop .add (.int a) (.int b) = .ok (.int (a + b)) := rfl

/-! The equations below unfold `evalBinop` as a whole (`evalBinop.eq_def`); `simp [evalBinop]` goes through the equations of its big
    match and is some fifty times dearer, in every declaration that does it. -/
theorem evalBinop_ne_null_text (x : String) : evalBinop .ne .null (.text x) = .ok .null := by
  rw [evalBinop.eq_def]; rfl
theorem evalBinop_eq_text_null (a : String) : evalBinop .eq (.text a) .null = .ok .null := by
  rw [evalBinop.eq_def]; rfl

theorem evalBinop_concat_json (a b : JV) : evalBinop .concat (.json a) (.json b) = .ok (.json (jsonConcat a b)) := rfl
theorem evalBinop_contains_json (a b : JV) : evalBinop .contains (.json a) (.json b) = .ok (.bool (jsonContains a b)) := rfl

/-! a jsonb column against a text literal: the literal is parsed (`@>`, `||`) or taken as a key (`->`, `-`) -/
theorem evalBinop_contains_json_text (a : JV) (t : String) (j : JV) (h : JV.parse t = .ok j) :
    evalBinop .contains (.json a) (.text t) = .ok (.bool (jsonContains a j)) := by
  rw [evalBinop.eq_def]; simp only [jsonOfValue, h, liftStr]; rfl
theorem evalBinop_concat_json_text (a : JV) (t : String) (j : JV) (h : JV.parse t = .ok j) :
    evalBinop .concat (.json a) (.text t) = .ok (.json (jsonConcat a j)) := by
  rw [evalBinop.eq_def]; simp only [Value.isNull, h, liftStr]; rfl
theorem evalBinop_jsonGet_json_text (a : JV) (k : String) :
    evalBinop .jsonGet (.json a) (.text k) = .ok (match jsonGet a (.text k) with | some v => .json v | none => .null) := by
  rw [evalBinop.eq_def]; rfl
theorem evalBinop_sub_obj_text (kvs : List JKV) (k : String) :
    evalBinop .sub (.json (.obj kvs)) (.text k) = .ok (.json (.obj (jobjErase k kvs))) := by
  rw [evalBinop.eq_def]; rfl

/-- a timestamp against a literal text: the text is parsed as a timestamp -/
theorem compareValues_ts_text (a : Int) (t : String) (p : Int) (h : tsParse t = .ok p) :
    compareValues (.ts a) (.text t) = .ok (some (cmpInt a p)) := by
  simp only [compareValues, compareScalar, h, liftStr, bind, Except.bind, pure, Except.pure]

theorem evalBinop_le_ts_text (a : Int) (t : String) (p : Int) (h : tsParse t = .ok p) :
    evalBinop .le (.ts a) (.text t) = .ok (.bool (decide (a ≤ p))) := by
  have hd : (cmpInt a p != .gt) = decide (a ≤ p) := by
    rw [bne, cmpInt_gt]
    by_cases h1 : p < a
    · simp [h1]
    · simp [h1, Int.not_lt.mp h1]
  show (do return ofTruth ((← compareValues (.ts a) (.text t)).map (· != .gt)) : R Value) = _
  rw [compareValues_ts_text a t p h, ← hd]; rfl

theorem evalBinop_ge_ts_text (a : Int) (t : String) (p : Int) (h : tsParse t = .ok p) :
    evalBinop .ge (.ts a) (.text t) = .ok (.bool (decide (p ≤ a))) := by
  have hd : (cmpInt a p != .lt) = decide (p ≤ a) := by
    rw [bne, cmpInt_lt]
    by_cases h1 : a < p
    · simp [h1]
    · simp [h1, Int.not_lt.mp h1]
  show (do return ofTruth ((← compareValues (.ts a) (.text t)).map (· != .lt)) : R Value) = _
  rw [compareValues_ts_text a t p h, ← hd]; rfl

def tyJsonb : SqlType := SqlType.mk "" "jsonb" "" false
def tyTimestamp : SqlType := SqlType.mk "" "timestamp" "" false

theorem castTo_ts_ts (te : TypeEnv) (d : Int) : castTo te (SqlType.mk "" "timestamp" "" false) (.ts d) = .ok (.ts d) := rfl
theorem castTo_jsonb_json (te : TypeEnv) (j : JV) : castTo te (SqlType.mk "" "jsonb" "" false) (.json j) = .ok (.json j) := rfl
theorem castTo_ts_text (te : TypeEnv) (str : String) (T : Int) (h : tsParse str = .ok T) :
    castTo te (SqlType.mk "" "timestamp" "" false) (.text str) = .ok (.ts T) := by
  have e : castTo te (SqlType.mk "" "timestamp" "" false) (.text str) = (do return .ts (← liftStr "22007" (tsParse str))) := rfl
  rw [e, h]; rfl

theorem castTo_varchar_text (te : TypeEnv) (x : String) : castTo te (SqlType.mk "" "varchar" "" false) (.text x) = .ok (.text x) := rfl
theorem castTo_numeric_int (te : TypeEnv) (n : Int) : castTo te (SqlType.mk "" "numeric" "" false) (.int n) = .ok (.int n) := rfl

theorem truth_bool (b : Bool) : (Value.bool b).truth = .ok (some b) := rfl

theorem compareValues_text (x y : String) : compareValues (.text x) (.text y) = .ok (some (cmpStr x y)) := rfl

theorem inValuesAux_text (x : String) : ∀ (ys : List String) (sn : Bool),
    inValuesAux (.text x) (ys.map Value.text) sn = .ok (if ys.contains x then some true else (if sn then none else some false)) := by
  intro ys
  induction ys with
  | nil => intro sn; rfl
  | cons y ys ih =>
    intro sn
    have hc : (y :: ys).contains x = ((cmpStr x y == Ordering.eq) || ys.contains x) := by
      rw [List.contains_cons, cmpStr_eq]; rfl
    simp only [List.map_cons, inValuesAux, compareValues_text, bind, Except.bind, hc]
    cases cmpStr x y <;> first | rfl | exact ih sn

theorem inValues_text (x : String) (ys : List String) :
    inValues (.text x) (ys.map Value.text) = .ok (some (ys.contains x)) := by
  unfold inValues
  rw [inValuesAux_text]
  cases ys.contains x <;> rfl

/-! ### the value of a nullable column -/

def optTs : Option Int → Value
  | some t => .ts t
  | none => .null

def optText : Option String → Value
  | some s => .text s
  | none => .null

def optJson : Option JV → Value
  | some j => .json j
  | none => .null

end Ledger.Sql
