import Ledger.Proofs.LogHashMain
import Ledger.Log.Chain

/-!
C09 helper lemmas: the generated `select … order by id desc limit 1` on a table with
ascending ids, one sequential insert, the chain.
-/
namespace Ledger.Log
open Ledger.Generated

def GoodTbl (ledger : Bytes) : Nat → Table → Prop
  | _, [] => True
  | n, r :: t => (r.ledger = .text ledger ∧ r.id = .num n ∧ ∃ h, r.hash = .bytea h) ∧ GoodTbl ledger (n + 1) t

def lastHash : Table → PrevHash
  | [] => none
  | [r] => (match r.hash with | .bytea h => some h | _ => none)
  | _ :: t => lastHash t

theorem GoodTbl_append (ledger : Bytes) (n : Nat) (tbl : Table) (r : Row)
    (h : GoodTbl ledger n tbl)
    (hr : r.ledger = .text ledger ∧ r.id = .num ((n + tbl.length : Nat) : Int) ∧ ∃ x, r.hash = .bytea x) :
    GoodTbl ledger n (tbl ++ [r]) := by
  induction tbl generalizing n with
  | nil => simpa [GoodTbl] using hr
  | cons a t ih =>
    obtain ⟨ha, ht⟩ := h
    have e : n + (a :: t).length = (n + 1) + t.length := by simp only [List.length_cons]; omega
    rw [e] at hr
    exact ⟨ha, ih (n + 1) ht hr⟩

theorem lastHash_append (tbl : Table) (r : Row) (x : Bytes) (h : r.hash = .bytea x) :
    lastHash (tbl ++ [r]) = some x := by
  induction tbl with
  | nil => simp [lastHash, h]
  | cons a t ih =>
    cases t with
    | nil => simp [lastHash, h]
    | cons b t' => simpa [lastHash] using ih

theorem selectLastKey_eq (ledger : Bytes) (tbl : Table) :
    selectLastKey genQuery tbl "new" (some (.text ledger)) =
      match pickLast true "id" (tbl.filter (fun r => r.get "ledger" = some (PgVal.text ledger))) none with
      | .error e => .error e
      | .ok none => .ok .null
      | .ok (some r) => match r.get "hash" with
        | some v => .ok v
        | none => .error (.unsupported "select column") := by
  simp [genQuery, selectLastKey]
  rfl

theorem filter_good (ledger : Bytes) (n : Nat) (tbl : Table) (h : GoodTbl ledger n tbl) :
    tbl.filter (fun r => r.get "ledger" = some (PgVal.text ledger)) = tbl := by
  induction tbl generalizing n with
  | nil => rfl
  | cons a t ih => rw [List.filter_cons, if_pos (by simp [Row.get, h.1.1]), ih (n + 1) h.2]

/-- Scanning rows with ascending ids after `b`, whose id is smaller still, ends on the last of them. -/
theorem pickLast_good (ledger : Bytes) : ∀ (tbl : Table) (n : Nat) (b : Row), GoodTbl ledger n (b :: tbl) →
    ∃ r, pickLast true "id" tbl (some b) = .ok (some r) ∧ r.hash = prevVal (lastHash (b :: tbl))
  | [], _, b, ⟨⟨_, _, x, hx⟩, _⟩ => ⟨b, rfl, by simp [lastHash, hx, prevVal]⟩
  | a :: t, n, b, ⟨⟨_, hb, _⟩, ht⟩ => by
    obtain ⟨r, hr1, hr2⟩ := pickLast_good ledger t (n + 1) a ht
    refine ⟨r, ?_, hr2⟩
    simp [pickLast, Row.get, ht.1.2.1, hb, hr1, Int.lt_succ]

/-- On a good table the generated query returns the hash of the row with the largest id,
    i.e. of the LAST inserted log. -/
theorem selectLastKey_good (ledger : Bytes) (tbl : Table) (h : GoodTbl ledger 1 tbl) :
    selectLastKey genQuery tbl "new" (some (.text ledger)) = .ok (prevVal (lastHash tbl)) := by
  rw [selectLastKey_eq, filter_good ledger 1 tbl h]
  cases tbl with
  | nil => rfl
  | cons a t =>
    obtain ⟨r, hr1, hr2⟩ := pickLast_good ledger t 1 a h
    simp only [pickLast, hr1, Row.get, hr2]
    rfl

theorem insertLog_good (H : Bytes → Bytes) (ledger : Bytes) (tbl : Table) (log : Log) (tbl' : Table)
    (hg : GoodTbl ledger 1 tbl) (h : insertLog H ledger tbl log = .ok tbl') :
    ∃ row pre, tbl' = tbl ++ [row] ∧ GoodTbl ledger 1 tbl' ∧ row.id = .num (tbl.length + 1) ∧
      sqlPreimage log (lastHash tbl) = .ok pre ∧ row.hash = .bytea (H pre) ∧ lastHash tbl' = some (H pre) := by
  unfold insertLog at h
  cases hrow : rowOfLog bunTags ledger (tbl.length + 1) log with
  | error e => simp [hrow] at h
  | ok row =>
    obtain ⟨m, ts, ikv, sv, hm, hz, hts, hik, hsv, rfl⟩ := rowOfLog_inv hrow
    have hsql : sqlPreimage log (lastHash tbl) =
        sqlClean (lastHash tbl) (sqlJsonText log.payload.type.label (escEncode m) ts log.idempotencyKey) := by
      rw [sqlPreimage, sqlPreimageAt_eq]
      simp only [hm, hz, hts, hik, hsv, Bool.false_eq_true, ↓reduceIte]
    simp only [hrow] at h
    rw [trigger_bridge_row tbl ledger _ _ m ts ikv sv _ _ (lastHash tbl) (ikText_textParam hik)
      (selectLastKey_good ledger tbl hg), ← hsql] at h
    cases hc : sqlPreimage log (lastHash tbl) with
    | error e => simp [hc] at h
    | ok pre =>
      simp only [hc, mkRow] at h
      cases h
      refine ⟨_, pre, rfl, ?_, rfl, rfl, rfl, lastHash_append tbl _ _ rfl⟩
      apply GoodTbl_append ledger 1 tbl _ hg
      refine ⟨rfl, ?_, _, rfl⟩
      show PgVal.num _ = PgVal.num _
      congr 1
      omega

theorem insertAll_chained (H : Bytes → Bytes) (ledger : Bytes) (logs : List Log) :
    ∀ (tbl tbl' : Table), GoodTbl ledger 1 tbl → insertAll H ledger logs tbl = .ok tbl' →
      ∃ rows, tbl' = tbl ++ rows ∧ GoodTbl ledger 1 tbl' ∧ Chained H tbl.length (lastHash tbl) logs rows := by
  induction logs with
  | nil =>
    intro tbl tbl' hg h
    simp only [insertAll] at h
    cases h
    exact ⟨[], by simp, hg, Chained.nil _ _⟩
  | cons l ls ih =>
    intro tbl tbl' hg h
    simp only [insertAll] at h
    cases h1 : insertLog H ledger tbl l with
    | error e => simp [h1] at h
    | ok t1 =>
      simp only [h1] at h
      obtain ⟨row, pre, ht1, hg1, hid, hpre, hhash, hlast⟩ := insertLog_good H ledger tbl l t1 hg h1
      obtain ⟨rows, htbl', hg', hch⟩ := ih t1 tbl' hg1 h
      refine ⟨row :: rows, ?_, hg', ?_⟩
      · rw [htbl', ht1]; simp
      · have hlen : t1.length = tbl.length + 1 := by rw [ht1]; simp
        rw [hlen, hlast] at hch
        exact Chained.cons _ _ _ _ _ _ pre hid hpre hhash hch

end Ledger.Log
