import Ledger.Chart.Enforce
import Ledger.Proofs.ListBasic

/-! Helper lemmas for C29 (schema enforcement, default-metadata merge) and the
sample values used by the non-vacuity examples of C29 / C30. -/
namespace Ledger.Chart

theorem lookup_filter_of_none (over base : Meta) (k : List Char) (h : over.lookup k = none) :
    (base.filter fun kv => (over.lookup kv.1).isNone).lookup k = base.lookup k := by
  induction base with
  | nil => rfl
  | cons kv rest ih =>
    obtain ⟨k', v⟩ := kv
    by_cases hk : k = k'
    · subst hk
      simp [List.filter, h, List.lookup]
    · have hb : (k == k') = false := by simpa using hk
      cases hf : (over.lookup k').isNone
      · simp [List.filter, hf, List.lookup, hb, ih]
      · simp [List.filter, hf, List.lookup, hb, ih]

/-- jsonb `base || over` key by key -/
theorem lookup_mergeMeta (base over : Meta) (k : List Char) :
    (mergeMeta base over).lookup k =
      match over.lookup k with
      | some v => some v
      | none => base.lookup k := by
  unfold mergeMeta
  rw [List.lookup_append]
  cases h : over.lookup k with
  | some v => rfl
  | none => simp [lookup_filter_of_none over base k h]

theorem validatePostings_mem (ops : RegexOps) (c : Chart) : (ps : List Posting) →
    validatePostings ops c ps = .ok () → ∀ p ∈ ps, validatePosting ops c p.source p.destination = .ok ()
  | [], _, p, hp => by cases hp
  | q :: rest, h, p, hp => by
    obtain ⟨⟨⟩, hq, h⟩ := Except.bind_ok h
    rcases List.mem_cons.1 hp with rfl | hp
    · exact hq
    · exact validatePostings_mem ops c rest h p hp

theorem validatePosting_classify (ops : RegexOps) (c : Chart) (src dst : List Char)
    (h : validatePosting ops c src dst = .ok ()) :
    (classifyAddr ops c src).isSome = true ∧ (classifyAddr ops c dst).isSome = true := by
  obtain ⟨a1, h1, h⟩ := Except.bind_ok h
  obtain ⟨a2, h2, _⟩ := Except.bind_ok h
  exact ⟨by simp only [classifyAddr, classify, h1]; rfl, by simp only [classifyAddr, classify, h2]; rfl⟩

theorem resolveSchema_audit_error {schemas : List Schema} {version : String} {r : Reject}
    (h : resolveSchema .audit schemas version = .error r) : r = .schemaNotFound := by
  simp only [resolveSchema] at h
  repeat' split at h
  all_goals cases h
  rfl

theorem selectScript_audit_error {schema : Option Schema} {req : TxRequest} {r : Reject}
    (h : selectScript .audit schema req = .error r) : r = .templateNotFound ∨ r = .noTemplateDefinitions := by
  simp only [selectScript] at h
  repeat' split at h
  all_goals cases h
  all_goals simp

def sampleOps : RegexOps :=
  { compiles := fun _ => true, isMatch := fun p s => p = "digits" && s.all Char.isDigit }

def sampleChart : Chart :=
  [ ("users".toList, .mk [] (some (.mk "id".toList (some "digits")
      (.mk [("main".toList, .mk [] none (some ⟨some [("kind".toList, some "wallet")]⟩))] none
        (some ⟨none⟩)))) none),
    ("bank".toList, .mk [] none (some ⟨some []⟩)) ]

theorem sampleChart_valid : Valid sampleOps sampleChart := by
  simp only [Valid, validFixed, Segment.Valid, validVar, sampleChart]
  simp [show ∀ s, sampleOps.compiles s = true from fun _ => rfl]
  decide +kernel

def samplePosting (src dst : String) : Posting :=
  { source := src.toList, destination := dst.toList, asset := "USD", amount := 1 }

def sampleSchema : Schema :=
  { version := "v1", chart := sampleChart, templates := [("pay", [samplePosting "bank" "users:1:main"])] }

def sampleSchemaNoTemplates : Schema := { sampleSchema with version := "v0", templates := [] }

def sampleState : State := { schemas := [sampleSchemaNoTemplates, sampleSchema], accounts := [], txCount := 0 }

end Ledger.Chart
