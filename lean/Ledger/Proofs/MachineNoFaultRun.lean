import Ledger.Proofs.MachineNoFault
import Ledger.Proofs.MachineAllot
import Ledger.Proofs.MachineCheck

/-! No fault / panic for sources and takes, allotments, destinations, statements.

    Outside the mutual blocks a walk goes by the function's own case principle (`fun_cases`,
    `fun_induction`) where that applies: one goal per path through the function, the equations of the path in context.
    A path that ends in a value or in an ordinary run error is closed at once; every other path ends where a
    callee failed and takes one line, which says why that callee does not fault.  The principle is asked for
    variables: on a partly concrete argument (`evalStmt … (.send mon (.src s) dst) st`) it can return the paths of
    every constructor with the link to the argument lost. -/
namespace Ledger.Machine

theorem withdrawAll_nf (b : Balances) (acc asset : String) (x : Int) :
    NF (withdrawAll b acc asset (some x)) := by
  unfold withdrawAll
  split
  · exact NF.run _ _
  · split
    · exact NF.ok _
    · exact NF.ok _

theorem checkOverdraft_fixed (asset : String) (od : String × Option Int) :
    NF (checkOverdraft Cfg.fixed asset od) ∧
    ∀ r, checkOverdraft Cfg.fixed asset od = .ok r → ∃ x, r.2 = some x := by
  unfold checkOverdraft
  simp only [Cfg.fixed, if_true]
  split
  · exact ⟨NF.run _ _, fun r h => by cases h⟩
  · exact ⟨NF.ok _, fun r h => by cases h; exact ⟨_, rfl⟩⟩

theorem assemble_nf (fs : List Funding) : NF (assemble fs) := by
  fun_cases assemble fs <;> first | exact NF.ok _ | exact NF.run _ _

theorem takeMaxStep_nf {ds : Decls} {env : Env} (henv : EnvTyped ds env) (fb : Option Expr)
    (hfb : ∀ e, fb = some e → typeExpr ds e = .ok .account) (f : Funding) (a : String) (v : Int)
    (b : Balances) : NF (takeMaxStep env fb f (a, some v) b) := by
  fun_cases takeMaxStep env fb f (a, some v) b <;> try (first | exact NF.ok _ | exact NF.run _ _)
  -- the amount is there, `needAmt (some v)` is no error; then the fallback account
  · rename_i hneed; cases hneed
  · exact (evalAccount_nf henv (hfb _ rfl)).error_of ‹_›

theorem takeFromSource_nf {ds : Decls} {env : Env} (henv : EnvTyped ds env) (fb : Option Expr)
    (hfb : ∀ e, fb = some e → typeExpr ds e = .ok .account) (f : Funding) (a : String) (v : Int)
    (b : Balances) : NF (takeFromSource env fb f (a, some v) b) := by
  fun_cases takeFromSource env fb f (a, some v) b <;> try (first | exact NF.ok _ | exact NF.run _ _)
  -- with a fallback it is `takeMaxStep`; without, `needAmt (some v)` is no error
  · exact takeMaxStep_nf henv _ hfb f a v b
  · rename_i hneed; cases hneed

mutual
  theorem fallback_typed {ds : Decls} : (s : Source) → s.WT ds → ∀ e, s.fallback = some e →
      typeExpr ds e = .ok .account
    | .account e od, h, e', he => by
      simp only [Source.fallback] at he
      cases od with
      | none =>
        simp only at he
        split at he
        · cases he; exact h.1
        · cases he
      | upTo x => simp at he
      | unbounded => simp only at he; cases he; exact h.1
    | .maxed _ _, _, e', he => by simp [Source.fallback] at he
    | .inorder ss, h, e', he => fallbackL_typed ss h e' (by simpa only [Source.fallback] using he)
  theorem fallbackL_typed {ds : Decls} : (ss : SourceList) → ss.WT ds → ∀ e, ss.fallback = some e →
      typeExpr ds e = .ok .account
    | .nil, _, e', he => by simp [SourceList.fallback] at he
    | .cons s .nil, h, e', he => fallback_typed s h.1 e' (by simpa only [SourceList.fallback] using he)
    | .cons _ (.cons s ss), h, e', he =>
      fallbackL_typed (.cons s ss) h.2 e' (by simpa only [SourceList.fallback] using he)
end

theorem fallbacks_typed (ds : Decls) :
    (ss : SourceList) → ∀ isAll em r, checkSources ds isAll ss em = .ok r →
    ∀ e, ss.fallback = some e → typeExpr ds e = .ok .account :=
  fun ss _ _ _ h => fallbackL_typed ss (checkSources_wt ss h)

mutual
  theorem evalSource_nf {ds : Decls} {env : Env} (henv : EnvTyped ds env) (hok : EnvValsOK env)
      (asset : String) : (s : Source) → s.WT ds → ∀ b, NF (evalSource Cfg.fixed env asset s b)
    | .account e od, ⟨he, hod⟩, b => by
      simp only [evalSource]
      split
      · exact (evalAccount_nf henv he).error_of ‹_›
      rename_i acc _
      cases od with
      | none =>
        simp only
        split
        · exact NF.ok _
        · split
          · exact (withdrawAll_nf b acc asset 0).error_of ‹_›
          exact NF.ok _
      | upTo x =>
        simp only
        rcases evalMonetary_typed henv hok (hod x rfl) with ⟨a, v, hm⟩ | ⟨k, hk⟩
        · rw [hm]
          simp only
          obtain ⟨c1, c2⟩ := checkOverdraft_fixed asset (a, some v)
          split
          · exact c1.error_of ‹_›
          rename_i oa ov heq
          obtain ⟨x', hx'⟩ := c2 _ heq
          simp only at hx'
          subst hx'
          split
          · exact (withdrawAll_nf b acc oa x').error_of ‹_›
          exact NF.ok _
        · rw [hk]; exact NF.run _ _
      | unbounded => exact NF.ok _
    | .maxed m s, ⟨hs, hm⟩, b => by
      simp only [evalSource]
      split
      · exact (evalSource_nf henv hok asset s hs b).error_of ‹_›
      rename_i f b1 _
      rcases evalMonetary_typed henv hok hm with ⟨a, v, hmv⟩ | ⟨k, hk⟩
      · rw [hmv]
        exact takeMaxStep_nf henv _ (fallback_typed s hs) f a v b1
      · rw [hk]; exact NF.run _ _
    | .inorder ss, h, b => by
      simp only [evalSource]
      split
      · exact (evalSourceL_nf henv hok asset ss h b).error_of ‹_›
      split
      · exact (assemble_nf _).error_of ‹_›
      exact NF.ok _
  theorem evalSourceL_nf {ds : Decls} {env : Env} (henv : EnvTyped ds env) (hok : EnvValsOK env)
      (asset : String) : (ss : SourceList) → ss.WT ds → ∀ b, NF (evalSources Cfg.fixed env asset ss b)
    | .nil, _, b => NF.ok _
    | .cons s rest, ⟨hs, hrest⟩, b => by
      simp only [evalSources]
      split
      · exact (evalSource_nf henv hok asset s hs b).error_of ‹_›
      rename_i f b1 _
      split
      · exact (evalSourceL_nf henv hok asset rest hrest b1).error_of ‹_›
      exact NF.ok _
end

theorem evalSources_nf {ds : Decls} {env : Env} (henv : EnvTyped ds env) (hok : EnvValsOK env)
    (asset : String) :
    (ss : SourceList) → ∀ isAll em r, checkSources ds isAll ss em = .ok r → ∀ b,
    NF (evalSources Cfg.fixed env asset ss b) :=
  fun ss _ _ _ h => evalSourceL_nf henv hok asset ss (checkSources_wt ss h)

theorem evalAllotSrc_nf {ds : Decls} {env : Env} (henv : EnvTyped ds env) (hok : EnvValsOK env)
    (asset monAsset : String) (items : AllotSrcList) (h : items.WT ds) (parts : List Int) (b : Balances)
    (hl : parts.length = items.length) : NF (evalAllotSrc Cfg.fixed env asset monAsset items parts b) := by
  fun_induction evalAllotSrc Cfg.fixed env asset monAsset items parts b <;>
    try (first | exact NF.ok _ | exact NF.run _ _)
  -- a source left without a share: the lengths differ
  · simp [AllotSrcList.length] at hl
  -- the source, the take of its share, the other sources
  · exact (evalSource_nf henv hok asset _ h.1 _).error_of ‹_›
  · exact (takeFromSource_nf henv _ (fallback_typed _ h.1) _ monAsset _ _).error_of ‹_›
  · rename_i ih
    exact (ih h.2 (by simpa [AllotSrcList.length] using hl)).error_of ‹_›

theorem evalPortion_ok {ds : Decls} {env : Env} (henv : EnvTyped ds env) {p : PortionE} (hp : PortionOK ds p) :
    ∃ v, evalPortion env p = .ok v := by
  cases p with
  | lit t =>
    obtain ⟨v, hv⟩ := hp
    exact ⟨v, by simp [evalPortion, hv]⟩
  | var x =>
    obtain ⟨w, hw, hty⟩ := henv x _ hp
    obtain ⟨q, rfl⟩ := val_portion hty
    exact ⟨q, by simp [evalPortion, hw]⟩
  | remaining => exact ⟨_, rfl⟩

theorem evalPortion_nf {ds : Decls} {env : Env} (henv : EnvTyped ds env) (p : PortionE)
    (h : PortionOK ds p) : NF (evalPortion env p) := by
  obtain ⟨v, hv⟩ := evalPortion_ok henv h
  rw [hv]; exact NF.ok _

theorem evalPortions_nf {ds : Decls} {env : Env} (henv : EnvTyped ds env) (ps : List PortionE)
    (h : ∀ p ∈ ps, PortionOK ds p) : NF (evalPortions env ps) := by
  fun_induction evalPortions env ps <;> try (first | exact NF.ok _ | exact NF.run _ _)
  · exact (evalPortion_nf henv _ (h _ List.mem_cons_self)).error_of ‹_›
  · rename_i ih
    exact (ih fun q hq => h q (by simp [hq])).error_of ‹_›

theorem makeAllotment_nf {ds : Decls} {env : Env} (henv : EnvTyped ds env) {ps : List PortionE}
    (h : checkAllotment ds ps = .ok ()) : NF (makeAllotment env ps) := by
  fun_cases makeAllotment env ps <;> try (first | exact NF.ok _ | exact NF.run _ _)
  exact (evalPortions_nf henv ps (checkAllotment_ok h)).error_of ‹_›

mutual
  theorem evalDest_nf {ds : Decls} {env : Env} (henv : EnvTyped ds env) (hok : EnvValsOK env)
      (asset : String) : (d : Dest) → checkDest ds d = .ok () → ∀ f st, NF (evalDest env asset d f st)
    | .account e, h, f, st => by
      simp only [evalDest]
      split
      · exact NF.run _ _
      · split
        · exact (evalAccount_nf henv (checkDest_account_inv h)).error_of ‹_›
        exact NF.ok _
    | .inorder items remaining, h, f, st => by
      obtain ⟨hci, h⟩ := checkDest_inorder_inv h
      simp only [evalDest]
      split
      · exact (evalInOrder_nf henv hok asset items hci 0 f st).error_of ‹_›
      rename_i kept f1 st1 _
      split
      · exact NF.run _ _
      · rename_i resR remR _
        split
        · exact (evalKD_nf henv hok asset remaining h remR.reverse st1).error_of ‹_›
        exact NF.ok _
    | .allot items, h, f, st => by
      obtain ⟨hca, h⟩ := checkDest_allot_inv h
      simp only [evalDest]
      split
      · exact (makeAllotment_nf henv hca).error_of ‹_›
      rename_i a hma
      exact evalAllotDst_nf henv hok asset items h _ f st
        ((allocate_length_of_make hma _).trans items.portions_length)
  theorem evalKD_nf {ds : Decls} {env : Env} (henv : EnvTyped ds env) (hok : EnvValsOK env)
      (asset : String) : (d : KeptOrDest) → checkKD ds d = .ok () → ∀ f st, NF (evalKD env asset d f st)
    | .kept, _, f, st => NF.ok _
    | .to d, h, f, st => evalDest_nf henv hok asset d h f st
  theorem evalInOrder_nf {ds : Decls} {env : Env} (henv : EnvTyped ds env) (hok : EnvValsOK env)
      (asset : String) : (items : InOrderDstList) → checkInOrder ds items = .ok () →
      ∀ k f st, NF (evalInOrder env asset items k f st)
    | .nil, _, k, f, st => NF.ok _
    | .cons m d rest, h, k, f, st => by
      obtain ⟨hm, hkd, h⟩ := checkInOrder_cons_inv h
      simp only [evalInOrder]
      rcases evalMonetary_typed henv hok hm with ⟨a, v, hmv⟩ | ⟨kk, hk⟩
      · rw [hmv]
        simp only [needAmt]
        split
        · exact NF.run _ _
        · split
          · exact NF.run _ _
          · split
            · exact (evalKD_nf henv hok asset d hkd (takeMax f v).1 st).error_of ‹_›
            rename_i r st1 _
            exact evalInOrder_nf henv hok asset rest h _ _ st1
      · rw [hk]; exact NF.run _ _
  theorem evalAllotDst_nf {ds : Decls} {env : Env} (henv : EnvTyped ds env) (hok : EnvValsOK env)
      (asset : String) : (items : AllotDstList) → checkAllotDst ds items = .ok () →
      ∀ parts f st, parts.length = items.length → NF (evalAllotDst env asset items parts f st)
    | .nil, _, parts, f, st, _ => NF.ok _
    | .cons _ _ _, _, [], f, st, hl => by simp [AllotDstList.length] at hl
    | .cons _ d rest, h, p :: ps, f, st, hl => by
      obtain ⟨hkd, h⟩ := checkAllotDst_cons_inv h
      simp only [evalAllotDst]
      split
      · exact NF.run _ _
      · rename_i res rm _
        split
        · exact (evalKD_nf henv hok asset d hkd res st).error_of ‹_›
        rename_i r st1 _
        exact evalAllotDst_nf henv hok asset rest h ps _ st1 (by simpa [AllotDstList.length] using hl)
end

theorem finishSend_nf {ds : Decls} {env : Env} (henv : EnvTyped ds env) (hok : EnvValsOK env)
    {dst : Dest} (h : checkDest ds dst = .ok ()) (f : Funding) (st : State) :
    NF (finishSend env dst f st) := by
  fun_cases finishSend env dst f st <;> try (first | exact NF.ok _ | exact NF.run _ _)
  exact (evalDest_nf henv hok f.asset dst h f.parts st).error_of ‹_›

/-- In each goal `hi` is what the check says of the statement of that path (`checkStmt_inv`, reduced). -/
theorem evalStmt_nf {ds : Decls} {env : Env} (henv : EnvTyped ds env) (hok : EnvValsOK env)
    (s : Stmt) (h : checkStmt ds s = .ok ()) (st : State) : NF (evalStmt Cfg.fixed env s st) := by
  have hi := checkStmt_inv h
  fun_cases evalStmt Cfg.fixed env s st <;> try (first | exact NF.ok _ | exact NF.run _ _)
  -- print, set_tx_meta: the expression
  · exact (evalExpr_nf henv hi.choose_spec).error_of ‹_›
  · exact (evalExpr_nf henv hi.choose_spec).error_of ‹_›
  -- set_account_meta: the expression, the account
  · exact (evalExpr_nf henv hi.1.choose_spec).error_of ‹_›
  · exact (evalAccount_nf henv hi.2).error_of ‹_›
  -- save: the amount, the account
  · exact (evalMonetary_leftmost_nf henv hi.1).error_of ‹_›
  · exact (evalAccount_nf henv hi.2).error_of ‹_›
  -- save all: the asset, the account
  · exact (evalAssetE_nf henv hi.1).error_of ‹_›
  · exact (evalAccount_nf henv hi.2).error_of ‹_›
  -- send from a source: the asset, the source, the amount, the take of an amount that is there, the destination
  · exact (leftmostAsset_nf henv hi.1).error_of ‹_›
  · exact (evalSource_nf henv hok _ _ hi.2.1 _).error_of ‹_›
  · exact (evalMonetary_nfp henv hok hi.1).1.error_of ‹_›
  · obtain ⟨a, v, rfl⟩ := (evalMonetary_nfp henv hok hi.1).2 _ ‹evalMonetary env _ = .ok _›
    exact (takeFromSource_nf henv _ (fallback_typed _ hi.2.1) _ a v _).error_of ‹_›
  · exact finishSend_nf henv hok hi.2.2 _ _
  -- send from an allotment: the amount, the portions, `needAmt` of an amount that is there, the asset, the sources
  -- with as many shares, their sum, the destination
  · exact (evalMonetary_nfp henv hok hi.1).1.error_of ‹_›
  · exact (makeAllotment_nf henv hi.2.1).error_of ‹_›
  · obtain ⟨a, v, rfl⟩ := (evalMonetary_nfp henv hok hi.1).2 _ ‹evalMonetary env _ = .ok _›
    cases ‹needAmt _ = .error _›
  · exact (leftmostAsset_nf henv hi.1).error_of ‹_›
  · exact (evalAllotSrc_nf henv hok _ _ _ hi.2.2.1 _ _
      ((allocate_length_of_make ‹makeAllotment env _ = .ok _› _).trans (AllotSrcList.portions_length _))).error_of ‹_›
  · exact (assemble_nf _).error_of ‹_›
  · exact finishSend_nf henv hok hi.2.2.2 _ _
  -- send all: the asset, the source, the destination; the check refuses an allotment
  · exact (evalAssetE_nf henv hi.1).error_of ‹_›
  · exact (evalSource_nf henv hok _ _ hi.2.1 _).error_of ‹_›
  · exact finishSend_nf henv hok hi.2.2 _ _
  · exact hi.elim

theorem runStmts_nf {ds : Decls} {env : Env} (henv : EnvTyped ds env) (hok : EnvValsOK env)
    (ss : List Stmt) (h : ∀ s ∈ ss, checkStmt ds s = .ok ()) (st : State) :
    NF (runStmts Cfg.fixed env ss st) := by
  fun_induction runStmts Cfg.fixed env ss st <;> try (first | exact NF.ok _ | exact NF.run _ _)
  · exact (evalStmt_nf henv hok _ (h _ List.mem_cons_self) _).error_of ‹_›
  · rename_i ih
    exact ih fun x hx => h x (List.mem_cons_of_mem _ hx)

end Ledger.Machine
