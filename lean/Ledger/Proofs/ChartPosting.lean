import Ledger.Proofs.ChartRegex
import Ledger.Chart.Posting
import Ledger.Proofs.ListBasic

/-! Helper lemmas for C28 (validators = `Lang` of the generated patterns). -/
namespace Ledger.Chart
open Ledger.Regex

/-- A validator is membership in the language of its pattern between the anchors. -/
theorem matchAnchored_iff {pattern body : Re} (hb : pattern.unanchor = some body) (s : List Char) :
    matchAnchored pattern s = true ↔ Lang body s := by
  rw [matchAnchored, hb]
  exact accepts_iff body s

theorem matchAnchored_lang {pattern : Re} {s : List Char} (h : matchAnchored pattern s = true) :
    ∃ body, pattern.unanchor = some body ∧ Lang body s := by
  cases hb : pattern.unanchor with
  | none => rw [matchAnchored, hb] at h; cases h
  | some body => exact ⟨body, rfl, (matchAnchored_iff hb s).1 h⟩

theorem dropFirstChr_spec {r b : Re} {c : Char} (h : r.dropFirstChr c = some b) :
    r = .cat (Re.chr c) b := by
  unfold Re.dropFirstChr at h
  split at h
  · rename_i lo hi rest
    split at h
    · rename_i hc
      simp only [Bool.and_eq_true, decide_eq_true_eq] at hc
      cases h
      rw [hc.1, hc.2]; rfl
    · cases h
  · cases h

theorem wellFormed_of_valid {p : RawPosting} {a : Int} (ha : p.amount = some a) (h0 : 0 ≤ a)
    (hs : validAddress p.source = true) (hd : validAddress p.destination = true)
    (hasset : validAsset p.asset = true) : WellFormed p := by
  obtain ⟨b1, hb1, hl1⟩ := matchAnchored_lang hs
  obtain ⟨b2, hb2, hl2⟩ := matchAnchored_lang hd
  cases hb1.symm.trans hb2
  exact ⟨⟨a, ha, h0⟩, ⟨b1, hb1, hl1, hl2⟩, matchAnchored_lang hasset⟩

/-- What `Postings.Validate` lets pass at the head of a list. -/
theorem postingsValidate_cons {p : RawPosting} {rest : List RawPosting} {i : Nat}
    (h : postingsValidate (p :: rest) i = none) :
    WellFormed p ∧ postingsValidate rest (i + 1) = none := by
  rw [postingsValidate] at h
  cases ha : p.amount with
  | none => simp only [ha] at h; cases h
  | some a =>
    by_cases h0 : a < 0
    · simp only [ha, if_pos h0] at h; cases h
    cases hs : validAddress p.source
    · simp [ha, h0, hs] at h
    cases hd : validAddress p.destination
    · simp [ha, h0, hs, hd] at h
    cases hasset : validAsset p.asset
    · simp [ha, h0, hs, hd, hasset] at h
    simp only [ha, if_neg h0, hs, hd, hasset, Bool.not_true, Bool.false_eq_true, if_false] at h
    exact ⟨wellFormed_of_valid ha (by omega) hs hd hasset, h⟩

/-- a validator in front of the rest of a parser: `if ok then pure a else throw e` -/
theorem guard_bind {ε α β} {c : Bool} {a : α} {e : ε} {f : α → Except ε β} {b : β}
    (h : ((if c then .ok a else .error e) >>= f) = .ok b) : c = true ∧ f a = .ok b := by
  obtain ⟨a', ha, hb⟩ := Except.bind_ok h
  cases c <;> cases ha
  exact ⟨rfl, hb⟩

theorem newValueMonetary_bind {β} {s : List Char} {f : List Char × Int → Except String β} {b : β}
    (h : (newValueMonetary s >>= f) = .ok b) :
    ∃ asset n, validAsset asset = true ∧ 0 ≤ n ∧ f (asset, n) = .ok b := by
  unfold newValueMonetary at h
  split at h
  · cases h
  · split at h
    · cases h
    · split at h
      · cases h
      · rename_i hv
        split at h
        · cases h
        · exact ⟨_, _, by simpa using hv, by omega, h⟩

open Ledger.Generated.Grammar in
/-- `A/B` is a token of the lexer rule `ASSET` (`[A-Z/0-9]+`), and the asset pattern rejects it. -/
theorem lexAsset_slash : Lang lexAsset ['A', '/', 'B'] := (accepts_iff _ _).1 (by decide +kernel)

theorem validAsset_slash : validAsset ['A', '/', 'B'] = false := by decide +kernel

/-- a posting no validator accepts: padded source, asset outside the pattern, negative amount -/
def badPosting : RawPosting :=
  { source := [' ', 'b', 'a', 'n', 'k', '\n'], destination := "users:001".toList,
    asset := "USD/".toList, amount := some (-5) }

end Ledger.Chart
