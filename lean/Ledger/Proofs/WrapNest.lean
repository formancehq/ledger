import Ledger.Proofs.WrapEvents

/-!
The first-write path of `handleState` *nested* inside an atomic bulk's
transaction (`controllerFacade.BeginTX` returns a facade, so the first write of an
atomic bulk on an initializing ledger opens a savepoint inside the bulk's
transaction): invariants `BInv` (element boundary) and `Nest` (savepoint open)
and their preservation by the wrapper methods involved (for C31).
-/
namespace Ledger.Wrap
open List

/-- exemption of `t1` and of every transaction allocated after it -/
def exFrom (t1 : Nat) : Nat → Bool := fun t => decide (t1 ≤ t)
/-- exemption of every transaction allocated after `t1` -/
def exAbove (t1 : Nat) : Nat → Bool := fun t => decide (t1 < t)

theorem InvE.frame {ex : Nat → Bool} {s s' : St} {σ' : Spec} (h : InvE ex s) (hσ : specOf s'.trace = σ')
    (hb : σ'.bad = (specOf s.trace).bad) (hp : σ'.pub = (specOf s.trace).pub)
    (hd : σ'.dur = (specOf s.trace).dur)
    (hne : ∀ t, ex t = false → s'.opn t = s.opn t ∧ σ'.par t = (specOf s.trace).par t ∧
      σ'.pend t = (specOf s.trace).pend t ∧ s'.queue (.tx t) = s.queue (.tx t))
    (hf : ∀ t, s'.nT < t → s'.opn t = false ∧ s'.queue (.tx t) = [])
    (hl : s'.lockTx = s.lockTx) : InvE ex s' :=
  h.step hσ (hb ▸ h.bad) (by rw [hp, hd]; exact h.pub)
    (fun t hx ho => .inl (by obtain ⟨h1, r⟩ := hne t hx; exact ⟨h1 ▸ ho, r⟩)) hf hl

theorem InvE.change {ex ex' : Nat → Bool} {s : St} (h : InvE ex s)
    (hc : ∀ t, ex' t = false → ex t = true → s.opn t = true →
      (specOf s.trace).par t = 0 ∧ s.queue (.tx t) = (specOf s.trace).pend t) : InvE ex' s := by
  constructor
  · exact h.bad
  · exact h.pub
  · intro t ho hx
    cases hex : ex t with
    | false => exact h.par t ho hex
    | true => exact (hc t hx hex ho).1
  · intro t ho hx
    cases hex : ex t with
    | false => exact h.queue t ho hex
    | true => exact (hc t hx hex ho).2
  · exact h.fresh
  · exact h.lockF

theorem InvE.weaken {ex ex' : Nat → Bool} {s : St} (h : InvE ex s)
    (hw : ∀ t, ex' t = false → ex t = false) : InvE ex' s :=
  h.change (fun t hx hex _ => by rw [hw t hx] at hex; cases hex)

/-- Inside an atomic bulk whose transaction is `t1` (element boundary): `t1` is
    open, every later transaction is closed with an empty queue; `cl` says the
    bulk is still *clean*: the queue of the wrapper that opened `t1` is exactly
    `t1`'s pending set (so committing `t1` now would publish exactly what becomes
    durable).  After a failed inner transaction it is not clean any more — and the
    bulker is bound to roll back. -/
structure BInv (cl : Prop) (s : St) (t1 : Nat) : Prop where
  e : InvE (exFrom t1) s
  c : cl → InvE (exAbove t1) s
  o1 : s.opn t1 = true
  lo : 1 ≤ t1
  hi : t1 ≤ s.nT
  above : ∀ t, t1 < t → s.opn t = false ∧ s.queue (.tx t) = []

theorem BInv.weaken {cl cl' : Prop} {s : St} {t1 : Nat} (h : BInv cl s t1) (hw : cl' → cl) :
    BInv cl' s t1 :=
  ⟨h.e, fun hc => h.c (hw hc), h.o1, h.lo, h.hi, h.above⟩

theorem BInv.emit_inert {cl : Prop} {s : St} {t1 : Nat} (h : BInv cl s t1) (it : Item)
    (hi : it.inert = true) : BInv cl (s.emit it) t1 :=
  ⟨h.e.emit_inert it hi, fun hc => (h.c hc).emit_inert it hi, h.o1, h.lo, h.hi, h.above⟩

/-- The first-write path is running inside the bulk: `t2` is the savepoint opened
    by `handleState` inside `t1`. -/
structure Nest (cl : Prop) (s : St) (t1 t2 : Nat) : Prop where
  e : InvE (exFrom t1) s
  o1 : s.opn t1 = true
  o2 : s.opn t2 = true
  lo : 1 ≤ t1
  lt : t1 < t2
  hi : t2 ≤ s.nT
  p2 : (specOf s.trace).par t2 = t1
  q2 : s.queue (.tx t2) = []
  above : ∀ t, t1 < t → t ≠ t2 → s.opn t = false ∧ s.queue (.tx t) = []
  qn : cl → (specOf s.trace).par t1 = 0 ∧
    s.queue (.tx t1) = (specOf s.trace).pend t1 ++ (specOf s.trace).pend t2
  lk : s.lockTx true = true

theorem Nest.of_spec {cl : Prop} {s : St} {t1 t2 : Nat} {σ : Spec} (hσ : specOf s.trace = σ)
    (e : InvE (exFrom t1) s) (o1 : s.opn t1 = true) (o2 : s.opn t2 = true) (lo : 1 ≤ t1) (lt : t1 < t2)
    (hi : t2 ≤ s.nT) (p2 : σ.par t2 = t1) (q2 : s.queue (.tx t2) = [])
    (above : ∀ t, t1 < t → t ≠ t2 → s.opn t = false ∧ s.queue (.tx t) = [])
    (qn : cl → σ.par t1 = 0 ∧ s.queue (.tx t1) = σ.pend t1 ++ σ.pend t2) (lk : s.lockTx true = true) :
    Nest cl s t1 t2 := by
  subst hσ; exact ⟨e, o1, o2, lo, lt, hi, p2, q2, above, qn, lk⟩

theorem Nest.emit_inert {cl : Prop} {s : St} {t1 t2 : Nat} (h : Nest cl s t1 t2) (it : Item)
    (hi : it.inert = true) : Nest cl (s.emit it) t1 t2 :=
  .of_spec (by simp only [St.emit, specOf_snoc]; exact step_inert _ _ hi) (h.e.emit_inert it hi) h.o1 h.o2 h.lo
    h.lt h.hi h.p2 h.q2 h.above h.qn h.lk

theorem Nest.bump {cl : Prop} {s : St} {t1 t2 : Nat} (h : Nest cl s t1 t2) :
    Nest cl { s with nK := s.nK + 1 } t1 t2 :=
  ⟨h.e.of_eq rfl rfl, h.o1, h.o2, h.lo, h.lt, h.hi, h.p2, h.q2, h.above, h.qn, h.lk⟩

theorem Nest.live {cl : Prop} {s : St} {t1 t2 : Nat} (h : Nest cl s t1 t2) :
    UH.live s.opn (.tx t2 (.tx t1 .none)) = true := by
  simp [UH.live, h.o1, h.o2]

theorem exFrom_lt {t1 t : Nat} (h : exFrom t1 t = false) : t < t1 := by
  simpa [exFrom] using h

theorem exFrom_ge {t1 t : Nat} (h : t1 ≤ t) : exFrom t1 t = true := by
  simpa [exFrom] using h

/-- The first-write path's `BeginTX` inside the bulk transaction (a savepoint). -/
theorem nest_begin {cl : Prop} {s : St} {t1 : Nat} {c1 : W} (h : BInv cl s t1)
    (hu : c1.u = .tx t1 .none) (hlk : s.lockTx true = true) :
    (∃ e, (wBegin s c1).1 = .error e ∧ BInv cl (wBegin s c1).2 t1 ∧ Ext s (wBegin s c1).2) ∨
    ((wBegin s c1).1 = .ok (.node (.tx (s.nT + 1)) true (.tx (s.nT + 1) (.tx t1 .none)) c1) ∧
      Nest cl (wBegin s c1).2 t1 (s.nT + 1) ∧ Ext s (wBegin s c1).2) := by
  have hl : c1.u.live s.opn = true := by rw [hu]; simp [UH.live, h.o1]
  cases hf : s.faults.begin with
  | true =>
    rw [wBegin_fail hl hf]
    exact .inl ⟨_, rfl, h.emit_inert _ rfl, .of_eq rfl⟩
  | false =>
    rw [wBegin_ok hl hf, hu]
    refine .inr ⟨rfl, ?_, ⟨Nat.le_succ _, rfl, rfl, id⟩⟩
    have hi := h.hi
    have hlo := h.lo
    have hσ := spec_begin s.trace (s.nT + 1) t1
    have ht12 : t1 ≠ s.nT + 1 := by omega
    refine .of_spec hσ (h.e.frame hσ rfl rfl rfl (fun t hx => ?_) (fun t ht => ?_) rfl)
      ((upd_other _ _ _ _ ht12).trans h.o1) (upd_same ..) hlo (by omega) (Nat.le_refl _) (upd_same ..)
      (h.e.fresh _ (Nat.lt_succ_self _)).2 (fun t ht hne => ?_) (fun hc => ?_) hlk
    · have hne : t ≠ s.nT + 1 := by have := exFrom_lt hx; omega
      exact ⟨upd_other _ _ _ _ hne, upd_other _ _ _ _ hne, upd_other _ _ _ _ hne, rfl⟩
    · have ht' : s.nT + 1 < t := ht
      have := h.e.fresh t (by omega)
      exact ⟨(upd_other _ _ _ _ (by omega)).trans this.1, this.2⟩
    · exact ⟨(upd_other _ _ _ _ hne).trans (h.above t ht).1, (h.above t ht).2⟩
    · have hcl := h.c hc
      have hx1 : exAbove t1 t1 = false := by simp [exAbove]
      refine ⟨(upd_other _ _ _ _ ht12).trans (hcl.par t1 h.o1 hx1), ?_⟩
      show s.queue _ = upd _ _ _ _ ++ upd _ _ _ _
      rw [upd_other _ _ _ _ ht12, upd_same, hcl.queue t1 h.o1 hx1, List.append_nil]

/-- A write through the wrapper locked inside the savepoint: pending in `t2`,
    queued on the wrapper that opened `t1`. -/
theorem nest_write {cl : Prop} {s : St} {t1 t2 : Nat} {c3 : W} (h : Nest cl s t1 t2)
    (hu : c3.u = .tx t2 (.tx t1 .none)) (hs : c3.sink = some (.tx t1)) (k : Kind) (w : Nat) :
    Nest cl (wWrite s c3 k false w).2 t1 t2 ∧ Ext s (wWrite s c3 k false w).2 := by
  rcases wWrite_state s c3 k false w with ⟨it, hi, he⟩ | ⟨_, _, he⟩ <;> rw [he]
  · exact ⟨h.emit_inert _ hi, .of_eq rfl⟩
  · simp only [handleEvent, hs, hu, UH.id]
    refine ⟨?_, .of_eq rfl⟩
    have hlt := h.lt
    have hlo := h.lo
    have ht12 : t1 ≠ t2 := by omega
    have hσ := spec_write_in s.trace t2 k w (by omega)
    have hq : ∀ t, t ≠ t1 → updQ s.queue (.tx t1) (s.queue (.tx t1) ++ [(k, w)]) (.tx t) = s.queue (.tx t) :=
      fun t hne => updQ_other _ _ _ _ (by intro he; cases he; exact hne rfl)
    refine .of_spec (s := { s.emit _ with queue := _ }) hσ
      (h.e.frame hσ rfl rfl rfl (fun t hx => ?_) (fun t ht => ?_) rfl) h.o1 h.o2 hlo hlt h.hi h.p2
      ((hq t2 (by omega)).trans h.q2)
      (fun t ht hne => ⟨(h.above t ht hne).1, (hq t (by omega)).trans (h.above t ht hne).2⟩) (fun hc => ?_) h.lk
    · have := exFrom_lt hx
      exact ⟨rfl, rfl, upd_other _ _ _ _ (by omega), hq t (by omega)⟩
    · have ht' : s.nT < t := ht
      have := h.hi
      exact ⟨(h.e.fresh t ht').1, (hq t (by omega)).trans (h.e.fresh t ht').2⟩
    · obtain ⟨hp, hqq⟩ := h.qn hc
      refine ⟨hp, ?_⟩
      show updQ _ _ _ _ = upd _ _ _ _ ++ upd _ _ _ _
      rw [updQ_same, upd_other _ _ _ _ ht12, upd_same]
      show s.queue _ ++ _ = _
      rw [hqq, List.append_assoc]

/-- What remains once the savepoint is gone (released, failed or rolled back). -/
theorem nest_closed {cl cl' : Prop} {s s' : St} {t1 t2 : Nat} {σ' : Spec} (h : Nest cl s t1 t2)
    (hσ : specOf s'.trace = σ') (hbad : σ'.bad = (specOf s.trace).bad)
    (hpub : σ'.pub = (specOf s.trace).pub)
    (hdur : σ'.dur = (specOf s.trace).dur)
    (hpar : σ'.par = (specOf s.trace).par)
    (hpend : ∀ t, t ≠ t1 → t ≠ t2 → σ'.pend t = (specOf s.trace).pend t)
    (hopn : s'.opn = upd s.opn t2 false)
    (hq : ∀ t, t ≠ t2 → s'.queue (.tx t) = s.queue (.tx t)) (hq2 : s'.queue (.tx t2) = [])
    (hnT : s'.nT = s.nT) (hlt : s'.lockTx = s.lockTx)
    (hcl : cl' → cl ∧ σ'.pend t1 = (specOf s.trace).pend t1 ++ (specOf s.trace).pend t2) :
    BInv cl' s' t1 := by
  subst hσ
  have hlt12 := h.lt
  have ht12 : t1 ≠ t2 := by omega
  have he : InvE (exFrom t1) s' := by
    refine h.e.frame rfl hbad hpub hdur ?_ ?_ hlt
    · intro t hx
      have := exFrom_lt hx
      refine ⟨by rw [hopn]; exact upd_other _ _ _ _ (by omega), by rw [hpar],
        hpend t (by omega) (by omega), hq t (by omega)⟩
    · intro t ht
      rw [hnT] at ht
      have := h.hi
      rw [hopn, upd_other _ _ _ _ (by omega), hq t (by omega)]
      exact h.e.fresh t ht
  have ho1 : s'.opn t1 = true := by rw [hopn, upd_other _ _ _ _ ht12]; exact h.o1
  refine ⟨he, ?_, ho1, h.lo, by rw [hnT]; have := h.hi; omega, ?_⟩
  · intro hc
    obtain ⟨hc0, hp1⟩ := hcl hc
    obtain ⟨hp, hqq⟩ := h.qn hc0
    refine he.change ?_
    intro t hx hex _
    have ht : t = t1 := by
      have h1 : ¬ t1 < t := by simpa [exAbove] using hx
      have h2 : t1 ≤ t := by simpa [exFrom] using hex
      omega
    subst ht
    exact ⟨by rw [hpar]; exact hp, by rw [hq t (by omega), hqq, hp1]⟩
  · intro t ht
    by_cases h2 : t = t2
    · subst h2; rw [hopn, upd_same]; exact ⟨rfl, hq2⟩
    · rw [hopn, upd_other _ _ _ _ h2, hq t h2]; exact h.above t ht h2

/-- `Commit` of the savepoint (through the wrapper that opened it). -/
theorem nest_commit {cl : Prop} {s : St} {t1 t2 : Nat} {c2 : W} (h : Nest cl s t1 t2)
    (hu : c2.u = .tx t2 (.tx t1 .none)) (hid : c2.id = .tx t2) :
    BInv (cl ∧ (wCommit s c2).1 = .ok) (wCommit s c2).2 t1 ∧ Ext s (wCommit s c2).2 := by
  have hl : c2.u.live s.opn = true := by rw [hu]; exact h.live
  have hlt := h.lt
  have hlo := h.lo
  have ht0 : t2 ≠ 0 := by omega
  have ht12 : t1 ≠ t2 := by omega
  cases hf : commitFails s c2 with
  | true =>
    rw [wCommit_fail hu ht0 hl hf]
    exact ⟨nest_closed h (spec_clear s.trace t2 _ (.inl rfl)) rfl rfl rfl rfl
      (fun t _ h2 => upd_other _ _ _ _ h2) rfl (fun _ _ => rfl) h.q2 rfl rfl (fun hc => nomatch hc.2),
      .of_eq rfl⟩
  | false =>
    rw [wCommit_ok hu ht0 hl hf, hid, h.q2]
    have hσ := spec_commit_in s.trace t2 (by rw [h.p2]; omega)
    rw [h.p2] at hσ
    exact ⟨nest_closed h hσ rfl rfl rfl rfl
      (fun t h1 h2 => (upd_other _ _ _ _ h2).trans (upd_other _ _ _ _ h1)) rfl (fun _ _ => rfl) h.q2 rfl rfl
      (fun hc => ⟨hc.1, (upd_other _ _ _ _ ht12).trans (upd_same ..)⟩), .of_eq rfl⟩

/-- `Rollback` of the savepoint (the deferred one of `handleState`). -/
theorem nest_rollback {cl : Prop} {s : St} {t1 t2 : Nat} {c2 : W} (h : Nest cl s t1 t2)
    (hu : c2.u = .tx t2 (.tx t1 .none)) (hid : c2.id = .tx t2) :
    BInv False (wRollback s c2).2 t1 ∧ Ext s (wRollback s c2).2 := by
  have hl : c2.u.live s.opn = true := by rw [hu]; exact h.live
  have hlt := h.lt
  have hlo := h.lo
  have ht0 : t2 ≠ 0 := by omega
  rw [wRollback_live hu ht0 hl, hid]
  refine ⟨nest_closed h (spec_clear s.trace t2 _ ?_) rfl rfl rfl rfl (fun t _ h2 => upd_other _ _ _ _ h2) rfl
    (fun t h2 => updQ_other _ _ _ _ (by intro he; cases he; exact h2 rfl)) (updQ_same ..) rfl rfl nofun,
    .of_eq rfl⟩
  cases s.faults.rollback
  · exact .inr (.inl rfl)
  · exact .inr (.inr rfl)

end Ledger.Wrap
