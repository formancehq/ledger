import Ledger.Proofs.MachineKept
import Ledger.Proofs.MachineStmt

/-! C22 facts about one `send` statement. -/
namespace Ledger.Machine

variable {cfg : Cfg}

/-- What C22 says about the postings `new` of one send of `amount` in `asset`;
    `kept` is what the destination kept (handed back to the sources, not posted). -/
structure SendOK (st st' : State) (asset : String) (amount : Int) (new : List Posting) (kept : Int) : Prop where
  postings : st'.postings = st.postings ++ new
  assetOk : ∀ p ∈ new, p.asset = asset
  nonneg : ∀ p ∈ new, 0 ≤ p.amount
  sum : amountSum new + kept = amount
  keptNonneg : 0 ≤ kept

/-- What a send's destination does with the funding drawn: it posts all of it but `kept`,
    and keeps nothing if it is kept-free and the compiler accepted it. -/
theorem SendOK.ofDrawn {env : Env} {P : String → String → Int → Prop} {dst : Dest} {st st' : State}
    {b1 : Balances} {f : Funding}
    (hd : Drawn P st.bal b1 [f]) (h : finishSend env dst f { st with bal := b1 } = .ok st') :
    ∃ new kept, SendOK st st' f.asset (total f.parts) new kept ∧
      ∀ ds, EnvGood env → keptFreeDest dst = true → checkDest ds dst = .ok () → kept = 0 := by
  obtain ⟨new, rem, fin, st1, hev⟩ := finishSend_ok h
  have hn : partsNonneg f.parts := hd.nonneg f (List.mem_singleton_self f)
  exact ⟨new, total rem, ⟨fin.postings, fin.assetOk, fin.amounts hn, fin.sum,
    fin.keptNonneg hn⟩, fun ds henv hk hc =>
      evalDest_keptfree env henv ds f.asset dst hk hc f.parts _ rem st1 hn hev⟩

theorem sendAll_ok {env : Env} {assetE : Expr} {s : Source} {dst : Dest} {st st' : State}
    (h : evalStmt cfg env (.sendAll assetE (.src s) dst) st = .ok st') :
    ∃ asset f b1 new kept, evalAssetE env assetE = .ok asset ∧
      evalSource cfg env asset s st.bal = .ok (f, b1) ∧
      SendOK st st' f.asset (total f.parts) new kept ∧
      ∀ ds, EnvGood env → keptFreeDest dst = true → checkDest ds dst = .ok () → kept = 0 := by
  obtain ⟨asset, f, b1, ha, hs, d, hfin⟩ := sendAll_inv h
  obtain ⟨new, kept, ok, w⟩ := SendOK.ofDrawn d hfin
  exact ⟨asset, f, b1, new, kept, ha, hs, ok, w⟩

/-- `send <monetary>` for a statement the compiler accepted: the postings are in the
    monetary's asset, non-negative, and sum to the monetary's amount minus what was kept
    (nothing, if the destination is kept-free).
    From a source allotment the shares are an exact split of the amount (`checkAllotment`). -/
theorem send_ok {env : Env} (henv : EnvGood env) {ds : Decls} {mon : Expr} {src : VSource}
    {dst : Dest} {st st' : State} (hc : checkStmt ds (.send mon src dst) = .ok ())
    (h : evalStmt cfg env (.send mon src dst) st = .ok st') :
    ∃ asset amt new kept, evalMonetary env mon = .ok (asset, some amt) ∧
      SendOK st st' asset amt new kept ∧ (keptFreeDest dst = true → kept = 0) := by
  cases src with
  | src s =>
    obtain ⟨f, b1, d, hm, hfin⟩ := send_src_inv h
    obtain ⟨new, kept, ok, w⟩ := SendOK.ofDrawn d hfin
    exact ⟨_, _, new, kept, hm, ok, fun hk => w ds henv hk (checkStmt_inv hc).2.2⟩
  | allot items =>
    obtain ⟨asset, amt, al, f, b1, hm, hal, d, rfl, htot, hfin⟩ := send_allot_inv h
    obtain ⟨new, kept, ok, w⟩ := SendOK.ofDrawn d hfin
    obtain ⟨_, hca, _, hcd⟩ := checkStmt_inv hc
    rw [htot, allocate_take_sum henv hca hal amt items.portions_length] at ok
    exact ⟨_, amt, new, kept, hm, ok, fun hk => w ds henv hk hcd⟩

end Ledger.Machine
