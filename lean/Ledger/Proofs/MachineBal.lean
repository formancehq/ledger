import Ledger.Machine.Sem
import Ledger.Proofs.MachineFunding

/-! Posting sums, and the balance primitives of the machine: `withdrawAll`, `withdrawAlways` and
    `repayPart` as `Delta`s on the tracked balances; `credit` by `credit_spec`, which also speaks
    of world and of ill-formed balances (`Step.sendTo` in `MachineDest` is stated for those too). -/
namespace Ledger.Machine

def acctTotal (a : String) (ps : List Part) : Int := totalOf (fun x => x == a) ps

/-- Well-formed balances: a tracked pair belongs to a tracked account. -/
def Balances.WF (b : Balances) : Prop := ∀ a c v, b.get a c = some v → b.hasAcct a = true

theorem Balances.set_get (b : Balances) (a c : String) (v : Int) (a' c' : String) :
    (b.set a c v).get a' c' = if a' = a ∧ c' = c then some v else b.get a' c' := rfl

theorem Balances.WF_set {b : Balances} (h : b.WF) {a c : String} {v : Int} (ha : b.hasAcct a = true) :
    (b.set a c v).WF := by
  intro a' c' v' hg
  rw [Balances.set_get] at hg
  split at hg
  · rename_i h1; rw [h1.1]; exact ha
  · exact h a' c' v' hg

def flowOut (a c : String) : List Posting → Int
  | [] => 0
  | p :: ps => (if p.source = a ∧ p.asset = c then p.amount else 0) + flowOut a c ps

def flowIn (a c : String) : List Posting → Int
  | [] => 0
  | p :: ps => (if p.destination = a ∧ p.asset = c then p.amount else 0) + flowIn a c ps

def amountSum : List Posting → Int
  | [] => 0
  | p :: ps => p.amount + amountSum ps

theorem flowOut_append (a c : String) (x y : List Posting) :
    flowOut a c (x ++ y) = flowOut a c x + flowOut a c y := by
  induction x with
  | nil => simp [flowOut]
  | cons p ps ih => simp [flowOut, ih]; omega

theorem flowIn_append (a c : String) (x y : List Posting) :
    flowIn a c (x ++ y) = flowIn a c x + flowIn a c y := by
  induction x with
  | nil => simp [flowIn]
  | cons p ps ih => simp [flowIn, ih]; omega

theorem flowOut_mkPostings (a c asset dest : String) (parts : List Part) :
    flowOut a c (mkPostings asset dest parts) = if asset = c then acctTotal a parts else 0 := by
  induction parts with
  | nil => simp [mkPostings, flowOut, acctTotal, totalOf]
  | cons p ps ih =>
    simp only [mkPostings, List.map_cons, flowOut, acctTotal, totalOf] at *
    rw [ih]
    by_cases h1 : asset = c <;> by_cases h2 : p.account = a <;> simp [h1, h2]

theorem flowIn_mkPostings (a c asset dest : String) (parts : List Part) :
    flowIn a c (mkPostings asset dest parts) = if dest = a ∧ asset = c then total parts else 0 := by
  induction parts with
  | nil => simp [mkPostings, flowIn, total]
  | cons p ps ih =>
    simp only [mkPostings, List.map_cons, flowIn, total] at *
    rw [ih]
    by_cases h1 : dest = a ∧ asset = c <;> simp [h1]

def outOf (P : String → Bool) : List Posting → Int
  | [] => 0
  | p :: ps => (if P p.source then p.amount else 0) + outOf P ps

theorem outOf_append (P : String → Bool) (x y : List Posting) :
    outOf P (x ++ y) = outOf P x + outOf P y := by
  induction x with
  | nil => simp [outOf]
  | cons p ps ih => simp [outOf, ih]; omega

theorem outOf_mkPostings (P : String → Bool) (asset dest : String) (parts : List Part) :
    outOf P (mkPostings asset dest parts) = totalOf P parts := by
  induction parts with
  | nil => rfl
  | cons p ps ih => simp only [mkPostings, List.map_cons, outOf, totalOf] at *; rw [ih]

theorem amountSum_eq_outOf (ps : List Posting) : amountSum ps = outOf (fun _ => true) ps := by
  induction ps with
  | nil => rfl
  | cons p ps ih => simp [amountSum, outOf, ih]

theorem amountSum_append (x y : List Posting) : amountSum (x ++ y) = amountSum x + amountSum y := by
  simp only [amountSum_eq_outOf, outOf_append]

theorem amountSum_mkPostings (asset dest : String) (parts : List Part) :
    amountSum (mkPostings asset dest parts) = total parts := by
  rw [amountSum_eq_outOf, outOf_mkPostings, total_eq_totalOf]

theorem flowOut_cases (a c asset : String) (ps : List Posting) (h : ∀ p ∈ ps, p.asset = asset) :
    flowOut a c ps = if asset = c then outOf (fun x => x == a) ps else 0 := by
  induction ps with
  | nil => simp [flowOut, outOf]
  | cons p ps ih =>
    obtain ⟨hp, hps⟩ := List.forall_mem_cons.mp h
    simp only [flowOut, outOf, ih hps, hp, beq_iff_eq]
    by_cases hc : asset = c <;> by_cases hs : p.source = a <;> simp [hc, hs]

/-- `b'` differs from `b` by `δ` on every tracked pair of a non-world account. -/
structure Delta (b b' : Balances) (δ : String → String → Int) : Prop where
  hasAcct : b'.hasAcct = b.hasAcct
  wf : b.WF → b'.WF
  bal : ∀ a c v, a ≠ "world" → b.WF → b.get a c = some v → b'.get a c = some (v + δ a c)

theorem Delta.refl (b : Balances) : Delta b b (fun _ _ => 0) :=
  ⟨rfl, id, fun a c v _ _ h => by simp [h]⟩

theorem Delta.trans {b1 b2 b3 : Balances} {d1 d2 d3 : String → String → Int}
    (h1 : Delta b1 b2 d1) (h2 : Delta b2 b3 d2) (he : ∀ a c, d3 a c = d1 a c + d2 a c) :
    Delta b1 b3 d3 where
  hasAcct := h2.hasAcct.trans h1.hasAcct
  wf := fun h => h2.wf (h1.wf h)
  bal := by
    intro a c v ha hwf hg
    rw [h2.bal a c _ ha (h1.wf hwf) (h1.bal a c v ha hwf hg), he]
    simp; omega

theorem Delta.congr {b1 b2 : Balances} {d1 d2 : String → String → Int}
    (h1 : Delta b1 b2 d1) (he : ∀ a c, d2 a c = d1 a c) : Delta b1 b2 d2 :=
  ⟨h1.hasAcct, h1.wf, fun a c v ha hwf hg => by rw [h1.bal a c v ha hwf hg, he]⟩

/-- C23's conclusion for the pair `(a, c)` with overdraft allowance `B`: its balance does not fall below `-B`;
    one already below (`v < -B`) does not fall further. -/
def Floor (a c : String) (B : Int) (b b' : Balances) : Prop :=
  ∀ v, b.get a c = some v → ∃ v', b'.get a c = some v' ∧ min v (-B) ≤ v'

theorem Floor.refl (a c : String) (B : Int) (b : Balances) : Floor a c B b b :=
  fun v h => ⟨v, h, Int.min_le_left _ _⟩

theorem Floor.trans {a c : String} {B : Int} {b1 b2 b3 : Balances}
    (h1 : Floor a c B b1 b2) (h2 : Floor a c B b2 b3) : Floor a c B b1 b3 := by
  intro v hv
  obtain ⟨v1, g1, l1⟩ := h1 v hv
  obtain ⟨v2, g2, l2⟩ := h2 v1 g1
  exact ⟨v2, g2, Int.le_trans (Int.le_min.mpr ⟨l1, Int.min_le_right _ _⟩) l2⟩

theorem Delta.floor {b b' : Balances} {d : String → String → Int} (h : Delta b b' d)
    {a c : String} (B : Int) (ha : a ≠ "world") (hwf : b.WF) (hd : 0 ≤ d a c) : Floor a c B b b' :=
  fun v hv => ⟨v + d a c, h.bal a c v ha hwf hv,
    Int.le_trans (Int.min_le_left _ _) (Int.le_add_of_nonneg_right hd)⟩

/-! Each balance primitive leaves the balances as they are or is a `set` on one pair of a
    tracked account: its `Delta` is `Delta.same` or `Delta.set`. -/

theorem Balances.set_get_add {b : Balances} {a c : String} {v d : Int}
    (hv : ∀ v0, b.get a c = some v0 → v = v0 + d) {a' c' : String} {v' : Int}
    (hg : b.get a' c' = some v') :
    (b.set a c v).get a' c' = some (v' + if a' = a ∧ c' = c then d else 0) := by
  rw [Balances.set_get]
  split
  next h => obtain ⟨rfl, rfl⟩ := h; rw [hv v' hg]
  next => rw [hg, Int.add_zero]

/-- `set` on a pair of a tracked account, to a value `d` above the old one if there was one. -/
theorem Delta.set {b : Balances} {a c : String} {v d : Int} (ha : b.WF → b.hasAcct a = true)
    (hv : ∀ v0, b.get a c = some v0 → v = v0 + d) :
    Delta b (b.set a c v) (fun a' c' => if a' = a ∧ c' = c then d else 0) :=
  ⟨rfl, fun h => Balances.WF_set h (ha h), fun _ _ _ _ _ hg => Balances.set_get_add hv hg⟩

/-- Nothing moves, and `(a, c)` is not a pair `Delta` speaks of (or `d = 0`). -/
theorem Delta.same {b : Balances} {a c : String} {d : Int}
    (h : a = "world" ∨ b.hasAcct a = false ∨ b.get a c = none ∨ d = 0) :
    Delta b b (fun a' c' => if a' = a ∧ c' = c then d else 0) where
  hasAcct := rfl
  wf := id
  bal := fun a' c' v' hw hwf hg => by
    split
    next e =>
      obtain ⟨rfl, rfl⟩ := e
      rcases h with h | h | h | h
      · exact absurd h hw
      · rw [hwf _ _ _ hg] at h; cases h
      · rw [hg] at h; cases h
      · rw [hg, h, Int.add_zero]
    next => rw [hg, Int.add_zero]

theorem withdrawAlways_fst (b : Balances) (acc asset : String) (amt : Int) :
    (withdrawAlways b acc asset amt).1 = ⟨acc, amt⟩ := by
  unfold withdrawAlways; split <;> rfl

theorem withdrawAlways_delta (b : Balances) (acc asset : String) (amt : Int) :
    Delta b (withdrawAlways b acc asset amt).2 (fun a c => if a = acc ∧ c = asset then -amt else 0) := by
  unfold withdrawAlways
  split
  next bal hb => exact Delta.set (fun hwf => hwf _ _ _ hb) fun v0 h0 => by rw [hb] at h0; cases h0; omega
  next hn => exact Delta.same (.inr (.inr (.inl hn)))

theorem withdrawAll_delta {b b' : Balances} {acc asset : String} {od : Option Int} {p : Part}
    (h : withdrawAll b acc asset od = .ok (p, b')) :
    p.account = acc ∧ Delta b b' (fun a c => if a = acc ∧ c = asset then -p.amount else 0) := by
  unfold withdrawAll at h
  split at h
  · cases h
  next bal hb =>
  split at h
  · split at h <;> cases h
    exact ⟨rfl, Delta.set (fun hwf => hwf _ _ _ hb) fun v0 h0 => by
      rw [hb] at h0; cases h0; dsimp only; omega⟩
  · cases h; exact ⟨rfl, Delta.same (.inr (.inr (.inr rfl)))⟩

/-- What `Delta` does not say of OP_TAKE_ALL: the part is non-negative, and the pair stays
    at or above minus the overdraft allowed. -/
theorem withdrawAll_floor {b b' : Balances} {acc asset : String} {od : Option Int} {p : Part}
    (h : withdrawAll b acc asset od = .ok (p, b')) :
    0 ≤ p.amount ∧ Floor acc asset (nilAsZero od) b b' := by
  unfold withdrawAll at h
  split at h
  · cases h
  next bal hb =>
  split at h
  next hpos =>
    split at h <;> cases h
    next o =>
    simp only [nilAsZero] at hpos
    exact ⟨by dsimp only; omega, fun v hg => ⟨-o, by simp [Balances.set_get], by
      rw [hb] at hg; cases hg; simp only [nilAsZero]; omega⟩⟩
  next hpos =>
    cases h
    exact ⟨Int.le_refl 0, Floor.refl _ _ _ _⟩

/-- OP_TAKE_ALL on a tracked pair succeeds, with what the balance and the overdraft allow. -/
theorem withdrawAll_tracked {b : Balances} {acc asset : String} {o bal : Int}
    (hb : b.get acc asset = some bal) :
    ∃ b', withdrawAll b acc asset (some o) = .ok (⟨acc, max (bal + o) 0⟩, b') := by
  unfold withdrawAll
  rw [hb]
  by_cases h : 0 < bal + o
  · exact ⟨_, by rw [Int.max_eq_left (Int.le_of_lt h)]; exact if_pos h⟩
  · exact ⟨_, by rw [Int.max_eq_right (Int.not_lt.mp h)]; exact if_neg h⟩

theorem repayPart_delta (asset : String) (b : Balances) (p : Part) :
    Delta b (repayPart asset b p) (fun a c => if a = p.account ∧ c = asset then p.amount else 0) := by
  unfold repayPart
  split
  next hw => exact Delta.same (.inl hw)
  split
  next ha => exact Delta.set (fun _ => ha) fun v0 h0 => by rw [h0]; rfl
  next ha => exact Delta.same (.inr (.inl (Bool.eq_false_iff.mpr ha)))

theorem credit_spec (b : Balances) (dest asset : String) (parts : List Part) :
    (credit b dest asset parts).hasAcct = b.hasAcct ∧ (b.WF → (credit b dest asset parts).WF) ∧
    (∀ a c v, b.get a c = some v →
      (credit b dest asset parts).get a c =
        some (v + (if a = dest ∧ c = asset ∧ dest ≠ "world" then total parts else 0))) := by
  unfold credit
  split
  · rename_i hw
    refine ⟨rfl, id, ?_⟩
    intro a c v hg
    have : ¬ (a = dest ∧ c = asset ∧ dest ≠ "world") := by rintro ⟨_, _, h3⟩; exact h3 hw
    simp [this, hg]
  · rename_i hw
    split
    · rename_i bal hb
      refine ⟨rfl, fun hwf => Balances.WF_set hwf (hwf _ _ _ hb), fun a c v hg => ?_⟩
      rw [Balances.set_get_add (d := total parts) (fun v0 h0 => by rw [hb] at h0; cases h0; rfl) hg]
      simp [hw]
    · rename_i hnone
      refine ⟨rfl, id, ?_⟩
      intro a c v hg
      have : ¬ (a = dest ∧ c = asset ∧ dest ≠ "world") := by
        rintro ⟨h2, h3, _⟩; subst h2; subst h3; rw [hnone] at hg; cases hg
      simp [this, hg]

end Ledger.Machine
