import Ledger.Proofs.SqlRevert
import Ledger.Generated.WriteSql

/-!
# UPDATE statements on `transactions`: what their WHERE clauses and SET lists mean on a typed row

`RevertTransaction` (date from `transaction_date()` or given), `UpdateTransactionMetadata … AT`,
`DeleteTransactionMetadata … AT`: guard and effect of the UPDATE inside each statement's CTE, in the form
`tx_update_exec` of `Ledger/Proofs/SqlRevert.lean` asks for.
-/

open Ledger Ledger.Sql Ledger.Generated

namespace Ledger.Sql

/-- the bucket's `transaction_date()` exists and has already been called in this SQL transaction (it answered `d`) -/
def TxDateSet (b : String) (d : Int) (s : St) : Prop :=
  s.w.funcs.any (·.1 == b ++ "." ++ "transaction_date") = true ∧ (s.w.session s.sid).txDate = some d

theorem TxDateSet.withTable {b : String} {d : Int} (s : St) (t : Table) (h : TxDateSet b d s) : TxDateSet b d (s.withTable t) := h
theorem TxDateSet.addQ {b : String} {d : Int} (s : St) (q : List PendingTrig) (h : TxDateSet b d s) : TxDateSet b d (s.addQ q) := h

theorem exec_transaction_date (m : Nat) (te : TypeEnv) (env : Env) (b : String) (d : Int) (s : St)
    (hbs : (b.isEmpty || b == "public" || b == "pg_catalog") = false) (h : TxDateSet b d s) :
    (evalExpr (cbs (m + 2)) te env (Expr.call b "transaction_date" [])).exec s = (.ok (.ts d), s) := by
  have hbe : b.isEmpty = false := by
    cases hb : b.isEmpty <;> simp_all
  rw [evalExpr_call _ _ _ _ _ _ (by decide)]
  simp only [evalExprs, exec_bind, exec_pure, hbs, Bool.false_eq_true, if_false, cbs]
  rw [callFunc]
  -- `hbs` first: it selects the branch of user-defined functions before `hbe` can rewrite inside it
  simp only [hbs, Bool.false_eq_true, if_false]
  simp only [exec_bind, qualify, hbe, Bool.false_eq_true, if_false, exec_pure, exec_getW, h.1, h.2, beq_self_eq_true,
    Bool.and_self, if_true, exec_get]

/-- `SET reverted_at = e, updated_at = e` on a typed row, for an expression whose value casts to the timestamp `T` -/
theorem exec_applySets_reverted (m : Nat) (env : Env) (b : String) (trigs : List TriggerDef) (nr : Nat) (rows : List Ver)
    (x : TxR) (e : Expr) (v : Value) (T : Int) (s : St) (hd : e ≠ .dflt)
    (he : (evalExpr (cbs m) s.w.types env e).exec s = (.ok v, s))
    (hc : castTo s.w.types (SqlType.mk "" "timestamp" "" false) v = .ok (.ts T)) :
    (applySets (m + 1) env ((txT b trigs nr).withRows rows) (txVals x) [SetItem.mk "reverted_at" e, SetItem.mk "updated_at" e]).exec s =
      (.ok (txVals (revF T x)), s) :=
  (exec_applySets_all m env _ (txVals x) [.mk "reverted_at" e, .mk "updated_at" e] [("reverted_at", .ts T), ("updated_at", .ts T)] s
    ⟨⟨e, _, v, rfl, hd, rfl, he, hc⟩, ⟨e, _, v, rfl, hd, rfl, he, hc⟩, trivial⟩).trans rfl

/-- `SET metadata = e, updated_at = '<ts>'` on a typed row, for an expression with a JSON value -/
theorem exec_applySets_metadata (m : Nat) (env : Env) (b : String) (trigs : List TriggerDef) (nr : Nat) (rows : List Ver)
    (x : TxR) (e : Expr) (j : JV) (atTs : String) (T : Int) (s : St) (he : pv s.w.types env e = .ok (.json j)) (hT : tsParse atTs = .ok T) :
    (applySets (m + 1) env ((txT b trigs nr).withRows rows) (txVals x) [SetItem.mk "metadata" e, SetItem.mk "updated_at" (Expr.str atTs)]).exec s =
      (.ok (txVals { x with metadata := j, updatedAt := T }), s) :=
  (exec_applySets_all m env _ (txVals x) [.mk "metadata" e, .mk "updated_at" (.str atTs)] [("metadata", .json j), ("updated_at", .ts T)] s
    ⟨.of_pv rfl he (castTo_jsonb_json _ j), .of_pv rfl (by rw [pv]) (castTo_ts_text _ atTs T hT), trivial⟩).trans rfl

open Ledger.Generated.WriteSql

/-! ### RevertTransaction -/

/-- `wher` means `id = txid AND reverted_at IS NULL AND ledger = l` in any environment in which the three columns resolve:
    the guard of `Ledger.Spec.markReverted` -/
def RevGuard (l : String) (txid : Int) (wher : Expr) : Prop :=
  ∀ (te : TypeEnv) (env : Env) (i : Int) (ra : Option Int) (lr : String), lookupColumn env "" "id" = .ok (.int i) →
    lookupColumn env "" "reverted_at" = .ok (optTs ra) → lookupColumn env "" "ledger" = .ok (.text lr) →
    pv te env wher = .ok (.bool (decide (i = txid ∧ ra = none ∧ lr = l)))

theorem RevGuard.typed {l : String} {txid : Int} {wher : Expr} (h : RevGuard l txid wher) (env : Env) (x : TxR) (cb : Callbacks)
    (te : TypeEnv) (src : Option (String × Nat)) :
    Evals cb te { env with locals := [txScope x src] } wher (.bool (revG l txid x)) :=
  .of_pv _ (h te _ x.id x.revertedAt x.ledger (lookup_tx env x src "id" _ rfl) (lookup_tx env x src "reverted_at" _ rfl)
    (lookup_tx env x src "ledger" _ rfl))

set_option linter.unusedSimpArgs false in
/-- `RevertTransaction … AT`, taken apart: `WITH upd AS (UPDATE transactions SET reverted_at = '<ts>', updated_at = '<ts>' WHERE wher
    RETURNING *) SELECT … LIMIT 1`, with `wher` the guard -/
theorem revertTransactionAt_shape (b l : String) (id : Nat) (txid : Int) (atTs : String) :
    ∃ (wher : Expr) (body : SetExpr),
      P.revertTransactionAt b l id txid atTs =
        [Stmt.query (Query.mk [Cte.mk "upd" [] (Stmt.update [] b "transactions" ""
            [SetItem.mk "reverted_at" (Expr.str atTs), SetItem.mk "updated_at" (Expr.str atTs)]
            [] (some wher) [SelItem.star ""])] body [] (some (Expr.int 1)) none LockMode.none)] ∧
      RevGuard l txid wher := by
  refine ⟨_, _, rfl, fun te env i ra lr h1 h2 h3 => ?_⟩
  cases ra <;> simp only [pv, h1, h2, h3, optTs, binV_and, binV_ok, isNullV_ok, evalBinop_eq_int, evalBinop_eq_text, Value.isNull, ne_eq,
    reduceCtorEq, not_false_eq_true, implies_true, Bool.decide_and, Bool.and_assoc, Bool.and_comm, Bool.and_left_comm, eq_comm] <;> rfl

set_option linter.unusedSimpArgs false in
/-- `RevertTransaction` (date from the bucket's `transaction_date()`), taken apart -/
theorem revertTransaction_shape (b l : String) (id : Nat) (txid : Int) :
    ∃ (wher : Expr) (body : SetExpr),
      P.revertTransaction b l id txid =
        [Stmt.query (Query.mk [Cte.mk "upd" [] (Stmt.update [] b "transactions" ""
            [SetItem.mk "reverted_at" (Expr.call b "transaction_date" []), SetItem.mk "updated_at" (Expr.call b "transaction_date" [])]
            [] (some wher) [SelItem.star ""])] body [] (some (Expr.int 1)) none LockMode.none)] ∧
      RevGuard l txid wher := by
  refine ⟨_, _, rfl, fun te env i ra lr h1 h2 h3 => ?_⟩
  cases ra <;> simp only [pv, h1, h2, h3, optTs, binV_and, binV_ok, isNullV_ok, evalBinop_eq_int, evalBinop_eq_text, Value.isNull, ne_eq,
    reduceCtorEq, not_false_eq_true, implies_true, Bool.decide_and, Bool.and_assoc, Bool.and_comm, Bool.and_left_comm, eq_comm] <;> rfl

theorem revertTransactionAt_means (env : Env) (b l : String) (id : Nat) (txid : Int) (atTs : String) (T : Int) (hT : tsParse atTs = .ok T) :
    TxUpdMeans env b ((P.revertTransactionAt b l id txid atTs).flatMap cteStmts) (revG l txid) (revF T) (fun _ => True) (fun _ => True) := by
  obtain ⟨wher, body, hstmt, hg⟩ := revertTransactionAt_shape b l id txid atTs
  exact ⟨_, wher, by rw [hstmt]; rfl, fun x _ => hg.typed env x, fun x _ _ m trigs nr rows s _ _ =>
    exec_applySets_reverted (m + 2) _ b trigs nr rows x _ _ T s (by simp) (Evals.of_pv _ rfl s) (castTo_ts_text _ atTs T hT)⟩

theorem revertTransaction_means (env : Env) (b l : String) (id : Nat) (txid : Int) (d : Int)
    (hbs : (b.isEmpty || b == "public" || b == "pg_catalog") = false) :
    TxUpdMeans env b ((P.revertTransaction b l id txid).flatMap cteStmts) (revG l txid) (revF d) (fun _ => True) (TxDateSet b d) := by
  obtain ⟨wher, body, hstmt, hg⟩ := revertTransaction_shape b l id txid
  exact ⟨_, wher, by rw [hstmt]; rfl, fun x _ => hg.typed env x, fun x _ _ m trigs nr rows s _ hS =>
    exec_applySets_reverted (m + 2) _ b trigs nr rows x _ _ d s (by simp) (exec_transaction_date m _ _ b d s hbs hS) (castTo_ts_ts _ d)⟩

/-! ### UpdateTransactionMetadata -/

def umG (l : String) (txid : Int) (mj : JV) (x : TxR) : Bool := decide (x.id = txid ∧ x.ledger = l) && !jsonContains x.metadata mj
def umF (mj : JV) (T : Int) (x : TxR) : TxR := { x with metadata := jsonConcat x.metadata mj, updatedAt := T }

set_option linter.unusedSimpArgs false in
theorem updateTransactionMetadataAt_means (env : Env) (b l : String) (id : Nat) (txid : Int) (metadataJson atTs : String) (mj : JV) (T : Int)
    (hj : JV.parse metadataJson = .ok mj) (hT : tsParse atTs = .ok T) :
    TxUpdMeans env b ((P.updateTransactionMetadataAt b l id txid metadataJson atTs).flatMap cteStmts) (umG l txid mj) (umF mj T)
      (fun _ => True) (fun _ => True) := by
  refine ⟨_, _, rfl, fun x _ cb te src => .of_pv _ ?_, fun x _ _ m trigs nr rows s src _ =>
    exec_applySets_metadata (m + 2) _ b trigs nr rows x _ _ atTs T s ?_ hT⟩
  · simp only [pv, lookup_tx env x src "id" _ rfl, lookup_tx env x src "ledger" _ rfl, lookup_tx env x src "metadata" _ rfl, umG, binV_and,
      binV_ok, unopV_not, evalBinop_eq_int, evalBinop_eq_text, evalBinop_contains_json_text _ _ _ hj, ne_eq, reduceCtorEq, not_false_eq_true,
      Bool.decide_and, Bool.and_assoc, Bool.and_comm, Bool.and_left_comm, eq_comm]
  · simp only [pv, lookup_tx env x src "metadata" _ rfl, binV_ok, evalBinop_concat_json_text _ _ _ hj, ne_eq, reduceCtorEq, not_false_eq_true]

/-! ### DeleteTransactionMetadata (the metadata of every row is a JSON object) -/

def metaErase (key : String) : JV → JV
  | .obj kvs => .obj (jobjErase key kvs)
  | j => j

def dmG (l : String) (txid : Int) (key : String) (x : TxR) : Bool :=
  decide (x.id = txid ∧ x.ledger = l) && (jsonGet x.metadata (.text key)).isSome
def dmF (key : String) (T : Int) (x : TxR) : TxR := { x with metadata := metaErase key x.metadata, updatedAt := T }

set_option linter.unusedSimpArgs false in
theorem deleteTransactionMetadataAt_means (env : Env) (b l : String) (id : Nat) (txid : Int) (key atTs : String) (T : Int)
    (hT : tsParse atTs = .ok T) :
    TxUpdMeans env b ((P.deleteTransactionMetadataAt b l id txid key atTs).flatMap cteStmts) (dmG l txid key) (dmF key T)
      (fun x => ∃ kvs, x.metadata = .obj kvs) (fun _ => True) := by
  refine ⟨_, _, rfl, fun x _ cb te src => .of_pv _ ?_, fun x ⟨kvs, hobj⟩ _ m trigs nr rows s src _ =>
    (exec_applySets_metadata (m + 2) _ b trigs nr rows x _ (metaErase key x.metadata) atTs T s ?_ hT)⟩
  · simp only [pv, lookup_tx env x src "id" _ rfl, lookup_tx env x src "ledger" _ rfl, lookup_tx env x src "metadata" _ rfl, dmG, binV_and,
      binV_ok, evalBinop_eq_int, evalBinop_eq_text, evalBinop_jsonGet_json_text, ne_eq, reduceCtorEq, not_false_eq_true]
    cases jsonGet x.metadata (.text key) <;> simp [isNullV_ok, binV_and, Value.isNull, Bool.and_comm, Bool.and_left_comm, eq_comm]
  · simp only [pv, lookup_tx env x src "metadata" _ rfl, binV_ok, hobj, evalBinop_sub_obj_text, metaErase, ne_eq, reduceCtorEq,
      not_false_eq_true]

/-- reading a `visLookup` result on typed rows: guard and effect act on the decoded row -/
theorem tx_row_effect (gR : TxR → Bool) (fR : TxR → TxR) (x : TxR) :
    (if txG gR (txVals x) then txF fR (txVals x) else txVals x) = txVals (if gR x then fR x else x) := by
  simp only [txG_txVals, txF_txVals]
  cases gR x <;> rfl

end Ledger.Sql
