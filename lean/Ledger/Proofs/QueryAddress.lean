import Ledger.Query.Address

/-! Lemmas about address splitting and address patterns (C20). -/
namespace Ledger.Query

theorem joinColon_cons_cons (s t : Seg) (r : List Seg) :
    joinColon (s :: t :: r) = s ++ ':' :: joinColon (t :: r) := rfl

/-- `strings.Join(strings.Split(s, ":"), ":") = s`. -/
theorem joinColon_segments (s : List Char) : joinColon (segments s) = s := by
  unfold segments
  induction s with
  | nil => rfl
  | cons c cs ih =>
    simp only [splitColon]
    by_cases h : c = ':'
    · subst h
      simp only [↓reduceIte]
      rw [joinColon_cons_cons, ih]; rfl
    · simp only [h, ↓reduceIte]
      cases hr : (splitColon cs).2 with
      | nil => rw [hr] at ih; simp only [joinColon] at ih ⊢; rw [ih]
      | cons t r =>
        rw [hr] at ih
        rw [joinColon_cons_cons] at ih ⊢
        rw [List.cons_append, ih]

theorem segments_injective {a b : List Char} (h : segments a = segments b) : a = b := by
  rw [← joinColon_segments a, ← joinColon_segments b, h]

theorem forall_getElem?_cons {α : Type} {P : Nat → α → Prop} (t : α) (rest : List α) :
    (∀ i s, (t :: rest)[i]? = some s → P i s) ↔ P 0 t ∧ ∀ i s, rest[i]? = some s → P (i + 1) s := by
  refine ⟨fun h => ⟨h 0 t rfl, fun i s hi => h (i + 1) s hi⟩, fun ⟨h0, hs⟩ i s hi => ?_⟩
  cases i with
  | zero => cases hi; exact h0
  | succ i => exact hs i s hi

/-- The collected `(index, segment)` constraints hold of `a` iff `a` agrees with `src` on every
    segment that is neither empty nor `...` (`k` = index of the head of `src`). -/
theorem constraintsFrom_all (src a : List Seg) (k : Nat) :
    (constraintsFrom src k).all (fun c => a[c.1]? == some c.2) = true ↔
      ∀ (i : Nat) (s : Seg), src[i]? = some s → s.isEmpty = false → (s == dots) = false →
        a[k + i]? = some s := by
  induction src generalizing k with
  | nil => exact ⟨fun _ i s h => (nomatch h), fun _ => rfl⟩
  | cons t rest ih =>
    have e : ∀ i, k + 1 + i = k + (i + 1) := fun i => Nat.add_right_comm k 1 i
    rw [forall_getElem?_cons, constraintsFrom]
    split
    · rename_i ht
      rw [ih]
      simp only [e]
      refine ⟨fun h => ⟨fun h1 h2 => ?_, h⟩, fun h => h.2⟩
      rw [h1, h2] at ht; cases ht
    · rename_i ht
      rw [Bool.or_eq_true, not_or, Bool.not_eq_true, Bool.not_eq_true] at ht
      rw [List.all_cons, Bool.and_eq_true, ih, beq_iff_eq]
      simp only [e]
      exact and_congr_left' ⟨fun h _ _ => h, fun h => h ht.1 ht.2⟩

theorem matches_part_iff (len : Option Nat) (src a : List Seg) :
    matchesAddress (.part len (constraintsFrom src 0)) a = true ↔
      (∀ n, len = some n → a.length = n) ∧
      ∀ (i : Nat) (s : Seg), src[i]? = some s → s.isEmpty = false → (s == dots) = false →
        a[i]? = some s := by
  unfold matchesAddress
  rw [Bool.and_eq_true, constraintsFrom_all]
  simp only [Nat.zero_add]
  refine and_congr_left' ?_
  cases len <;> simp

/-- **Exact address**: no empty segment and no final `...` — the filter selects the
    account with exactly that address. -/
theorem matches_exact (src a : List Seg) (h : isPartial src = false) :
    matchesAddress (Pattern.ofSegs src) a = true ↔ a = src := by
  unfold Pattern.ofSegs
  rw [if_neg (by simp [h])]
  simp only [matchesAddress, beq_iff_eq]
  exact eq_comm

/-- **Partial address `a::c`** (some empty segment, not ending in `...`): same number
    of segments, and every non-empty segment (other than a literal `...`) equal. -/
theorem matches_partial (src a : List Seg) (hp : isPartial src = true)
    (hl : (src.getLast? == some dots) = false) :
    matchesAddress (Pattern.ofSegs src) a = true ↔
      a.length = src.length ∧
      ∀ (i : Nat) (s : Seg), src[i]? = some s → s.isEmpty = false → (s == dots) = false →
        a[i]? = some s := by
  unfold Pattern.ofSegs lenConstraint
  simp only [hp, ↓reduceIte, hl, Bool.false_eq_true]
  rw [matches_part_iff]
  constructor
  · rintro ⟨h1, h2⟩; exact ⟨h1 _ rfl, h2⟩
  · rintro ⟨h1, h2⟩; exact ⟨fun n hn => by cases hn; exact h1, h2⟩

/-- **Prefix address `a:b:...`**: the account starts with the given segments (any
    number of further segments, including none). -/
theorem matches_prefix (q a : List Seg)
    (hq : ∀ s ∈ q, s.isEmpty = false ∧ (s == dots) = false) :
    matchesAddress (Pattern.ofSegs (q ++ [dots])) a = true ↔ q <+: a := by
  have hp : isPartial (q ++ [dots]) = true := by simp [isPartial]
  have hl : ((q ++ [dots]).getLast? == some dots) = true := by simp
  unfold Pattern.ofSegs lenConstraint
  rw [if_pos hp, if_pos hl, matches_part_iff, List.prefix_iff_getElem?]
  refine ⟨fun ⟨_, h⟩ i hi => h i q[i]
      (by rw [List.getElem?_append_left hi, List.getElem?_eq_getElem hi])
      (hq _ (List.getElem_mem hi)).1 (hq _ (List.getElem_mem hi)).2,
    fun h => ⟨fun n hn => (nomatch hn), fun i s hget h1 h2 => ?_⟩⟩
  rcases Nat.lt_or_ge i q.length with hi | hi
  · rw [List.getElem?_append_left hi, List.getElem?_eq_getElem hi] at hget
    cases hget; exact h i hi
  · -- at or beyond the final `...`, which is no constraint
    rw [List.getElem?_append_right hi] at hget
    cases hj : i - q.length <;> rw [hj] at hget <;> cases hget
    cases h2

/-- A pattern built from an address matches that address (used for `$in` members,
    which are pushed into the lateral join as patterns). -/
theorem matches_self (src : List Seg) : matchesAddress (Pattern.ofSegs src) src = true := by
  unfold Pattern.ofSegs
  split
  · rw [matches_part_iff]
    refine ⟨?_, fun i s h _ _ => h⟩
    intro n hn
    unfold lenConstraint at hn
    split at hn
    · cases hn
    · cases hn; rfl
  · simp [matchesAddress]

theorem lookup_explodeFrom (a : List Seg) (k j : Nat) :
    (explodeFrom a k).lookup (k + j) = if j = a.length then some none else a[j]?.map some := by
  induction a generalizing k j with
  | nil =>
    cases j with
    | zero => simp [explodeFrom]
    | succ j =>
      have hne : (k + (j + 1) == k) = false := by simp
      simp [explodeFrom, List.lookup_cons, hne]
  | cons s t ih =>
    cases j with
    | zero => simp [explodeFrom]
    | succ j =>
      have hne : (k + (j + 1) == k) = false := by simp
      rw [explodeFrom, List.lookup_cons, hne]
      show List.lookup (k + (j + 1)) (explodeFrom t (k + 1)) = _
      rw [← Nat.add_assoc, Nat.add_right_comm k j 1, ih]
      simp

/-- The exploded address holds segment `j` under key `j` and a null under its length, so containing
    the pattern's map is the length test and the per-segment tests of `matchesAddress`. -/
theorem mapContains_explode (len : Option Nat) (cs : List (Nat × Seg)) (a : List Seg) :
    mapContains (Pattern.toMap (.part len cs)) (explode a) = matchesAddress (.part len cs) a := by
  have hl : ∀ j, (explode a).lookup j = if j = a.length then some none else a[j]?.map some :=
    fun j => by simpa [explode] using lookup_explodeFrom a 0 j
  unfold mapContains Pattern.toMap matchesAddress
  rw [List.all_append, Bool.and_comm, List.all_map]
  congr 1
  · cases len with
    | none => rfl
    | some n =>
      simp only [List.all_cons, List.all_nil, Bool.and_true, hl]
      by_cases h : n = a.length
      · simp [h]
      · cases hn : a[n]? <;> simp [h, Ne.symm h]
  · apply List.all_congr rfl
    intro c
    simp only [Function.comp, hl]
    by_cases h : c.1 = a.length
    · simp [h]
    · cases a[c.1]? <;> simp [h]

end Ledger.Query
