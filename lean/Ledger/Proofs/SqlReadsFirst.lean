import Ledger.Proofs.SqlDistinct
import Ledger.Proofs.SqlReadsWindow
import Ledger.Proofs.CoreReads
import Ledger.Proofs.CoreInsPcv

/-!
# The `first_value(post_commit_[effective_]volumes)` dataset of the read path on ANY `moves` table

`SELECT DISTINCT ON (accounts_address, asset) accounts_address, asset,
        first_value(post_commit_effective_volumes) OVER (PARTITION BY (accounts_address, asset) ORDER BY effective_date DESC, seq DESC) AS volumes
 FROM <bucket>.moves WHERE ledger = l AND effective_date <= pit`
(insertion mode: `post_commit_volumes`, `ORDER BY seq DESC`, `insertion_date <= pit`) — the dataset of GetAggregatedBalances(PIT) and of
the volumes expansion of accounts at a point in time — evaluated by LeanPG on ANY table of well-typed rows with distinct sequence
numbers: one row per (account, asset) having a move of the ledger at or before `pit`, sorted by (account, asset), carrying
`Ledger.Spec.effectiveVolumesAt` / `insertionVolumesAt` (`exec_fvQuery`).
-/
open Ledger Ledger.Sql Ledger.Generated Ledger.Core Ledger.Base Ledger.Spec

namespace Ledger.Sql

def fvCol : DateMode → String
  | .effective => "post_commit_effective_volumes"
  | .insertion => "post_commit_volumes"

def seqOrder : List OrderItem := [OrderItem.mk (Expr.col "" "seq") true NullsOrder.dflt]

def fvOrder : DateMode → List OrderItem
  | .effective => prevOrder
  | .insertion => seqOrder

def fvSpec (id : Nat) (mode : DateMode) : WinSpec :=
  { id := id, name := "first_value", args := [Expr.col "" (fvCol mode)],
    partition := [Expr.row [Expr.col "" "accounts_address", Expr.col "" "asset"]], order := fvOrder mode }

def fvWin (id : Nat) (mode : DateMode) : Expr :=
  Expr.win id "first_value" [Expr.col "" (fvCol mode)] [Expr.row [Expr.col "" "accounts_address", Expr.col "" "asset"]] (fvOrder mode)

def fvItems (id : Nat) (mode : DateMode) : List (Expr × String) :=
  [(Expr.col "" "accounts_address", ""), (Expr.col "" "asset", ""), (fvWin id mode, "volumes")]

def fvQuery (b : String) (wher : Expr) (id : Nat) (mode : DateMode) : Query :=
  Query.mk [] (SetExpr.select (Select.mk false (winGroup.map (Expr.col "")) ((fvItems id mode).map (fun p => SelItem.expr p.1 p.2))
    [FromItem.table b "moves" ""] (some wher) [] none)) [] none none LockMode.none

/-- the partition key `(accounts_address, asset)` as a row value -/
def kvRow (k : Key) : List Value := [.row [] [.text k.1, .text k.2]]

theorem sameGroupKey_kvRow (a c : Key) : sameGroupKey (kvRow a) (kvRow c) = .ok (decide (a = c)) := by
  obtain ⟨a1, a2⟩ := a
  obtain ⟨c1, c2⟩ := c
  have e1 := cmpStr_eq_iff a1 c1
  have e2 := cmpStr_eq_iff a2 c2
  -- the two equalities restated as what `cmpStr` answers, then by its answers
  simp only [kvRow, sameGroupKey, compareForSort, compareValues, compareScalarList, compareScalar, bind, Except.bind, pure, Except.pure,
    Prod.mk.injEq, ← e1, ← e2]
  cases cmpStr a1 c1 <;> cases cmpStr a2 c2 <;> rfl

/-- the ORDER BY key of a move inside its partition -/
def fvOk (mode : DateMode) (m : MoveRow) : List Value :=
  match mode with
  | .effective => [.ts m.effectiveDate, .int m.seq]
  | .insertion => [.int m.seq]

/-- the post-commit volumes a row carries in the column the mode reads -/
def fvVol (mode : DateMode) (m : MoveRow) : Volumes :=
  match mode with
  | .effective => m.pcev
  | .insertion => m.pcv

def fvProj (k : Key) (v : Value) : List Value := [.text k.1, .text k.2, v]

def fvDval (k : Key) (c : String) : Value := if c == "accounts_address" then .text k.1 else .text k.2

def fvCmp : DateMode → List Value → List Value → Ordering
  | .effective => mvCmp
  | .insertion => seqCmp

def fvKeyOk : DateMode → List Value → Prop
  | .effective => mvKeyOk
  | .insertion => seqKeyOk

theorem fvCmpOk {β : Type} (mode : DateMode) :
    CmpOk (fun (x y : List Value × β) => cmpOrderKeys x.1 y.1 (orderDescs (fvOrder mode)) (orderNulls (fvOrder mode)))
      (fun x y => fvCmp mode x.1 y.1) (fun x => fvKeyOk mode x.1) := by
  cases mode
  · exact seqCmpOk
  · exact mvCmpOk

theorem fvOk_ok (mode : DateMode) (m : MoveRow) : fvKeyOk mode (fvOk mode m) := by
  cases mode
  · exact ⟨_, rfl⟩
  · exact ⟨_, _, rfl⟩

theorem fvOk_len (mode : DateMode) (m : MoveRow) : (fvOk mode m).length = (orderDescs (fvOrder mode)).length := by
  cases mode <;> rfl

/-- "`y` is sorted strictly before `h`" in the window's order = `h` is older than `y` -/
def olderThan (mode : DateMode) (h y : MoveRow) : Prop :=
  match mode with
  | .effective => h.effectiveDate < y.effectiveDate ∨ (h.effectiveDate = y.effectiveDate ∧ h.seq < y.seq)
  | .insertion => h.seq < y.seq

theorem fvCmp_lt (mode : DateMode) (m1 m2 : MoveRow) : fvCmp mode (fvOk mode m1) (fvOk mode m2) = .lt ↔ olderThan mode m2 m1 := by
  cases mode
  · simp only [fvCmp, fvOk, seqCmp_lt, olderThan]
    omega
  · simp only [fvCmp, fvOk, mvCmp_lt, olderThan]
    omega

/-- the value the read reports for `k` at `pit` -/
def volumesAtPit (mode : DateMode) (T : List MoveRow) (k : Key) (pit : Int) : Volumes :=
  match mode with
  | .effective => effectiveVolumesAt T k pit
  | .insertion => insertionVolumesAt T k pit

/-- a candidate that no candidate is newer than is the move the Spec picks -/
theorem volumesAtPit_of_max (mode : DateMode) (T : List MoveRow) (hseq : (T.map (·.seq)).Nodup) (k : Key) (pit : Int) (h : MoveRow)
    (hh : h ∈ T) (hk : h.key = k) (hd : h.date mode ≤ pit)
    (hmax : ∀ y ∈ T, y.key = k → y.date mode ≤ pit → ¬ olderThan mode h y) :
    volumesAtPit mode T k pit = fvVol mode h := by
  cases mode
  · simp only [volumesAtPit, fvVol, insertionVolumesAt]
    rw [lastInsertionMove_eq_latest, latest_eq_of_max seqOrd
      (fun x hx y hy a b => nodup_map_inj (fun q : MoveRow => q.seq) T hseq x hx y hy (Nat.le_antisymm a b)) hh ⟨hk, hd⟩
      (fun y hy hc => Nat.le_of_not_lt (hmax y hy hc.1 hc.2))]
  · simp only [volumesAtPit, fvVol, effectiveVolumesAt]
    rw [lastEffectiveMove_eq_latest, latest_eq_of_max beforeOrd (notAfter_sep hseq) hh ⟨hk, hd⟩
      (fun y hy hc => by have := hmax y hy hc.1 hc.2; simp only [olderThan] at this; rw [notAfter_iff]; omega)]

/-- the wrapper of GetAggregatedBalances(PIT) around the dataset: volumes summed per asset, folded into one JSON object -/
def aggregateWrap (inner : Query) : Stmt :=
  (Stmt.query (Query.mk [(Cte.mk "dataset" [] (Stmt.query (Query.mk [] (SetExpr.select (Select.mk false [] [(SelItem.expr (Expr.agg "public" "aggregate_objects" false false [(Expr.cast (Expr.call "" "json_build_object" [(Expr.col "" "asset"), (Expr.col "" "volumes")]) (SqlType.mk "" "jsonb" "" false))] []) "aggregated")] [(FromItem.sub (Query.mk [] (SetExpr.select (Select.mk false [] [(SelItem.expr (Expr.col "" "asset") ""), (SelItem.expr (Expr.call "" "json_build_object" [(Expr.str "input"), (Expr.agg "" "sum" false false [(Expr.cast (Expr.field (Expr.col "" "volumes") "inputs") (SqlType.mk "" "numeric" "" false))] []), (Expr.str "output"), (Expr.agg "" "sum" false false [(Expr.cast (Expr.field (Expr.col "" "volumes") "outputs") (SqlType.mk "" "numeric" "" false))] [])]) "volumes")] [(FromItem.sub (Query.mk [] (SetExpr.select (Select.mk false [] [(SelItem.star "")] [(FromItem.sub inner "dataset" [] false)] none [] none)) [] none none LockMode.none) "values" [] false)] none [(Expr.col "" "asset")] none)) [] none none LockMode.none) "values" [] false)] none [] none)) [] none none LockMode.none)))] (SetExpr.select (Select.mk false [] [(SelItem.star "")] [(FromItem.table "" "dataset" "")] none [] none)) [] (some (Expr.int 1)) none LockMode.none))

theorem contains_pit (p d : Int) : (Window.mk none (some p)).contains d = decide (d ≤ p) := by
  simp [Window.contains]

theorem outNames_fv (id : Nat) (mode : DateMode) : outNames (fvItems id mode) = ["accounts_address", "asset", "volumes"] := by
  cases mode <;> rfl

theorem exec_fvOrderKeys {cb : Callbacks} {te : TypeEnv} {env : Env} {b : String} {rid : Nat} {p : String × MoveRow}
    (hl : env.locals = [mvScope b rid p]) (mode : DateMode) (s : St) :
    (evalOrderKeys cb te env (fvOrder mode)).exec s = (.ok (fvOk mode p.2), s) := by
  have c1 := evals_mvCol (cb := cb) (te := te) hl (mvCol_effDate ..) s
  have c2 := evals_mvCol (cb := cb) (te := te) hl (mvCol_seq ..) s
  cases mode
  · simp only [fvOrder, seqOrder, evalOrderKeys, exec_bind, exec_pure, c2, fvOk]
  · simp only [fvOrder, prevOrder, evalOrderKeys, exec_bind, exec_pure, c1, c2, fvOk]

theorem evals_fvArg {cb : Callbacks} {te : TypeEnv} {env : Env} {b : String} {rid : Nat} {p : String × MoveRow}
    (hl : env.locals = [mvScope b rid p]) (mode : DateMode) :
    EvalsAll cb te env [Expr.col "" (fvCol mode)] [volVal (fvVol mode p.2)] := by
  cases mode
  · exact .cons (evals_mvCol hl (mvCol_pcv ..)) .nil
  · exact .cons (evals_mvCol hl (mvCol_pcev ..)) .nil

theorem evals_fvItems {cb : Callbacks} {te : TypeEnv} {env : Env} {b : String} {rid : Nat} {p : String × MoveRow}
    (hl : env.locals = [mvScope b rid p]) (id : Nat) (mode : DateMode) {v : Value} (hw : env.wins.lookup id = some v) :
    EvalsAll cb te env ((fvItems id mode).map (·.1)) (fvProj p.2.key v) :=
  .cons (evals_mvCol hl (mvCol_account ..)) (.cons (evals_mvCol hl (mvCol_asset ..)) (.cons (.win hw) .nil))

theorem evals_fvDval {cb : Callbacks} {te : TypeEnv} {env : Env} {b : String} {rid : Nat} {p : String × MoveRow}
    (hl : env.locals = [mvScope b rid p]) : ∀ c ∈ winGroup, Evals cb te env (Expr.col "" c) (fvDval p.2.key c) := by
  intro c hc
  simp only [winGroup, List.mem_cons, List.not_mem_nil, or_false] at hc
  rcases hc with rfl | rfl
  · exact evals_mvCol hl (mvCol_account ..)
  · exact evals_mvCol hl (mvCol_asset ..)

/-- **The `first_value` dataset on any `moves` table = the volumes of the latest move at or before `pit`**: one row per
    (account, asset) having a move of the ledger dated at or before `pit`, in strict (account, asset) order. -/
theorem exec_fvQuery (q : Nat) (env : Env) (b l : String) (hb : b.isEmpty = false) (mode : DateMode) (id : Nat) (pitT : String × Int)
    (hp : tsParse pitT.1 = .ok pitT.2)
    (s : St) (hs : TxState s) (trigs : List TriggerDef) (nr : Nat) (rows : List Ver)
    (hT : s.w.table? (mvFull b) = some ((mvT b trigs nr).withRows rows))
    (tbl : List (String × MoveRow)) (hview : MvView (cv s) rows tbl) (hseq : (tbl.map (·.2.seq)).Nodup)
    (T : List MoveRow) (hTp : T.Perm (ledgerMoves l tbl)) :
    ∃ (keys : List Key),
      (evalQuery (q + 6) env (fvQuery b (winWhere l (dateCol mode) (some pitT.1) none) id mode)).exec s =
        (.ok { cols := ["accounts_address", "asset", "volumes"],
               rows := keys.map (fun k => [.text k.1, .text k.2, volVal (volumesAtPit mode T k pitT.2)]) }, s) ∧
      keys.Nodup ∧
      (∀ k, k ∈ keys ↔ ∃ m ∈ T, m.key = k ∧ m.date mode ≤ pitT.2) ∧
      keys.Pairwise (fun a c => KeyOrd.lt c a = false) := by
  obtain ⟨xs, hfrom, hxs⟩ := exec_scanMoves q env b b s hs (by simp [hb]) (qualify_moves b hb s) trigs nr rows hT tbl hview
  obtain ⟨fvs, hwins, hmax⟩ := WinsOf.firstValue (K := Key) (q + 3) env s (xs.filter (fun x => inWin l ⟨none, some pitT.2⟩ mode x.2)) (mvRow b)
    (fun _ => none) (fvSpec id mode) rfl (fun x => x.2.2.key) kvRow (fun x => fvOk mode x.2.2) (fun x => [volVal (fvVol mode x.2.2)])
    (fun x _ => EvalsAll.cons (.row (evals_keyCols rfl)) .nil s) (fun x _ => exec_fvOrderKeys rfl mode s) (fun x _ => evals_fvArg rfl mode s)
    sameGroupKey_kvRow (fun x _ => fvOk_len mode x.2.2) (fvCmp mode) (fvKeyOk mode) (fvCmpOk mode) (fun x _ => fvOk_ok mode x.2.2)
  obtain ⟨res, hdist, hres, hnd, hcov, hpw⟩ := DistinctOf.on_exists (D := Key) (q + 3) env s.w.types s winGroup (by simp [winGroup])
    (xs.filter (fun x => inWin l ⟨none, some pitT.2⟩ mode x.2))
    (outRowV (mvRow b) (fun _ => none) (fun x => [((fvSpec id mode).id, fvs x.2.2.key)]) (fun x => fvProj x.2.2.key (fvs x.2.2.key)))
    (fun x => x.2.2.key) kvKey (fun x => fvDval x.2.2.key) (fun x _ => keyCols_mvScope b x.1 x.2 _)
    (fun x _ c hc => evals_fvDval rfl c hc s) (fun x => by simp [winGroup, fvDval, kvKey]) sameGroupKey_kvKey balCmp balKeyOk balCmpOk
    (fun d => ⟨d.1, d.2, rfl⟩)
  have hsel := exec_evalSelect_of (q + 3) env (fvItems id mode) [FromItem.table b "moves" ""]
    (some (winWhere l (dateCol mode) (some pitT.1) none)) [] _ [] s xs (mvRow b) (fun x => inWin l ⟨none, some pitT.2⟩ mode x.2) hfrom
    (fun _ hc x _ => Option.some.inj hc ▸
      (evals_winWhere rfl l mode (some pitT) none (fun _ h => Option.some.inj h ▸ hp) (fun _ h => nomatch h)).whereHolds s)
    (fun h => nomatch h) _ _ _ (.rows (by cases mode <;> rfl)) [fvSpec id mode] (by cases mode <;> rfl) _ hwins
    (fun x => fvProj x.2.2.key (fvs x.2.2.key)) (fun x _ => evals_fvItems rfl id mode (List.lookup_cons_self ..) s)
    _ false rfl _ hdist
  rw [tie_false] at hsel
  generalize hR : xs.filter (fun x => inWin l ⟨none, some pitT.2⟩ mode x.2) = R at hres hcov hmax
  have hin : ∀ m, m ∈ R.map (·.2.2) ↔ m ∈ T ∧ m.date mode ≤ pitT.2 := fun m => by
    rw [← hR, (inWin_moves hxs hTp ⟨none, some pitT.2⟩ mode).mem_iff, List.mem_filter, contains_pit, decide_eq_true_eq]
  -- the first value of a key's partition: the volumes of the move the Spec picks, since no candidate is newer
  have hfv : ∀ x ∈ R, fvs x.2.2.key = volVal (volumesAtPit mode T x.2.2.key pitT.2) := by
    intro x hx
    obtain ⟨h, hh, hk, hfvh, hmx⟩ := hmax _ (List.mem_map_of_mem hx)
    obtain ⟨hhT, hhd⟩ := (hin _).mp (List.mem_map_of_mem hh)
    rw [hfvh, List.headD_cons]
    refine congrArg volVal (volumesAtPit_of_max mode T (nodup_seq_of_perm_ledgerMoves hTp hseq) _ pitT.2 h.2.2 hhT hk hhd ?_).symm
    intro y hy hyk hyd holder
    obtain ⟨xy, hxy, rfl⟩ := List.mem_map.mp ((hin y).mpr ⟨hy, hyd⟩)
    exact hmx xy hxy hyk ((fvCmp_lt mode xy.2.2 h.2.2).mpr holder)
  refine ⟨res.map (fun x => x.2.2.key), ?_, hnd, fun k => ?_, ?_⟩
  · rw [fvQuery, exec_evalQuery_select _ _ _ _ _ _ _ _ hsel, outNames_fv, List.map_map,
      map_eq_map_keys (val := (fun o : OutRow => o.vals) ∘ outRowV (mvRow b) _ _ (fun x => fvProj x.2.2.key (fvs x.2.2.key)))
        (fun x => x.2.2.key)
        (fun k => [.text k.1, .text k.2, volVal (volumesAtPit mode T k pitT.2)]) fun x hx =>
          congrArg (fun v => [Value.text x.2.2.key.1, Value.text x.2.2.key.2, v]) (hfv x (hres x hx))]
  · have : k ∈ res.map (fun x => x.2.2.key) ↔ k ∈ (R.map (·.2.2)).map MoveRow.key := by
      rw [List.map_map]
      exact ⟨fun h => by obtain ⟨x, hx, rfl⟩ := List.mem_map.mp h; exact List.mem_map_of_mem (hres x hx),
        fun h => by obtain ⟨x, hx, rfl⟩ := List.mem_map.mp h; exact hcov x hx⟩
    rw [this, List.mem_map]
    simp only [hin, and_assoc, and_left_comm, and_comm]
  · exact pairwise_keyOrd_of_balCmp _ (List.pairwise_map.mp hpw)

end Ledger.Sql
