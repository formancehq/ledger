import Ledger.Proofs.CorePcev
import Ledger.Spec.Reads

/-! C05 algebra: sums over the `moves` table in a window equal the Spec fold; the latest
    effective move at or before a point in time carries the fold up to it. -/
namespace Ledger.Spec
open Ledger.Base Ledger.Core

theorem Volumes.add_comm (a b : Volumes) : a.add b = b.add a := by
  apply Volumes.ext' <;> simp only [Volumes.add] <;> omega

structure MoveSig where
  key : Key
  delta : Volumes
  ins : Int
  eff : Int
  tx : Nat
  deriving DecidableEq, Repr

def MoveRow.sig (r : MoveRow) : MoveSig := ⟨r.key, r.delta, r.insertionDate, r.effectiveDate, r.txId⟩

def postingSigs (ins eff : Int) (tx : Nat) : List Posting → List MoveSig
  | [] => []
  | p :: ps => ⟨p.srcKey, ⟨0, p.amount⟩, ins, eff, tx⟩ :: ⟨p.dstKey, ⟨p.amount, 0⟩, ins, eff, tx⟩ :: postingSigs ins eff tx ps

def recsSigs : List TxRec → List MoveSig
  | [] => []
  | t :: ts => postingSigs t.insertedAt t.timestamp t.id t.postings ++ recsSigs ts

theorem recsSigs_append (a b : List TxRec) : recsSigs (a ++ b) = recsSigs a ++ recsSigs b := by
  induction a with
  | nil => rfl
  | cons t a ih => simp [recsSigs, ih]

theorem recsSigs_map_congr (f : TxRec → TxRec)
    (hf : ∀ t, (f t).postings = t.postings ∧ (f t).insertedAt = t.insertedAt ∧ (f t).timestamp = t.timestamp ∧ (f t).id = t.id)
    (l : List TxRec) : recsSigs (l.map f) = recsSigs l := by
  induction l with
  | nil => rfl
  | cons t l ih =>
    obtain ⟨h1, h2, h3, h4⟩ := hf t
    simp [recsSigs, ih, h1, h2, h3, h4]

theorem sig_setEffective (t : List MoveRow) (n : MoveRow) : (setEffective t n).sig = n.sig := rfl

def moveSig (ins eff : Int) (tx : Nat) (m : Move) : MoveSig :=
  ⟨(m.account, m.asset), if m.isSource then ⟨0, m.amount⟩ else ⟨m.amount, 0⟩, ins, eff, tx⟩

theorem sig_toRows (s0 txId : Nat) (ins eff : Int) (ms : List Move) :
    (toRows s0 txId ins eff ms).map MoveRow.sig = ms.map (moveSig ins eff txId) := by
  induction ms generalizing s0 with
  | nil => rfl
  | cons m ms ih =>
    simp only [toRows, List.map_cons, ih]
    rfl

theorem sig_fwdMoves (ins eff : Int) (tx : Nat) (pre : PCV) (ps : List Posting) :
    (fwdMoves pre ps).map (moveSig ins eff tx) = postingSigs ins eff tx ps := by
  induction ps generalizing pre with
  | nil => rfl
  | cons p ps ih =>
    simp only [fwdMoves, List.map_cons, ih, postingSigs]
    rfl

/-- the moves table lists, in order, both sides of every committed posting with the
    transaction's dates -/
def MovesContent (st : Store) : Prop := st.moves.map MoveRow.sig = recsSigs st.txRecs

theorem MovesContent_empty : MovesContent {} := rfl

theorem MovesContent_exec {st : Store} (o : StoreOp) (inv : MovesContent st) : MovesContent (o.exec st) := by
  cases o with
  | commit t =>
    unfold MovesContent at *
    show (insertMoves st.moves (commitRows st t)).map MoveRow.sig = recsSigs ((st.txs ++ [_]).map TxRow.tx)
    rw [map_insertMoves _ (fun _ _ => rfl), commitRows, sig_toRows, sig_fwdMoves, List.map_append, recsSigs_append, inv]
    simp [recsSigs, Store.txRecs]
  | lock keys => exact inv
  | saveAccountMeta a at_ md => exact inv
  | markReverted id a =>
    obtain ⟨f, hf, hp⟩ := markRevertedIn_eq_map st.txRecs id a
    unfold MovesContent at *
    show _ = recsSigs (markReverted st id a).txRecs
    rw [txRecs_markReverted, hf, recsSigs_map_congr _ (fun t => ⟨(hp t).1, (hp t).2.1, (hp t).2.2.1, (hp t).2.2.2.1⟩)]
    exact inv

theorem MovesContent_runOps {ops : List StoreOp} {st : Store} (h : runOps ops = .ok st) : MovesContent st :=
  runOpsFrom_invariant (fun _ o => MovesContent_exec o) ops MovesContent_empty h

def sigVolumesP (P : Int → Int → Nat → Bool) (k : Key) (sigs : List MoveSig) : Volumes :=
  vsum ((sigs.filter (fun s => s.key == k && P s.ins s.eff s.tx)).map (·.delta))

theorem sigVolumesP_append (P : Int → Int → Nat → Bool) (k : Key) (a b : List MoveSig) :
    sigVolumesP P k (a ++ b) = (sigVolumesP P k a).add (sigVolumesP P k b) := by
  simp [sigVolumesP, List.filter_append, vsum_append]

theorem sigVolumesP_postingSigs (P : Int → Int → Nat → Bool) (k : Key) (ins eff : Int) (tx : Nat) (ps : List Posting) :
    sigVolumesP P k (postingSigs ins eff tx ps) = if P ins eff tx then foldVolumes k ps else Volumes.zero := by
  induction ps with
  | nil => cases P ins eff tx <;> simp [postingSigs, sigVolumesP, vsum, foldVolumes, inSum, outSum, Volumes.zero]
  | cons p ps ih =>
    have e : postingSigs ins eff tx (p :: ps) =
        [⟨p.srcKey, ⟨0, p.amount⟩, ins, eff, tx⟩, ⟨p.dstKey, ⟨p.amount, 0⟩, ins, eff, tx⟩] ++ postingSigs ins eff tx ps := rfl
    rw [e, sigVolumesP_append, ih]
    simp only [sigVolumesP, List.filter_cons, List.filter_nil]
    cases P ins eff tx with
    | false => simp [vsum, Volumes.add, Volumes.zero]
    | true =>
      simp only [Bool.and_true, if_true]
      apply Volumes.ext'
      · by_cases h1 : p.srcKey = k <;> by_cases h2 : p.dstKey = k <;>
          simp [h1, h2, vsum, Volumes.add, Volumes.zero, foldVolumes, inSum]
      · by_cases h1 : p.srcKey = k <;> by_cases h2 : p.dstKey = k <;>
          simp [h1, h2, vsum, Volumes.add, Volumes.zero, foldVolumes, outSum]

theorem sigVolumesP_recsSigs (P : Int → Int → Nat → Bool) (k : Key) (recs : List TxRec) :
    sigVolumesP P k (recsSigs recs) =
      volumesOf (recs.filter (fun t => P t.insertedAt t.timestamp t.id)) k := by
  induction recs with
  | nil => simp [recsSigs, sigVolumesP, vsum, volumesOf, allPostings, foldVolumes, inSum, outSum, Volumes.zero]
  | cons t ts ih =>
    simp only [recsSigs, sigVolumesP_append, ih, sigVolumesP_postingSigs]
    unfold volumesOf
    simp only [List.filter_cons]
    by_cases hw : P t.insertedAt t.timestamp t.id = true
    · simp only [hw, if_true, allPostings, foldVolumes_append]
    · simp [hw, Volumes.zero_add]

/-- sum of the deltas of the rows of key `k` selected by `P insertion_date effective_date transactions_id` -/
def movesVolumesP (P : Int → Int → Nat → Bool) (k : Key) (moves : List MoveRow) : Volumes :=
  sumDeltas (moves.filter fun m => m.key == k && P m.insertionDate m.effectiveDate m.txId)

theorem movesVolumesP_eq (P : Int → Int → Nat → Bool) (k : Key) (moves : List MoveRow) :
    movesVolumesP P k moves = sigVolumesP P k (moves.map MoveRow.sig) := by
  unfold movesVolumesP sigVolumesP
  rw [sumDeltas_eq_vsum, List.filter_map, List.map_map]
  rfl

theorem movesVolumesP_eq_fold {ops : List StoreOp} {st : Store} (h : runOps ops = .ok st)
    (P : Int → Int → Nat → Bool) (k : Key) :
    movesVolumesP P k st.moves = volumesOf (st.txRecs.filter (fun t => P t.insertedAt t.timestamp t.id)) k := by
  rw [movesVolumesP_eq, MovesContent_runOps h, sigVolumesP_recsSigs]

def winSel (w : Window) (mode : DateMode) : Int → Int → Nat → Bool :=
  fun ins eff _ => w.contains (match mode with | .insertion => ins | .effective => eff)

theorem movesWindowVolumes_eq_P (moves : List MoveRow) (w : Window) (mode : DateMode) (k : Key) :
    movesWindowVolumes moves w mode k = movesVolumesP (winSel w mode) k moves := by
  unfold movesWindowVolumes movesVolumesP
  cases mode <;> rfl

/-- C05: the sum over the moves of an account/asset whose date lies in the window — the
    way the point-in-time SQL aggregates — equals the Spec fold `volumesAt`. -/
theorem movesWindowVolumes_eq_fold {ops : List StoreOp} {st : Store} (h : runOps ops = .ok st)
    (w : Window) (mode : DateMode) (k : Key) :
    movesWindowVolumes st.moves w mode k = volumesAt st.txRecs w mode k := by
  rw [movesWindowVolumes_eq_P, movesVolumesP_eq_fold h]
  unfold volumesAt txsIn
  cases mode <;> rfl

theorem lastEffectiveMove_eq_latest (t : List MoveRow) (k : Key) (pit : Int) :
    lastEffectiveMove t k pit =
      latest (fun m => m.key = k ∧ m.effectiveDate ≤ pit) (fun a b => a.before b = true) t := by
  induction t with
  | nil => rfl
  | cons m r ih => simp only [lastEffectiveMove, latest, ih]; split <;> first | rfl | (split <;> simp only [*])

theorem lastEffectiveMove_none {t : List MoveRow} {k : Key} {pit : Int} (h : lastEffectiveMove t k pit = none) :
    ∀ c ∈ t, ¬ (c.key = k ∧ c.effectiveDate ≤ pit) :=
  latest_none (lastEffectiveMove_eq_latest t k pit ▸ h)

theorem lastEffectiveMove_some {t : List MoveRow} {k : Key} {pit : Int} {p : MoveRow}
    (h : lastEffectiveMove t k pit = some p) :
    p ∈ t ∧ p.key = k ∧ p.effectiveDate ≤ pit ∧
    ∀ c ∈ t, c.key = k → c.effectiveDate ≤ pit → c.notAfter p = true := by
  obtain ⟨h1, h2, h3⟩ := latest_before_some (lastEffectiveMove_eq_latest t k pit ▸ h)
  exact ⟨h1, h2.1, h2.2, fun c hc hk hb => h3 c hc ⟨hk, hb⟩⟩

/-- Under `PCEV_Inv`, `first_value(post_commit_effective_volumes)` at `pit` is the sum of the
    deltas of the moves dated `≤ pit`. -/
theorem effectiveVolumesAt_eq_window {moves : List MoveRow} (hinv : PCEV_Inv moves) (k : Key) (pit : Int) :
    effectiveVolumesAt moves k pit = movesWindowVolumes moves { pit := some pit } .effective k := by
  unfold effectiveVolumesAt
  rw [lastEffectiveMove_eq_latest]
  exact ((PCEV_Inv_iff_running moves).mp hinv).latestBefore_eq_sum (d := fun m => m.effectiveDate ≤ pit)
    (fun _ _ _ => trivial) (fun _ _ _ _ hb _ hle => Int.le_trans (date_le_of_notAfter hle) hb)

def aggFrom (m : Map String Volumes) (av : PCV) : Map String Volumes :=
  av.foldl (fun m e => m.insertWith Volumes.add e.1.2 e.2) m

def hasAsset (s : String) (av : PCV) : Bool := av.any (fun e => e.1.2 == s)

def sumVol (s : String) (av : PCV) : Volumes := ⟨inputsIn s av, outputsIn s av⟩

theorem sumVol_cons (s : String) (k : Key) (v : Volumes) (av : PCV) :
    sumVol s ((k, v) :: av) = (if k.2 = s then v else Volumes.zero).add (sumVol s av) := by
  unfold sumVol inputsIn outputsIn
  simp only [Map.sumBy]
  by_cases h : k.2 = s <;> simp [h, Volumes.add, Volumes.zero]

theorem get?_aggFrom {m : Map String Volumes} (hw : Map.WF m) (av : PCV) (s : String) :
    (aggFrom m av).get? s =
      match m.get? s with
      | some v0 => some (v0.add (sumVol s av))
      | none => if hasAsset s av then some (sumVol s av) else none := by
  induction av generalizing m with
  | nil =>
    simp only [aggFrom, List.foldl_nil, hasAsset, List.any_nil]
    cases m.get? s with
    | none => rfl
    | some v0 =>
      have : sumVol s [] = Volumes.zero := rfl
      simp [this, Volumes.add_zero]
  | cons e av ih =>
    obtain ⟨k, v⟩ := e
    have e1 : aggFrom m ((k, v) :: av) = aggFrom (m.insertWith Volumes.add k.2 v) av := rfl
    rw [e1, ih (Map.WF_insertWith _ _ _ hw), Map.get?_insertWith _ _ _ hw, sumVol_cons]
    by_cases hk : s = k.2
    · subst hk
      simp only [if_true]
      cases m.get? k.2 with
      | none => simp [hasAsset, Volumes.add]
      | some v0 => simp [Volumes.add_assoc]
    · have hk' : ¬ k.2 = s := fun e => hk e.symm
      simp only [if_neg hk, if_neg hk', Volumes.zero_add]
      cases m.get? s with
      | none =>
        have hb : (k.2 == s) = false := by simpa using hk'
        simp only [hasAsset, List.any_cons, hb, Bool.false_or]
        rfl
      | some v0 => rfl

/-- C01: every row of the aggregated-balances read (empty filter, no PIT) balances: total input
    of the asset = total output. -/
theorem aggregated_balanced {ops : List StoreOp} {st : Store} (h : runOps ops = .ok st) (s : String) (v : Volumes)
    (hv : (aggregatedVolumes st.accountsVolumes).get? s = some v) : v.input = v.output := by
  have hg := get?_aggFrom (m := []) Map.WF_nil st.accountsVolumes s
  have : aggregatedVolumes st.accountsVolumes = aggFrom [] st.accountsVolumes := rfl
  rw [this, hg] at hv
  simp only [Map.get?_nil] at hv
  have hnet := (StoreInv_runOps h).net s
  rw [netIn_eq] at hnet
  by_cases ha : hasAsset s st.accountsVolumes = true
  · simp only [ha, if_true, Option.some.injEq] at hv
    rw [← hv]
    simp only [sumVol]
    omega
  · simp [ha] at hv

theorem foldl_add_volumesAt (txs : List TxRec) (w : Window) (mode : DateMode) (s : String) (accts : List String) (v0 : Volumes) :
    (accts.foldl (fun acc a => acc.add (volumesAt txs w mode (a, s))) v0).balance =
      v0.balance + sumOver accts (fun a => balanceAt txs w mode (a, s)) := by
  induction accts generalizing v0 with
  | nil => simp [sumOver]
  | cons a accts ih =>
    simp only [List.foldl_cons, ih, sumOver, List.map_cons, List.sum_cons, balance_add, balanceAt]
    omega

end Ledger.Spec
