import Ledger.Proofs.SqlDistinct
import Ledger.Proofs.SqlMovesSel
import Ledger.Generated.ReadSql
import Ledger.Spec.Reads

/-!
# The window-volumes dataset of the read path on ANY `moves` table

`SELECT asset, accounts_address AS account, sum(CASE WHEN NOT is_source THEN amount ELSE 0 END) AS input,
        sum(CASE WHEN is_source THEN amount ELSE 0 END) AS output, sum(CASE WHEN NOT is_source THEN amount ELSE -amount END) AS balance
 FROM <bucket>.moves WHERE ledger = l [AND <date> <= pit] [AND <date> >= oot] GROUP BY accounts_address, asset
 ORDER BY accounts_address, asset`
— the dataset `volumesResourceHandler.BuildDataset` renders for a point-in-time / out-of-time query (regenerated by `t1_readsql`
into `Ledger.Generated.ReadSql.volumes{Eff,Ins}{Pit,Oot,PitOot}`; `Ledger.C05b.window_dataset_shape_*`) — evaluated by LeanPG on ANY table of
well-typed rows: one row per (account, asset) having a move of the ledger in the window, sorted by (account, asset), carrying
`Ledger.Spec.movesWindowVolumes` (`exec_winQuery`).
-/
open Ledger Ledger.Sql Ledger.Generated Ledger.Core Ledger.Base Ledger.Spec

namespace Ledger.Sql

def dateCol : DateMode → String
  | .insertion => "insertion_date"
  | .effective => "effective_date"

def ledgerIsE (l : String) : Expr := Expr.binop BinOp.eq (Expr.col "" "ledger") (Expr.str l)

/-- the WHERE clause of a window dataset: ledger scope, optional upper and lower date bound (literal texts) -/
def winWhere (l col : String) : Option String → Option String → Expr
  | none, none => ledgerIsE l
  | some p, none => Expr.binop BinOp.and (ledgerIsE l) (Expr.binop BinOp.le (Expr.col "" col) (Expr.str p))
  | none, some o => Expr.binop BinOp.and (ledgerIsE l) (Expr.binop BinOp.ge (Expr.col "" col) (Expr.str o))
  | some p, some o =>
    Expr.binop BinOp.and (Expr.binop BinOp.and (ledgerIsE l) (Expr.binop BinOp.le (Expr.col "" col) (Expr.str p)))
      (Expr.binop BinOp.ge (Expr.col "" col) (Expr.str o))

def caseIn : Expr := Expr.ite (Expr.unop UnOp.not (Expr.col "" "is_source")) (Expr.col "" "amount") (some (Expr.int 0)) false
def caseOut : Expr := Expr.ite (Expr.col "" "is_source") (Expr.col "" "amount") (some (Expr.int 0)) false
def caseBal : Expr :=
  Expr.ite (Expr.unop UnOp.not (Expr.col "" "is_source")) (Expr.col "" "amount") (some (Expr.unop UnOp.neg (Expr.col "" "amount"))) false

def sumOf (arg : Expr) : Expr := Expr.agg "" "sum" false false [arg] []

def winItems : List (Expr × String) :=
  [(Expr.col "" "asset", ""), (Expr.col "" "accounts_address", "account"), (sumOf caseIn, "input"), (sumOf caseOut, "output"),
   (sumOf caseBal, "balance")]

theorem outNames_win : outNames winItems = ["asset", "account", "input", "output", "balance"] := rfl

def winGroup : List String := ["accounts_address", "asset"]

def winQuery (b : String) (wher : Expr) : Query :=
  Query.mk [] (SetExpr.select (Select.mk false [] (winItems.map (fun p => SelItem.expr p.1 p.2)) [FromItem.table b "moves" ""]
    (some wher) (winGroup.map (Expr.col "")) none)) balOrder none none LockMode.none

/-- the pagination wrapper of the volumes resource (`DISTINCT ON (account, asset) … ORDER BY account LIMIT 101` in a CTE, re-sorted) -/
def paginateVolumes (inner : Query) : Stmt :=
  Stmt.query (Query.mk [Cte.mk "dataset" [] (Stmt.query (Query.mk [] (SetExpr.select (Select.mk false
      [Expr.col "" "account", Expr.col "" "asset"] [SelItem.star ""] [FromItem.sub inner "dataset" [] false] none [] none))
      [OrderItem.mk (Expr.col "" "account") false NullsOrder.dflt] (some (Expr.int 101)) none LockMode.none))]
    (SetExpr.select (Select.mk false [] [SelItem.star ""] [FromItem.table "" "dataset" ""] none [] none))
    [OrderItem.mk (Expr.col "dataset" "account") false NullsOrder.dflt] none none LockMode.none)

def kvKey (k : Key) : List Value := [.text k.1, .text k.2]

/-- the typed row is a move of ledger `l` dated in the window -/
def inWin (l : String) (w : Window) (mode : DateMode) (p : String × MoveRow) : Bool :=
  decide (p.1 = l) && w.contains (p.2.date mode)

def winRow (k : Key) (V : Volumes) : List Value := [.text k.2, .text k.1, .int V.input, .int V.output, .int (V.input - V.output)]

/-- the key of a group of scanned rows: that of its first member -/
def gKey (G : List MvScan) : Key := (G.headD default).2.2.key

/-- the output row of a group: its key and the summed deltas of its members -/
def winProj (G : List MvScan) : List Value := winRow (gKey G) (sumDeltas (G.map (·.2.2)))

theorem sameGroupKey_kvKey (a c : Key) : sameGroupKey (kvKey a) (kvKey c) = .ok (decide (a = c)) := by
  obtain ⟨a1, a2⟩ := a
  obtain ⟨c1, c2⟩ := c
  simp only [kvKey, sameGroupKey, compareForSort_text, bind, Except.bind, pure, Except.pure, cmpStr_eq]
  by_cases h1 : a1 = c1 <;> by_cases h2 : a2 = c2 <;> simp [h1, h2]

def fIn (m : MoveRow) : Int := if !m.isSource then m.amount else 0
def fOut (m : MoveRow) : Int := if m.isSource then m.amount else 0
def fBal (m : MoveRow) : Int := if !m.isSource then m.amount else -m.amount

theorem foldl_delta (ms : List MoveRow) : ∀ (V : Volumes),
    (ms.foldl (fun acc m => acc.add m.delta) V).input = (ms.map fIn).foldl (· + ·) V.input ∧
    (ms.foldl (fun acc m => acc.add m.delta) V).output = (ms.map fOut).foldl (· + ·) V.output := by
  induction ms with
  | nil => intro V; exact ⟨rfl, rfl⟩
  | cons m ms ih =>
    intro V
    simp only [List.foldl_cons, List.map_cons]
    have := ih (V.add m.delta)
    rw [this.1, this.2]
    cases hs : m.isSource <;> simp [Volumes.add, MoveRow.delta, fIn, fOut, hs]

theorem sumDeltas_in (ms : List MoveRow) : (sumDeltas ms).input = (ms.map fIn).foldl (· + ·) 0 := (foldl_delta ms Volumes.zero).1
theorem sumDeltas_out (ms : List MoveRow) : (sumDeltas ms).output = (ms.map fOut).foldl (· + ·) 0 := (foldl_delta ms Volumes.zero).2

theorem foldl_bal (ms : List MoveRow) : ∀ (i o : Int),
    (ms.map fBal).foldl (· + ·) (i - o) = (ms.map fIn).foldl (· + ·) i - (ms.map fOut).foldl (· + ·) o := by
  induction ms with
  | nil => intro i o; rfl
  | cons m ms ih =>
    intro i o
    simp only [List.map_cons, List.foldl_cons]
    rw [← ih]
    congr 1
    cases hs : m.isSource <;> simp [fBal, fIn, fOut, hs] <;> omega

theorem sumDeltas_bal (ms : List MoveRow) : (ms.map fBal).foldl (· + ·) 0 = (sumDeltas ms).input - (sumDeltas ms).output := by
  rw [sumDeltas_in, sumDeltas_out, ← foldl_bal]
  rfl

theorem sumDeltas_perm {l₁ l₂ : List MoveRow} (h : l₁.Perm l₂) : sumDeltas l₁ = sumDeltas l₂ := by
  unfold sumDeltas
  apply List.Perm.foldl_eq' h
  intro x _ y _ z
  simp only [Volumes.add]
  congr 1 <;> omega

theorem evals_mvCol {cb : Callbacks} {te : TypeEnv} {env : Env} {b : String} {rid : Nat} {p : String × MoveRow}
    (hl : env.locals = [mvScope b rid p]) {c : String} {v : Value} (h : lookupIn mvCols (mvVals p.1 p.2) c = some v) :
    Evals cb te env (.col "" c) v := .col (lookup_mv env b rid p hl c v h)

/-- the GROUP BY / PARTITION BY / DISTINCT ON columns of a typed row -/
theorem evals_keyCols {cb : Callbacks} {te : TypeEnv} {env : Env} {b : String} {rid : Nat} {p : String × MoveRow}
    (hl : env.locals = [mvScope b rid p]) : EvalsAll cb te env (winGroup.map (Expr.col "")) (kvKey p.2.key) :=
  .cons (evals_mvCol hl (mvCol_account ..)) (.cons (evals_mvCol hl (mvCol_asset ..)) .nil)

/-- the GROUP BY / DISTINCT ON columns are columns of the row -/
theorem keyCols_mvScope (b : String) (rid : Nat) (p : String × MoveRow) (outer : List Scope) :
    ∀ c ∈ winGroup, (lookupUnqualified ([mvScope b rid p] ++ outer) c).isSome = true := by
  intro c hc
  simp only [winGroup, List.mem_cons, List.not_mem_nil, or_false] at hc
  rcases hc with rfl | rfl <;> rfl

theorem evals_winWhere {cb : Callbacks} {te : TypeEnv} {env : Env} {b : String} {rid : Nat} {p : String × MoveRow}
    (hl : env.locals = [mvScope b rid p]) (l : String) (mode : DateMode) (pitT ootT : Option (String × Int))
    (hp : ∀ x, pitT = some x → tsParse x.1 = .ok x.2) (ho : ∀ x, ootT = some x → tsParse x.1 = .ok x.2) :
    Evals cb te env (winWhere l (dateCol mode) (pitT.map Prod.fst) (ootT.map Prod.fst))
      (.bool (inWin l (Window.mk (ootT.map Prod.snd) (pitT.map Prod.snd)) mode p)) := by
  have led := lookup_mv env b rid p hl _ _ (mvCol_ledger ..)
  have date : lookupColumn env "" (dateCol mode) = .ok (.ts (p.2.date mode)) := by
    cases mode
    · exact lookup_mv env b rid p hl _ _ (mvCol_insDate ..)
    · exact lookup_mv env b rid p hl _ _ (mvCol_effDate ..)
  have hle := fun (q : String × Int) (h : pitT = some q) => evalBinop_le_ts_text (p.2.date mode) _ _ (hp q h)
  have hge := fun (o : String × Int) (h : ootT = some o) => evalBinop_ge_ts_text (p.2.date mode) _ _ (ho o h)
  refine .of_pv _ ?_
  rw [inWin]
  cases pitT with
  | none =>
    cases ootT with
    | none => simp only [winWhere, ledgerIsE, Option.map, pv, led, binV_ok, ne_eq, reduceCtorEq, not_false_eq_true, evalBinop_eq_text, Window.contains, Bool.and_true]
    | some o =>
      simp only [winWhere, ledgerIsE, Option.map, pv, led, date, binV_ok, ne_eq, reduceCtorEq, not_false_eq_true, binV_and, evalBinop_eq_text, hge o rfl, Window.contains,
        Bool.and_true]
  | some q =>
    cases ootT with
    | none =>
      simp only [winWhere, ledgerIsE, Option.map, pv, led, date, binV_ok, ne_eq, reduceCtorEq, not_false_eq_true, binV_and, evalBinop_eq_text, hle q rfl, Window.contains,
        Bool.true_and]
    | some o =>
      simp only [winWhere, ledgerIsE, Option.map, pv, led, date, binV_ok, ne_eq, reduceCtorEq, not_false_eq_true, binV_and, evalBinop_eq_text, hle q rfl, hge o rfl,
        Window.contains, Bool.and_assoc, Bool.and_comm (decide (o.2 ≤ _))]

/-- the three `CASE WHEN [NOT] is_source …` summands on a typed row -/
theorem evals_cases {cb : Callbacks} {te : TypeEnv} {env : Env} {b : String} {rid : Nat} {p : String × MoveRow}
    (hl : env.locals = [mvScope b rid p]) :
    Evals cb te env caseIn (.int (fIn p.2)) ∧ Evals cb te env caseOut (.int (fOut p.2)) ∧ Evals cb te env caseBal (.int (fBal p.2)) := by
  have src := lookup_mv env b rid p hl _ _ (mvCol_isSource ..)
  have amt := lookup_mv env b rid p hl _ _ (mvCol_amount ..)
  refine ⟨.of_pv _ ?_, .of_pv _ ?_, .of_pv _ ?_⟩ <;>
    simp only [caseIn, caseOut, caseBal, pv, src, amt, unopV_not, unopV_neg, iteV_ok, fIn, fOut, fBal] <;>
    cases p.2.isSource <;> rfl

/-- `sum(arg)` over a group of scanned rows, `arg` an integer function of the row -/
theorem evals_sumOf {cb : Callbacks} {te : TypeEnv} (env : Env) (b : String) {G : List MvScan} (hne : G ≠ []) (L0 : List Scope) {arg : Expr}
    {f : MoveRow → Int}
    (harg : ∀ (env' : Env) (rid : Nat) (p : String × MoveRow), env'.locals = [mvScope b rid p] → Evals cb te env' arg (.int (f p.2))) :
    Evals cb te { env with locals := L0, group := some (G.map (mvRow b)), wins := [] } (sumOf arg)
      (.int (((G.map (·.2.2)).map f).foldl (· + ·) 0)) := by
  intro s
  simp only [sumOf, evalExpr, List.isEmpty_nil, if_true, exec_bind, exec_pure]
  rw [exec_mapM_map (mvRow b) _ (fun x => [Value.int (f x.2.2)]) G s fun x _ => EvalsAll.cons (harg _ x.1 x.2 rfl) .nil s]
  simp only [applyAggregate_sum_int (fun x : MvScan => f x.2.2) G hne, exec_liftR_ok, List.map_map, Function.comp_def]

/-- the five items of the window dataset over a group of scanned rows: the key columns of its first row; input, output and balance of
    `sumDeltas` -/
theorem evals_winItems {cb : Callbacks} {te : TypeEnv} (env : Env) (b : String) (x : MvScan) (rest : List MvScan) :
    EvalsAll cb te { env with locals := mvRow b x, group := some ((x :: rest).map (mvRow b)), wins := [] } (winItems.map (·.1))
      (winProj (x :: rest)) := by
  rw [winProj, winRow, ← sumDeltas_bal, sumDeltas_in, sumDeltas_out]
  exact .cons (evals_mvCol rfl (mvCol_asset ..)) (.cons (evals_mvCol rfl (mvCol_account ..))
    (.cons (evals_sumOf env b (List.cons_ne_nil _ _) _ fun _ _ _ h => (evals_cases h).1)
      (.cons (evals_sumOf env b (List.cons_ne_nil _ _) _ fun _ _ _ h => (evals_cases h).2.1)
        (.cons (evals_sumOf env b (List.cons_ne_nil _ _) _ fun _ _ _ h => (evals_cases h).2.2) .nil))))

/-- `ORDER BY accounts_address, asset` on an output row of the dataset: `accounts_address` is no output column and is read off the
    input row, `asset` is the first output column -/
theorem exec_winOrderKeys (cb : Callbacks) (te : TypeEnv) (env : Env) (o : OutRow) {b : String} {rid : Nat} {p : String × MoveRow}
    (hl : o.locals = [mvScope b rid p]) (V : Volumes) (hv : o.vals = winRow p.2.key V) (s : St) :
    (balOrder.mapM (orderKeyM cb te env (outNames winItems) o)).exec s = (.ok (kvKey p.2.key), s) := by
  have i2 : colIndex ["asset", "account", "input", "output", "balance"] "asset" = some 0 := by decide
  refine exec_mapM_cons_ok (exec_orderKeyM_pv cb te env _ o (.col "" "accounts_address") false .dflt _ s
    (fun _ e => by cases e; decide) (fun _ e => nomatch e) (by rw [pv]; exact lookup_mv _ b rid p hl _ _ (mvCol_account ..))) ?_
  simp only [exec_mapM_cons, exec_mapM_nil, orderKeyM, outNames_win, i2, exec_pure, hv, winRow, MoveRow.key, List.getElem?_cons_zero,
    Option.getD_some]

def WinOut (p : List Value × OutRow) : Prop :=
  ∃ (k : Key) (V : Volumes), p.1 = kvKey k ∧ p.2.vals = winRow k V

theorem sameGroupKey_winRow (k k' : Key) (V V' : Volumes) : ∃ x, sameGroupKey (winRow k V) (winRow k' V') = .ok x := by
  apply sameGroupKey_ok
  intro p hp
  simp only [winRow, List.zip_cons_cons, List.zip_nil_right, List.mem_cons, List.not_mem_nil, or_false] at hp
  rcases hp with rfl | rfl | rfl | rfl | rfl
  · exact ⟨_, compareForSort_text _ _⟩
  · exact ⟨_, compareForSort_text _ _⟩
  · exact ⟨_, compareForSort_int _ _⟩
  · exact ⟨_, compareForSort_int _ _⟩
  · exact ⟨_, compareForSort_int _ _⟩

theorem hasTieR_win (l : List (List Value × OutRow)) (h : ∀ p ∈ l, WinOut p) : ∃ x, hasTieR l = .ok x := by
  apply hasTieR_ok
  intro p hp q hq
  obtain ⟨k, V, hk, hv⟩ := h p hp
  obtain ⟨k', V', hk', hv'⟩ := h q hq
  rw [hk, hk', hv, hv']
  exact ⟨⟨_, sameGroupKey_kvKey k k'⟩, sameGroupKey_winRow k k' V V'⟩

theorem balCmp_lt (a c a' c' : String) :
    (balCmp [.text a, .text c] [.text a', .text c'] = Ordering.lt) ↔ KeyOrd.lt (a, c) (a', c') = true := by
  simp only [balCmp, KeyOrd.lt, Bool.or_eq_true, Bool.and_eq_true, decide_eq_true_eq]
  by_cases he : a = a'
  · subst he
    have : (cmpStr a a == Ordering.eq) = true := by rw [cmpStr_eq]; simp
    simp [this, cmpStr_lt, String.lt_irrefl]
  · have : (cmpStr a a' == Ordering.eq) = false := by rw [cmpStr_eq]; simpa using he
    simp [this, cmpStr_lt, he]

/-- rows sorted by `ORDER BY accounts_address, asset` have their keys in `KeyOrd` order -/
theorem pairwise_keyOrd_of_balCmp {α : Type} (key : α → Key) {l : List α}
    (h : l.Pairwise (fun a c => balCmp (kvKey (key c)) (kvKey (key a)) ≠ .lt)) :
    (l.map key).Pairwise (fun a c => KeyOrd.lt c a = false) :=
  List.pairwise_map.mpr (h.imp fun hac => Bool.eq_false_iff.mpr fun hlt => hac ((balCmp_lt _ _ _ _).mpr hlt))

/-- the scanned rows of the ledger dated in the window are, up to order, the ledger's moves in the window -/
theorem inWin_moves {xs : List MvScan} {tbl : List (String × MoveRow)} (hxs : xs.map (·.2) = tbl.reverse) {l : String} {T : List MoveRow}
    (hTp : T.Perm (ledgerMoves l tbl)) (w : Window) (mode : DateMode) :
    ((xs.filter (fun x => inWin l w mode x.2)).map (·.2.2)).Perm (T.filter (fun m => w.contains (m.date mode))) := by
  have e : (ledgerMoves l tbl.reverse).filter (fun m => w.contains (m.date mode)) =
      (xs.filter (fun x => inWin l w mode x.2)).map (·.2.2) := by
    simp only [ledgerMoves, ← hxs, inWin, List.filter_map, List.filter_filter, List.map_map, Function.comp_def, Bool.and_comm]
  rw [← e, ledgerMoves]
  exact ((((List.reverse_perm tbl).filter _).map _).trans hTp.symm).filter _

theorem sumDeltas_group {R : List MvScan} {T : List MoveRow} {w : Window} {mode : DateMode}
    (hR : (R.map (·.2.2)).Perm (T.filter (fun m => w.contains (m.date mode)))) (k : Key) :
    sumDeltas ((R.filter (fun x => decide (x.2.2.key = k))).map (·.2.2)) = movesWindowVolumes T w mode k := by
  rw [show (R.filter (fun x => decide (x.2.2.key = k))).map (·.2.2) = (R.map (·.2.2)).filter (fun m => decide (m.key = k)) by
    rw [List.filter_map]; rfl, sumDeltas_perm (hR.filter _), List.filter_filter, movesWindowVolumes]
  exact congrArg _ (List.filter_congr fun m _ => by rw [Bool.beq_eq_decide_eq])

/-- **The window dataset on any `moves` table = `Spec.movesWindowVolumes`**: one row per (account, asset) having a move of the ledger
    in the window, in strict (account, asset) order. -/
theorem exec_winQuery (q : Nat) (env : Env) (b l : String) (hb : b.isEmpty = false) (mode : DateMode) (pitT ootT : Option (String × Int))
    (hp : ∀ x, pitT = some x → tsParse x.1 = .ok x.2) (ho : ∀ x, ootT = some x → tsParse x.1 = .ok x.2)
    (s : St) (hs : TxState s) (trigs : List TriggerDef) (nr : Nat) (rows : List Ver)
    (hT : s.w.table? (mvFull b) = some ((mvT b trigs nr).withRows rows))
    (tbl : List (String × MoveRow)) (hview : MvView (cv s) rows tbl)
    (T : List MoveRow) (hTp : T.Perm (ledgerMoves l tbl)) :
    ∃ (keys : List Key) (tie : Bool),
      (evalQuery (q + 6) env (winQuery b (winWhere l (dateCol mode) (pitT.map Prod.fst) (ootT.map Prod.fst)))).exec s =
        (.ok { cols := ["asset", "account", "input", "output", "balance"],
               rows := keys.map (fun k => winRow k (movesWindowVolumes T (Window.mk (ootT.map Prod.snd) (pitT.map Prod.snd)) mode k)) },
          s.tie tie) ∧
      keys.Nodup ∧
      (∀ k, k ∈ keys ↔ ∃ m ∈ T, m.key = k ∧ (Window.mk (ootT.map Prod.snd) (pitT.map Prod.snd)).contains (m.date mode) = true) ∧
      keys.Pairwise (fun a c => KeyOrd.lt c a = false) := by
  generalize hW : Window.mk (ootT.map Prod.snd) (pitT.map Prod.snd) = W
  obtain ⟨xs, hfrom, hxs⟩ := exec_scanMoves q env b b s hs (by simp [hb]) (qualify_moves b hb s) trigs nr rows hT tbl hview
  generalize hR : xs.filter (fun x => inWin l W mode x.2) = R
  have hmoves : (R.map (·.2.2)).Perm (T.filter (fun m => W.contains (m.date mode))) := hR ▸ inWin_moves hxs hTp W mode
  -- a group: non-empty; its row has the key of its first member and the Spec's volumes of that key
  have hgrp : ∀ G ∈ groupsOf (fun x : MvScan => x.2.2.key) R, (∃ x rest, G = x :: rest) ∧
      winProj G = winRow (gKey G) (movesWindowVolumes T W mode (gKey G)) := by
    intro G hG
    obtain ⟨k, hk, rfl, hne⟩ := groupsOf_mem _ R G hG
    refine ⟨List.exists_cons_of_ne_nil hne, ?_⟩
    rw [winProj, gKey, headD_filter_key (fun x : MvScan => x.2.2.key) R default hk, sumDeltas_group hmoves]
  obtain ⟨zs, tie, hsort, hperm, hpw, -⟩ := exec_sortOut_of (q + 2) env (outNames winItems) (groupsOf (fun x : MvScan => x.2.2.key) R)
    (outRowV (fun G : List MvScan => (G.map (mvRow b)).headD []) (fun G => some (G.map (mvRow b))) (fun _ => []) winProj) balOrder
    (by simp [balOrder]) s (fun G => kvKey (gKey G)) balCmp balKeyOk
    (fun G hG => by
      obtain ⟨⟨x, rest, rfl⟩, -⟩ := hgrp G hG
      exact exec_winOrderKeys _ _ env _ (rid := x.1) (p := x.2) rfl _ rfl s)
    balCmpOk (fun G _ => ⟨_, _, rfl⟩) (fun _ => True)
    (fun lst hl => by
      obtain ⟨t, ht⟩ := hasTieR_win lst fun pr hpr => by
        obtain ⟨G, _, rfl⟩ := List.mem_map.mp (hl.mem_iff.mp hpr)
        exact ⟨_, _, rfl, rfl⟩
      exact ⟨t, ht, trivial⟩)
  have hsel := exec_evalSelect_of (q + 3) env winItems [FromItem.table b "moves" ""]
    (some (winWhere l (dateCol mode) (pitT.map Prod.fst) (ootT.map Prod.fst))) _ [] balOrder s xs (mvRow b) (fun x => inWin l W mode x.2) hfrom
    (fun _ hc x _ => Option.some.inj hc ▸ hW ▸ (evals_winWhere rfl l mode pitT ootT hp ho).whereHolds s) (fun h => nomatch h) _ _ _
    (.groups winGroup (by simp [winGroup]) (fun x => x.2.2.key) kvKey (fun x _ => keyCols_mvScope b x.1 x.2 _)
      (fun x _ _ => evals_keyCols rfl s) sameGroupKey_kvKey)
    [] rfl _ .none winProj
    (fun G hG => by
      obtain ⟨⟨x, rest, rfl⟩, -⟩ := hgrp G (hR ▸ hG)
      exact evals_winItems env b x rest s)
    _ tie (hR ▸ hsort) _ (.none _ _)
  have hkeys : (zs.map gKey).Perm (firstKeys (R.map fun x => x.2.2.key)) :=
    (hperm.map _).trans (.of_eq (groupsOf_map_head (fun x : MvScan => x.2.2.key) R default))
  refine ⟨zs.map gKey, tie, ?_, hkeys.nodup_iff.mpr (nodup_firstKeys _), fun k => ?_, ?_⟩
  · rw [winQuery, exec_evalQuery_select _ _ _ _ _ _ _ _ hsel, outNames_win, List.map_map,
      map_eq_map_keys (val := (fun o : OutRow => o.vals) ∘ outRowV _ _ _ winProj) gKey
        (fun k => winRow k (movesWindowVolumes T W mode k)) fun G hG => (hgrp G (hperm.mem_iff.mp hG)).2]
  · rw [hkeys.mem_iff, mem_firstKeys, show R.map (fun x : MvScan => x.2.2.key) = (R.map (·.2.2)).map MoveRow.key by
      rw [List.map_map]; rfl, List.mem_map]
    simp only [hmoves.mem_iff, List.mem_filter, and_left_comm, and_comm]
  · exact pairwise_keyOrd_of_balCmp _ hpw

end Ledger.Sql
