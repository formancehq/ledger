import Ledger.Proofs.SqlAcMeta

/-!
# The revision of `update_account_metadata_history`

`coalesce((SELECT revision + 1 FROM accounts_metadata WHERE accounts_metadata.accounts_address = new.address AND
accounts_metadata.ledger = new.ledger ORDER BY revision DESC LIMIT 1), 1)`, evaluated by LeanPG on ANY `accounts_metadata` table of
well-typed rows: one more than the largest revision stored for the account, or 1 (`NextRev`). The query is an instance of
`exec_evalQuery_first` (the first row in an order); the trigger function is generated from the migrations, so what its item and its
WHERE clause mean is obtained by evaluating them along whatever syntax tree they have (`AmRevSem`, `amRev_sem`).
-/
open Ledger Ledger.Sql Ledger.Generated Ledger.Core
namespace Ledger.Sql

/-- the typed content of the rows visible in `v` -/
def AmView (v : View) (rows : List Ver) (tbl : List AmR) : Prop :=
  (rows.filter (fun r => r.visible v)).map (·.vals) = tbl.map amVals

/-- is the stored row a revision of the account of `a`? -/
def amCand (a : AcR) (y : AmR) : Bool := decide (y.address = a.address) && decide (y.ledger = a.ledger)

/-- `rv` is the next revision given the stored revisions `cands` of the account -/
def NextRev (cands : List Int) (rv : Int) : Prop :=
  (cands = [] ∧ rv = 1) ∨ (∃ m ∈ cands, rv = m + 1 ∧ ∀ c ∈ cands, c ≤ m)

/-- a scanned row of `accounts_metadata` as the revision query sees it -/
def amScope (y : AmR) (src : Option (String × Nat)) : Scope :=
  { alias := "accounts_metadata", cols := amCols, vals := amVals y, src := src }

theorem lastComponent_am : lastComponent "accounts_metadata" = "accounts_metadata" := by decide

/-- ties between equal revisions are not ties: the projected values are equal too -/
theorem hasTieR_rev : ∀ (l : List (List Value × OutRow)),
    (∀ p ∈ l, ∃ (q : Int), p.1 = [.int q] ∧ p.2.vals = [.int (q + 1)]) → hasTieR l = .ok false := by
  intro l
  induction l with
  | nil => intro _; rfl
  | cons p rest ih =>
    intro h
    cases rest with
    | nil => rfl
    | cons q rest' =>
      obtain ⟨q1, hk1, hv1⟩ := h p (by simp)
      obtain ⟨q2, hk2, hv2⟩ := h q (by simp)
      obtain ⟨k1, r1⟩ := p
      obtain ⟨k2, r2⟩ := q
      simp only at hk1 hk2 hv1 hv2
      subst hk1 hk2
      simp only [hasTieR, hv1, hv2, sameGroupKey_int1, bind, Except.bind]
      have : (decide (q1 = q2) && !decide (q1 + 1 = q2 + 1)) = false := by
        by_cases e : q1 = q2
        · subst e; simp
        · simp [e]
      simp only [this, Bool.false_eq_true, if_false]
      exact ih (fun r hr => h r (by simp [hr]))

theorem lookup_am_q (env : Env) (y : AmR) (src : Option (String × Nat)) (hl : env.locals = [amScope y src]) (c : String) (v : Value)
    (h : lookupIn amCols (amVals y) c = some v) : lookupColumn env "accounts_metadata" c = .ok v :=
  lookupColumn_alias env "accounts_metadata" c (amScope y src) v rfl (by rw [lastComponent_am, Env.scopes, hl]; rfl) h

theorem lookup_new_ac_outer (env : Env) (y : AmR) (src : Option (String × Nat)) (a : AcR) (old : Option AcR) (fd : Bool)
    (hl : env.locals = [amScope y src]) (ho : env.outer = (acPlEnv a old fd).outer) (c : String) (v : Value)
    (h : lookupIn acCols a.vals c = some v) : lookupColumn env "new" c = .ok v :=
  lookupColumn_alias env "new" c { alias := "new", cols := acCols, vals := a.vals } v rfl
    (by rw [lastComponent_new, Env.scopes, hl, ho]; rfl) h

/-- the revision query with its item and WHERE clause as variables -/
def amRevQueryOf (item wher : Expr) : Query :=
  Query.mk [] (SetExpr.select (Select.mk false [] [SelItem.expr item ""] [FromItem.table "" "accounts_metadata" ""] (some wher) [] none))
    [OrderItem.mk (Expr.col "" "revision") true NullsOrder.dflt] (some (Expr.int 1)) none LockMode.none

/-- what the item and the WHERE clause of the revision query mean on ANY scanned row `y` and ANY NEW row `a` -/
structure AmRevSem (item wher : Expr) : Prop where
  hwher : ∀ (cb : Callbacks) (te : TypeEnv) (env : Env) (y : AmR) (src : Option (String × Nat)) (a : AcR) (old : Option AcR) (fd : Bool),
    env.locals = [amScope y src] → env.outer = (acPlEnv a old fd).outer → Evals cb te env wher (.bool (amCand a y))
  hitem : ∀ (cb : Callbacks) (te : TypeEnv) (env : Env) (y : AmR) (src : Option (String × Nat)),
    env.locals = [amScope y src] → Evals cb te env item (.int (y.revision + 1))
  hagg : Expr.anyHasAgg [item] = false
  hwin : Expr.winsList [item] = []
  /-- the output column is not called `revision`, so `revision` in ORDER BY is the column of `accounts_metadata` -/
  hname : colIndex (outNames [(item, "")]) "revision" = none

set_option linter.unusedSimpArgs false in
theorem amRev_sem : ∃ item wher, amRevExpr = Expr.call "" "coalesce" [Expr.subq (amRevQueryOf item wher), Expr.int 1] ∧
    AmRevSem item wher := by
  refine ⟨_, _, rfl, ?_, ?_, by decide, by decide, by decide⟩
  · intro cb te env y src a old fd hl ho
    refine Evals.of_pv _ ?_
    simp only [pv, binV_and, binV_or, binV_ok, bind, Except.bind, ne_eq, reduceCtorEq, not_false_eq_true,
      lookup_am_q env y src hl "accounts_address" (.text y.address) (by cases y; rfl),
      lookup_am_q env y src hl "ledger" (.text y.ledger) (by cases y; rfl),
      lookup_new_ac_outer env y src a old fd hl ho "address" (.text a.address) (by cases a; rfl),
      lookup_new_ac_outer env y src a old fd hl ho "ledger" (.text a.ledger) (by cases a; rfl), evalBinop_eq_text]
    simp only [amCand, Bool.and_comm, eq_comm]
  · intro cb te env y src hl
    refine Evals.of_pv _ ?_
    simp only [pv, binV_ok, ne_eq, reduceCtorEq, not_false_eq_true,
      lookup_local_unq env _ hl "revision" (.int y.revision) (by cases y; rfl), evalBinop_add_int, Int.add_comm]

theorem exec_amRevExpr (q : Nat) (b : String) (a : AcR) (old : Option AcR) (fd : Bool) (s : St) (hs : TxState s) (hsp : s.searchPath = b)
    (nr : Nat) (rows : List Ver) (hT : s.w.table? (amFull b) = some ((amT b nr).withRows rows))
    (tbl : List AmR) (hview : AmView (cv s) rows tbl) :
    ∃ rv, (evalExpr (cbs (q + 7)) s.w.types (acPlEnv a old fd) amRevExpr).exec s = (.ok (.int rv), s) ∧
      NextRev ((tbl.filter (amCand a)).map (·.revision)) rv := by
  obtain ⟨item, wher, hexpr, hsem⟩ := amRev_sem
  -- the query: the first candidate in descending order of revision
  obtain ⟨res, hq, hfirst⟩ := exec_evalQuery_first q (acPlEnv a old fd) item wher [OrderItem.mk (Expr.col "" "revision") true NullsOrder.dflt]
    (by simp) "" "accounts_metadata" (amFull b) ((amT b nr).withRows rows) s hs rfl (by rw [exec_qualify_sp, hsp]; rfl) hT amVals tbl hview
    (amCand a) (fun y => .int (y.revision + 1)) (fun y => [.int y.revision]) seqCmp seqKeyOk
    (fun x _ => hsem.hwher _ _ { acPlEnv a old fd with locals := [amScope x.2 (some (amFull b, x.1))] } x.2 _ a old fd rfl rfl s)
    (fun x _ _ => hsem.hitem _ _ { acPlEnv a old fd with locals := [amScope x.2 (some (amFull b, x.1))], group := none, wins := [] } x.2 _
      rfl s)
    (by rw [hsem.hagg]; rfl) (by rw [hsem.hwin]; rfl)
    (fun x _ _ => exec_mapM_cons_ok (exec_orderKeyM_pv _ _ _ _ _ _ true .dflt (.int x.2.revision) s
        (fun name e => by cases e; exact hsem.hname) (fun _ e => nomatch e)
        (by rw [pv]; exact lookupColumn_head _ (amScope x.2 _) _ _ _ rfl (by cases x.2; rfl))) (exec_mapM_nil _ s))
    seqCmpOk (fun y _ _ => ⟨y.revision, rfl⟩)
    (fun l hl => hasTieR_rev l fun p hp => by
      obtain ⟨y, _, e⟩ := List.mem_map.mp (hl.mem_iff.mp (List.mem_map_of_mem (f := fun p => (p.1, p.2.vals)) hp))
      exact ⟨y.revision, (Prod.mk.inj e).1.symm, (Prod.mk.inj e).2.symm⟩)
  -- COALESCE of the sub-query and 1
  have hsub : ((cbs (q + 7)).sub (amRevQueryOf item wher) (acPlEnv a old fd)).exec s =
      (.ok { cols := outNames [(item, "")], rows := res }, s) := by
    cases old <;> exact hq
  have hco : ((("" : String).isEmpty || "" == "pg_catalog") && "coalesce" == "coalesce") = true := by decide
  rw [hexpr]
  rcases hfirst with ⟨rfl, hnone⟩ | ⟨y, hy, hc, rfl, hmax⟩
  · refine ⟨1, ?_, Or.inl ⟨?_, rfl⟩⟩
    · simp only [evalExpr, evalCoalesce, hco, if_true, exec_bind, hsub, exec_pure, Value.isNull, Bool.false_eq_true, if_false]
    · rw [List.map_eq_nil_iff, List.filter_eq_nil_iff]
      exact fun y hy => by rw [hnone y hy]; exact Bool.false_ne_true
  · refine ⟨y.revision + 1, ?_, Or.inr ⟨y.revision, List.mem_map.mpr ⟨y, List.mem_filter.mpr ⟨hy, hc⟩, rfl⟩, rfl, ?_⟩⟩
    · simp only [evalExpr, evalCoalesce, hco, if_true, exec_bind, hsub, exec_pure, Value.isNull, Bool.false_eq_true, if_false]
    · intro c hcm
      obtain ⟨y', hy', rfl⟩ := List.mem_map.mp hcm
      have := hmax y' (List.mem_filter.mp hy').1 (List.mem_filter.mp hy').2
      rw [ne_eq, seqCmp_lt] at this
      omega

end Ledger.Sql
