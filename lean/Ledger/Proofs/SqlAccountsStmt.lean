import Ledger.Proofs.SqlAccountsIns

/-!
# `UpsertAccounts`: the whole statement
-/
open Ledger Ledger.Sql Ledger.Generated Ledger.Core
open Ledger.Generated.WriteSql.P (AccountRow)
namespace Ledger.Sql

/-- in a row with one value per column, distinct column names find their values -/
theorem lookupIn_zip : ∀ (cols : List String) (r : List Value), cols.Nodup → ∀ p ∈ cols.zip r, lookupIn cols r p.1 = some p.2
  | [], _, _, _, hp => by simp at hp
  | _ :: _, [], _, _, hp => by simp at hp
  | c :: cs, v :: vs, hnd, p, hp => by
    rcases List.mem_cons.mp (List.zip_cons_cons ▸ hp) with rfl | hp
    · simp [lookupIn]
    · have hne : (c == p.1) = false := beq_false_of_ne fun e => (List.nodup_cons.mp hnd).1 (e ▸ (List.of_mem_zip hp).1)
      rw [lookupIn, hne]
      exact lookupIn_zip cs vs (List.nodup_cons.mp hnd).2 p hp

/-- the columns of a CTE row, each read by its qualified name, give back the row -/
theorem exec_evalExprs_star (cb : Callbacks) (te : TypeEnv) (env : Env) (name : String) (hne : name.isEmpty = false)
    (hlc : lastComponent name = name) (cols : List String) (hnd : cols.Nodup) (r : List Value) (hlen : r.length = cols.length) (s : St) :
    (evalExprs cb te { env with locals := [cteScope name cols r], group := none, wins := [] } (cols.map (Expr.col name))).exec s =
      (.ok r, s) := by
  have hall : ∀ cr : List (String × Value), (∀ p ∈ cr, p ∈ cols.zip r) →
      EvalsAll cb te { env with locals := [cteScope name cols r], group := none, wins := [] } ((cr.map (·.1)).map (Expr.col name))
        (cr.map (·.2)) := by
    intro cr
    induction cr with
    | nil => exact fun _ => .nil
    | cons p cr ih =>
      exact fun h => .cons (.col (lookupColumn_alias _ name p.1 (cteScope name cols r) p.2 hne (by rw [hlc]; simp [Env.scopes, findScope, cteScope])
        (lookupIn_zip cols r hnd p (h p List.mem_cons_self)))) (ih fun q hq => h q (List.mem_cons_of_mem _ hq))
  have := hall (cols.zip r) (fun _ h => h) s
  rwa [List.map_fst_zip (Nat.le_of_eq hlen.symm), List.map_snd_zip (Nat.le_of_eq hlen)] at this

theorem anyHasAgg_cols (name : String) (cols : List String) : Expr.anyHasAgg (cols.map (Expr.col name)) = false := by
  induction cols with
  | nil => simp [Expr.anyHasAgg]
  | cons c cs ih => simp [Expr.anyHasAgg, Expr.hasAgg, ih]

theorem winsList_cols (name : String) (cols : List String) : Expr.winsList (cols.map (Expr.col name)) = [] := by
  induction cols with
  | nil => simp [Expr.winsList]
  | cons c cs ih => simp [Expr.winsList, Expr.wins, ih]

/-- `SELECT * FROM <cte>` returns the rows of the CTE: its column names are distinct and each row has one value per column -/
theorem exec_selectStar_cte (n : Nat) (env : Env) (name : String) (hne : name.isEmpty = false) (hlc : lastComponent name = name) (rel : Rel)
    (s : St) (hcte : env.ctes.lookup name = some rel) (hnd : rel.cols.Nodup) (hlen : ∀ r ∈ rel.rows, r.length = rel.cols.length) :
    (evalSelect (n + 5) env (Select.mk false [] [SelItem.star ""] [FromItem.table "" name ""] none [] none) []).exec s =
      (.ok (rel.cols, rel.rows.map (outRowV (fun v => [cteScope name rel.cols v]) (fun _ => none) (fun _ => []) id)), s) := by
  have hfrom := exec_evalFromList_cte (n + 1) env name "" rel s hcte
  have hproto := exec_protoScopes_cte (n + 1) env name "" rel s hcte
  simp only [show ("" : String).isEmpty = true from rfl, if_true] at hfrom hproto
  rw [evalSelect]
  apply exec_seq (exec_typeEnv s)
  apply exec_seq hfrom
  apply exec_seq (exec_pure _ s)
  -- `*` stands for the columns of the CTE, qualified by its name
  apply exec_seq (a := (rel.cols, rel.cols.map (Expr.col name))) (s' := s)
  · cases hr : rel.rows with
    | nil => simp only [List.map_nil, exec_foldlM_cons, exec_bind, hproto, exec_pure, List.foldlM_nil, if_true, show ("" : String).isEmpty = true from rfl]
             simp [nullScope, List.map_map, Function.comp_def]
    | cons r rs => simp only [List.map_cons, exec_foldlM_cons, exec_bind, exec_pure, List.foldlM_nil, if_true, show ("" : String).isEmpty = true from rfl]
                   simp [cteScope, List.map_map, Function.comp_def]
  apply exec_of_eq (if_neg (by simp [anyHasAgg_cols]))
  apply exec_seq (exec_pure _ s)
  apply exec_seq (exec_pure _ s)
  apply exec_seq (a := []) (s' := s) (by rw [winsList_cols]; rfl)
  apply exec_seq (a := rel.rows.map (outRowV (fun v => [cteScope name rel.cols v]) (fun _ => none) (fun _ => []) id)) (s' := s)
  · rw [List.map_map]
    exact exec_mapM_numbered _ _ _ _ s fun i v hv => exec_seq (exec_evalExprs_star _ _ env name hne hlc rel.cols hnd v (hlen v hv) s) rfl
  apply exec_seq (show (sortOut (n + 4) env rel.cols _ []).exec s = (.ok (rel.cols, _), s) by rw [sortOut_nil]; rfl)
  rfl

/-- the hypotheses on the state in which `UpsertAccounts` runs -/
structure UpsertState (s : St) (b : String) (trigs : List TriggerDef) (nr : Nat) (rows : List Ver) : Prop where
  tbl : AcTblState s b trigs nr rows
  q0 : s.afterQ = []
  /-- no AFTER row trigger fires on UPDATE / INSERT of `accounts`: ACCOUNT_METADATA_HISTORY is off -/
  noUpdA : trigs.filter (fun tr => tr.timing == .after && tr.event == .update) = []
  noInsB : trigs.filter (fun tr => tr.timing == .before && tr.event == .insert) = []
  noInsA : trigs.filter (fun tr => tr.timing == .after && tr.event == .insert) = []

/-- one CTE: its statement runs, and its relation, under the column names the CTE declares, is bound to its name for the rest -/
theorem exec_evalCtes_cons (n : Nat) (env : Env) (name : String) (cols : List String) (stmt : Stmt) (rest : List Cte) (res : DmlResult)
    (rel : Rel) (s s' : St) (h : (execStmt n env stmt).exec s = (.ok res, s'))
    (hrel : (if cols.isEmpty then res.rel else { res.rel with cols := cols ++ res.rel.cols.drop cols.length }) = rel) :
    (evalCtes (n + 1) env (Cte.mk name cols stmt :: rest)).exec s = (evalCtes n { env with ctes := (name, rel) :: env.ctes } rest).exec s' := by
  subst hrel
  rw [evalCtes]
  exact exec_seq h rfl

/-- a query with CTEs and without ORDER BY, LIMIT or lock: the CTEs run, then the body under the bindings they leave -/
theorem exec_query_ctes (n : Nat) (env env' : Env) (ctes : List Cte) (body : SetExpr) (s s' : St) (cols : List String)
    (hctes : (evalCtes (n + 1) env ctes).exec s = (.ok env', s'))
    (hbody : ∃ outs, (evalSetExpr (n + 1) env' body []).exec s' = (.ok (cols, outs), s')) :
    ∃ res, (execStmt (n + 3) env (Stmt.query (Query.mk ctes body [] none none LockMode.none))).exec s = (.ok res, s') := by
  obtain ⟨outs, hbody⟩ := hbody
  apply Exists.intro
  rw [execStmt, evalQuery]
  exact exec_seq (exec_seq hctes (exec_seq (exec_typeEnv _) (exec_seq hbody rfl))) rfl

/-- the final SELECT: both CTEs have the columns of RETURNING, so each `SELECT *` gives back the rows of its CTE -/
theorem exec_upsertBody (n : Nat) (env : Env) (s : St) (rowsU rowsI : List (List Value))
    (hcU : env.ctes.lookup "updated_rows" = some { cols := updRetCols, rows := rowsU })
    (hcI : env.ctes.lookup "inserted_rows" = some { cols := updRetCols, rows := rowsI })
    (hU : ∀ r ∈ rowsU, r.length = updRetCols.length) (hI : ∀ r ∈ rowsI, r.length = updRetCols.length) :
    ∃ outs, (evalSetExpr (n + 7) env upsertBody []).exec s = (.ok (updRetCols, outs), s) := by
  have hselU := exec_selectStar_cte n env "updated_rows" (by decide) (by decide) _ s hcU (show updRetCols.Nodup by decide) hU
  have hselI := exec_selectStar_cte n env "inserted_rows" (by decide) (by decide) _ s hcI (show updRetCols.Nodup by decide) hI
  apply Exists.intro
  rw [upsertBody, evalSetExpr]
  refine exec_seq (exec_of_eq (by rw [evalSetExpr]) hselU) (exec_seq (exec_of_eq (by rw [evalSetExpr]) hselI) ?_)
  show (sortOut (n + 5 + 1) env updRetCols _ []).exec s = _
  rw [sortOut_nil]
  rfl

open Ledger.Generated.WriteSql in
/-- **`UpsertAccounts`, the statement**: the CTE chain run on ANY `accounts` table; the AFTER ROW triggers of the written rows (`QU`, `QI`:
    what `queueAfter` appends per updated / inserted row) are left in the queue. -/
theorem exec_upsertAccounts_core (k : Nat) (env : Env) (b l : String) (id : Nat) (trigs : List TriggerDef) (nr : Nat) (rows : List Ver)
    (s : St) (htb : AcTblState s b trigs nr rows)
    (hnoInsB : trigs.filter (fun tr => tr.timing == .before && tr.event == .insert) = [])
    (QU : Ver → List PendingTrig) (QI : AcR → List PendingTrig)
    (pm : List (AccountRow × DbR))
    (hqaU : ∀ (r : Ver) (a : AcR), r.vals = a.vals → (acMatch l (pm.map (·.2)) r.vals).isSome = true → ∀ (m : Nat) (rows : List Ver) (s : St),
      (queueAfter (m + 3) ((acT b trigs nr).withRows rows) .update ["metadata", "first_usage", "updated_at"]
        (some (acUpdF l (pm.map (·.2)) r.vals)) (some r.vals)).exec s = (.ok (), s.addQ (QU r)))
    (hqaI : ∀ (nr' : Nat) (rows' : List Ver) (a : AcR) (s' : St), a.ledger = l →
      (queueAfter (k + 9) ((acT b trigs nr').withRows rows') .insert [] (some a.vals) none).exec s' = (.ok (), s'.addQ (QI a)))
    (hlits : ∀ x ∈ pm, DbLit s.w.types x.1 x.2) (hnd : ((pm.map (·.2)).map (·.address)).Nodup) :
    ∃ (res : DmlResult) (stmt : Stmt), P.upsertAccounts b l id (pm.map (·.1)) = [stmt] ∧
      (execStmt (k + 18) env stmt).exec s =
        (.ok res,
         (s.withTable ((acT b trigs (nr + ((pm.map (·.2)).filter (fun d => !(exAddrs b l trigs nr rows (cv s) (pm.map (·.2))).contains d.address)).length)).withRows
           (acInsRows s.xid s.cid l nr (acUpdRows (latestView s.w s.xid) s.xid s.cid l (pm.map (·.2)) rows)
             ((pm.map (·.2)).filter (fun d => !(exAddrs b l trigs nr rows (cv s) (pm.map (·.2))).contains d.address))))).addQ
           (updQ (fun v => (acMatch l (pm.map (·.2)) v).isSome) QU ((rows.filter (fun r => r.visible (latestView s.w s.xid))).reverse) ++
            acInsQ l QI ((pm.map (·.2)).filter (fun d => !(exAddrs b l trigs nr rows (cv s) (pm.map (·.2))).contains d.address)))) := by
  obtain ⟨eMd, eFu, eUp, wherU, items, wherI, hshape, _, hsemU, hsemI⟩ := upsertAccounts_shape4 b l id
  have hx := htb.tx.xid
  have hc := htb.tx.cid
  obtain ⟨cs1, h1, hcs1⟩ := exec_dataBatch (k + 11) env pm s hlits
  have hshape1 := hshape (pm.map (·.1))
  generalize hds : pm.map (·.2) = ds at *
  have h2 := exec_existing (k + 6) { env with ctes := ("data_batch", dbRel ds) :: env.ctes } b l htb.bne trigs nr rows ds s htb.tx
    htb.table htb.inv.typed (by simp [List.lookup])
  -- a batch row outside `existing_accounts` has no account, before the UPDATE and (the keys being kept) after it
  have hno : ∀ d ∈ ds, (exAddrs b l trigs nr rows (cv s) ds).contains d.address = false →
      hasAccount l (acAbs (latestView s.w s.xid) (acUpdRows (latestView s.w s.xid) s.xid s.cid l ds rows)) d.address = false := by
    intro d hd hEc
    rwa [hasAccount_acUpdRows s.w s.xid s.cid hx hc l l ds nr rows htb.inv, ← acAbs_cv s htb.tx rows htb.fresh,
      ← contains_exAddrs b l trigs nr rows (cv s) ds htb.inv.typed d hd]
  generalize hE : exAddrs b l trigs nr rows (cv s) ds = E at *
  have h3 := exec_updatedRows (k + 6) { env with ctes := ("existing_accounts", exRel E) :: ("data_batch", dbRel ds) :: env.ctes }
    b l trigs nr rows ds eMd eFu eUp wherU hsemU s htb QU hqaU (by simp [List.lookup])
  have hinv3 := AcInv_acUpdRows b trigs nr s.w s.xid s.cid hx hc l ds rows htb.inv
  have hT3 : (s.withTable ((acT b trigs nr).withRows (acUpdRows (latestView s.w s.xid) s.xid s.cid l ds rows))).w.table? (acFull b) =
      some ((acT b trigs nr).withRows (acUpdRows (latestView s.w s.xid) s.xid s.cid l ds rows)) :=
    withTable_table? s ((acT b trigs nr).withRows rows) _ htb.table
  have hretU := (retOk_acUpdAcc (latestView s.w s.xid) l ds rows).2
  generalize hR3 : acUpdRows (latestView s.w s.xid) s.xid s.cid l ds rows = rows3 at *
  generalize hU3 : acUpdAcc (latestView s.w s.xid) l ds rows = acc3 at *
  generalize hQUl : updQ (fun v => (acMatch l ds v).isSome) QU ((rows.filter (fun r => r.visible (latestView s.w s.xid))).reverse) = QUl at *
  -- CTE 4, in the state the UPDATE left
  have h4 := exec_insertedRows k { env with ctes := ("updated_rows", { cols := updRetCols, rows := acc3.retRows }) ::
      ("existing_accounts", exRel E) :: ("data_batch", dbRel ds) :: env.ctes }
    b l trigs nr rows3 ds E items wherI hsemI ((s.withTable ((acT b trigs nr).withRows rows3)).addQ QUl) ((htb.tx.withTable _).addQ _) htb.bne hT3
    hinv3 hnoInsB QI hqaI (by simp [List.lookup]) (by simp [List.lookup]) hnd hno
  simp only [withTable_xid, withTable_cid, addQ_xid, addQ_cid] at h4
  rw [addQ_withTable, withTable_withTable _ _ _ (by rfl), addQ_addQ] at h4
  have hretI : ∀ r ∈ (ds.filter (fun d => !E.contains d.address)).map (insRetRow l), r.length = updRetCols.length := by
    intro r hr
    obtain ⟨d, _, rfl⟩ := List.mem_map.mp hr
    rfl
  have hrel1 : (if dbCols.isEmpty = true then ({ cols := cs1, rows := List.map (fun x => x.snd.vals) pm } : Rel)
      else { cols := dbCols ++ List.drop dbCols.length cs1, rows := List.map (fun x => x.snd.vals) pm }) = dbRel ds := by
    rw [if_neg (by decide), hcs1, ← hds, dbRel, List.map_map]
    rfl
  -- the four CTEs, each run in the state and under the bindings the one before left
  have hctes := (exec_evalCtes_cons _ env "data_batch" dbCols _ _ _ _ _ _ h1 hrel1).trans <|
    (exec_evalCtes_cons _ _ "existing_accounts" [] _ _ _ (exRel E) _ _ h2 rfl).trans <|
    (exec_evalCtes_cons _ _ "updated_rows" [] _ _ _ ⟨updRetCols, _⟩ _ _ h3 rfl).trans <|
    (exec_evalCtes_cons _ _ "inserted_rows" [] _ [] _ ⟨updRetCols, _⟩ _ _ h4 rfl).trans (exec_of_eq (evalCtes_nil _ _) rfl)
  obtain ⟨res, hres⟩ := exec_query_ctes _ env _ _ _ s _ _ hctes (exec_upsertBody (k + 9) _ _ _ _ rfl rfl hretU hretI)
  exact ⟨res, _, hshape1, hres⟩

/-- the AFTER triggers queue nothing when the table has none -/
theorem exec_queueAfter_none' (n : Nat) (t : Table) (ev : TrigEvent) (setCols : List String) (new old : Option (List Value)) (s : St)
    (h : t.triggers.filter (fun tr => tr.timing == .after && tr.event == ev) = []) :
    (queueAfter (n + 1) t ev setCols new old).exec s = (.ok (), s.addQ []) := by
  rw [exec_queueAfter_none n t ev setCols new old s h]; simp

open Ledger.Generated.WriteSql in
/-- **`UpsertAccounts` as a top-level statement**, for ANY AFTER ROW triggers (`QU`, `QI`) and ANY state `S'` in which the drain of
    the queue they leave ends: the statement runs on the cleared queue, then the queue is drained from the table state it left. -/
theorem exec_runStmt_upsertAccounts_gen (k : Nat) (env : Env) (b l : String) (id : Nat) (trigs : List TriggerDef) (nr : Nat) (rows : List Ver)
    (s : St) (htb : AcTblState s b trigs nr rows) (hq0 : s.afterQ = [])
    (hnoInsB : trigs.filter (fun tr => tr.timing == .before && tr.event == .insert) = [])
    (QU : Ver → List PendingTrig) (QI : AcR → List PendingTrig) (pm : List (AccountRow × DbR))
    (hqaU : ∀ (r : Ver) (a : AcR), r.vals = a.vals → (acMatch l (pm.map (·.2)) r.vals).isSome = true → ∀ (m : Nat) (rows : List Ver) (s : St),
      (queueAfter (m + 3) ((acT b trigs nr).withRows rows) .update ["metadata", "first_usage", "updated_at"]
        (some (acUpdF l (pm.map (·.2)) r.vals)) (some r.vals)).exec s = (.ok (), s.addQ (QU r)))
    (hqaI : ∀ (nr' : Nat) (rows' : List Ver) (a : AcR) (s' : St), a.ledger = l →
      (queueAfter (k + 9) ((acT b trigs nr').withRows rows') .insert [] (some a.vals) none).exec s' = (.ok (), s'.addQ (QI a)))
    (hlits : ∀ x ∈ pm, DbLit s.w.types x.1 x.2) (hnd : ((pm.map (·.2)).map (·.address)).Nodup)
    (S' : St) (hS' : S'.afterQ = [])
    (hdrain : ((updQ (fun v => (acMatch l (pm.map (·.2)) v).isSome) QU ((rows.filter (fun r => r.visible (latestView s.w s.xid))).reverse) ++
        acInsQ l QI ((pm.map (·.2)).filter (fun d => !(exAddrs b l trigs nr rows (cv s) (pm.map (·.2))).contains d.address))).foldlM
          (drainStep (k + 17)) ()).exec
        (s.withTable ((acT b trigs (nr + ((pm.map (·.2)).filter (fun d => !(exAddrs b l trigs nr rows (cv s) (pm.map (·.2))).contains d.address)).length)).withRows
          (acInsRows s.xid s.cid l nr (acUpdRows (latestView s.w s.xid) s.xid s.cid l (pm.map (·.2)) rows)
            ((pm.map (·.2)).filter (fun d => !(exAddrs b l trigs nr rows (cv s) (pm.map (·.2))).contains d.address))))) = (.ok (), S')) :
    ∃ res : DmlResult, ((P.upsertAccounts b l id (pm.map (·.1))).mapM (runStmt (k + 19) env)).exec s = (.ok [res], S') := by
  obtain ⟨res, stmt, hshape, hexec⟩ := exec_upsertAccounts_core k env b l id trigs nr rows s htb hnoInsB QU QI pm hqaU hqaI hlits hnd
  refine ⟨res, ?_⟩
  rw [hshape]
  simp only [exec_mapM_cons, List.mapM_nil, exec_pure]
  rw [exec_runStmt_queue (k + 16) env stmt s _ S' res _ (hfold := hdrain) (hX' := hS') (hX := by exact hq0)
    (h := by rw [clearQ_of_empty s hq0]; exact hexec)]
  simp only [exec_bind, exec_pure]
  rw [hq0, show ({ S' with afterQ := [] } : St) = S'.clearQ from rfl, clearQ_of_empty S' hS']

theorem acInsQ_nil (l : String) (D : List DbR) : acInsQ l (fun _ => []) D = [] := by simp [acInsQ]

open Ledger.Generated.WriteSql in
/-- **`UpsertAccounts`** (ACCOUNT_METADATA_HISTORY off) on ANY `accounts` table satisfying the storage invariant. -/
theorem exec_runStmt_upsertAccounts (k : Nat) (env : Env) (b l : String) (id : Nat) (trigs : List TriggerDef) (nr : Nat) (rows : List Ver)
    (s : St) (hst : UpsertState s b trigs nr rows) (henv : env.ctes = [])
    (pm : List (AccountRow × DbR)) (hlits : ∀ x ∈ pm, DbLit s.w.types x.1 x.2) (hnd : ((pm.map (·.2)).map (·.address)).Nodup) :
    ∃ res : DmlResult,
      ((P.upsertAccounts b l id (pm.map (·.1))).mapM (runStmt (k + 19) env)).exec s =
        (.ok [res],
         s.withTable ((acT b trigs (nr + ((pm.map (·.2)).filter (fun d => !(exAddrs b l trigs nr rows (cv s) (pm.map (·.2))).contains d.address)).length)).withRows
           (acInsRows s.xid s.cid l nr (acUpdRows (latestView s.w s.xid) s.xid s.cid l (pm.map (·.2)) rows)
             ((pm.map (·.2)).filter (fun d => !(exAddrs b l trigs nr rows (cv s) (pm.map (·.2))).contains d.address))))) :=
  exec_runStmt_upsertAccounts_gen k env b l id trigs nr rows s hst.tbl hst.q0 hst.noInsB (fun _ => []) (fun _ => []) pm
    (fun r a _ _ m rows' s' => exec_queueAfter_none' _ _ _ _ _ _ _ (by simpa [acT, Table.withRows] using hst.noUpdA))
    (fun nr' rows' a s' _ => exec_queueAfter_none' _ _ _ _ _ _ _ (by simpa [acT, Table.withRows] using hst.noInsA))
    hlits hnd _ hst.q0 (by rw [updQ_nil, acInsQ_nil]; rfl)

end Ledger.Sql
