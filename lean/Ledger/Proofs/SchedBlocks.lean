import Ledger.Proofs.SchedChain

/-!
# C34 (partial): when commit order = id order, the blocks stay complete

Under the discipline of `SchedChain` (the uncommitted rows of the ledger are a suffix with the largest
ids — what the SYNC advisory lock gives; HASH_LOGS=ASYNC does NOT give it, see the counterexample), every
block built by `create_blocks` covers exactly the committed log ids of its range, for ever.
-/
namespace Ledger.Sched

theorem mem_take_sorted {F : List Nat} (hF : F.Pairwise (· < ·)) {n top : Nat}
    (htop : (F.take n).getLast? = some top) (i : Nat) : i ∈ F.take n ↔ i ∈ F ∧ i ≤ top := by
  obtain ⟨r, hr⟩ := List.getLast?_eq_some_iff.mp htop
  have hsplit : r ++ [top] ++ F.drop n = F := hr ▸ List.take_append_drop n F
  rw [← hsplit, List.pairwise_append, List.pairwise_append] at hF
  obtain ⟨⟨_, _, hlt⟩, _, hcross⟩ := hF
  rw [hr]
  constructor
  · intro hi
    refine ⟨hsplit ▸ List.mem_append_left _ hi, ?_⟩
    rcases List.mem_append.mp hi with h | h
    · exact Nat.le_of_lt (hlt i h top (List.mem_singleton.mpr rfl))
    · exact Nat.le_of_eq (List.mem_singleton.mp h)
  · intro ⟨hi, hle⟩
    rcases List.mem_append.mp (hsplit ▸ hi) with h | h
    · exact h
    · exact absurd (hcross top (List.mem_append_right _ (List.mem_singleton.mpr rfl)) i h) (Nat.not_lt.mpr hle)

/-- What `mkBlocks` appends, block by block: `Q last B` holds of every call once it holds of the empty
    answer and survives one more block `(last, top]` in front, `top` the last id of the batch above `last`. -/
theorem mkBlocks_induct (l size : Nat) (ids : List Nat) {Q : Nat → List Blk → Prop} (nil : ∀ last, Q last [])
    (cons : ∀ last top r, ((ids.filter (· > last)).take size).getLast? = some top → Q top r →
      Q last ({ l := l, from_ := last, to := top, ids := (ids.filter (· > last)).take size } :: r)) :
    ∀ fuel last, Q last (mkBlocks l size fuel last ids)
  | 0, last => nil last
  | fuel + 1, last => by
    unfold mkBlocks
    simp only
    split
    · exact nil last
    · exact cons last _ _ ‹_› (mkBlocks_induct l size ids nil cons fuel _)

/-- the end of a batch is one of its ids, above where the batch starts -/
theorem batch_top {ids : List Nat} {last size top : Nat}
    (htop : ((ids.filter (· > last)).take size).getLast? = some top) : top ∈ ids ∧ last < top := by
  simpa using List.mem_of_mem_take (List.mem_of_getLast? htop)

theorem mkBlocks_spec (l size : Nat) (ids : List Nat) (hs : ids.Pairwise (· < ·)) (fuel last : Nat) :
    ∀ b ∈ mkBlocks l size fuel last ids,
      last ≤ b.from_ ∧ b.to ∈ ids ∧ ∀ i, i ∈ b.ids ↔ (i ∈ ids ∧ b.from_ < i ∧ i ≤ b.to) := by
  refine mkBlocks_induct l size ids (Q := fun last B => ∀ b ∈ B, last ≤ b.from_ ∧ b.to ∈ ids ∧
    ∀ i, i ∈ b.ids ↔ (i ∈ ids ∧ b.from_ < i ∧ i ≤ b.to)) (fun _ => nofun) (fun last top r htop ih => ?_) fuel last
  have hmem := mem_take_sorted (hs.sublist (List.filter_sublist (p := (· > last)))) htop
  refine List.forall_mem_cons.mpr ⟨⟨Nat.le_refl _, (batch_top htop).1, fun i => ?_⟩, fun b hb => ?_⟩
  · rw [hmem i, List.mem_filter, decide_eq_true_eq, and_assoc]
  · exact ⟨Nat.le_trans (Nat.le_of_lt (batch_top htop).2) (ih b hb).1, (ih b hb).2⟩

theorem sortNat_of_sorted (xs : List Nat) (h : xs.Pairwise (· < ·)) : sortNat xs = xs := by
  induction xs with
  | nil => rfl
  | cons a r ih =>
    rw [List.pairwise_cons] at h
    show insertSorted a (sortNat r) = a :: r
    rw [ih h.2]
    cases r with
    | nil => rfl
    | cons b t => exact if_pos (Nat.le_of_lt (h.1 b (List.mem_cons_self ..)))

theorem mkBlocks_ordered (l size : Nat) (ids : List Nat) (fuel last : Nat) :
    (mkBlocks l size fuel last ids).Pairwise (fun a b => a.to ≤ b.from_) := by
  refine (mkBlocks_induct l size ids (Q := fun last B => B.Pairwise (fun a b => a.to ≤ b.from_) ∧
    ∀ b ∈ B, last ≤ b.from_) (fun _ => ⟨.nil, nofun⟩) (fun last top r htop ih => ?_) fuel last).1
  exact ⟨List.pairwise_cons.mpr ⟨ih.2, ih.1⟩, List.forall_mem_cons.mpr
    ⟨Nat.le_refl _, fun b hb => Nat.le_trans (Nat.le_of_lt (batch_top htop).2) (ih.2 b hb)⟩⟩

/-- committed log ids of the ledger, in insertion (= id) order -/
def Cids (l₀ : Nat) (w : World) : List Nat := ((Lof l₀ w).filter (·.com)).map (·.id)

structure BInv (l₀ : Nat) (w : World) : Prop where
  /-- the digest of a block covers exactly the committed ids of its range -/
  bi : ∀ b ∈ w.blocks, b.l = l₀ → ∀ i, i ∈ b.ids ↔ (i ∈ Cids l₀ w ∧ b.from_ < i ∧ i ≤ b.to)
  bu : ∀ b ∈ w.blocks, b.l = l₀ → ∀ e ∈ Lof l₀ w, e.com = false → b.to < e.id
  bs : ∀ b ∈ w.blocks, b.l = l₀ → b.to ≤ w.logSeq l₀
  /-- ranges are disjoint and in order -/
  bd : (w.blocks.filter (fun b => b.l = l₀)).Pairwise (fun a b => a.to ≤ b.from_)

theorem mkBlocks_l (l size : Nat) (ids : List Nat) (fuel last : Nat) :
    ∀ b ∈ mkBlocks l size fuel last ids, b.l = l :=
  mkBlocks_induct l size ids (Q := fun _ B => ∀ b ∈ B, b.l = l) (fun _ => nofun)
    (fun _ _ _ _ ih => List.forall_mem_cons.mpr ⟨rfl, ih⟩) fuel last

/-- `BInv` read off the region and the ledger's blocks; `bm` is `bs` and `bu` -/
structure BlockSt (a : LogSt) (B : List Blk) : Prop where
  bi : ∀ b ∈ B, ∀ i, i ∈ b.ids ↔ (i ∈ (a.rows.filter (·.com)).map (·.id) ∧ b.from_ < i ∧ i ≤ b.to)
  bm : ∀ b ∈ B, Mark a b.to
  bd : B.Pairwise (fun x y => x.to ≤ y.from_)

theorem binv_iff (l₀ : Nat) (w : World) : BInv l₀ w ↔ BlockSt (logSt l₀ w) (w.blocks.filter (fun b => b.l = l₀)) := by
  have hB : ∀ {Q : Blk → Prop}, (∀ b ∈ w.blocks.filter (fun b => b.l = l₀), Q b) ↔ ∀ b ∈ w.blocks, b.l = l₀ → Q b := by
    simp only [List.mem_filter, decide_eq_true_eq, and_imp, implies_true]
  exact ⟨fun h => ⟨hB.mpr h.bi, hB.mpr fun b hb hl => ⟨h.bs b hb hl, h.bu b hb hl⟩, h.bd⟩,
    fun h => ⟨hB.mp h.bi, fun b hb hl => (hB.mp h.bm b hb hl).2, fun b hb hl => (hB.mp h.bm b hb hl).1, h.bd⟩⟩

/-- under the chain invariant a committed id is settled: ids grow along the rows, and no committed row comes
    after one in progress -/
theorem ChainSt.mark_of_committed {a : LogSt} (h : ChainSt a) {c : Lg} (hc : c ∈ a.rows) (hcc : c.com = true) :
    Mark a c.id :=
  ⟨h.le c hc, fun e he hec =>
    List.Pairwise.forall_of_forall_of_flip (R := fun a b : Lg => a.com = true → b.com = false → a.id < b.id)
      (fun a _ h1 h2 => by rw [h1] at h2; cases h2) (h.inc.imp fun hlt _ _ => hlt)
      (h.pre.imp fun hab hb ha => by rw [hab hb] at ha; cases ha) hc he hcc hec⟩

theorem BlockSt.append {a : LogSt} {B new : List Blk} (h : BlockSt a B)
    (hnew : ∀ b ∈ new, (∀ i, i ∈ b.ids ↔ (i ∈ (a.rows.filter (·.com)).map (·.id) ∧ b.from_ < i ∧ i ≤ b.to)) ∧
      Mark a b.to ∧ ∀ x ∈ B, x.to ≤ b.from_)
    (hord : new.Pairwise (fun x y => x.to ≤ y.from_)) : BlockSt a (B ++ new) :=
  ⟨List.forall_mem_append.mpr ⟨h.bi, fun b hb => (hnew b hb).1⟩, List.forall_mem_append.mpr ⟨h.bm, fun b hb => (hnew b hb).2.1⟩,
    List.pairwise_append.mpr ⟨h.bd, hord, fun x hx b hb => (hnew b hb).2.2 x hx⟩⟩

theorem binv_createBlocks (d : Disc) (w : World) (l size : Nat) (hc : ChainInv d w) (h : BInv d.l₀ w) :
    BInv d.l₀ (w.afterBlocks l size) := by
  rw [binv_iff] at h ⊢
  show BlockSt (logSt d.l₀ w) ((w.blocks ++ mkBlocks l size _ _ (cbIds w l)).filter _)
  rw [List.filter_append]
  by_cases hl : l = d.l₀
  · subst hl
    have hC := (chainInv_iff d w).mp hc
    have hsorted : (Cids d.l₀ w).Pairwise (· < ·) := List.pairwise_map.mpr (hC.inc.sublist List.filter_sublist)
    -- the ids read are the committed ids of the ledger, already in order
    have hids : cbIds w d.l₀ = Cids d.l₀ w := by
      unfold cbIds
      rw [← lof_filter]
      exact sortNat_of_sorted _ hsorted
    rw [hids, List.filter_eq_self.mpr fun b hb => decide_eq_true (mkBlocks_l _ _ _ _ _ b hb)]
    refine h.append (fun b hb => ?_) (mkBlocks_ordered d.l₀ size _ _ _)
    obtain ⟨hfrom, hto, hcov⟩ := mkBlocks_spec d.l₀ size _ hsorted _ _ b hb
    obtain ⟨e, he, hei⟩ := List.mem_map.mp hto
    refine ⟨hcov, hei ▸ hC.mark_of_committed (List.mem_filter.mp he).1 (List.mem_filter.mp he).2, fun x hx => ?_⟩
    exact Nat.le_trans ((foldl_max_spec _ 0).2.1 _ (List.mem_map.mpr ⟨x, hx, rfl⟩)) hfrom
  · -- blocks of another ledger
    rw [List.filter_eq_nil_iff.mpr fun b hb hbl => hl ((mkBlocks_l _ _ _ _ _ b hb).symm.trans (of_decide_eq_true hbl)),
      List.append_nil]
    exact h

/-- the log moves, the blocks stand: the top of a block is settled -/
theorem BlockSt.step {a b : LogSt} {B : List Blk} (h : BlockSt a B) (hs : SeqStep a b) : BlockSt b B :=
  ⟨fun x hx i => (h.bi x hx i).trans (and_congr_left fun hr => (((h.bm x hx).step hs).2 i hr.2).symm),
    fun x hx => ((h.bm x hx).step hs).1, h.bd⟩

theorem binv_move {l₀ : Nat} {w w' : World} (h : BInv l₀ w) (hb : w'.blocks = w.blocks)
    (hs : SeqStep (logSt l₀ w) (logSt l₀ w')) : BInv l₀ w' :=
  (binv_iff l₀ w').mpr (hb ▸ ((binv_iff l₀ w).mp h).step hs)

/-- the one statement that writes `logs_blocks` -/
theorem step_blocks (w : World) (t : Sid) :
    (step w t).blocks = w.blocks ∨ ∃ l size, (step w t).blocks = (w.afterBlocks l size).blocks :=
  step_inv (P := fun w' => w'.blocks = w.blocks ∨ ∃ l size, w'.blocks = (w.afterBlocks l size).blocks) (.inl rfl)
    (fun _ _ h => h) (fun _ h => h) (fun _ _ _ _ h => h) (.inl rfl) (fun _ => .inl rfl)
    (fun _ _ _ _ he => by
      cases he with
      | blocks l size => exact .inr ⟨l, size, rfl⟩
      | _ => exact .inl rfl)

/-- the log moves as a sequential log (`seq_sim`); the blocks stand, or `create_blocks` has read the log as it was -/
theorem binv_step (d : Disc) (hstrict : d.strict = true) (w : World) (t : Sid) (hg : GInv d w) (hc : ChainInv d w)
    (h : BInv d.l₀ w) : BInv d.l₀ (step w t) :=
  (step_blocks w t).elim (fun hb => binv_move h hb (seq_sim hstrict hg t)) fun ⟨l, size, hb⟩ =>
    binv_move (binv_createBlocks d w l size hc h) hb (seq_sim hstrict hg t)

theorem binv_run (d : Disc) (hstrict : d.strict = true) (σ : Schedule) (w : World) (hg : GInv d w) (hc : ChainInv d w)
    (h : BInv d.l₀ w) : BInv d.l₀ (run σ w) :=
  (run_inv₂ (P := fun w => GInv d w ∧ ChainInv d w) (fun w s h => chainInv_run d hstrict [s] w h.1 h.2)
    (fun w s h => binv_step d hstrict w s h.1 h.2) σ w ⟨hg, hc⟩ h).2

end Ledger.Sched
