import Ledger.E2e.Features
import Ledger.Proofs.CtrlStep

/-!
Helper lemmas for `Ledger.Props.C35e`: the feature set of `Ledger.E2e.runHistWith` reaches the
derived tables only.
-/
namespace Ledger.E2e
open Ledger.Base Ledger.Core Ledger.Ctrl

theorem runHistWith_core (f : FeatureSet) (strict : Bool) (s : FState) (ops : List Op) :
    (runHistWith f strict s ops).1.core = runHist strict s.core ops := by
  induction ops generalizing s with
  | nil => rfl
  | cons op r ih => simp only [runHistWith, runHist]; exact ih _

theorem runHistWith_resps (f : FeatureSet) (strict : Bool) (s : FState) (ops : List Op) :
    (runHistWith f strict s ops).2 = respsHist strict s.core ops := by
  induction ops generalizing s with
  | nil => rfl
  | cons op r ih => simp only [runHistWith, respsHist]; rw [ih]; rfl

theorem runHistWith_ind (f : FeatureSet) (strict : Bool) {P : FState → Prop}
    (hstep : ∀ s op, P s → P (stepWith f strict s op).1) (s : FState) (ops : List Op) (h : P s) :
    P (runHistWith f strict s ops).1 := by
  induction ops generalizing s with
  | nil => exact h
  | cons op r ih => exact ih _ (hstep s op h)

theorem newLogs_append (old new : Db) (suf : List Log) (h : new.logs = old.logs ++ suf) : newLogs old new = suf := by
  simp [newLogs, h]

/-- The hashed logs are all the logs (HASH_LOGS=SYNC) or none. -/
def HashInv (f : FeatureSet) (s : FState) : Prop :=
  s.derived.hashed = if f.hashLogs = .sync then s.core.db.logs.map (·.id) else []

theorem stepWith_hashInv (f : FeatureSet) (strict : Bool) (s : FState) (op : Op) (h : HashInv f s) :
    HashInv f (stepWith f strict s op).1 := by
  obtain ⟨suf, hsuf, _⟩ := step_logs_prefix strict s.core op
  unfold HashInv at h ⊢
  simp only [stepWith, derive, newLogs_append _ _ _ hsuf, h]
  by_cases hs : f.hashLogs = .sync
  · simp [hs, hsuf]
  · simp [hs]

def OffInv (f : FeatureSet) (s : FState) : Prop :=
  (f.movesHistory = false → s.derived.moves = []) ∧
  (f.accMetaHist = false → s.derived.accHist = []) ∧
  (f.txMetaHist = false → s.derived.txHist = []) ∧
  (∀ m ∈ s.derived.moves, m.hasPcev = f.pcev)

theorem movesOf_pcev (pcev : Bool) (t : Ledger.Ctrl.Tx) : ∀ m ∈ movesOf pcev t, m.hasPcev = pcev := by
  intro m hm
  simp only [movesOf, List.mem_flatMap] at hm
  obtain ⟨p, _, hp⟩ := hm
  simp only [List.mem_cons, List.not_mem_nil, or_false] at hp
  rcases hp with rfl | rfl <;> rfl

theorem stepWith_offInv (f : FeatureSet) (strict : Bool) (s : FState) (op : Op) (h : OffInv f s) :
    OffInv f (stepWith f strict s op).1 := by
  obtain ⟨h1, h2, h3, h4⟩ := h
  refine ⟨?_, ?_, ?_, ?_⟩
  · intro hf; simp [stepWith, derive, hf, h1 hf]
  · intro hf; simp [stepWith, derive, hf, h2 hf]
  · intro hf; simp [stepWith, derive, hf, h3 hf]
  · intro m hm
    simp only [stepWith, derive, List.mem_append] at hm
    rcases hm with hm | hm
    · exact h4 m hm
    · by_cases hf : f.movesHistory = true
      · simp only [hf, ↓reduceIte, List.mem_flatMap] at hm
        obtain ⟨t, _, ht⟩ := hm
        exact movesOf_pcev f.pcev t m ht
      · simp [hf] at hm

end Ledger.E2e
