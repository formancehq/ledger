import Ledger.Proofs.SqlSort
import Ledger.Proofs.SqlTable

/-!
# The pieces of SELECT: FROM a table, WHERE, the items, ORDER BY — the evaluator against pure list functions

What `evalSelect` runs outside its own `do` block, each against a list function: the WHERE filter (`exec_filterM_map`), FROM a
base table (`exec_evalFromList_table`), a CTE (`exec_evalFromList_cte`, rows `cteScope`) or the inner join of the two
(`exec_evalFromList_join_cte`, rows `joinRows`), the select items (`exec_selectItems`), a loop over rows numbered by position
(`exec_mapM_indexed_map`), ORDER BY (`exec_sortOut_of`: the rows of a sorted permutation; `hasTieR_ok`: the tie test succeeds on comparable
keys and rows; `hasTieR_distinct`: no tie among distinct keys). The SELECT itself is `exec_evalSelect_of` in `SqlDistinct`, where GROUP BY, windows and DISTINCT are available.
-/
namespace Ledger.Sql

theorem exec_filterAuxM_map {β : Type} (f : β → α) (p : α → M Bool) (q : β → Bool) (s : St) : ∀ (l : List β) (acc : List α),
    (∀ b ∈ l, (p (f b)).exec s = (.ok (q b), s)) →
    (List.filterAuxM p (l.map f) acc).exec s = (.ok (((l.filter q).map f).reverse ++ acc), s) := by
  intro l
  induction l with
  | nil => intro acc _; simp [List.filterAuxM]
  | cons a as ih =>
    intro acc h
    have ha := h a (by simp)
    simp only [List.map_cons, List.filterAuxM, exec_bind, ha]
    rw [ih _ (fun b hb => h b (by simp [hb]))]
    cases hq : q a <;> simp [hq]

theorem exec_filterM_map {β : Type} (f : β → α) (p : α → M Bool) (q : β → Bool) (l : List β) (s : St)
    (h : ∀ b ∈ l, (p (f b)).exec s = (.ok (q b), s)) : ((l.map f).filterM p).exec s = (.ok ((l.filter q).map f), s) := by
  simp only [List.filterM, exec_bind, exec_filterAuxM_map f p q s l [] h, exec_pure]
  simp

/-- WHERE, present or not, over the rows `sc x`, in the form the `do` block of `evalSelect` has it (both branches of the `match`
    end in the same continuation `jp`): the block goes on with the rows that `w` keeps -/
theorem exec_selWhere {β γ : Type} (p : Expr → List Scope → M Bool) (jp : List (List Scope) → M γ) (wher : Option Expr) (xs : List β)
    (sc : β → List Scope) (w : β → Bool) (s : St)
    (hsome : ∀ c, wher = some c → ∀ x ∈ xs, (p c (sc x)).exec s = (.ok (w x), s)) (hnone : wher = none → ∀ x ∈ xs, w x = true) :
    (match wher with
      | none => do let rows ← pure (xs.map sc); jp rows
      | some c => do let rows ← (xs.map sc).filterM (p c); jp rows).exec s = (jp ((xs.filter w).map sc)).exec s := by
  cases wher with
  | none => rw [List.filter_eq_self.mpr (hnone rfl)]; rfl
  | some c => exact exec_seq (exec_filterM_map sc _ w xs s (hsome c rfl)) rfl

/-- the state after a statement that may have met an ORDER BY tie -/
def St.tie (s : St) (b : Bool) : St := if b then { s with tieSensitive := true } else s

@[simp] theorem tie_false (s : St) : s.tie false = s := rfl
@[simp] theorem tie_w (s : St) (b : Bool) : (s.tie b).w = s.w := by cases b <;> rfl
@[simp] theorem tie_xid (s : St) (b : Bool) : (s.tie b).xid = s.xid := by cases b <;> rfl
@[simp] theorem tie_cid (s : St) (b : Bool) : (s.tie b).cid = s.cid := by cases b <;> rfl
theorem tie_tie (s : St) (a b : Bool) : (s.tie a).tie b = s.tie (a || b) := by cases a <;> cases b <;> rfl

theorem TxState.tie {s : St} (h : TxState s) (b : Bool) : TxState (s.tie b) := by
  cases b
  · exact h
  · exact ⟨h.solo, h.xid, h.cid, h.snap, h.noEpq, h.names⟩

/-- FROM a single base table (not shadowed by a CTE) -/
theorem exec_evalFromList_table (n : Nat) (env : Env) (schema name alias full : String) (t : Table) (s : St) (hs : TxState s)
    (hcte : (if schema.isEmpty then env.ctes.lookup name else none) = none)
    (hq : (qualify schema name).exec s = (.ok full, s)) (hT : s.w.table? full = some t) :
    (evalFromList (n + 3) env [FromItem.table schema name alias] [[]]).exec s =
      (.ok (((t.scan (cv s)).map (rowScopeOf t (if alias.isEmpty then name else alias))).map (fun sc => [sc])), s) := by
  rw [evalFromList]
  apply exec_of_eq (if_neg (by simp [FromItem.isLateral]))
  apply exec_seq (a := ((t.scan (cv s)).map (rowScopeOf t (if alias.isEmpty then name else alias))).map (fun sc => [sc])) (s' := s)
  · rw [evalFrom]
    · apply exec_seq (a := (_, t.colNames, (t.scan (cv s)).map (rowScopeOf t (if alias.isEmpty then name else alias)))) (s' := s) ?_ rfl
      show (evalPrimary (n + 1) env [] (FromItem.table schema name alias)).exec s = _
      rw [evalPrimary, hcte]
      apply exec_seq hq
      apply exec_seq (exec_getTable hT)
      exact exec_seq (exec_scanTable s hs t _) rfl
    · intro kind l r on h; cases h
  apply exec_seq (exec_pure _ s)
  show (evalFromList (n + 2) env [] _).exec s = _
  rw [evalFromList_nil]; simp

/-- a row of a CTE as a scope -/
def cteScope (alias : String) (cols : List String) (v : List Value) : Scope := { alias := alias, cols := cols, vals := v }

theorem exec_evalPrimary_cte (n : Nat) (env : Env) (ctx : List Scope) (cte alias : String) (rel : Rel) (s : St)
    (hcte : env.ctes.lookup cte = some rel) :
    (evalPrimary (n + 1) env ctx (FromItem.table "" cte alias)).exec s =
      (.ok (if alias.isEmpty then cte else alias, rel.cols, rel.rows.map (cteScope (if alias.isEmpty then cte else alias) rel.cols)), s) := by
  rw [evalPrimary]
  · simp only [show ("" : String).isEmpty = true from by decide, if_true, hcte, exec_pure]
    rfl
  all_goals (intros; rename_i h; cases h)

theorem exec_evalFromList_cte (n : Nat) (env : Env) (cte alias : String) (rel : Rel) (s : St) (hcte : env.ctes.lookup cte = some rel) :
    (evalFromList (n + 3) env [FromItem.table "" cte alias] [[]]).exec s =
      (.ok (rel.rows.map (fun v => [cteScope (if alias.isEmpty then cte else alias) rel.cols v])), s) := by
  rw [evalFromList]
  simp only [FromItem.isLateral, Bool.false_eq_true, if_false, exec_bind]
  rw [evalFrom]
  · simp only [exec_bind, exec_evalPrimary_cte n env [] cte alias rel s hcte, exec_pure]
    rw [evalFromList_nil]
    simp [List.map_map, Function.comp]
  · intro kind l r on h; cases h

theorem exec_protoScopes_cte (n : Nat) (env : Env) (cte alias : String) (rel : Rel) (s : St) (hcte : env.ctes.lookup cte = some rel) :
    (protoScopes (n + 3) env [FromItem.table "" cte alias]).exec s =
      (.ok [nullScope (if alias.isEmpty then cte else alias) rel.cols], s) := by
  rw [protoScopes]
  · simp only [exec_bind]
    rw [protoItem]
    · simp only [FromItem.isLateral, Bool.false_eq_true, if_false, exec_bind, exec_evalPrimary_cte n env [] cte alias rel s hcte, exec_pure,
        protoScopes_nil]
      simp
    all_goals (intros; rename_i h; cases h)

theorem foldl_filter_snoc {α β : Type} (p : α → Bool) (F : α → β) (rs : List α) (acc : List β) :
    rs.foldl (fun m r => if p r then m ++ [F r] else m) acc = acc ++ (rs.filter p).map F := by
  induction rs generalizing acc with
  | nil => simp
  | cons x xs ih => cases hp : p x <;> simp [hp, ih]

theorem exec_joinMatches (cb : Callbacks) (te : TypeEnv) (env : Env) (ctx L : List Scope) (on : Option Expr) (s : St) (p : Scope → Bool)
    (rs : List Scope) (h : ∀ rsc ∈ rs, (onHolds cb te env (ctx ++ L ++ [rsc]) on).exec s = (.ok (p rsc), s)) :
    (joinMatches cb te env ctx L on rs).exec s = (.ok ((rs.filter p).map (fun rsc => L ++ [rsc])), s) := by
  unfold joinMatches
  rw [exec_foldlM_pure _ (fun m rsc => if p rsc then m ++ [L ++ [rsc]] else m) s rs []
    (fun rsc hr m => by simp only [exec_bind, h rsc hr, exec_pure]), foldl_filter_snoc, List.nil_append]

/-- the rows of an inner join -/
def joinRows (as ds : List Scope) (p : Scope → Scope → Bool) : List (List Scope) :=
  as.flatMap (fun a => (ds.filter (p a)).map (fun d => [a, d]))

/-- FROM `<table> [a] JOIN <cte> [d] ON c` (inner join of a base table with a CTE) -/
theorem exec_evalFromList_join_cte (n : Nat) (env : Env) (schema name alias cte dalias full : String) (on : Expr) (t : Table) (rel : Rel)
    (s : St) (hs : TxState s) (hschema : schema.isEmpty = false)
    (hq : (qualify schema name).exec s = (.ok full, s)) (hT : s.w.table? full = some t)
    (hcte : env.ctes.lookup cte = some rel) (p : Scope → Scope → Bool)
    (hon : ∀ a ∈ (t.scan (cv s)).map (rowScopeOf t (if alias.isEmpty then name else alias)),
      ∀ d ∈ rel.rows.map (cteScope (if dalias.isEmpty then cte else dalias) rel.cols),
      (onHolds (cbs (n + 2)) s.w.types env ([] ++ [a] ++ [d]) (some on)).exec s = (.ok (p a d), s)) :
    (evalFromList (n + 4) env [FromItem.join JoinKind.inner (FromItem.table schema name alias) (FromItem.table "" cte dalias) (some on)] [[]]).exec s =
      (.ok (joinRows ((t.scan (cv s)).map (rowScopeOf t (if alias.isEmpty then name else alias)))
        (rel.rows.map (cteScope (if dalias.isEmpty then cte else dalias) rel.cols)) p), s) := by
  rw [evalFromList]
  simp only [FromItem.isLateral, Bool.or_self, Bool.false_eq_true, if_false, exec_bind]
  rw [evalFrom]
  simp only [exec_bind, exec_typeEnv, FromItem.isLateral, Bool.false_eq_true, if_false]
  have hleft : (evalFrom (n + 2) env [] (FromItem.table schema name alias)).exec s =
      (.ok (((t.scan (cv s)).map (rowScopeOf t (if alias.isEmpty then name else alias))).map (fun sc => [sc])), s) := by
    rw [evalFrom]
    · simp only [exec_bind]
      rw [evalPrimary]
      simp only [hschema, Bool.false_eq_true, if_false, exec_bind, hq, exec_getTable hT, exec_scanTable s hs, exec_pure]
    · intro kind l r on h; cases h
  have hright := exec_evalPrimary_cte (n + 1) env [] cte dalias rel s hcte
  simp only [hleft, hright, exec_pure, show (JoinKind.inner == JoinKind.left) = false from rfl, Bool.and_false, Bool.false_eq_true, if_false]
  -- each left row is matched against the CTE without touching the state: the fold is `joinRows`
  rw [exec_foldlM_pure _ (fun out L => out ++ ((rel.rows.map (cteScope (if dalias.isEmpty then cte else dalias) rel.cols)).filter
      (p (L.headD default))).map (fun d => L ++ [d])) s _ [] (fun L hL out => by
    obtain ⟨a, ha, rfl⟩ := List.mem_map.mp hL
    simp only [exec_bind, exec_pure, exec_joinMatches (cbs (n + 2)) s.w.types env [] [a] (some on) s (p a) _ (fun d hd => hon a ha d hd)]
    rfl)]
  show (evalFromList (n + 2 + 1) env [] _).exec s = _
  rw [evalFromList_nil, List.foldl_map, joinRows, List.flatMap_eq_foldl]
  simp


theorem perm_map_exists {γ δ : Type} (G : γ → δ) : ∀ {ys : List δ} {l : List γ}, ys.Perm (l.map G) → ∃ zs : List γ, zs.Perm l ∧ ys = zs.map G := by
  intro ys l h
  generalize hm : l.map G = m at h
  induction h generalizing l with
  | nil => cases l <;> simp_all
  | cons a _ ih =>
    cases l with
    | nil => cases hm
    | cons x l' =>
      rw [List.map_cons, List.cons.injEq] at hm
      obtain ⟨zs, h1, h2⟩ := ih hm.2
      exact ⟨x :: zs, h1.cons x, by rw [List.map_cons, hm.1, h2]⟩
  | swap a b t =>
    match l, hm with
    | x :: y :: l', hm =>
      simp only [List.map_cons, List.cons.injEq] at hm
      exact ⟨y :: x :: l', List.Perm.swap x y l', by simp [hm.1, hm.2.1, hm.2.2]⟩
  | trans _ _ ih1 ih2 =>
    obtain ⟨zs2, h1, h2⟩ := ih2 hm
    obtain ⟨zs1, h3, h4⟩ := ih1 h2.symm
    exact ⟨zs1, h3.trans h1, h4⟩

/-- ORDER BY over the output rows `f y` of any list `ys`, the sort key given as a function of `y`: the result is the rows of a
    sorted permutation of `ys` -/
theorem exec_sortOut_of {β : Type} (n : Nat) (env : Env) (cols : List String) (ys : List β) (f : β → OutRow) (order : List OrderItem)
    (hne : order ≠ []) (s : St) (key : β → List Value) (c : List Value → List Value → Ordering) (S : List Value → Prop)
    (hkey : ∀ y ∈ ys, (order.mapM (orderKeyM (cbs n) s.w.types env cols (f y))).exec s = (.ok (key y), s))
    (hcmp : CmpOk (fun (a b : List Value × OutRow) => cmpOrderKeys a.1 b.1 (orderDescs order) (orderNulls order))
      (fun a b => c a.1 b.1) (fun a => S a.1))
    (hS : ∀ y ∈ ys, S (key y))
    (Pt : Bool → Prop)
    (htie : ∀ l : List (List Value × OutRow), l.Perm (ys.map (fun y => (key y, f y))) → ∃ b, hasTieR l = .ok b ∧ Pt b) :
    ∃ (zs : List β) (tie : Bool), (sortOut (n + 1) env cols (ys.map f) order).exec s = (.ok (cols, zs.map f), s.tie tie) ∧ zs.Perm ys ∧
      zs.Pairwise (fun a b => c (key b) (key a) ≠ .lt) ∧ Pt tie := by
  have hkeyed : ((ys.map f).mapM (fun r => do
      let ks ← order.mapM (orderKeyM (cbs n) s.w.types env cols r)
      pure (ks, r))).exec s = (.ok (ys.map (fun y => (key y, f y))), s) :=
    exec_mapM_map f _ _ ys s fun y hy => by simp only [exec_bind, hkey y hy, exec_pure]
  obtain ⟨l, h1, h2, h3⟩ := sortKeyed_spec (orderDescs order) (orderNulls order) c S hcmp (ys.map (fun y => (key y, f y)))
    (by intro a ha; obtain ⟨y, hy, rfl⟩ := List.mem_map.mp ha; exact hS y hy)
  obtain ⟨tie, ht, hpt⟩ := htie l h2
  obtain ⟨zs, hzs, rfl⟩ := perm_map_exists _ h2
  refine ⟨zs, tie, ?_, hzs, ?_, hpt⟩
  · cases order with
    | nil => exact absurd rfl hne
    | cons o os =>
      rw [sortOut]
      · simp only [exec_bind, exec_typeEnv, hkeyed, h1, exec_liftR_ok, ht, List.map_map]
        cases tie <;> simp [St.tie, Function.comp_def]
      · intro h; cases h
  · rw [List.pairwise_map] at h3
    exact h3

theorem sameGroupKey_ok : ∀ (xs ys : List Value), (∀ p ∈ xs.zip ys, ∃ o, compareForSort p.1 p.2 = .ok o) →
    ∃ b, sameGroupKey xs ys = .ok b := by
  intro xs
  induction xs with
  | nil => intro ys _; cases ys <;> exact ⟨_, rfl⟩
  | cons x xs ih =>
    intro ys h
    cases ys with
    | nil => exact ⟨_, rfl⟩
    | cons y ys =>
      obtain ⟨o, ho⟩ := h (x, y) (by simp)
      obtain ⟨b, hb⟩ := ih ys (fun p hp => h p (by simp [hp]))
      simp only [sameGroupKey, ho, bind, Except.bind]
      cases (o == Ordering.eq)
      · exact ⟨false, rfl⟩
      · exact ⟨b, hb⟩


theorem hasTieR_ok : ∀ (l : List (List Value × OutRow)),
    (∀ p ∈ l, ∀ q ∈ l, (∃ x, sameGroupKey p.1 q.1 = .ok x) ∧ ∃ y, sameGroupKey p.2.vals q.2.vals = .ok y) → ∃ b, hasTieR l = .ok b
  | [], _ => ⟨false, rfl⟩
  | [_], _ => ⟨false, rfl⟩
  | (k1, r1) :: (k2, r2) :: rest, h => by
    obtain ⟨⟨x, hx⟩, y, hy⟩ := h (k1, r1) (by simp) (k2, r2) (by simp)
    obtain ⟨b, hb⟩ := hasTieR_ok ((k2, r2) :: rest) (fun p hp q hq => h p (List.mem_cons_of_mem _ hp) q (List.mem_cons_of_mem _ hq))
    simp only [hasTieR, hx, hy, bind, Except.bind]
    cases (x && !y)
    · exact ⟨b, hb⟩
    · exact ⟨true, rfl⟩

/-- no ORDER BY tie among rows whose sort keys are pairwise distinct (the output rows only have to be comparable) -/
theorem hasTieR_distinct (cols : List SortCol) (hc : ∀ col ∈ cols, ColOk col) : ∀ (l : List (List Value × OutRow)),
    (∀ p ∈ l, KeysOk cols p.1) → (∀ p ∈ l, ∀ q ∈ l, ∃ y, sameGroupKey p.2.vals q.2.vals = .ok y) →
    l.Pairwise (fun a b => a.1 ≠ b.1) → hasTieR l = .ok false
  | [], _, _, _ => rfl
  | [_], _, _, _ => rfl
  | (k1, r1) :: (k2, r2) :: rest, hk, hv, hp => by
    obtain ⟨b, hb, hbe⟩ := sameGroupKey_lex cols hc k1 k2 (hk (k1, r1) (by simp)) (hk (k2, r2) (by simp))
    obtain ⟨y, hy⟩ := hv (k1, r1) (by simp) (k2, r2) (by simp)
    have hne : k1 ≠ k2 := (List.pairwise_cons.mp hp).1 (k2, r2) (by simp)
    have hbf : b = false := by
      cases b
      · rfl
      · exact absurd (hbe.mp rfl) hne
    subst hbf
    simp only [hasTieR, hb, hy, bind, Except.bind, Bool.false_and, Bool.false_eq_true, if_false]
    exact hasTieR_distinct cols hc ((k2, r2) :: rest) (fun p hp' => hk p (List.mem_cons_of_mem _ hp'))
      (fun p hp' q hq => hv p (List.mem_cons_of_mem _ hp') q (List.mem_cons_of_mem _ hq)) (List.pairwise_cons.mp hp).2

def outNames (es : List (Expr × String)) : List String := es.map (fun p => if p.2.isEmpty then exprOutName p.1 else p.2)

theorem exec_selectItems (F : (List String × List Expr) → SelItem → M (List String × List Expr))
    (hF : ∀ acc e a s, (F acc (.expr e a)).exec s = (.ok (acc.1 ++ [if a.isEmpty then exprOutName e else a], acc.2 ++ [e]), s))
    (es : List (Expr × String)) (s : St) :
    ((es.map (fun p => SelItem.expr p.1 p.2)).foldlM F ([], [])).exec s = (.ok (outNames es, es.map (·.1)), s) := by
  have h : ∀ (es : List (Expr × String)) (acc : List String × List Expr),
      ((es.map (fun p => SelItem.expr p.1 p.2)).foldlM F acc).exec s = (.ok (acc.1 ++ outNames es, acc.2 ++ es.map (·.1)), s) := by
    intro es
    induction es with
    | nil => intro acc; simp [outNames]
    | cons p ps ih =>
      intro acc
      simp only [List.map_cons, exec_foldlM_cons, hF, ih]
      simp [outNames, List.append_assoc]
  simpa using h es ([], [])

theorem map_zip_range {β γ : Type} (l : List β) (G : β → γ) :
    ((List.range l.length).zip l).map (fun p => G p.2) = l.map G := by
  have := congrArg (List.map G) (List.map_snd_zip (l₁ := List.range l.length) (l₂ := l) (by simp))
  rwa [List.map_map] at this

theorem exec_mapM_indexed_map {β γ δ : Type} (e : δ → β) (f : Nat × β → M γ) (g : Nat → δ → γ) (ys : List δ) (s : St)
    (h : ∀ i y, (i, y) ∈ (List.range ys.length).zip ys → (f (i, e y)).exec s = (.ok (g i y), s)) :
    (((List.range (ys.map e).length).zip (ys.map e)).mapM f).exec s = (.ok (((List.range ys.length).zip ys).map (fun p => g p.1 p.2)), s) := by
  have : ∀ (ys : List δ) (k : Nat), (∀ i y, (i, y) ∈ (List.range' k ys.length).zip ys → (f (i, e y)).exec s = (.ok (g i y), s)) →
      (((List.range' k ys.length).zip (ys.map e)).mapM f).exec s = (.ok (((List.range' k ys.length).zip ys).map (fun p => g p.1 p.2)), s) := by
    intro ys
    induction ys with
    | nil => intro _ _; rfl
    | cons y ys ih =>
      intro k h
      rw [List.length_cons, List.range'_succ, List.map_cons, List.zip_cons_cons, List.zip_cons_cons, List.map_cons]
      rw [List.length_cons, List.range'_succ, List.zip_cons_cons] at h
      exact exec_mapM_cons_ok (h k y (by simp)) (ih (k + 1) (fun i y hy => h i y (by simp [hy])))
  rw [List.length_map, List.range_eq_range']
  exact this ys 0 (by rwa [List.range_eq_range'] at h)

/-- a `mapM` over rows numbered by position whose results do not depend on the number -/
theorem exec_mapM_numbered {β γ δ : Type} (e : δ → β) (f : Nat × β → M γ) (g : δ → γ) (ys : List δ) (s : St)
    (h : ∀ i, ∀ y ∈ ys, (f (i, e y)).exec s = (.ok (g y), s)) :
    (((List.range (ys.map e).length).zip (ys.map e)).mapM f).exec s = (.ok (ys.map g), s) :=
  (exec_mapM_indexed_map e f (fun _ => g) ys s fun i y hy => h i y (List.of_mem_zip hy).2).trans (by rw [map_zip_range])

end Ledger.Sql
