import Ledger.Proofs.SchedDiscipline
import Ledger.Proofs.SchedWalk

/-!
# The writers' programs follow the lock discipline (`Safe`)

For every answer of every statement, `sendProg` on a ledger in use with HASH_LOGS=SYNC inserts its
log under `pg_advisory_xact_lock(ledger id)` inside the transaction (`safe_sendProg_inUse`, discipline
`logKey`). `Keep` is what the body of a write needs of the monitor; it also admits a write inside a
savepoint under the ledger lock `hashtext('ledger:<id>')` (the state tracker's first write on an
initializing ledger), but `handleState` is not walked here. `importProg` is in `SchedImport`.
-/
namespace Ledger.Sched

theorem safe_walk (d : Disc) : Walk (Safe d) (monOk d) (monStep d) Possible :=
  ⟨fun _ _ _ h1 h2 => ⟨h1, h2⟩⟩

/-- held in a way no failed statement can take away: session-scoped, or transaction-scoped with an odd
    key (the ledger lock) inside a savepoint -/
def RH (d : Disc) (m : Mon) : Prop := m.held = true ∧ (m.xact = false ∨ (m.sp = true ∧ d.K % 2 = 1))

/-- what a write on ledger `l` with flag `sync` needs of the monitor while its (sub)transaction runs -/
def Keep (d : Disc) (l : Nat) (sync : Bool) (m : Mon) : Prop :=
  l = d.l₀ → m.tx = true ∧ (RH d m ∨ (sync = true ∧ logKey l = d.K)) ∧ (d.strict = true → sync = true)

theorem keep_err (d : Disc) (l : Nat) (sync : Bool) (m : Mon) (st : Stmt) (o : Out) (e : Err)
    (ho : o.err = some e) (h : Keep d l sync m) : Keep d l sync (monStep d m st o) := by
  by_cases ha : e = .aborted
  · rw [ha] at ho; rw [monStep_aborted d m st o ho]; exact h
  · rw [monStep_err d m st o e ho ha]
    intro hl
    obtain ⟨htx, hh, hs⟩ := h hl
    refine ⟨htx, hh.imp_left fun ⟨hheld, hr⟩ => ⟨?_, hr⟩, hs⟩
    rcases hr with hx | ⟨hsp, hodd⟩
    · simp [hheld, hx]
    · simp [hheld, hsp, hodd]

theorem keep_plain (d : Disc) (l : Nat) (sync : Bool) (m : Mon) (st : Stmt) (o : Out) (hp : st.plain = true)
    (h : Keep d l sync m) : Keep d l sync (monStep d m st o) := by
  cases ho : o.err with
  | none => rw [monStep_plain d m st o hp ho]; exact h
  | some e => exact keep_err d l sync m st o e ho h

theorem monOk_plain (d : Disc) (m : Mon) (st : Stmt) (hp : st.plain = true) (hs : ∀ l, st ≠ .setval l) :
    monOk d m st := by
  cases st with
  | setval l => exact absurd rfl (hs l)
  | _ => first | trivial | cases hp

theorem safe_plain (d : Disc) (m : Mon) (st : Stmt) (next : Out → Prog) (fail : Err → Prog)
    (hp : st.plain = true) (hs : ∀ l, st ≠ .setval l)
    (hfail : ∀ o e, o.err = some e → Safe d (monStep d m st o) (fail e))
    (hnext : ∀ o, Safe d m (next o)) :
    Safe d m (.stmt st fun o => match o.err with | some e => fail e | none => next o) := by
  refine ⟨monOk_plain d m st hp hs, fun o _ => ?_⟩
  dsimp only
  split
  · rename_i e ho; exact hfail o e ho
  · rename_i ho; rw [monStep_plain d m st o hp ho]; exact hnext o

theorem safe_ins (d : Disc) (m : Mon) (l ik hash tx : Nat) (sync : Bool) (fail : Err → Prog) (succ : Nat → Prog)
    (hk : Keep d l sync m) (hheld : l = d.l₀ → m.held = true)
    (hfail : ∀ m' e, Keep d l sync m' → Safe d m' (fail e))
    (hsucc : ∀ m' a, Keep d l sync m' → Safe d m' (succ a)) :
    Safe d m (.stmt (.insertLog l ik hash sync none tx) fun o' => match o'.err with | some e => fail e | none => succ (headNat o')) := by
  refine ⟨?_, fun o _ => ?_⟩
  · intro hl
    obtain ⟨htx, _, hs⟩ := hk hl
    exact ⟨hheld hl, htx, fun h => ⟨hs h, rfl⟩⟩
  · dsimp only
    split
    · rename_i e ho; exact hfail _ e (keep_err d l sync m _ o e ho hk)
    · rename_i ho
      rw [monStep_insLog d m _ _ _ _ _ _ o ho]
      split <;> exact hsucc _ _ hk

theorem keep_held {d : Disc} {l : Nat} {sync : Bool} {m : Mon} (h : Keep d l sync m)
    (hn : ¬ (sync = true ∧ logKey l = d.K)) (hl : l = d.l₀) : m.held = true :=
  (h hl).2.1.elim (·.1) (absurd · hn)

/-- `[advLockLog;] insertLog` -/
theorem safe_lock_ins (d : Disc) (m : Mon) (l ik hash tx : Nat) (sync : Bool) (fail : Err → Prog) (succ : Nat → Prog)
    (hk : Keep d l sync m)
    (hfail : ∀ m' e, Keep d l sync m' → Safe d m' (fail e))
    (hsucc : ∀ m' a, Keep d l sync m' → Safe d m' (succ a)) :
    Safe d m (if sync = true then
        .stmt (.advLockLog l) fun o' => match o'.err with
          | some e => fail e
          | none => .stmt (.insertLog l ik hash sync none tx) fun o' => match o'.err with | some e => fail e | none => succ (headNat o')
      else .stmt (.insertLog l ik hash sync none tx) fun o' => match o'.err with | some e => fail e | none => succ (headNat o')) := by
  split
  · refine ⟨trivial, fun o _ => ?_⟩
    dsimp only
    split
    · rename_i e ho; exact hfail _ e (keep_err d l sync m _ o e ho hk)
    · rename_i ho
      rw [monStep_lock d m o rfl ho]
      split
      · refine safe_ins d _ l ik hash tx sync fail succ (fun hl => ?_) (fun _ => rfl) hfail hsucc
        obtain ⟨htx, hh, hs⟩ := hk hl
        refine ⟨htx, hh.imp_left fun ⟨hheld, hr⟩ => ⟨rfl, ?_⟩, hs⟩
        -- a session-scoped hold stays session-scoped; a transaction-scoped one was inside a savepoint
        cases hx : m.xact with
        | false => exact Or.inl (by simp [hheld])
        | true => exact Or.inr (hr.resolve_left (by simp [hx]))
      · rename_i hkey
        exact safe_ins d m l ik hash tx sync fail succ hk (keep_held hk fun h => hkey h.2) hfail hsucc
  · rename_i hsync
    exact safe_ins d m l ik hash tx sync fail succ hk (keep_held hk fun h => hsync h.1) hfail hsucc

theorem safe_sendBody (d : Disc) (q : Send) : BodyKeeps (Safe d) (Keep d q.l q.sync) (sendBody q) := by
  intro m fail refuse succ hk hfail hrefuse hsucc
  have plain : ∀ (st : Stmt) (next : Out → Prog), st.plain = true → (∀ l, st ≠ .setval l) → (∀ o, Safe d m (next o)) →
      Safe d m (.stmt st fun o => match o.err with | some e => fail e | none => next o) :=
    fun st next hp hs hn =>
      safe_plain d m st next fail hp hs (fun o e ho => hfail _ e (keep_err d q.l q.sync m st o e ho hk)) hn
  unfold sendBody
  extract_lets onErr write
  have hwrite : Safe d m write :=
    plain _ _ rfl nofun fun _ => plain _ _ rfl nofun fun _ => plain _ _ rfl nofun fun _ =>
      safe_lock_ins d m q.l q.ik q.hash _ q.sync fail (fun a => succ _ a) hk hfail (fun m' a h => hsucc m' _ a h)
  split
  · exact hwrite
  · refine plain _ _ rfl nofun fun o => ?_
    split
    · exact hwrite
    · exact hrefuse _ _ hk

/-- top-level writes: the key is the log lock taken by the write itself (or another ledger is written) -/
def TopOK (d : Disc) (l : Nat) (sync : Bool) : Prop := l = d.l₀ → sync = true ∧ logKey l = d.K

theorem keep_after_begin (d : Disc) (l : Nat) (sync : Bool) (m : Mon) (h : TopOK d l sync) (o : Out)
    (ho : Possible .begin o) : Keep d l sync (monStep d m .begin o) := by
  rw [monStep_begin d m o ho]
  intro hl
  obtain ⟨hs, hk⟩ := h hl
  exact ⟨rfl, Or.inr ⟨hs, hk⟩, fun _ => hs⟩

/-- a write on a ledger in use (the state tracker passes the request through) -/
theorem safe_sendProg_inUse (d : Disc) (q : Send) (htop : TopOK d q.l q.sync) (m : Mon) :
    Safe d m (sendProg q true) := by
  unfold sendProg handleState
  simp only [if_true]
  exact walk_forgeLog (safe_walk d) (K := Keep d q.l q.sync) (ops := topTx) (fin := .done) true q.l q.ik q.hash
    (fun _ => ⟨trivial, trivial, trivial⟩) (fun _ => trivial) (fun m => keep_after_begin d _ _ m htop)
    (safe_sendBody d q) (fun _ _ => trivial) (fun m o hk => keep_plain d _ _ m _ o rfl hk) m

end Ledger.Sched
