import Ledger.Sql.Builtins
import Ledger.Proofs.CoreMap
import Ledger.Proofs.ListBasic
import Ledger.Spec.Store

/-!
# jsonb objects of strings ↔ `Ledger.Core.Metadata`

Ledger metadata is a flat JSON object whose values are strings. LeanPG keeps jsonb objects as key/value lists (`JKV`, ordered as jsonb
orders keys: by length, then bytes); the Spec keeps `Metadata = Map String String` (ordered by `<`). `metaAbs` reads the former as the
latter. For objects of strings: `a || d` (`jsonConcat` / `jobjMerge`) is `Spec.metaMerge`, `a @> d` (`jsonContains`) is
`Spec.metaContains`.
-/
open Ledger Ledger.Sql Ledger.Core Ledger.Base Ledger.Spec

namespace Ledger.Sql

def JObjStr (kvs : List JKV) : Prop := ∀ kv ∈ kvs, ∃ s, kv.val = JV.str s

def strVal : JV → Option String
  | .str s => some s
  | _ => none

/-- the metadata map of a JSON object of strings (first occurrence of a key wins, as `jobjLookup`) -/
def metaAbs : List JKV → Metadata
  | [] => []
  | kv :: rest =>
    match kv.val with
    | .str v => Map.insert kv.key v (metaAbs rest)
    | _ => metaAbs rest

theorem metaAbs_WF : ∀ (kvs : List JKV), Map.WF (metaAbs kvs) := by
  intro kvs
  induction kvs with
  | nil => exact Map.WF_nil
  | cons kv rest ih =>
    simp only [metaAbs]
    split
    · exact Map.WF_insertWith _ _ _ ih
    · exact ih

theorem get?_metaAbs (k : String) : ∀ (kvs : List JKV), JObjStr kvs →
    Map.get? (metaAbs kvs) k = (jobjLookup k kvs).bind strVal := by
  intro kvs
  induction kvs with
  | nil => intro _; rfl
  | cons kv rest ih =>
    intro h
    obtain ⟨k', v'⟩ := kv
    obtain ⟨s, hs⟩ := h (.mk k' v') (by simp)
    simp only [JKV.val] at hs
    subst hs
    have ih' := ih (fun x hx => h x (by simp [hx]))
    simp only [metaAbs, JKV.val, JKV.key, jobjLookup]
    rw [Map.get?_insert]
    by_cases e : k = k'
    · subst e; simp [strVal]
    · have e' : (k == k') = false := by simpa using e
      simp [e, e', ih']

theorem jobjLookup_insert (k k' : String) (v : JV) : ∀ (kvs : List JKV),
    jobjLookup k (jobjInsert k' v kvs) = if k = k' then some v else jobjLookup k kvs := by
  intro kvs
  induction kvs with
  | nil =>
    by_cases e : k = k'
    · subst e; simp [jobjInsert, jobjLookup]
    · have e' : (k == k') = false := by simpa using e
      simp [jobjInsert, jobjLookup, e, e']
  | cons kv rest ih =>
    obtain ⟨k0, v0⟩ := kv
    simp only [jobjInsert]
    by_cases h1 : k' = k0
    · subst h1
      simp only [beq_self_eq_true, if_true, jobjLookup]
      by_cases e : k = k'
      · subst e; simp
      · have e' : (k == k') = false := by simpa using e
        simp [e, e']
    · have h1' : (k' == k0) = false := by simpa using h1
      simp only [h1', Bool.false_eq_true, if_false]
      by_cases h2 : jsonKeyLt k' k0 = true
      · simp only [h2, if_true, jobjLookup]
        by_cases e : k = k'
        · subst e; simp
        · have e' : (k == k') = false := by simpa using e
          simp [e, e']
      · simp only [h2, jobjLookup]
        by_cases e0 : k = k0
        · subst e0
          have : ¬ k = k' := fun e => h1 e.symm
          simp [jobjLookup, this]
        · have e0' : (k == k0) = false := by simpa using e0
          simp only [jobjLookup, e0', Bool.false_eq_true, if_false, ih]

theorem JObjStr_insert (k : String) (s : String) : ∀ (kvs : List JKV), JObjStr kvs → JObjStr (jobjInsert k (.str s) kvs) := by
  intro kvs
  induction kvs with
  | nil => intro _ kv hkv; simp [jobjInsert] at hkv; subst hkv; exact ⟨s, rfl⟩
  | cons kv rest ih =>
    intro h
    obtain ⟨k0, v0⟩ := kv
    simp only [jobjInsert]
    split
    · intro x hx
      rcases List.mem_cons.mp hx with e | e
      · subst e; exact ⟨s, rfl⟩
      · exact h x (by simp [e])
    · split
      · intro x hx
        rcases List.mem_cons.mp hx with e | e
        · subst e; exact ⟨s, rfl⟩
        · exact h x e
      · intro x hx
        rcases List.mem_cons.mp hx with e | e
        · subst e; exact h _ (by simp)
        · exact ih (fun y hy => h y (by simp [hy])) x e

theorem JObjStr_merge (a : List JKV) : ∀ (d : List JKV), JObjStr a → JObjStr d → JObjStr (jobjMerge a d) := by
  intro d
  unfold jobjMerge
  induction d generalizing a with
  | nil => intro ha _; exact ha
  | cons kv rest ih =>
    intro ha hd
    obtain ⟨s, hs⟩ := hd kv (by simp)
    simp only [List.foldl_cons]
    apply ih
    · rw [hs]; exact JObjStr_insert _ _ _ ha
    · exact fun x hx => hd x (by simp [hx])

theorem jobjLookup_eq_find? (k : String) : ∀ (l : List JKV), jobjLookup k l = (l.find? (fun kv => k == kv.key)).map JKV.val
  | [] => rfl
  | .mk k' v :: rest => by
    rw [jobjLookup, List.find?_cons]
    show _ = Option.map JKV.val (match k == k' with | true => _ | false => _)
    cases k == k'
    · exact jobjLookup_eq_find? k rest
    · rfl

theorem jobjLookup_mem (k : String) : ∀ (l : List JKV) (v : JV), jobjLookup k l = some v → JKV.mk k v ∈ l := by
  intro l v h
  rw [jobjLookup_eq_find?] at h
  obtain ⟨⟨k', v'⟩, hf, rfl⟩ := Option.map_eq_some_iff.mp h
  have hk : k = k' := eq_of_beq (List.find?_some (p := fun kv : JKV => k == kv.key) hf)
  subst hk
  exact List.mem_of_find?_eq_some hf

theorem jobjLookup_str (k : String) (l : List JKV) (h : JObjStr l) (v : JV) (hv : jobjLookup k l = some v) : ∃ s, v = JV.str s :=
  h (.mk k v) (jobjLookup_mem k l v hv)

theorem jobjLookup_none (k : String) : ∀ (l : List JKV), k ∉ l.map JKV.key → jobjLookup k l = none := by
  intro l h
  rw [jobjLookup_eq_find?, List.find?_eq_none.mpr fun kv hkv (e : (k == kv.key) = true) => h (eq_of_beq e ▸ List.mem_map_of_mem hkv)]
  rfl

theorem metaAbs_merge (a : List JKV) : ∀ (d : List JKV), JObjStr a → JObjStr d → (d.map JKV.key).Nodup →
    ∀ k, Map.get? (metaAbs (jobjMerge a d)) k = ((jobjLookup k d).bind strVal).or (Map.get? (metaAbs a) k) := by
  intro d
  unfold jobjMerge
  induction d generalizing a with
  | nil => intro _ _ _ k; simp [jobjLookup]
  | cons kv rest ih =>
    intro ha hd hnd k
    obtain ⟨k0, v0⟩ := kv
    obtain ⟨s, hs⟩ := hd (.mk k0 v0) (by simp)
    simp only [JKV.val] at hs
    subst hs
    simp only [List.map_cons, List.nodup_cons, JKV.key] at hnd
    show Map.get? (metaAbs (List.foldl (fun acc kv => jobjInsert kv.key kv.val acc) (jobjInsert k0 (JV.str s) a) rest)) k = _
    rw [ih _ (JObjStr_insert _ _ _ ha) (fun x hx => hd x (by simp [hx])) hnd.2 k,
      get?_metaAbs k _ (JObjStr_insert k0 s a ha), jobjLookup_insert, jobjLookup]
    by_cases e : k = k0
    · -- the later pairs of `d` do not have this key again
      subst e
      simp [jobjLookup_none k rest hnd.1, strVal]
    · simp [e, get?_metaAbs k a ha]

theorem jobjLookup_of_mem (k : String) (v : JV) : ∀ (l : List JKV), (l.map JKV.key).Nodup → JKV.mk k v ∈ l → jobjLookup k l = some v := by
  intro l hnd h
  rw [jobjLookup_eq_find?]
  cases hf : l.find? (fun kv => k == kv.key) with
  | none => exact absurd (beq_self_eq_true k) (List.find?_eq_none.mp hf _ h)
  | some kv =>
    rw [nodup_map_inj JKV.key l hnd kv (List.mem_of_find?_eq_some hf) _ h
      (eq_of_beq (List.find?_some (p := fun kv : JKV => k == kv.key) hf)).symm]
    rfl

/-- **`a || d` on objects of strings is `Spec.metaMerge`.** -/
theorem metaAbs_jobjMerge (a d : List JKV) (ha : JObjStr a) (hd : JObjStr d) (hnd : (d.map JKV.key).Nodup) :
    metaAbs (jobjMerge a d) = metaMerge (metaAbs a) (metaAbs d) := by
  apply Map.ext_of_WF (metaAbs_WF _) (Map.WF_foldl _ (fun _ _ h => Map.WF_insert _ _ h) _ (metaAbs_WF a))
  intro k
  rw [metaAbs_merge a d ha hd hnd k, ← get?_metaAbs k d hd]
  exact (Map.get?_foldl_insert (metaAbs_WF a) (Map.keys_nodup (metaAbs_WF d)) k).symm

theorem JV_str_beq (x y : String) : (JV.str x == JV.str y) = (x == y) := by
  show JV.beq (JV.str x) (JV.str y) = (x == y)
  simp [JV.beq]

theorem jsonContains_str (x y : String) : jsonContains (JV.str x) (JV.str y) = (x == y) := by
  simp [jsonContains, JV_str_beq]

/-- **`a @> d` on objects of strings is `Spec.metaContains`.** -/
theorem jsonKvsContained_eq (a : List JKV) (ha : JObjStr a) : ∀ (d : List JKV), JObjStr d → (d.map JKV.key).Nodup →
    jsonKvsContained a d = metaContains (metaAbs a) (metaAbs d) := by
  intro d hd hnd
  -- both sides as propositions
  have hL : jsonKvsContained a d = true ↔ ∀ kv ∈ d, ∀ x, kv.val = JV.str x → Map.get? (metaAbs a) kv.key = some x := by
    clear hnd
    induction d with
    | nil => simp [jsonKvsContained]
    | cons kv rest ih =>
      obtain ⟨k0, v0⟩ := kv
      obtain ⟨s, hs⟩ := hd (.mk k0 v0) (by simp)
      simp only [JKV.val] at hs
      subst hs
      have ih' := ih (fun x hx => hd x (by simp [hx]))
      simp only [jsonKvsContained, Bool.and_eq_true, ih', List.mem_cons, forall_eq_or_imp, JKV.val, JKV.key, JV.str.injEq, forall_eq']
      rw [get?_metaAbs k0 a ha]
      cases hl : jobjLookup k0 a with
      | none => simp
      | some av =>
        obtain ⟨y, rfl⟩ := jobjLookup_str k0 a ha av hl
        simp [jsonContains_str, strVal]
  have hR : metaContains (metaAbs a) (metaAbs d) = true ↔ ∀ kv ∈ d, ∀ x, kv.val = JV.str x → Map.get? (metaAbs a) kv.key = some x := by
    unfold metaContains
    rw [List.all_eq_true]
    constructor
    · intro h kv hkv x hx
      obtain ⟨k0, v0⟩ := kv
      simp only [JKV.val] at hx
      subst hx
      have h1 : Map.get? (metaAbs d) k0 = some x := by
        rw [get?_metaAbs k0 d hd, jobjLookup_of_mem k0 _ d hnd hkv]; rfl
      have := h (k0, x) (Map.mem_of_get? h1)
      simpa [JKV.key] using this
    · intro h e he
      have h1 := Map.get?_of_mem (metaAbs_WF d) he
      rw [get?_metaAbs e.1 d hd] at h1
      cases hl : jobjLookup e.1 d with
      | none => rw [hl] at h1; cases h1
      | some v =>
        rw [hl] at h1
        obtain ⟨y, hy⟩ := jobjLookup_str e.1 d hd v hl
        subst hy
        simp only [Option.bind_some, strVal, Option.some.injEq] at h1
        have := h _ (jobjLookup_mem e.1 d _ hl) y rfl
        simp only [JKV.key] at this
        simp [this, h1]
  cases h1 : jsonKvsContained a d <;> cases h2 : metaContains (metaAbs a) (metaAbs d) <;> try rfl
  · exact absurd (hL.mpr (hR.mp h2)) (by simp [h1])
  · exact absurd (hR.mpr (hL.mp h1)) (by simp [h2])

/-- the metadata of a jsonb value (objects of strings; anything else reads as empty) -/
def metaOfJV : JV → Metadata
  | .obj kvs => metaAbs kvs
  | _ => []

def IsMeta (j : JV) : Prop := ∃ kvs, j = .obj kvs ∧ JObjStr kvs ∧ (kvs.map JKV.key).Nodup

theorem metaOfJV_concat (a d : JV) (ha : IsMeta a) (hd : IsMeta d) : metaOfJV (jsonConcat a d) = metaMerge (metaOfJV a) (metaOfJV d) := by
  obtain ⟨ka, rfl, ha1, _⟩ := ha
  obtain ⟨kd, rfl, hd1, hd2⟩ := hd
  exact metaAbs_jobjMerge ka kd ha1 hd1 hd2

theorem jsonContains_meta (a d : JV) (ha : IsMeta a) (hd : IsMeta d) : jsonContains a d = metaContains (metaOfJV a) (metaOfJV d) := by
  obtain ⟨ka, rfl, ha1, _⟩ := ha
  obtain ⟨kd, rfl, hd1, hd2⟩ := hd
  simp only [jsonContains, metaOfJV]
  exact jsonKvsContained_eq ka ha1 kd hd1 hd2

end Ledger.Sql
