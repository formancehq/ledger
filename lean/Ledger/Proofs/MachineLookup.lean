import Ledger.Machine.Ast

/-! Association lists keyed by names (environments, declaration tables, the variables of a
    request) and lists of declarations with distinct names. -/
namespace Ledger.Machine

theorem lookup_mem {α : Type} (l : List (String × α)) (x : String) (v : α)
    (h : l.lookup x = some v) : (x, v) ∈ l := by
  obtain ⟨l₁, l₂, rfl, _⟩ := List.lookup_eq_some_iff.mp h
  simp

theorem lookup_eq_none_iff_keys {α : Type} {l : List (String × α)} {x : String} :
    l.lookup x = none ↔ x ∉ l.map (·.1) := by
  simp only [List.lookup_eq_none_iff, List.mem_map, bne_iff_ne, ne_eq, not_exists, not_and]
  exact ⟨fun h p hp e => h p hp e.symm, fun h p hp e => h p hp e.symm⟩

theorem lookup_of_nodup {α : Type} (l : List (String × α)) (hn : (l.map (·.1)).Nodup)
    (kv : String × α) (h : kv ∈ l) : l.lookup kv.1 = some kv.2 := by
  induction l with
  | nil => cases h
  | cons x xs ih =>
    simp only [List.map_cons, List.nodup_cons] at hn
    simp only [List.lookup]
    rcases List.mem_cons.mp h with rfl | hm
    · simp
    · have hne : ¬ (kv.1 == x.1) = true := by
        intro heq
        have : kv.1 = x.1 := by simpa using heq
        exact hn.1 (by rw [← this]; exact List.mem_map.mpr ⟨kv, hm, rfl⟩)
      simp only [hne]
      exact ih hn.2 hm

theorem lookup_append_left {α : Type} (a b : List (String × α)) (k : String) (v : α)
    (h : a.lookup k = some v) : (a ++ b).lookup k = some v := by
  rw [List.lookup_append, h]; rfl

theorem lookup_append_right {α : Type} (a b : List (String × α)) (k : String)
    (h : a.lookup k = none) : (a ++ b).lookup k = b.lookup k := by
  rw [List.lookup_append, h]; rfl

theorem decl_unique : (ds : List VarDecl) → (ds.map (·.name)).Nodup → ∀ d d', d ∈ ds → d' ∈ ds →
    d'.name = d.name → d' = d
  | [], _, d, d', hd, _, _ => by cases hd
  | x :: xs, hn, d, d', hd, hd', h1 => by
    simp only [List.map_cons, List.nodup_cons] at hn
    rcases List.mem_cons.mp hd with rfl | hd1 <;> rcases List.mem_cons.mp hd' with rfl | hd2
    · rfl
    · exact absurd (List.mem_map.mpr ⟨d', hd2, h1⟩) hn.1
    · exact absurd (List.mem_map.mpr ⟨d, hd1, h1.symm⟩) hn.1
    · exact decl_unique xs hn.2 d d' hd1 hd2 h1

theorem lookup_map_decl (vs : List VarDecl) (hn : (vs.map (·.name)).Nodup) (d : VarDecl) (hd : d ∈ vs) :
    (vs.map (fun d => (d.name, d.ty))).lookup d.name = some d.ty := by
  have := lookup_of_nodup (vs.map (fun d => (d.name, d.ty)))
    (by simpa [List.map_map, Function.comp_def] using hn) (d.name, d.ty) (List.mem_map.mpr ⟨d, hd, rfl⟩)
  simpa using this

end Ledger.Machine
