import Ledger.Ctrl.Prog

/-!
Controller layer, part 4: the write operations of `DefaultController`
(/repo/internal/controller/ledger/controller_default.go) and the log processor
(/repo/internal/controller/ledger/log_process.go: `forgeLog`, `runLog`,
`forgeLogRetry`/`runTx`, `fetchLogWithIK`), following the Go control flow.

The Numscript runtime is modelled elsewhere: for a script-form create the
operation carries what the real runtime answered (`MachineObs`, an oracle), for a
postings-form create (the script `TxToScriptData` renders) its behaviour is
computed here (`postingsMachine`).
-/
namespace Ledger.Ctrl
open Ledger.Base Ledger.Core

/-- A store call made by the Numscript runtime. -/
inductive MCall where
  | balances (q : List Key)
  | account (address : String)
  deriving DecidableEq, Repr, Inhabited

/-- What the real runtime answered for one `Execute` (or `Parse` failure). -/
structure MachineObs where
  err : String := ""
  postings : List Posting := []
  txMeta : Meta := []
  accountMeta : Map String Meta := []
  calls : List MCall := []
  /-- the attempt (1 = first, 2… = retries) during which the runtime ran -/
  attempt : Nat := 1
  deriving DecidableEq, Repr, Inhabited

structure MachineResult where
  postings : List Posting
  txMeta : Meta
  accountMeta : Map String Meta
  deriving DecidableEq, Repr, Inhabited

/-- Request fields shared by both create forms. -/
structure CreateIn where
  timestamp : Option Time := none
  reference : String := ""
  metadata : Meta := []
  accountMeta : Option (Map String Meta) := none
  /-- `Input.Template` (script-form creates only) -/
  template : String := ""
  deriving DecidableEq, Repr, Inhabited

inductive OpKind where
  | createP (c : CreateIn) (postings : List Posting) (force : Bool)
  | createS (c : CreateIn) (obs : List MachineObs)
  | revert (id : Nat) (force atEffectiveDate : Bool) (m : Meta)
  | saveTxMeta (id : Nat) (m : Meta)
  | saveAccMeta (address : String) (m : Meta)
  | delTxMeta (id : Nat) (key : String)
  | delAccMeta (address : String) (key : String)
  /-- `chart = none`: `SchemaData` without chart; `templates`: ids of the transaction
      templates; `tplBad`: the templates are rejected (unknown runtime, or a script the
      compiler refuses — oracle) -/
  | insertSchema (version : String) (chart : Option (String × List (String × Meta)))
      (templates : List String) (tplBad : Bool)
  deriving DecidableEq, Repr, Inhabited

/-- `OUTPUT.NeedsSchema()` of the operation's payload type. -/
def OpKind.needsSchema : OpKind → Bool
  | .insertSchema .. => false
  | _ => true

/-- `Parameters[INPUT]` + the logical clock. `ihash` = `ComputeIdempotencyHash(Input)`
    (opaque here: equal inputs ⇔ equal hashes is the hash builder's concern). -/
structure Op where
  kind : OpKind
  now : Time
  dry : Bool := false
  ik : String := ""
  ihash : String := ""
  sv : String := ""
  deriving DecidableEq, Repr, Inhabited

/-! ### postings-form create: the script of `TxToScriptData` on the machine -/

/-- `Program.NeededBalances`: (source, asset) of every send whose source is not
    `@world`; none when every source allows an unbounded overdraft (`force`). -/
def neededBalances (ps : List Posting) (force : Bool) : List Key :=
  if force then [] else
  (ps.foldl (fun (m : Map Key Unit) p => if p.source = "world" then m else m.insert p.srcKey ()) []).keys

/-- One `send [asset amount] (source = s destination = d)`: a bounded source must
    cover a positive amount; tracked balances follow the postings. `none` =
    insufficient funds. -/
def fundStep (bal : Balances) (p : Posting) : Option Balances :=
  let credit (b : Balances) : Balances := if b.contains p.dstKey then b.adjust p.dstKey (· + p.amount) else b
  if p.source = "world" then some (credit bal)
  else match bal.get? p.srcKey with
    | none => some (credit bal)
    | some b => if 0 < p.amount ∧ b < p.amount then none
                else some (credit (bal.adjust p.srcKey (· - p.amount)))

def fundsOk : Balances → List Posting → Bool
  | _, [] => true
  | b, p :: ps => match fundStep b p with
    | none => false
    | some b' => fundsOk b' ps

def postingsMachine (ps : List Posting) (force : Bool) : Prog MachineResult :=
  let q := neededBalances ps force
  if q = [] then .pure { postings := ps, txMeta := [], accountMeta := [] }
  else .call (.getBalances q) fun bal =>
    if fundsOk bal ps then .pure { postings := ps, txMeta := [], accountMeta := [] }
    else .fail .insufficientFunds

/-! ### script-form create: replay of the oracle -/

def replayCalls : List MCall → Prog Unit
  | [] => .pure ()
  | .balances q :: r => .call (.getBalances q) fun _ => replayCalls r
  | .account a :: r => .call (.getAccount a) fun _ => replayCalls r

/-- The observation an attempt consumes: the one recorded during that attempt. -/
def pickObs (obs : List MachineObs) (attempt : Nat) : Option MachineObs :=
  obs.find? (fun o => o.attempt == attempt)

def scriptMachine (obs : List MachineObs) (attempt : Nat) : Prog MachineResult :=
  match pickObs obs attempt with
  | none => .fail (.model "no machine observation")
  | some o => Prog.bind (replayCalls o.calls) fun _ =>
    if o.err ≠ "" then .fail (.machine o.err)
    else .pure { postings := o.postings, txMeta := o.txMeta, accountMeta := o.accountMeta }

/-! ### `createTransaction` -/

/-- `for k, v := range Input.Metadata { if finalMetadata[k] != "" → ErrMetadataOverride }` -/
def metaOverride (machineMeta input : Meta) : Bool :=
  input.any fun e => match machineMeta.get? e.1 with
    | some v => v ≠ ""
    | none => false

/-- `accountMetadata[account][k] = v` for the request's account metadata. -/
def mergeAccountMeta (m : Map String Meta) (input : Option (Map String Meta)) : Map String Meta :=
  match input with
  | none => m
  | some inp => inp.foldl (fun acc e =>
      acc.insert e.1 (metaMerge (match acc.get? e.1 with | some x => x | none => []) e.2)) m

/-- `tx.InvolvedAccounts()` ∪ keys of the account metadata, sorted, deduplicated. -/
def accountsToUpsert (ps : List Posting) (am : Map String Meta) : List String :=
  ((am.foldl (fun (m : Map String Unit) e => m.insert e.1 ())
    (ps.foldl (fun (m : Map String Unit) p => (m.insert p.source ()).insert p.destination ()) []))).keys

/-- The chart's default metadata for `address` under the operation's schema (none: no defaults). -/
def defaultsOf (schema : Option Schema) (address : String) : Meta :=
  match schema with
  | some sc => (match sc.find address with | some d => d | none => [])
  | none => []

/-- `tx.AccountsWithDefaultMetadata(schema, accountMetadata)` -/
def accountRows (schema : Option Schema) (tx : Tx) (am : Map String Meta) : List AccIn :=
  (accountsToUpsert tx.postings am).map fun a =>
    { address := a,
      metadata := (match am.get? a with | some m => m | none => []),
      firstUsage := some tx.timestamp, insertionDate := some tx.insertedAt, updatedAt := some tx.insertedAt,
      defaults := defaultsOf schema a }

/-- The template rules at the head of `createTransaction`: on a schema with
    transaction templates a request without template is refused in strict mode
    (only logged in audit mode) and an unknown template is refused; a template on a
    schema without templates (or without schema) is refused. -/
def templateRefused (strict : Bool) (schema : Option Schema) (template : String) : Bool :=
  match schema with
  | some sc =>
    if sc.templates ≠ [] then
      if template = "" then strict else !sc.templates.contains template
    else template ≠ ""
  | none => template ≠ ""

def createBody (strict : Bool) (schema : Option Schema) (c : CreateIn) (machine : Prog MachineResult) : Prog Payload :=
  if templateRefused strict schema c.template then .fail .schemaValidation else
  Prog.bind machine fun r =>
  if r.postings = [] then .fail .noPostings
  else if metaOverride r.txMeta c.metadata then .fail .metadataOverride
  else
    let am := mergeAccountMeta r.accountMeta c.accountMeta
    .call (.commitTransaction { postings := r.postings, metadata := metaMerge r.txMeta c.metadata,
                                 timestamp := c.timestamp, reference := c.reference,
                                 template := c.template }) fun tx =>
    .call (.upsertAccounts (accountRows schema tx am)) fun _ =>
    .pure (.created tx am)

/-! ### `revertTransaction` -/

/-- First loop of the non-forced check: debit the source of every reversed
    posting; credit its destination when `balances[destination][asset]` exists
    (the destination is also a source of the reversed transaction in that asset).
    `none`: `balances[source][asset]` is missing — `x.Add` on a nil `*big.Int`
    panics (unreachable: the query is `InvolvedDestinations` of the original). -/
def revertDebit : Balances → List Posting → Option Balances
  | b, [] => some b
  | b, p :: ps =>
    match b.get? p.srcKey with
    | none => none
    | some _ =>
      let b1 := b.adjust p.srcKey (· - p.amount)
      revertDebit (if b1.contains p.dstKey then b1.adjust p.dstKey (· + p.amount) else b1) ps

def revertBody (id : Nat) (force aed : Bool) (m : Meta) : Prog Payload :=
  .call (.revertTransaction id none) fun r =>
  if !r.2 then .fail .alreadyReverted else
  let orig := r.1
  .call (.getBalances (involvedDestinations orig.postings)) fun bal =>
  let ps := reversePostings orig.postings
  let ts := if aed then some orig.timestamp else orig.revertedAt
  let check : Option Err :=
    if force then none else
    match revertDebit bal ps with
    | none => some .panic
    | some b => if anyOverdrawn b then some .insufficientFunds else none
  match check with
  | some e => .fail e
  | none =>
    .call (.commitTransaction { postings := ps, metadata := markReverts m id, timestamp := ts }) fun tx =>
    .pure (.reverted orig tx)

/-! ### metadata, schema -/

def saveAccMetaBody (schema : Option Schema) (address : String) (m : Meta) : Prog Payload :=
  .call (.upsertAccounts [{ address := address, metadata := m, defaults := defaultsOf schema address }]) fun _ =>
  .pure (.savedMeta (.account address) m)

/-- The function passed to `forgeLog` for each operation. -/
def body (strict : Bool) (kind : OpKind) (attempt : Nat) (schema : Option Schema) : Prog Payload :=
  match kind with
  | .createP c ps force => createBody strict schema c (postingsMachine ps force)
  | .createS c obs => createBody strict schema c (scriptMachine obs attempt)
  | .revert id force aed m => revertBody id force aed m
  | .saveTxMeta id m =>
    .call (.updateTxMeta id m none) fun _ => .pure (.savedMeta (.transaction id) m)
  | .saveAccMeta a m => saveAccMetaBody schema a m
  | .delTxMeta id key =>
    .call (.deleteTxMeta id key none) fun r =>
      if r.2 then .pure (.deletedMeta (.transaction id) key) else .fail (.store .notFound)
  | .delAccMeta a key =>
    .call (.deleteAccountMeta a key) fun _ => .pure (.deletedMeta (.account a) key)
  | .insertSchema version chart templates tplBad =>
    match chart with
    | none => .fail .invalidSchema
    | some (raw, table) =>
      if tplBad then .fail .invalidSchema else
      -- `store.InsertSchema`: a unique violation becomes ErrSchemaAlreadyExists
      .call (.insertSchema { version := version, chartRaw := raw, chart := table, templates := templates }) fun r =>
        match r with
        | some s => .pure (.insertedSchema s)
        | none => .fail .schemaAlreadyExists

/-- `log.ValidateWithSchema(schema)`: only created transactions are validated —
    every posting's source and destination must be accounts of the chart. -/
def validPayload (sc : Schema) : Payload → Bool
  | .created tx _ => tx.postings.all fun p => (sc.find p.source).isSome && (sc.find p.destination).isSome
  | _ => true

/-- First part of `runLog`: which schema the operation runs under. -/
def schemaPhase (strict : Bool) (kind : OpKind) (sv : String) : Prog (Option Schema) :=
  if sv ≠ "" then
    .call (.findSchema sv) fun r =>
      match r with
      | some sc => .pure (some sc)
      | none => .call .findLatestSchemaVersion fun _ => .fail .schemaNotFound
  else if kind.needsSchema then
    .call .findLatestSchemaVersion fun latest =>
      if latest.isSome && strict then .fail .schemaNotSpecified else .pure none
  else .pure none

/-- Last part of `runLog`: schema validation of the payload, then `InsertLog`. -/
def logPhase (strict : Bool) (ik ihash sv : String) (schema : Option Schema) (payload : Payload) : Prog Log :=
  let bad := match schema with
    | some sc => strict && !validPayload sc payload
    | none => false
  if bad then .fail .schemaValidation
  else .call (.insertLog { payload := payload, ik := ik, ihash := ihash, schemaVersion := sv }) .pure

/-- `runLog`: schema lookup, the operation's function, log creation and insertion. -/
def runLog (strict : Bool) (kind : OpKind) (ik ihash sv : String) (attempt : Nat) : Prog Log :=
  Prog.bind (schemaPhase strict kind sv) fun schema =>
  Prog.bind (body strict kind attempt schema) fun payload =>
  logPhase strict ik ihash sv schema payload

/-- `fetchLogWithIK` (only when an idempotency key is given). -/
def ikLookup (ik ihash : String) : Prog (Option Log) :=
  if ik = "" then .pure none
  else .call (.readLogIK ik) fun r =>
    match r with
    | none => .pure none
    | some log =>
      if log.ihash ≠ "" ∧ log.ihash ≠ ihash then .fail .invalidIdempotencyInput
      else .pure (some log)

/-! ### `forgeLog` -/

structure Resp where
  err : Option Err := none
  hit : Bool := false
  log : Option Log := none
  deriving DecidableEq, Repr, Inhabited

def Resp.isError (r : Resp) : Bool := r.err.isSome

structure Outcome where
  state : State
  resp : Resp
  trace : List String
  deriving Repr, Inhabited

/-- The context was cancelled by a fault at an earlier call. -/
def alreadyCanceled (f : Faults) (n : Nat) : Bool :=
  f.any fun x => decide (x.kind = .cancel ∧ x.at_ < n)

/-- The `Rollback` call: counted, its own failure is only logged. After a
    cancelled context the transaction is already gone (`sql.ErrTxDone`). -/
def rollbackEntry (h : String) (f : Faults) (n : Nat) : String :=
  if alreadyCanceled f n = true then traceEntry h "Rollback" "tx-done"
  else match fires f n with
    | some kind => traceEntry h "Rollback" kind.err.toString
    | none => traceEntry h "Rollback" ""

/-- Rolled back: tables as before, sequences as consumed. -/
def rolledBack (s : State) (st : RunSt) (h : String) (f : Faults) (resp : Resp) : Outcome :=
  { state := { s with seq := st.seq }, resp := resp,
    trace := st.trace ++ [rollbackEntry h f (st.n + 1)] }

/-- `Commit` (call number `st.n + 1`). -/
def commitOrFail (s : State) (st : RunSt) (h : String) (f : Faults) (commitFault : Bool) (log : Log) : Outcome :=
  match fires f (st.n + 1) with
  | some kind =>
    { state := { s with seq := st.seq }, resp := { err := some (.store kind.err) },
      trace := st.trace ++ [traceEntry h "Commit" kind.err.toString] }
  | none =>
    if commitFault then
      { state := { s with seq := st.seq }, resp := { err := some .commitFailed },
        trace := st.trace ++ [traceEntry h "Commit" "commit-failed"] }
    else
      { state := { db := st.db, seq := st.seq }, resp := { log := some log },
        trace := st.trace ++ [traceEntry h "Commit" ""] }

/-- A failed attempt: `Rollback`, except after a panic — there is no deferred
    Rollback, the transaction handle is simply abandoned. -/
def failedAttempt (s : State) (st : RunSt) (h : String) (f : Faults) (e : Err) : Outcome :=
  if e = .panic then { state := { s with seq := st.seq }, resp := { err := some .panic }, trace := st.trace }
  else rolledBack s st h f { err := some e }

/-- A successful attempt: `Rollback` for a dry run, `Commit` otherwise. -/
def finish (s : State) (st : RunSt) (h : String) (f : Faults) (commitFault dry : Bool) (log : Log) : Outcome :=
  if dry then rolledBack s st h f { log := some log } else commitOrFail s st h f commitFault log

/-- `recordedOutcome`: after an attempt carrying an idempotency key failed for a
    reason of its own, the key is looked up once more — on the PARENT (root) handle,
    i.e. in the committed tables — as store call number `n`: a log found answers the
    request (hit, or the input-mismatch error); not found, or a failing lookup, keeps
    the attempt's own error `o`. -/
def recordedOutcome (op : Op) (f : Faults) (s : State) (n : Nat) (o : Outcome) : Outcome :=
  if op.ik = "" then o else
  if alreadyCanceled f n = true then { o with trace := o.trace ++ [traceEntry "root" "ReadLogWithIdempotencyKey" "canceled"] }
  else match fires f n with
  | some kind =>
    { o with trace := o.trace ++ [traceEntry "root" "ReadLogWithIdempotencyKey" kind.err.toString] }
  | none =>
    match readLogWithIK op.ik s.db with
    | none => { o with trace := o.trace ++ [traceEntry "root" "ReadLogWithIdempotencyKey" "not-found"] }
    | some log =>
      if log.ihash ≠ "" ∧ log.ihash ≠ op.ihash then
        { o with resp := { err := some .invalidIdempotencyInput },
                 trace := o.trace ++ [traceEntry "root" "ReadLogWithIdempotencyKey" ""] }
      else
        { o with resp := { hit := true, log := some log },
                 trace := o.trace ++ [traceEntry "root" "ReadLogWithIdempotencyKey" ""] }

/-- A failed attempt followed by `recordedOutcome` (a panic skips both the Rollback and the lookup). -/
def failedThenRecorded (op : Op) (s : State) (st : RunSt) (h : String) (f : Faults) (e : Err) : Outcome :=
  if e = .panic then failedAttempt s st h f e
  else recordedOutcome op f s (st.n + 2) (failedAttempt s st h f e)

/-- Result of one `runTx` (an attempt of the retry loop): a final outcome, or an
    error the loop has to classify (with the sequences, call count and trace so far). -/
inductive TxResult where
  | done (o : Outcome)
  | failed (e : Err) (seq : Seqs) (n : Nat) (trace : List String)
  deriving Repr, Inhabited

/-- `runTx` on a fresh transaction `t<i>`: BeginTX, `runLog`, then Rollback (error /
    dry run) or Commit. Every failure — BeginTX and Commit included — is returned to
    the loop. -/
def runTx (strict : Bool) (op : Op) (f : Faults) (commitFault : Bool) (s : State) (i tx : Nat)
    (seq : Seqs) (n : Nat) (trace : List String) : TxResult :=
  let h := "t" ++ toString tx
  match fires f (n + 1) with
  | some kind => .failed (.store kind.err) seq (n + 1) (trace ++ [traceEntry "root" "BeginTX" kind.err.toString])
  | none =>
    match run op.now h f (runLog strict op.kind op.ik op.ihash op.sv i)
            { db := s.db, seq := seq, n := n + 1, trace := trace ++ ["root BeginTX"] } with
    | (.error e, st1) =>
      if e = .panic then .done { state := { s with seq := st1.seq }, resp := { err := some .panic }, trace := st1.trace }
      else .failed e st1.seq (st1.n + 1) (st1.trace ++ [rollbackEntry h f (st1.n + 1)])
    | (.ok log, st1) =>
      if op.dry then .done (rolledBack s st1 h f { log := some log })
      else match fires f (st1.n + 1) with
        | some kind =>
          .failed (.store kind.err) st1.seq (st1.n + 1) (st1.trace ++ [traceEntry h "Commit" kind.err.toString])
        | none =>
          if commitFault then
            .failed .commitFailed st1.seq (st1.n + 1) (st1.trace ++ [traceEntry h "Commit" "commit-failed"])
          else .done { state := { db := st1.db, seq := st1.seq }, resp := { log := some log },
                       trace := st1.trace ++ [traceEntry h "Commit" ""] }

/-- The `ErrIdempotencyKeyConflict` branch of the loop: the key is read again on
    the root handle (call `n`); the log must be there (otherwise the Go code panics
    with "incoherent error" — unreachable under the store contract, see
    `Ledger.Ctrl.conflict_log_found`). -/
def fetchAfterConflict (op : Op) (f : Faults) (s : State) (seq : Seqs) (n : Nat) (trace : List String) : Outcome :=
  let st : State := { s with seq := seq }
  if alreadyCanceled f n = true then
    { state := st, resp := { err := some (.store .canceled) },
      trace := trace ++ [traceEntry "root" "ReadLogWithIdempotencyKey" "canceled"] }
  else match fires f n with
  | some kind =>
    { state := st, resp := { err := some (.store kind.err) },
      trace := trace ++ [traceEntry "root" "ReadLogWithIdempotencyKey" kind.err.toString] }
  | none =>
    match readLogWithIK op.ik s.db with
    | none => { state := st, resp := { err := some .panic },
                trace := trace ++ [traceEntry "root" "ReadLogWithIdempotencyKey" "not-found"] }
    | some log =>
      if log.ihash ≠ "" ∧ log.ihash ≠ op.ihash then
        { state := st, resp := { err := some .invalidIdempotencyInput },
          trace := trace ++ [traceEntry "root" "ReadLogWithIdempotencyKey" ""] }
      else { state := st, resp := { hit := true, log := some log },
             trace := trace ++ [traceEntry "root" "ReadLogWithIdempotencyKey" ""] }

/-- `forgeLogRetry`: `runTx` again and again while it answers a deadlock; an
    idempotency-key conflict ends in the lookup above, any other failure in
    `recordedOutcome`. `fuel` bounds the model's recursion; one more than the number
    of planned faults is always enough (`Ledger.Ctrl.retryLoop_ending`: only an
    injected fault produces a deadlock, and each fires once). -/
def retryLoop (strict : Bool) (op : Op) (f : Faults) (commitFault : Bool) (s : State) :
    Nat → Nat → Nat → Seqs → Nat → List String → Outcome
  | 0, _, _, seq, _, trace =>
    { state := { s with seq := seq }, resp := { err := some .outOfFuel }, trace := trace }
  | fuel + 1, i, tx, seq, n, trace =>
    match runTx strict op f commitFault s i tx seq n trace with
    | .done o => o
    | .failed e seq' n' trace' =>
      if e = .store .deadlock then
        -- `i`: attempt number (what the runtime oracle is indexed by); `tx`: number of the
        -- transaction handle (a failed BeginTX opens none)
        retryLoop strict op f commitFault s fuel (i + 1) (if (fires f (n + 1)).isSome then tx else tx + 1) seq' n' trace'
      else if e = .store .ikConflict then fetchAfterConflict op f s seq' (n' + 1) trace'
      else recordedOutcome op f s (n' + 1)
        { state := { s with seq := seq' }, resp := { err := some e }, trace := trace' }

def forgeLog (strict : Bool) (op : Op) (f : Faults) (commitFault : Bool) (s : State) : Outcome :=
  match fires f 1 with
  | some kind =>
    { state := s, resp := { err := some (.store kind.err) }, trace := [traceEntry "root" "BeginTX" kind.err.toString] }
  | none =>
    match run op.now "t1" f (ikLookup op.ik op.ihash) { db := s.db, seq := s.seq, n := 1, trace := ["root BeginTX"] } with
    | (.error e, st1) => rolledBack s st1 "t1" f { err := some e }
    | (.ok (some log), st1) => rolledBack s st1 "t1" f { hit := true, log := some log }
    | (.ok none, st1) =>
      match run op.now "t1" f (runLog strict op.kind op.ik op.ihash op.sv 1) st1 with
      | (.error e, st2) =>
        if e = .store .deadlock ∨ e = .store .ikConflict then
          retryLoop strict op f commitFault s (f.length + 1) 2 2 st2.seq (st2.n + 1)
            (st2.trace ++ [rollbackEntry "t1" f (st2.n + 1)])
        else failedThenRecorded op s st2 "t1" f e
      | (.ok log, st2) => finish s st2 "t1" f commitFault op.dry log

/-- One write operation without faults. -/
def step (strict : Bool) (s : State) (op : Op) : State × Resp :=
  let o := forgeLog strict op [] false s
  (o.state, o.resp)

/-- One write operation under a fault plan (faults at given store calls, failing COMMIT). -/
def stepF (strict : Bool) (s : State) (op : Op) (f : Faults) (commitFault : Bool) : State × Resp :=
  let o := forgeLog strict op f commitFault s
  (o.state, o.resp)

/-- A sequential history. -/
def runHist (strict : Bool) (s : State) : List Op → State
  | [] => s
  | op :: r => runHist strict (step strict s op).1 r

end Ledger.Ctrl
