import Ledger.Ctrl.Store

/-!
Controller layer, part 3: controller code as a *program over store calls*
(free monad) and its runner.

A `Prog α` is the code that runs between `BeginTX` and `Commit`/`Rollback` on ONE
store handle (the transaction handle): every store call it makes is an explicit
`call` node, so "every write goes through the transaction handle" holds by
construction of the model — and is compared against the real code through the
trace (`handle method`) that the runner emits and memstore records.

The runner counts store calls (to inject a fault at the k-th one), threads the
tables and the sequences, and stops at the first failing call.
-/
namespace Ledger.Ctrl
open Ledger.Base Ledger.Core

/-- Controller-level errors (the response enum of the harness). -/
inductive Err where
  | store (e : StoreErr)
  | invalidIdempotencyInput
  | schemaNotFound
  | schemaNotSpecified
  | schemaValidation
  | schemaAlreadyExists
  | invalidSchema
  | alreadyReverted
  | insufficientFunds
  | metadataOverride
  | noPostings
  /-- an error of the Numscript runtime (oracle): its class -/
  | machine (kind : String)
  /-- injected COMMIT failure -/
  | commitFailed
  /-- the Go code panics (nil map entry in the non-forced revert check) -/
  | panic
  /-- the model's script oracle is missing / unreachable branch of the model -/
  | model (what : String)
  /-- the model's retry loop ran out of fuel (proved unreachable: `forgeLog_never_outOfFuel`) -/
  | outOfFuel
  deriving DecidableEq, Repr, Inhabited

def Err.toString : Err → String
  | .store e => e.toString
  | .invalidIdempotencyInput => "invalid-idempotency-input"
  | .schemaNotFound => "schema-not-found"
  | .schemaNotSpecified => "schema-not-specified"
  | .schemaValidation => "schema-validation"
  | .schemaAlreadyExists => "schema-already-exists"
  | .invalidSchema => "invalid-schema"
  | .alreadyReverted => "already-reverted"
  | .insufficientFunds => "insufficient-funds"
  | .metadataOverride => "metadata-override"
  | .noPostings => "no-postings"
  | .machine k => k
  | .commitFailed => "commit-failed"
  | .panic => "panic"
  | .model w => "model:" ++ w
  | .outOfFuel => "model:retry loop out of fuel"

inductive Prog (α : Type) where
  | pure : α → Prog α
  | fail : Err → Prog α
  | call : (c : Call) → (c.Ret → Prog α) → Prog α

namespace Prog

def bind {α β : Type} : Prog α → (α → Prog β) → Prog β
  | .pure a, f => f a
  | .fail e, _ => .fail e
  | .call c k, f => .call c (fun r => bind (k r) f)

instance : Monad Prog where
  pure := Prog.pure
  bind := Prog.bind

/-- One store call. -/
def op (c : Call) : Prog c.Ret := .call c .pure

end Prog

inductive FaultKind where
  | error | deadlock | cancel | ikConflict
  deriving DecidableEq, Repr, Inhabited

def FaultKind.err : FaultKind → StoreErr
  | .error => .injected
  | .deadlock => .deadlock
  | .cancel => .canceled
  | .ikConflict => .ikConflict

/-- Fail the `at`-th store call of the operation (1-based, counted over every
    call on any handle, `BeginTX` / `Commit` / `Rollback` included). -/
structure Fault where
  at_ : Nat
  kind : FaultKind
  deriving DecidableEq, Repr, Inhabited

/-- Runner state: the transaction's working tables, the (shared) sequences, the
    number of store calls made so far in this operation, the trace. -/
structure RunSt where
  db : Db
  seq : Seqs
  n : Nat := 0
  trace : List String := []
  deriving Repr, Inhabited

/-- A fault plan: any number of one-shot faults, each at its own call number
    (e.g. a deadlock in the first attempt and another one in the retried attempt). -/
abbrev Faults := List Fault

def fires (f : Faults) (n : Nat) : Option FaultKind :=
  match f.find? (fun x => x.at_ == n) with
  | some x => some x.kind
  | none => none

def traceEntry (h name err : String) : String :=
  h ++ " " ++ name ++ (if err = "" then "" else " !" ++ err)

/-- Run a program on handle `h`. -/
def run {α : Type} (now : Time) (h : String) (f : Faults) : Prog α → RunSt → Except Err α × RunSt
  | .pure a, st => (.ok a, st)
  | .fail e, st => (.error e, st)
  | .call c k, st =>
    let n := st.n + 1
    match fires f n with
    | some kind =>
      (.error (.store kind.err),
       { st with n := n, trace := st.trace ++ [traceEntry h c.name kind.err.toString] })
    | none =>
      match exec now c st.db st.seq with
      | (sq, .error e) =>
        (.error (.store e), { st with seq := sq, n := n, trace := st.trace ++ [traceEntry h c.name e.toString] })
      | (sq, .ok (r, d)) =>
        run now h f (k r)
          { db := d, seq := sq, n := n,
            trace := st.trace ++ [traceEntry h c.name (c.answerLabel r)] }

end Ledger.Ctrl
