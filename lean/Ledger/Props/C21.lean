import Ledger.Proofs.QueryPaginate

/-!
C21 — Cursor pagination enumerates each result exactly once, in order.

The model is `Ledger/Query/Paginate.lean` + `Cursor.lean` (hand-written from
`paginator_column.go`, `paginator_offset.go`, `cursor.go`, `resource.go`), tied to
the real `PaginatedResourceRepository.Paginate` / `BuildCursor` / cursor codec by
the `cursor` correspondence workload.

`T` is the filtered dataset in any order; `orderBy o T` is its `ORDER BY key o`.
`KeysDistinct T` is the "unique key" hypothesis; `fuel` only bounds the number of
pages followed (any value ≥ `T.length + 1` works: the walk stops by itself).
-/
namespace Ledger.C21
open Ledger.Query

/-- **Column pagination is complete and duplicate-free, in order, for every page
    size** (`pageSize = 0` means the default 15): following `next` from the first
    page yields pages whose concatenation is the whole listing in the requested
    order; the last page has no `next`; no page is longer than the page size. -/
theorem column_pagination_complete {φ : Type} (rest : φ) (o : Order) (T : List Row)
    (hT : KeysDistinct T) (pageSize fuel : Nat) (hfuel : fuel ≥ T.length + 1) :
    ((walkNextCol fuel (ColQuery.initial pageSize o rest) T).map (·.data)).flatten = orderBy o T ∧
    (∃ last, (walkNextCol fuel (ColQuery.initial pageSize o rest) T).getLast? = some last ∧
      last.next = none ∧ last.hasMore = false) ∧
    (∀ p ∈ walkNextCol fuel (ColQuery.initial pageSize o rest) T,
      p.data.length ≤ effPageSize pageSize) :=
  FwdAt.walk hT fuel (FwdAt.initial o T pageSize rest) (by rw [orderBy_length]; exact hfuel)

/-- Every row is listed exactly once: the concatenated pages are a permutation of
    the dataset (and, by `column_pagination_complete`, in order). -/
theorem column_pagination_each_once {φ : Type} (rest : φ) (o : Order) (T : List Row)
    (hT : KeysDistinct T) (pageSize fuel : Nat) (hfuel : fuel ≥ T.length + 1) :
    (((walkNextCol fuel (ColQuery.initial pageSize o rest) T).map (·.data)).flatten).Perm T := by
  rw [(column_pagination_complete rest o T hT pageSize fuel hfuel).1]
  exact orderBy_perm o T

/-- On a table already sorted by its unique key the listing is the table itself
    (ascending) or its reverse (descending). -/
theorem orderBy_of_sorted (T : List Row) (h : T.Pairwise (fun a b => a.key < b.key)) :
    orderBy .asc T = T ∧ orderBy .desc T = T.reverse := by
  have hT : KeysDistinct T := List.pairwise_map.mpr (h.imp Int.ne_of_lt)
  have h1 : orderBy .asc T = T :=
    List.mergeSort_of_pairwise (h.imp fun hab => decide_eq_true (Int.le_of_lt hab))
  exact ⟨h1, (orderBy_rev .asc T hT).trans (congrArg List.reverse h1)⟩

/-- **The previous cursor of a forward page returns the page before**: for a page
    that starts at row `x` with `pre` the rows listed before it, `previous` is absent
    iff `pre` is empty; otherwise following it returns the `pageSize` rows immediately
    before `x` (all of `pre` when there are fewer), its `next` cursor is the current
    page's query again, and its own `previous` (present iff more rows precede) is
    positioned on its first row. `b` is `bottom`: the first key of the listing. -/
theorem previous_is_page_before {φ : Type} (o : Order) (T : List Row) (hT : KeysDistinct T)
    (q : ColQuery φ) (pre suf : List Row) (x : Row) (b : Int)
    (hS : orderBy o T = pre ++ x :: suf) (ho : q.order = some o) (hrev : q.reverse = false)
    (hpid : q.paginationID = some x.key) (hb : q.bottom = some b)
    (hbot : ∀ y ∈ (pre ++ [x]).head?, b = y.key) :
    ∃ p, paginateCol q T = .ok p ∧
      (pre = [] → p.previous = none) ∧
      (pre ≠ [] → ∃ qp pp, p.previous = some qp ∧ paginateCol qp T = .ok pp ∧
        pp.data = pre.drop (pre.length - effPageSize q.pageSize) ∧ pp.next = some q ∧
        (pre.length ≤ effPageSize q.pageSize → pp.previous = none) ∧
        (effPageSize q.pageSize < pre.length →
          ∃ z, (pre.drop (pre.length - effPageSize q.pageSize)).head? = some z ∧
            pp.previous = some { qp with paginationID := some z.key })) := by
  obtain ⟨hlt, _⟩ := StrictSorted.split (hS ▸ strictSorted_orderBy o T hT)
  refine ⟨_, by rw [paginateCol_eq ho, buildCursorCol_fwd q o _ hrev], ?_, ?_⟩
  · rintro rfl
    simp only [hpid, hb, firstBottom, hbot x rfl, if_neg (o.lt_irrefl _)]
  · intro hpre
    obtain ⟨y, pre', rfl⟩ := List.exists_cons_of_ne_nil hpre
    have hby : o.lt b x.key := hbot y rfl ▸ hlt y List.mem_cons_self
    have hq : ({ q with bottom := some b, paginationID := some x.key, reverse := false } :
        ColQuery φ) = q := by
      cases q; cases hb; cases hrev; cases hpid; rfl
    have hps := effPageSize_pos q.pageSize
    have hlen : ∀ n, (((y :: pre').reverse).take n).length = min n (y :: pre').length := by
      intro n; rw [List.length_take, List.length_reverse]
    refine ⟨{ q with bottom := some b, reverse := true }, _,
      by simp only [hpid, hb, firstBottom, if_pos hby],
      by rw [paginateCol_eq (q := { q with bottom := some b, reverse := true }) ho, hpid,
        fetchCol_rev o T hT q.pageSize _ suf x hS, buildCursorCol_rev _ o _ rfl],
      ?_, ?_, ?_, ?_⟩
    · simp only [take_succ_keep]
      rw [List.take_reverse, List.reverse_reverse]
    · simp only [firstBottom, hq]
    · intro hle
      simp only [hlen]
      rw [if_neg (by omega)]
    · intro hm
      simp only [hlen, firstBottom]
      rw [if_pos (by omega), dropLast_take_succ (by rw [List.length_reverse]; exact hm),
        List.take_reverse, List.getLast?_reverse]
      cases hz : ((y :: pre').drop ((y :: pre').length - effPageSize q.pageSize)).head? with
      | some z => exact ⟨z, rfl, rfl⟩
      | none =>
        have := List.drop_eq_nil_iff.mp (List.head?_eq_none_iff.mp hz)
        omega

/-- **Offset pagination is complete** (string-sorted listings: accounts by address,
    volumes by account): following `next` from offset 0 yields the whole listing in
    order, for every page size (`0` = no limit). The listing order is the one
    `orderBy` fixes for the whole walk (*StableTies*: every page sees the same total
    order even when the sort column has ties, as for volumes sorted by `account`).
    The code refuses offsets above `MaxInt32`, hence the bound on the table. -/
theorem offset_pagination_complete {φ : Type} (rest : φ) (o : Order) (T : List Row)
    (hmax : T.length ≤ maxInt32) (pageSize fuel : Nat) (hfuel : fuel ≥ T.length + 1) :
    ((walkNextOff fuel (OffQuery.initial pageSize o rest) T).map (·.data)).flatten = orderBy o T ∧
    (∃ last, (walkNextOff fuel (OffQuery.initial pageSize o rest) T).getLast? = some last ∧
      last.next = none) :=
  walkNextOff_drop hmax fuel (q := OffQuery.initial pageSize o rest) rfl (Nat.zero_le _)
    (Nat.lt_of_succ_le hfuel)

/-- Cursors survive encoding: decoding the JSON tree of a column / offset query
    gives the query back. -/
theorem cursor_roundtrip_col (q : ColQuery CursorRest) :
    decodeCursor (encodeCol q) = .ok (.column q) := by
  have h1 : (encodeCol q).get "column" = some (.str q.rest.column) := rfl
  have h2 : (encodeCol q).get "order" = some (optJ Order.toJ q.order) := rfl
  have h3 : (encodeCol q).get "pageSize" = some (.num q.pageSize) := rfl
  have h4 : (encodeCol q).get "filters" = some q.rest.filters := rfl
  have h5 : (encodeCol q).get "offset" = none := rfl
  have h6 : (encodeCol q).get "bottom" = some (optJ J.num q.bottom) := rfl
  have h7 : (encodeCol q).get "paginationID" = some (optJ J.num q.paginationID) := rfl
  have h8 : (encodeCol q).get "reverse" = some (.bool q.reverse) := rfl
  generalize he : encodeCol q = j at *
  obtain ⟨kvs, rfl⟩ : ∃ kvs, j = .obj kvs := ⟨_, he.symm⟩
  rw [decodeCursor, h1, h2, h3, h4, h5, h6, h7, h8, decOrder_toJ, decNat_num, decOptInt_num,
    decOptInt_num]
  rfl

theorem cursor_roundtrip_off (q : OffQuery CursorRest) :
    decodeCursor (encodeOff q) = .ok (.offset q) := by
  have h1 : (encodeOff q).get "column" = some (.str q.rest.column) := rfl
  have h2 : (encodeOff q).get "order" = some (optJ Order.toJ q.order) := rfl
  have h3 : (encodeOff q).get "pageSize" = some (.num q.pageSize) := rfl
  have h4 : (encodeOff q).get "filters" = some q.rest.filters := rfl
  have h5 : (encodeOff q).get "offset" = some (.num q.offset) := rfl
  generalize he : encodeOff q = j at *
  obtain ⟨kvs, rfl⟩ : ∃ kvs, j = .obj kvs := ⟨_, he.symm⟩
  rw [decodeCursor, h1, h2, h3, h4, h5, decOrder_toJ, decNat_num]
  simp only [if_neg (Int.not_lt.mpr (Int.natCast_nonneg _)), Int.toNat_natCast]
  rfl

/-- Non-vacuity: the hypotheses hold on a concrete seven-row table given out of
    order, and the theorem then says the pages of size 3 in descending order
    concatenate to the sorted listing and that the walk stops. -/
example : KeysDistinct [⟨4, 0⟩, ⟨9, 1⟩, ⟨1, 2⟩, ⟨7, 3⟩, ⟨2, 4⟩, ⟨6, 5⟩, ⟨5, 6⟩] := by unfold KeysDistinct; decide

example :
    let T : List Row := [⟨1, 2⟩, ⟨2, 4⟩, ⟨4, 0⟩, ⟨5, 6⟩, ⟨6, 5⟩, ⟨7, 3⟩, ⟨9, 1⟩]
    ((walkNextCol 8 (ColQuery.initial 3 .desc ()) T).map (·.data)).flatten = T.reverse := by
  intro T
  have hs : T.Pairwise (fun a b => a.key < b.key) := by decide
  have hd : KeysDistinct T := by unfold KeysDistinct; decide
  rw [(column_pagination_complete () .desc T hd 3 8 (by decide)).1, (orderBy_of_sorted T hs).2]

/-- A single page computed by hand on an already ordered three-row listing: page
    size 2 keeps two rows, `hasMore`, and positions `next` on the third row. -/
example :
    (buildCursorCol (ColQuery.initial 2 .asc ()) .asc [⟨1, 0⟩, ⟨2, 1⟩, ⟨3, 2⟩]).toOption.map
      (fun p => (p.data.map (·.key), p.hasMore, p.next.bind (·.paginationID), p.next.bind (·.bottom)))
    = some ([1, 2], true, some 3, some 1) := by decide

end Ledger.C21
