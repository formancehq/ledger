import Ledger.Proofs.Reads
import Ledger.Props.C02

/-!
C02 (read path) — account reads, volume listings and balance queries report the fold of the
committed postings.

Only property theorems and non-vacuity examples.  `currentVolumes` (`Reads/Views.lean`) is what
every read without a point in time works on (`GetAccount` / `ListAccounts` with
`expand=volumes|effectiveVolumes`, `GetVolumesWithBalances`, `GetAggregatedBalances`): the
theorems say its rows are the Spec fold and, through `Ledger.C02.volumes_eq_fold` /
`row_of_touched`, exactly the rows of `accounts_volumes` on every reachable abstract store (extra
table rows are the zero rows the balance lock creates, DESIGN §3.0).  The SQL → `Ledger.Reads`
step is TESTED over LeanPG (the modelled Postgres), not proved.
-/
namespace Ledger.C02r
open Ledger.Base Ledger.Core Ledger.Spec Ledger.Reads

/-- Every listed row holds (Σ postings crediting, Σ postings debiting) over all committed
    transactions, reverts included. -/
theorem listed_volumes_eq_fold (txs : List TxRec) (e : Key × Volumes) (h : e ∈ currentVolumes txs) :
    e.2 = volumesOf txs e.1 ∧ e.2.balance = balanceOf txs e.1 := by
  have := currentVolumes_row txs e h
  exact ⟨this, by rw [this]; rfl⟩

/-- A pair is listed iff some committed posting touches it (zero-amount postings included). -/
theorem listed_iff_touched (txs : List TxRec) (k : Key) :
    k ∈ (currentVolumes txs).keys ↔ touches k (allPostings txs) = true :=
  mem_currentVolumes_keys txs k

/-- The volumes an account read reports (`expand=volumes`, no point in time): per asset, the fold
    of the postings on that account. -/
theorem account_volumes_eq_fold (txs : List TxRec) (a : String) (e : String × Volumes)
    (h : e ∈ ofAccount (currentVolumes txs) a) : e.2 = volumesOf txs (a, e.1) := by
  unfold ofAccount at h
  obtain ⟨x, hx, rfl⟩ := List.mem_map.mp h
  obtain ⟨hx1, hx2⟩ := List.mem_filter.mp hx
  have ha : x.1.1 = a := by simpa using hx2
  have := currentVolumes_row txs x hx1
  rw [this, ← ha]

/-- **On every reachable abstract store, every listed row is the `accounts_volumes` row.** -/
theorem listed_row_is_table_row (ops : List StoreOp) (st : Store) (h : runOps ops = .ok st)
    (e : Key × Volumes) (he : e ∈ currentVolumes st.txRecs) :
    st.accountsVolumes.get? e.1 = some e.2 := by
  obtain ⟨ht, hv⟩ := (mem_currentVolumes_iff _ e).mp he
  rw [hv]
  exact Ledger.C02.row_of_touched ops st h e.1 ht

/-- Conversely a table row is listed with the same value, or it is a zero row (balance lock) —
    "fold ≠ (0,0) ⇒ listed". -/
theorem table_row_listed_or_zero (ops : List StoreOp) (st : Store) (h : runOps ops = .ok st)
    (k : Key) (v : Volumes) (hv : st.accountsVolumes.get? k = some v) :
    (k, v) ∈ currentVolumes st.txRecs ∨ v = Volumes.zero := by
  rcases Ledger.C02.volumes_eq_fold ops st h k with h1 | ⟨h1, _⟩
  · rw [h1] at hv
    cases hv
    by_cases ht : touches k (allPostings st.txRecs) = true
    · exact Or.inl ((mem_currentVolumes_iff _ _).mpr ⟨ht, rfl⟩)
    · exact Or.inr (foldVolumes_untouched (by simpa using ht))
  · rw [h1] at hv; cases hv

example :
    currentVolumes [{ id := 1, postings := [⟨"world", "a", 10, "USD"⟩, ⟨"a", "b", 4, "USD"⟩, ⟨"b", "b", 0, "EUR"⟩],
                      timestamp := 5, insertedAt := 7 }] =
      [(("a", "USD"), ⟨10, 4⟩), (("b", "EUR"), ⟨0, 0⟩), (("b", "USD"), ⟨4, 0⟩), (("world", "USD"), ⟨0, 10⟩)] := by decide

end Ledger.C02r
