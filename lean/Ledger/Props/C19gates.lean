import Ledger.Proofs.Gates

/-!
C19 (scoped reads) — theorem over the REGENERATED read-shape matrix
(`Ledger.Generated.readShapeCodes`, rebuilt from /repo on every run by
`tools/t1_readshapes`: the real store read paths rendered over a recording
driver for every resource × call × PIT/OOT × date mode × expand × filter ×
feature set × alone-in-bucket).  The quantifier is a finite table regenerated
from the source, so `decide +kernel` over the whole table (one evaluation for the
three gates, `every_read_ok` in `Proofs/Gates.lean`, of which this theorem is a
component) is a proof about the current tree, not a sample.
-/
namespace Ledger.C19gates
open Ledger.Gates Ledger.Generated Ledger.GatesProps

/-- Unless alone in its bucket, every bucket-table reference of every rendered
    read carries `ledger = '<this ledger>'`, and none names another ledger. -/
theorem every_read_scoped :
    ∀ c ∈ readShapeCodes, (Shape.ofCode c).scopedOk = true :=
  fun c hc => ((Shape.ok_iff _).1 (every_read_ok c hc)).2.2

/-- Non-vacuity: shared-bucket shapes with several table references exist. -/
example :
    (readShapeChunks.any fun ch => ch.any fun c =>
      (Shape.ofCode c).err == .ok && !(Shape.ofCode c).alone && 2 ≤ (Shape.ofCode c).baseRefs) = true := by
  decide +kernel

end Ledger.C19gates
