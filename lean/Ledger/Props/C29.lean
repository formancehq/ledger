import Ledger.Proofs.ChartEnforce

/-!
C29 — Schema enforcement and chart semantics.

The model (`Ledger/Chart/Enforce.lean`) mirrors `logProcessor.runLog`,
`DefaultController.createTransaction`, `Transaction.AccountsWithDefaultMetadata`
and the SQL merge of `Store.UpsertAccounts`; it is tied to the real controller by
the `enforce` workload (real controller + compiler + VM over an in-memory store)
and, for `FindAccountSchema`, by `chartrt` / `classify`. All statements are about
the decision and merge functions, for every ledger state, request and chart;
`ops` stands for Go's `regexp` on segment patterns.

Deviation from the wording of the property, modelled as the code behaves: a write
that names a schema version that does not exist is rejected in audit mode too
(`version_must_exist` holds for both modes); audit mode accepts a missing version,
a missing template and chart violations (`audit_accepts`).

Atomicity of a rejection ("no effect") is the SQL transaction's rollback: in the
model a rejected decision leaves the state unchanged by definition
(`rejected_no_effect`); on the real code the `enforce` workload checks that a
rejected write is rolled back, never committed, and leaves the store unchanged.
-/
namespace Ledger.C29
open Ledger.Chart

/-- Strict mode, ledger with at least one schema: a write that names no schema
    version is rejected. -/
theorem strict_requires_version (ops : RegexOps) (st : State) (req : TxRequest)
    (hs : st.schemas ≠ []) (hv : req.schemaVersion = "") :
    enforce ops .strict st req = .reject .schemaNotSpecified := by
  have := List.isEmpty_eq_false_iff.2 hs
  simp [enforce, resolveSchema, hv, this, throw, throwThe, MonadExceptOf.throw]

/-- Any mode: naming a version that does not exist is rejected. -/
theorem version_must_exist (ops : RegexOps) (mode : Mode) (st : State) (req : TxRequest)
    (hv : req.schemaVersion ≠ "") (hf : findSchema st.schemas req.schemaVersion = none) :
    enforce ops mode st req = .reject .schemaNotFound := by
  simp [enforce, resolveSchema, hv, hf, throw, throwThe, MonadExceptOf.throw]

/-- Strict mode: every posting of an accepted write under schema `s` has source and
    destination accepted by the chart of `s`. -/
theorem strict_rejects_unknown_account (ops : RegexOps) (st : State) (req : TxRequest) (s : Schema)
    (hv : req.schemaVersion ≠ "") (hf : findSchema st.schemas req.schemaVersion = some s)
    (ps : List Posting) (ups : List Upsert) (w : List Warning)
    (h : enforce ops .strict st req = .accept ps ups w) :
    ∀ p ∈ ps, (classifyAddr ops s.chart p.source).isSome = true ∧
      (classifyAddr ops s.chart p.destination).isSome = true := by
  simp only [enforce, resolveSchema, hv, hf, ne_eq, not_false_eq_true, ite_true, pure, Except.pure] at h
  split at h
  · cases h
  · rename_i ps' w2 hsel
    split at h
    · cases h
    · split at h
      · rename_i hval
        cases h
        intro p hp
        exact validatePosting_classify ops s.chart _ _ (validatePostings_mem ops s.chart ps hval p hp)
      · cases h

/-- … and conversely a posting outside the chart makes strict mode reject with the
    chart's error, whatever else the request contains. -/
theorem strict_chart_violation_rejected (ops : RegexOps) (st : State) (req : TxRequest) (s : Schema)
    (hv : req.schemaVersion ≠ "") (hf : findSchema st.schemas req.schemaVersion = some s)
    (ps : List Posting) (w : List Warning) (hsel : selectScript .strict (some s) req = .ok (ps, w))
    (hne : ps ≠ []) (e : FindErr) (hval : validatePostings ops s.chart ps = .error e) :
    enforce ops .strict st req = .reject (.chart e) := by
  have := List.isEmpty_eq_false_iff.2 hne
  simp [enforce, resolveSchema, hv, hf, hsel, this, hval, pure, Except.pure]

/-- Strict mode: when the schema defines templates, a write without template is
    rejected. -/
theorem strict_requires_template (ops : RegexOps) (st : State) (req : TxRequest) (s : Schema)
    (hv : req.schemaVersion ≠ "") (hf : findSchema st.schemas req.schemaVersion = some s)
    (ht : s.templates ≠ []) (hreq : req.template = "") :
    enforce ops .strict st req = .reject .templateRequired := by
  have := List.isEmpty_eq_false_iff.2 ht
  simp [enforce, resolveSchema, selectScript, hv, hf, this, hreq, pure, Except.pure, throw, throwThe,
    MonadExceptOf.throw]

/-- Audit mode never rejects for a missing version, a missing template or a chart
    violation: the only rejections left are an unknown version, an unknown
    template, a template on a schema without templates, and a script that does not
    run. -/
theorem audit_accepts (ops : RegexOps) (st : State) (req : TxRequest) (r : Reject)
    (h : enforce ops .audit st req = .reject r) :
    r = .schemaNotFound ∨ r = .templateNotFound ∨ r = .noTemplateDefinitions ∨ r = .compile := by
  simp only [enforce] at h
  split at h
  · cases h; exact .inl (resolveSchema_audit_error ‹_›)
  split at h
  · cases h; exact .inr ((selectScript_audit_error ‹_›).imp_right .inl)
  split at h
  · cases h; exact .inr (.inr (.inr rfl))
  -- past these three stages audit mode accepts
  repeat' split at h
  all_goals cases h

/-- Audit mode, concretely: a plain script that produces postings is accepted on a
    ledger with schemas when no version is named … -/
theorem audit_accepts_missing_version (ops : RegexOps) (st : State) (req : TxRequest)
    (hv : req.schemaVersion = "") (ht : req.template = "") (hp : req.plain ≠ []) :
    ∃ ups w, enforce ops .audit st req = .accept req.plain ups w := by
  have := List.isEmpty_eq_false_iff.2 hp
  cases hs : st.schemas.isEmpty <;>
    simp [enforce, resolveSchema, selectScript, hv, ht, hs, this, pure, Except.pure]

/-- … and under a named schema it is accepted whatever the chart says and whether
    or not the schema defines templates. -/
theorem audit_accepts_violations (ops : RegexOps) (st : State) (req : TxRequest) (s : Schema)
    (hv : req.schemaVersion ≠ "") (hf : findSchema st.schemas req.schemaVersion = some s)
    (ht : req.template = "") (hp : req.plain ≠ []) :
    ∃ ups w, enforce ops .audit st req = .accept req.plain ups w := by
  have := List.isEmpty_eq_false_iff.2 hp
  cases hts : s.templates.isEmpty <;> cases hval : validatePostings ops s.chart req.plain <;>
    simp [enforce, resolveSchema, selectScript, hv, hf, ht, hts, this, hval, pure, Except.pure]

/-- A rejected write has no effect on the ledger. -/
theorem rejected_no_effect (st : State) (r : Reject) : applyDecision st (.reject r) = st := rfl

/-- Default metadata: on first creation a key gets the explicit value if there is
    one, else the chart's default; on an existing account defaults play no role at
    all – every key keeps its stored value unless the write sets it explicitly. -/
theorem defaults_on_first_creation_only (u : Upsert) (m : Meta) (k : List Char) :
    (upsertMeta none u).lookup k =
        (match u.explicit.lookup k with | some v => some v | none => u.defaults.lookup k) ∧
    (upsertMeta (some m) u).lookup k =
        (match u.explicit.lookup k with | some v => some v | none => m.lookup k) := by
  simp only [upsertMeta, lookup_mergeMeta]
  exact ⟨rfl, rfl⟩

/-- In particular an existing value is never overwritten by a default. -/
theorem defaults_never_overwrite (u : Upsert) (m : Meta) (k : List Char) (v : String)
    (hm : m.lookup k = some v) (he : u.explicit.lookup k = none) :
    (upsertMeta (some m) u).lookup k = some v := by
  rw [(defaults_on_first_creation_only u m k).2, he, hm]

/-- The defaults handed to the store are the chart's defaults of the account's
    schema (none when the write runs without schema or the chart rejects the
    address). -/
theorem upserts_carry_chart_defaults (ops : RegexOps) (schema : Option Schema) (ps : List Posting)
    (am : List (List Char × Meta)) :
    ∀ u ∈ upsertsFor ops schema ps am, u.defaults = defaultsFor ops schema u.address := by
  intro u hu
  simp only [upsertsFor, List.mem_map] at hu
  obtain ⟨a, _, rfl⟩ := hu
  rfl

/-- The defect repaired by fix 8ad9995, on the old lookup: audit mode rejected a
    template-less write on a schema with templates. -/
theorem audit_template_legacy_counterexample :
    (match selectScriptLegacy .audit (some sampleSchema)
        { schemaVersion := "v1", template := "", plain := [samplePosting "bank" "bank"], accountMetadata := [] } with
      | .error .templateNotFound => true | _ => false) = true ∧
    (match selectScript .audit (some sampleSchema)
        { schemaVersion := "v1", template := "", plain := [samplePosting "bank" "bank"], accountMetadata := [] } with
      | .ok (ps, [.templateRequired]) => ps == [samplePosting "bank" "bank"] | _ => false) = true := by
  constructor <;> decide +kernel

-- strict: no version on a ledger with schemas
example : sampleState.schemas ≠ [] := by decide +kernel
-- strict: a posting outside the chart is rejected with the chart's error, inside it is accepted
example : (match enforce sampleOps .strict sampleState
    { schemaVersion := "v0", template := "", plain := [samplePosting "bank" "users:x1:main"], accountMetadata := [] } with
    | .reject (.chart _) => true | _ => false) = true := by decide +kernel
example : (match enforce sampleOps .strict sampleState
    { schemaVersion := "v0", template := "", plain := [samplePosting "bank" "users:42:main"], accountMetadata := [] } with
    | .accept _ ups _ => ups.map (·.defaults) | _ => []) = [[], [("kind".toList, "wallet")]] := by decide +kernel
-- audit accepts the same violation
example : (match enforce sampleOps .audit sampleState
    { schemaVersion := "v0", template := "", plain := [samplePosting "bank" "users:x1:main"], accountMetadata := [] } with
    | .accept _ _ w => w.length | _ => 0) = 1 := by decide +kernel
example : (match enforce sampleOps .strict sampleState
    { schemaVersion := "v1", template := "pay", plain := [], accountMetadata := [] } with
    | .accept ps _ _ => ps.length | _ => 0) = 1 := by decide +kernel
example : upsertMeta (some [("kind".toList, "old")])
    { address := "a".toList, explicit := [("x".toList, "1")], defaults := [("kind".toList, "wallet"), ("tier".toList, "0")] }
    = [("x".toList, "1"), ("kind".toList, "old")] := by decide +kernel
example : upsertMeta none
    { address := "a".toList, explicit := [("x".toList, "1")], defaults := [("kind".toList, "wallet")] }
    = [("x".toList, "1"), ("kind".toList, "wallet")] := by decide +kernel

end Ledger.C29
