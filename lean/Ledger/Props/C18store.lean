import Ledger.Proofs.CoreAccounts
import Ledger.Spec.Hist

/-!
C18 (abstract-store / algebra part; the controller-level C18 theorems live in `Props/C18.lean`).

`Spec.upsertAccount` is a hand-written image of one row of the `UpsertAccounts` CTE
(`first_usage = LEAST(d.first_usage, a.first_usage)`, update only when it lowers the date or
adds metadata, insert-if-absent with the transaction's timestamp / insertion date).
Metadata-only accounts (`saveMeta` on a new address) live at the `World` level
(`Spec/Hist.lean`) and are compared by the `hist` handler, not proved here.
-/
namespace Ledger.C18store
open Ledger.Base Ledger.Core Ledger.Spec

/-- In every reachable store (commits with arbitrary timestamps, metadata saved directly on
    accounts, locks, reverted marks), an account's row carries exactly the fold over the
    operations: a commit involving it — as a posting side or through account metadata —
    creates it with (timestamp, insertion date) or lowers its first usage to an earlier
    timestamp; metadata saved on a missing account creates it with both dates = the write's
    date; nothing else touches the dates. -/
theorem accounts_follow_history (ops : List StoreOp) (st : Store) (h : runOps ops = .ok st) (a : String) :
    (st.accounts.get? a).map AccountRow.dates = datesOfOps ops a :=
  (AccountsInv_runOps h).dates a

/-- An account is listed iff some committed transaction involves it or metadata was saved on
    it (metadata-only accounts included). -/
theorem account_listed_iff (ops : List StoreOp) (st : Store) (h : runOps ops = .ok st) (a : String) :
    st.accounts.contains a = true ↔
      ((∃ t, StoreOp.commit t ∈ ops ∧ t.involves a = true) ∨ (∃ at_ md, StoreOp.saveAccountMeta a at_ md ∈ ops)) := by
  rw [← datesOfOps_isSome_iff, ← accounts_follow_history ops st h a, Option.isSome_map, Map.contains]

/-- One more operation on an existing account: the first usage is lowered to a committed
    transaction's timestamp when that is earlier (back-dated), never raised; the insertion date
    never changes. -/
theorem first_usage_is_min (a : String) (fu ins : Int) (o : StoreOp) :
    ∃ fu', accountEventStep a (some (fu, ins)) o = some (fu', ins) ∧ fu' ≤ fu ∧
      (∀ t, o = .commit t → t.involves a = true → fu' ≤ t.timestamp) :=
  accountEventStep_mono a fu ins o

/-- Claim of the property as worded ("first usage is the earliest effective timestamp among
    the transactions involving the account"), over whole histories incl. reverts — kept
    type-checked; FALSE for the real code (known finding
    `C18:first-usage-not-earliest-effective-timestamp`): `revertTransaction` commits the revert
    transaction without `upsertTransactionAccounts`. -/
def first_usage_is_earliest : Prop :=
  ∀ (ops : List Op) (a : String) (fu : Int),
    firstUsage (World.run {} ops).1.ledger a = some fu →
    ∀ t ∈ (World.run {} ops).1.ledger.txs, t.involves a = true → fu ≤ t.timestamp

/-- Witness: a FUTURE-dated transaction (timestamp 100, written at 10) reverted now (at 20, not
    at the effective date): the revert transaction is dated 20 and involves `a`, but `a`'s
    first usage stays 100 — in the journal fold and in the abstract `accounts` table alike. -/
theorem first_usage_is_min_counterexample : ¬ first_usage_is_earliest := by
  intro h
  have := h [.tx 10 (some 100) [⟨"world", "a", 5, "USD"⟩] "" [] [] true, .revert 20 1 true false []] "a" 100
    (by decide)
    { id := 2, postings := [⟨"a", "world", 5, "USD"⟩], timestamp := 20, insertedAt := 20,
      metadata := [("com.formance.spec/state/reverts", "1")] }
    (by decide) (by decide)
  exact absurd this (by decide)

example : ((World.run {} [.tx 10 (some 100) [⟨"world", "a", 5, "USD"⟩] "" [] [] true, .revert 20 1 true false []]).1.store.accounts.get? "a").map
    (·.firstUsage) = some 100 := by decide

/-- What does hold: the first usage stored for an account is a lower bound of the timestamps
    of the committed transactions that upsert their accounts (every transaction except the ones
    a revert commits) and involve it, and it is attained: by one of those transactions, or by
    the date of the metadata write that created the account. -/
theorem first_usage_is_min_partial (ops : List StoreOp) (st : Store) (h : runOps ops = .ok st) (a : String)
    (r : AccountRow) (hr : st.accounts.get? a = some r) :
    (∀ t, StoreOp.commit t ∈ ops → t.involves a = true → r.firstUsage ≤ t.timestamp) ∧
    ((∃ t, StoreOp.commit t ∈ ops ∧ t.involves a = true ∧ t.timestamp = r.firstUsage) ∨
     (∃ md, StoreOp.saveAccountMeta a r.firstUsage md ∈ ops)) :=
  firstUsage_min_of_dates a ops r.firstUsage r.insertionDate
    (by rw [← accounts_follow_history ops st h a, hr]; rfl)

/-- The table stays key-sorted without duplicates. -/
theorem accounts_wf (ops : List StoreOp) (st : Store) (h : runOps ops = .ok st) : Map.WF st.accounts :=
  (AccountsInv_runOps h).wf

example : (runOps [.commit { postings := [⟨"world", "a", 10, "USD"⟩], timestamp := 5, insertedAt := 7 },
                   .saveAccountMeta "only:meta" 6 [("x", "y")],
                   .commit { postings := [⟨"a", "b", 4, "USD"⟩], timestamp := 1, insertedAt := 8, accountMetadata := [("m", [("k", "v")])] },
                   .saveAccountMeta "a" 9 [("x", "y")]]).toOption.map
            (fun st => st.accounts.map (fun e => (e.1, e.2.firstUsage, e.2.insertionDate))) =
          some [("a", 1, 7), ("b", 1, 8), ("m", 1, 8), ("only:meta", 6, 6), ("world", 5, 7)] := by decide

end Ledger.C18store
