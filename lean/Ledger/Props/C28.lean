import Ledger.Proofs.ChartPosting

/-!
C28 — Stored transactions only contain well-formed postings (chart / grammar part).

The regex ASTs (`Ledger.Generated.Grammar`) are regenerated on every check by `tools/t4_grammar`
from `NumScript.g4` and from the Go pattern constants; a change on either side
changes the terms these theorems are about. `Lang` is the denotational semantics
of `Ledger/Base/Regex.lean`; `accepts` (used by `validAddress` / `validAsset`) is
proved equivalent to it (`Ledger.Regex.accepts_iff`).

What is NOT proved here: that every path of the ledger that creates a
transaction runs these validators (postings path: `Postings.Validate`; script
variables: `machine.ValidateAsset` / `ValidateAccountAddress`; import) – that is
the controller / machine builders' part. Literals of a script are covered:
account literals by the grammar itself (`account_literal_ok`), asset literals by
the compiler's call of `machine.ValidateAsset` (`asset_literal_ok`; the lexer rule
alone is too wide, `asset_literal_counterexample`, which is why the call is
needed – before fix 6f26ac5 it was missing, `asset_literal_legacy_counterexample`).
-/
namespace Ledger.C28
open Ledger.Regex Ledger.Chart Ledger.Generated.Grammar

/-- Whatever `Postings.Validate` lets through is well-formed: amount present and
    non-negative, source and destination in the language of the account pattern,
    asset in the language of the asset pattern. Any list, any position. -/
theorem validate_ok_wellformed (ps : List RawPosting) (i : Nat)
    (h : postingsValidate ps i = none) : ∀ p ∈ ps, WellFormed p := by
  induction ps generalizing i with
  | nil => intro p hp; cases hp
  | cons q rest ih =>
    obtain ⟨hq, hrest⟩ := postingsValidate_cons h
    intro p hp
    rcases List.mem_cons.1 hp with rfl | hp
    · exact hq
    · exact ih _ hrest p hp

/-- The body of the lexer rule `ACCOUNT` (after the `@`) and the account pattern
    between its anchors are the same expression, hence the same language: every
    account literal a script can contain is a valid address. -/
theorem account_literal_ok (lexBody patBody : Re)
    (hl : lexAccount.dropFirstChr '@' = some lexBody) (hp : accountPattern.unanchor = some patBody)
    (s : List Char) : Lang lexBody s ↔ Lang patBody s := by
  have e : lexAccount.dropFirstChr '@' = accountPattern.unanchor := by decide +kernel
  have : lexBody = patBody := Option.some.inj (hl.symm.trans (e.trans hp))
  rw [this]

/-- The same statement on the executable validator: the text of a token of the
    lexer rule `ACCOUNT`, stripped of its first character as the compiler does
    (`c.GetText()[1:]`), passes `accounts.ValidateAddress`. -/
theorem account_literal_valid (tok : List Char) (h : Lang lexAccount tok) :
    validAddress (compileAccountLiteral tok) = true := by
  obtain ⟨lexBody, hl⟩ : ∃ b, lexAccount.dropFirstChr '@' = some b := ⟨_, rfl⟩
  obtain ⟨patBody, hp⟩ : ∃ b, accountPattern.unanchor = some b := ⟨_, rfl⟩
  rw [dropFirstChr_spec hl] at h
  obtain ⟨s1, s2, rfl, h1, h2⟩ := lang_cat.1 h
  obtain ⟨c, rfl, _⟩ := lang_cls.1 h1
  exact (matchAnchored_iff hp s2).2 ((account_literal_ok lexBody patBody hl hp s2).1 h2)

/-- An asset literal the compiler accepts is the token text unchanged and lies in
    the language of the asset pattern (`VisitLit` calls `machine.ValidateAsset`). -/
theorem asset_literal_ok (tok a : List Char) (h : compileAssetLiteral tok = .ok a) :
    a = tok ∧ ∃ body, assetPattern.unanchor = some body ∧ Lang body a := by
  unfold compileAssetLiteral at h
  split at h
  · rename_i hv
    cases h
    exact ⟨rfl, matchAnchored_lang hv⟩
  · cases h

/-- A posting whose operands are all literals of a script that compiles is
    well-formed (tokens of `ACCOUNT`, `ASSET`, `NUMBER`). -/
theorem literal_posting_wellformed (srcTok dstTok assetTok numTok : List Char) (p : RawPosting)
    (hs : Lang lexAccount srcTok) (hd : Lang lexAccount dstTok)
    (h : literalPosting srcTok dstTok assetTok numTok = .ok p) : WellFormed p := by
  unfold literalPosting compileAssetLiteral at h
  obtain ⟨ha, h⟩ := guard_bind h
  cases h
  exact wellFormed_of_valid rfl (Int.natCast_nonneg _) (account_literal_valid srcTok hs)
    (account_literal_valid dstTok hd) ha

/-- Script variables (JSON vars, and accounts read from account metadata with
    `meta()`): a value the variable parser accepts satisfies its pattern as it is
    stored, so any posting built from accepted account / monetary variables is
    well-formed. -/
theorem variable_posting_wellformed (src dst mon : List Char) (p : RawPosting)
    (h : variablePosting src dst mon = .ok p) : WellFormed p := by
  unfold variablePosting newValueAccount at h
  obtain ⟨hs, h⟩ := guard_bind h
  obtain ⟨hd, h⟩ := guard_bind h
  obtain ⟨asset, n, ha, hn, h⟩ := newValueMonetary_bind h
  cases h
  exact wellFormed_of_valid rfl hn hs hd ha

/-- The same with an `asset` variable and a literal amount. -/
theorem asset_variable_posting_wellformed (src dst asset numTok : List Char) (p : RawPosting)
    (h : assetVariablePosting src dst asset numTok = .ok p) : WellFormed p := by
  unfold assetVariablePosting newValueAccount newValueAsset at h
  obtain ⟨hs, h⟩ := guard_bind h
  obtain ⟨hd, h⟩ := guard_bind h
  obtain ⟨ha, h⟩ := guard_bind h
  cases h
  exact wellFormed_of_valid rfl (Int.natCast_nonneg _) hs hd ha

/-- A padded value is not accepted: trailing newline, trailing blank, leading blank. -/
theorem padded_values_rejected :
    (newValueAccount "users:001\n".toList).toOption = none ∧
    (newValueAccount "users:053 ".toList).toOption = none ∧
    (newValueAsset " USD/2".toList).toOption = none ∧
    (newValueMonetary " USD/2 10".toList).toOption = none := by decide +kernel

/-- Import with the posting check in `importLog` (proposed fix): every transaction
    the import commits is well-formed, whatever the stream contains. -/
theorem import_preserves_wellformed (txs : List (List RawPosting)) :
    ∀ ps ∈ (importTxs true txs).1, ∀ p ∈ ps, WellFormed p := by
  induction txs with
  | nil => intro ps hps; cases hps
  | cons q rest ih =>
    intro ps hps
    unfold importTxs at hps
    split at hps
    · cases hps
    · rename_i hv
      have hv : postingsValidate q 0 = none := by
        cases h : postingsValidate q 0 with
        | none => rfl
        | some x => simp [h] at hv
      rcases List.mem_cons.1 hps with rfl | h
      · exact validate_ok_wellformed _ 0 hv
      · exact ih ps h

/-- EXPECTED FALSE without the check (the code as it is): a stream whose
    NEW_TRANSACTION log carries a negative amount, a padded source and an asset
    outside the pattern is committed as it is. Confirmed on the real `Import` over
    the real SQL store (workload `importlog`). -/
theorem import_unvalidated_counterexample :
    (importTxs false [[badPosting]]).1 = [[badPosting]] ∧
    (importTxs true [[badPosting]]).1 = [] ∧ (importTxs true [[badPosting]]).2 = true ∧
    (postingsValidate [badPosting] 0).isSome = true := by
  refine ⟨rfl, by decide, by decide, by decide +kernel⟩

/-- The grammar alone does not guarantee valid assets: `A/B` is a token of the
    lexer rule `ASSET` (`[A-Z/0-9]+`) but not in the language of the asset pattern
    (so are `/`, `1A`, 18 letters, `USD/1234567`). Lexer language ⊄ pattern. -/
theorem asset_literal_counterexample :
    Lang lexAsset ['A', '/', 'B'] ∧
    (∀ body, assetPattern.unanchor = some body → ¬ Lang body ['A', '/', 'B']) ∧
    validAsset ['A', '/', 'B'] = false := by
  refine ⟨lexAsset_slash, fun body hb hl => ?_, validAsset_slash⟩
  have := (matchAnchored_iff hb _).2 hl
  rw [show matchAnchored assetPattern _ = validAsset _ from rfl, validAsset_slash] at this
  cases this

/-- Before fix 6f26ac5 the compiler took the token text as it was: the literal
    `A/B` compiled and its posting was committed (confirmed on the real code by
    the `scriptlit` workload with the fix reverted). -/
theorem asset_literal_legacy_counterexample :
    Lang lexAsset ['A', '/', 'B'] ∧ compileAssetLiteralLegacy ['A', '/', 'B'] = .ok ['A', '/', 'B'] ∧
    validAsset ['A', '/', 'B'] = false ∧
    (compileAssetLiteral ['A', '/', 'B']).toOption = none := by
  refine ⟨lexAsset_slash, rfl, validAsset_slash, ?_⟩
  rw [compileAssetLiteral, validAsset_slash]
  rfl

/-- The sub-language on which lexer and pattern agree without help: a token of `ASSET` made of an upper-case
    letter followed by at most 16 upper-case letters or digits (no `/`) is a valid
    asset. -/
theorem asset_literal_partial (c : Char) (t : List Char)
    (hc : clsMem [(65, 90)] c = true) (ht : ∀ x ∈ t, clsMem [(48, 57), (65, 90)] x = true)
    (hlen : t.length ≤ 16) :
    Lang lexAsset (c :: t) ∧ validAsset (c :: t) = true := by
  constructor
  · -- member of `[A-Z/0-9]+`: both classes lie within it
    have hsub : ∀ x, clsMem [(65, 90)] x = true ∨ clsMem [(48, 57), (65, 90)] x = true →
        clsMem [(47, 57), (65, 90)] x = true := by
      intro x hx
      simp only [clsMem, List.any_cons, List.any_nil, Bool.or_false, Bool.or_eq_true, Bool.and_eq_true,
        decide_eq_true_eq] at hx ⊢
      omega
    have e : lexAsset = Re.plus (.cls [(47, 57), (65, 90)]) := rfl
    rw [e]
    exact lang_plus_cls.2 ⟨nofun, List.forall_mem_cons.2 ⟨hsub c (.inl hc), fun x hx => hsub x (.inr (ht x hx))⟩⟩
  · have e : assetPattern.unanchor = some
        (.cat (.cls [(65, 90)]) (.cat (Re.optN (.cls [(48, 57), (65, 90)]) 16)
          (.cat (Re.opt (.cat (.cls [(95, 95)]) (Re.rep (.cls [(65, 90)]) 1 (some 16))))
            (Re.opt (.cat (.cls [(47, 47)]) (Re.rep (.cls [(48, 57)]) 1 (some 6))))))) := rfl
    apply (matchAnchored_iff e _).2
    have h2 := lang_optN_cls [(48, 57), (65, 90)] 16 t hlen ht
    have h3 : Lang (.cat (Re.opt (.cat (.cls [(95, 95)]) (Re.rep (.cls [(65, 90)]) 1 (some 16))))
        (Re.opt (.cat (.cls [(47, 47)]) (Re.rep (.cls [(48, 57)]) 1 (some 6))))) ([] ++ []) :=
      .cat (lang_opt.2 (.inr rfl)) (lang_opt.2 (.inr rfl))
    have := Lang.cat (Lang.cls hc) (Lang.cat h2 h3)
    simpa using this

/-- A token of the lexer rule `NUMBER` is a non-empty string of decimal digits:
    the amount of a monetary literal is a non-negative integer. -/
theorem number_literal_nonneg (s : List Char) (h : Lang lexNumber s) :
    s ≠ [] ∧ ∀ c ∈ s, 48 ≤ c.toNat ∧ c.toNat ≤ 57 := by
  have e : lexNumber = Re.plus (.cls [(48, 57)]) := rfl
  rw [e] at h
  obtain ⟨hne, hall⟩ := lang_plus_cls.1 h
  refine ⟨hne, fun c hc => ?_⟩
  have := hall c hc
  simpa [clsMem] using this

example : lexAccount.dropFirstChr '@' ≠ none ∧ accountPattern.unanchor ≠ none := by decide +kernel
example : Lang lexAccount "@users:001:main".toList := (accepts_iff _ _).1 (by decide +kernel)
example : validAddress "users:001:main".toList = true := by decide +kernel
example : validAddress "users::main".toList = false := by decide +kernel
example : validAsset "USD/2".toList = true ∧ validAsset "EUR_TEST/6".toList = true := by decide +kernel
example : postingsValidate
    [{ source := "world".toList, destination := "bank".toList, asset := "USD/2".toList, amount := some 10 }] 0
    = none := by decide +kernel
example : (literalPosting "@world".toList "@users:42".toList "EUR/2".toList "100".toList).toOption.map (·.amount)
    = some (some 100) := by decide +kernel
example : (compileAssetLiteral "USD".toList).toOption = some "USD".toList := by decide +kernel
example : ((variablePosting "users:001".toList "bank".toList "USD/2 10".toList).toOption.map (·.amount))
    = some (some 10) := by decide +kernel
example : (newValueMonetary "USD -1".toList).toOption = none ∧ (newValueMonetary "USD +5".toList).toOption = some ("USD".toList, 5) := by decide +kernel
example : postingsValidate
    [{ source := "world".toList, destination := "bank".toList, asset := "A/B".toList, amount := some 10 }] 0
    = some (0, "invalid asset") := by decide +kernel

end Ledger.C28
