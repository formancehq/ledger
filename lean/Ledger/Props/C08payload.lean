import Ledger.Proofs.LogPayload

/-!
C08 — The log is a complete, ordered journal: PAYLOAD PART ONLY (names prefixed
`payload_`).  "…the log payloads alone determine the ledger state: replaying them
reproduces …" needs, first of all, that a stored / exported payload decodes back to
the payload that was written.  This file proves that round trip for every payload
type at the level of JSON trees (Ledger/Log/PayloadJson.lean: `encodePayload` =
`json.Marshal(payload)`, `decodePayload` = `HydrateLog`), for every CANONICAL payload
(`canonicalPayload`: exactly the values the decoder itself can produce — well-formed
UTF-8, `ParseTime`-normalised dates, `uint64` ids, no empty non-nil volume map,
target id of the type announced by `targetType`, map entries presented in key order).
Outside that set the round trip is lossy by construction of `encoding/json` /
go-libs `time` (modelled: `sanitize`, `normTime`); those cases are compared with the
real code by the `payload` workload, not proved.

The replay part of C08 (one log per write, ordering, `replay_reproduces`) is in
`Ledger/Props/C08.lean`.
-/
namespace Ledger.C08payload
open Ledger.Log

/-- `HydrateLog(type, json.Marshal(payload)) = payload` for every canonical payload of
    every type (new transaction, reverted transaction, saved / deleted metadata,
    inserted schema). -/
theorem payload_decode_encode (p : Payload) (h : canonicalPayload p = true) :
    decodePayload p.type (encodePayload p) = .ok p :=
  decodePayload_encodePayload p h

/-- The memento (what the hash chain covers) of the decoded payload is the memento of
    the original: re-inserting an exported log stores the same `memento` bytes, which is
    what the import path's hash comparison relies on. -/
theorem payload_memento_stable (p : Payload) (h : canonicalPayload p = true) :
    (decodePayload p.type (encodePayload p)).toOption.map mementoBytes = some (mementoBytes p) := by
  rw [decodePayload_encodePayload p h]; rfl

/-- Component form used by replay: a canonical transaction decodes to itself
    (postings, metadata, timestamp, reference, id, inserted/updated/reverted dates,
    post-commit volumes, template). -/
theorem payload_transaction_decode_encode (tx : Transaction) (h : canonTransaction tx = true) :
    decTransaction (encTransactionJ tx) = .ok tx :=
  decTransaction_enc tx h

/-- Strings are the only lossy text leaf: well-formed UTF-8 survives, anything else is
    changed by the encoder (U+FFFD), so the round trip cannot hold there. -/
theorem payload_string_roundtrip (s : Bytes) (h : validUtf8 s = true) : decStr (encStr s) = .ok s :=
  decStr_enc s h

/-- …and it is genuinely lossy outside: an ill-formed byte does not come back. -/
theorem payload_string_roundtrip_counterexample : decStr (encStr [0x61, 0xff]) ≠ .ok [0x61, 0xff] := by
  decide

/-- An EMPTY (non-nil) post-commit-volumes map comes back as nil (`omitempty`). -/
theorem payload_empty_volumes_counterexample :
    decPcv (encPcvJ (some [])) = .ok none := by
  decide

/-- A transaction-typed target whose id is given for an ACCOUNT target type comes back
    as a `float64` (reported as `floatTarget`): the dynamic type of `TargetID` is lost. -/
theorem payload_target_type_counterexample :
    decodePayload .setMetadata (encodePayload (.savedMetadata b!"ACCOUNT" (.transaction 7) none)) = .error .floatTarget := by
  decide

/-- non-vacuity: a canonical payload of each type, with non-ASCII text, quotes,
    backslashes, a reverted date, volumes and account metadata. -/
example :
    canonicalPayload (.createdTransaction
      { postings := some [{ source := b!"world", destination := b!"users:é\"\\", amount := some 100000000000000000000, asset := b!"USD/2" }],
        metadata := some [(b!"a", b!"1"), (b!"b<", b!"日本")],
        timestamp := wDateC, reference := b!"ref-1", id := some 18446744073709551615,
        insertedAt := wDateC, updatedAt := wDateC, revertedAt := some wDateC,
        postCommitVolumes := some [(b!"world", [(b!"USD/2", { input := 0, output := 100 })])],
        postCommitEffectiveVolumes := none, template := [] }
      (some [(b!"users:1", some [(b!"k", b!"v")]), (b!"users:2", none)])) = true ∧
    canonicalPayload (.savedMetadata b!"account" (.account b!"users:1") (some [])) = true ∧
    canonicalPayload (.deletedMetadata b!"TRANSACTION" (.transaction 3) b!"k") = true := by
  decide +kernel

end Ledger.C08payload
