import Ledger.Proofs.E2eMulti

/-!
# C19 (end-to-end leg) — ledgers are isolated, including within a shared bucket

Multi-ledger version of the controller-level model (`Ledger.E2e.MState`: ledger ↦
`Ledger.Ctrl.State`) and the storage driver's alone-in-bucket hint (`Ledger.E2e.DriverState`).

LEVEL: these theorems are about the controller-level model, in which every operation rewrites
one component by construction. That every SQL statement of the real store is keyed by its
ledger, and that reads are scoped (or the hint is right), is covered by the `multiledger`
correspondence workload over the MODELLED Postgres (LeanPG) and by `Ledger.Props.C19gates`
(rendered read shapes). Theorems, examples and the two sample operations `opA` / `opB`.
-/
namespace Ledger.C19e
open Ledger.Ctrl Ledger.E2e

/-- A write on ledger `l` — successful, failing, dry-run, or hit by any plan of faults at store calls and / or
    at COMMIT — leaves every other ledger's state (tables and sequences) untouched. -/
theorem write_on_l_preserves_others (strict : Bool) (m : MState) (l l' : String) (op : Op)
    (f : Faults) (cf : Bool) (h : l' ≠ l) :
    (stepM strict m l op f cf).1.ledgers l' = m.ledgers l' :=
  stepM_other strict m l l' op f cf h

/-- Every ledger of an interleaved history is in the state its OWN sub-history, run alone on the
    single-ledger model, reaches (so every read of `l` — a fold of `l`'s state — sees only `l`'s
    entities, whatever names, references, idempotency keys and ids the other ledgers use). -/
theorem history_projects_per_ledger (strict : Bool) (m : MState) (h : List (String × Op)) (l : String) :
    (runM strict m h).ledgers l = runHist strict (m.ledgers l) (opsOf l h) :=
  runM_project strict m h l

/-- After any sequence of ledger creations and openings through the driver, the shared hint of
    every bucket says `alone` exactly when the bucket holds one ledger. -/
theorem aloneInBucket_correct (ops : List DriverOp) (b : String) (v : Bool)
    (h : (driverRun {} ops).flags.get? b = some v) :
    v = decide ((driverRun {} ops).count b = 1) :=
  driverRun_hints {} ops hints_empty b v h

/-- One step: a creation in bucket `b` sets `b`'s hint from the new count and keeps every other
    bucket's hint correct. -/
theorem aloneInBucket_step (d : DriverState) (op : DriverOp) (h : d.HintsCorrect) : (driverStep d op).HintsCorrect :=
  driverStep_hints d op h

/-! ### non-vacuity -/

def opA : Op := { kind := .createP { reference := "r1" } [⟨"world", "bank", 100, "USD/2"⟩] false, now := 10, ik := "ik-1", ihash := "h1" }
def opB : Op := { kind := .createP { reference := "r1" } [⟨"world", "bank", 7, "USD/2"⟩] false, now := 11, ik := "ik-1", ihash := "h2" }

/-- two ledgers, the same account names, reference, idempotency key and transaction id 1: each keeps its own amounts -/
example :
    let m := runM false ⟨fun _ => {}⟩ [("l1", opA), ("l2", opB), ("l1", opB)]
    (m.ledgers "l1").db.txs.length = 1 ∧ (m.ledgers "l2").db.txs.length = 1 ∧
    (m.ledgers "l1").db.volumes.get? ("bank", "USD/2") = some ⟨100, 0⟩ ∧
    (m.ledgers "l2").db.volumes.get? ("bank", "USD/2") = some ⟨7, 0⟩ ∧
    (m.ledgers "l3") = {} := by
  decide +kernel

/-- the hint flips when a second ledger joins the bucket, and the alone one keeps `true` -/
example :
    (driverRun {} [.create "l1" "b"]).flags.get? "b" = some true ∧
    (driverRun {} [.create "l1" "b", .create "l2" "b"]).flags.get? "b" = some false ∧
    (driverRun {} [.create "l1" "b", .create "l2" "b", .create "l4" "c", .openLedger "l1"]).flags = [("b", false), ("c", true)] := by
  decide +kernel

end Ledger.C19e
