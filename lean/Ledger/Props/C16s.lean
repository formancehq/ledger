import Ledger.Proofs.SchedUnique
import Ledger.Proofs.SchedChain
import Ledger.Proofs.SchedHandles
import Ledger.Proofs.SchedWitnesses

/-!
# C16 (schedule part) — ids unique; commit order vs. id order

Over ALL schedules and programs: the unique indexes `(ledger, id)` on
transactions and logs keep ids unique per ledger; per-ledger sequences are
independent. FALSE on the unchanged code: "a later commit never receives a smaller id"
— transaction ids are taken (`nextval` inside InsertTransaction) before any lock that is
held to commit, and so are log ids when HASH_LOGS ≠ SYNC: `…_counterexample`s with two
writers on disjoint accounts.
-/
namespace Ledger.C16s
open Ledger.Sched

/-- `ids_unique`: for every schedule and every programs, transaction ids and log ids are unique per
    ledger among all rows (committed or in progress). -/
theorem ids_unique (σ : Schedule) (w₀ : World) (h₀ : UniqInv w₀) :
    (run σ w₀).txs.Pairwise (fun a b => a.l = b.l → a.id ≠ b.id) ∧
    (run σ w₀).logs.Pairwise (fun a b => a.l = b.l → a.id ≠ b.id) := by
  have h := uniq_run σ w₀ h₀
  exact ⟨h.1.imp (fun hab hl => (hab hl).1), h.2.imp (fun hab hl => (hab hl).1)⟩

example : UniqInv {} := ⟨List.Pairwise.nil, List.Pairwise.nil⟩

/-- `ledgers_independent`: an insert on ledger `l` draws from `transaction_id_l` / `log_id_l` only -/
theorem ledgers_independent (w w' : World) (s : Sid) (l ref : Nat) (o : Out)
    (h : insTx w s l ref none = .done w' o) :
    o.vals = [((w.txSeq l + 1 : Nat) : Int)] ∧ w'.txSeq l = w.txSeq l + 1 ∧ ∀ l', l' ≠ l → w'.txSeq l' = w.txSeq l' := by
  obtain ⟨_, _, _, rfl, rfl⟩ := (insTx_fine ..).of_done h
  refine ⟨rfl, by simp [World.afterInsTx, bump], fun l' hne => ?_⟩
  simp [World.afterInsTx, bump, hne]

/-- `log_ids_commit_order_sync`: HASH_LOGS=SYNC — for every schedule and all programs following the
    discipline of `Ledger.C09s.chain_linear_any_schedule` (log INSERT under `pg_advisory_xact_lock`,
    held to commit; proved for the real create path on a ledger in use), the log ids of the ledger are
    strictly increasing in COMMIT order. -/
theorem log_ids_commit_order_sync (l₀ : Nat) (σ : Schedule) (w₀ : World)
    (hg : GInv ⟨logKey l₀, l₀, true⟩ w₀) (hc : ChainInv ⟨logKey l₀, l₀, true⟩ w₀) :
    (((run σ w₀).logCommits.filter (fun c => c.1 = l₀)).map (·.2.1)).Pairwise (· < ·) :=
  (chainInv_run ⟨logKey l₀, l₀, true⟩ rfl σ w₀ hg hc).2.cinc

/-- Even with HASH_LOGS=SYNC the earlier commit (B) holds the larger transaction id. -/
theorem tx_ids_commit_order_counterexample :
    (run cxTxSchedule (cxWorld true)).commits = [2, 1] ∧
    (run cxTxSchedule (cxWorld true)).resp 2 = some { tx := 2, log := 1 } ∧
    (run cxTxSchedule (cxWorld true)).resp 1 = some { tx := 1, log := 2 } := by
  decide


/-- Without the advisory lock (HASH_LOGS ≠ SYNC) log ids are not in commit order either. -/
theorem log_ids_commit_order_async_counterexample :
    (run cxLogSchedule (cxWorld false)).commits = [2, 1] ∧
    (run cxLogSchedule (cxWorld false)).logCommits = [(1, 2, 2), (1, 1, 1)] := by
  decide

/-- With HASH_LOGS=SYNC the same attempt makes B wait at the advisory lock: log ids follow commit order
    (a test of the SYNC protocol on this schedule; the general statement is `log_ids_commit_order_sync`). -/
example :
    (run ([1, 1, 1, 1, 1, 1] ++ [2, 2, 2, 2, 2] ++ [1] ++ [2, 2, 2]) (cxWorld true)).logCommits.map (·.2.1) = [1, 2] := by
  decide

/-- tie (regenerated): `InsertTransaction` (where `nextval(transaction_id)` is evaluated) precedes the
    advisory lock, which precedes the log INSERT (where `nextval(log_id)` is evaluated), in the real
    SYNC create path; the ASYNC path has no advisory lock at all -/
theorem id_allocation_order_follows_generated_handles :
    modelledKinds Generated.Handles.sendSyncUnbounded = [.begin, .updateVolumes, .insertTx, .upsertAccounts, .advLockLog, .insertLog, .commit] ∧
    modelledKinds Generated.Handles.sendAsyncBounded = [.begin, .getBalances, .updateVolumes, .insertTx, .upsertAccounts, .insertLog, .commit] := by
  decide

end Ledger.C16s
