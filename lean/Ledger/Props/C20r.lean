import Ledger.Proofs.Reads
import Ledger.Proofs.ListBasic

/-!
C20 (SQL leg) — list filters select exactly the matching entities; count = number listed.

Only property theorems and non-vacuity examples.  `Reads/Select.lean` gives every listing as
`dataset.filter (selects f ∘ entity)`, where `selects` evaluates the filter tree of `Ledger.Query` in
SQL's three-valued logic (`eval3`): a comparison on an absent value (`reference` of a transaction
without reference, `reverted_at` of a non-reverted one, `balance[ASSET]` of an account without a
row for the asset) is *unknown*, `$not` keeps it unknown, and a row is listed iff the filter is
*true*.  Theorem `eval3_eq_eval_of_defined` shows this is the meaning `Ledger.Query` documents,
`Filter.eval (leafSem …)` on every entity where the leaves are defined.

Tested (not proved): that the SQL `ResolveFilter` renders, evaluated by LeanPG (the MODELLED
Postgres) over the real tables, selects exactly these rows — workload `filter` of `vrreads`.
-/
namespace Ledger.C20r
open Ledger.Base Ledger.Core Ledger.Spec Ledger.Query Ledger.Reads

/-- **Three-valued = two-valued where defined**, for every filter tree (any nesting of
    `$and` / `$or` / `$not`, any operators) and every entity: if no leaf compares a NULL, the row is
    selected iff `Filter.eval` holds. -/
theorem eval3_eq_eval_of_defined (nullBalance : Bool) (e : Entity) (f : Filter)
    (h : ∀ l ∈ f.leaves, leafIsNull nullBalance e l.1 l.2.1 l.2.2 = false) :
    selects nullBalance (some f) e = Filter.eval (leafSemR metaInCurrent e) f := by
  have h3 := eval3_defined (leafIsNull nullBalance e) (leafSemR metaInCurrent e) f h
  show (eval3 (sem3V metaInCurrent nullBalance e) f == some true) = _
  have hsem : sem3V metaInCurrent nullBalance e =
      fun op k v => if leafIsNull nullBalance e op k v then none else some (leafSemR metaInCurrent e op k v) := by
    funext op k v
    simp [sem3V, metaInCurrent]
  rw [hsem, h3]
  cases Filter.eval (leafSemR metaInCurrent e) f <;> rfl

/-- No filter selects everything. -/
theorem no_filter_selects_all (nullBalance : Bool) (e : Entity) : selects nullBalance none e = true := rfl

/-- **The accounts listing is exactly the set of matching accounts of the dataset at `pit`**
    (soundness and completeness), in dataset order. -/
theorem accounts_list_eq_filter_eval (feat : Features) (l : Ledger) (pit : Option Int) (f : Option Filter)
    (rows : List AccountView) (h : accountsSelected feat l pit f = .ok rows) :
    rows = (accountsAt feat l pit).filter
      (fun v => selects true f (accountEntity v (accountBalances l pit v.address))) ∧
    ∀ v, v ∈ rows ↔ (v ∈ accountsAt feat l pit ∧
      selects true f (accountEntity v (accountBalances l pit v.address)) = true) := by
  obtain ⟨_, _, h⟩ := Except.bind_ok h
  obtain ⟨_, _, h⟩ := Except.bind_ok h
  -- the cardinality check either throws or goes on to the listing
  split at h <;> cases h
  exact ⟨rfl, fun v => List.mem_filter⟩

/-- The same for transactions. -/
theorem transactions_list_eq_filter_eval (feat : Features) (l : Ledger) (pit : Option Int) (f : Option Filter)
    (rows : List TxView) (h : transactionsSelected feat l pit f = .ok rows) :
    rows = (transactionsAt feat l pit).filter (fun v => selects true f (txEntity v)) ∧
    ∀ v, v ∈ rows ↔ (v ∈ transactionsAt feat l pit ∧ selects true f (txEntity v) = true) := by
  obtain ⟨_, _, h⟩ := Except.bind_ok h
  cases h
  exact ⟨rfl, fun v => List.mem_filter⟩

/-- **Count = number listed**: the count of a resource query is the length of the unpaginated
    listing, which never exceeds the dataset. -/
theorem count_eq_length_listed (feat : Features) (l : Ledger) (pit : Option Int) (f : Option Filter)
    (rows : List AccountView) (h : accountsSelected feat l pit f = .ok rows) :
    rows.length = ((accountsAt feat l pit).filter
      (fun v => selects true f (accountEntity v (accountBalances l pit v.address)))).length ∧
    rows.length ≤ (accountsAt feat l pit).length := by
  obtain ⟨h1, _⟩ := accounts_list_eq_filter_eval feat l pit f rows h
  rw [h1]
  exact ⟨rfl, List.length_filter_le _ _⟩

/-- A filter that fails validation is rejected, never answered. -/
theorem invalid_filter_rejected (feat : Features) (l : Ledger) (pit : Option Int) (f : Filter)
    (h : validate parseRFC3339 accountSchema f = .error e) :
    accountsSelected feat l pit (some f) = .error .invalidQuery := by
  unfold accountsSelected validateFilter
  simp [h, bind, Except.bind]

/-- Non-vacuity of the three-valued reading: on a transaction without reference,
    `$not {$match reference "x"}` is unknown — not selected — while `Filter.eval` says true;
    on a transaction with a reference both agree. -/
example :
    let noRef : TxView := { id := 1, postings := [⟨"world", "a", 1, "USD"⟩], timestamp := 0, insertedAt := 0,
                            updatedAt := 0, reference := "", metadata := [], revertedAt := none }
    let withRef : TxView := { noRef with reference := "r" }
    let f : Filter := .not (.leaf .match_ "reference" (.sc (.str "x")))
    (selects true (some f) (txEntity noRef), Filter.eval (leafSemR metaInCurrent (txEntity noRef)) f,
     selects true (some f) (txEntity withRef), Filter.eval (leafSemR metaInCurrent (txEntity withRef)) f) =
    (false, true, true, true) := by decide

end Ledger.C20r
