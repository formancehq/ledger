import Ledger.Proofs.CoreReads

/-!
C01 — Double-entry conservation per asset.

Model: `Core.volumeUpdates` (hand-written from `Transaction.VolumeUpdates`, tied by the
`volupd` / `histfold` differential workloads); the abstract store `Spec.applyTx`
(hand-written image of the `accounts_volumes` upsert; tied to the rendered SQL by `Ledger.C01e.commitTransaction_refines`);
the Spec folds `volumesAt` / `balanceAt`.
-/
namespace Ledger.C01
open Ledger.Base Ledger.Core Ledger.Spec

/-- Per asset, the inputs and the outputs of `VolumeUpdates` both sum to the total
    of the posted amounts (any postings: self-postings, repeated pairs, any sign). -/
theorem sum_volumeUpdates (ps : List Posting) (s : String) :
    inputsIn s (volumeUpdates ps) = assetTotal s ps ∧ outputsIn s (volumeUpdates ps) = assetTotal s ps :=
  volumeUpdates_sums ps s

example : inputsIn "USD" (volumeUpdates [⟨"world", "a", 10, "USD"⟩, ⟨"a", "a", 3, "USD"⟩, ⟨"a", "b", 4, "EUR"⟩]) = 13 := by
  decide

/-- No sequence of store operations (commits with arbitrary postings and timestamps,
    balance locks, reverted marks) ever fails. -/
theorem store_total (ops : List StoreOp) : ∃ st, runOps ops = .ok st := ⟨_, runOpsFrom_eq ops {}⟩

/-- After any sequence of store operations from the empty store, the balances
    (`input − output`) of the `accounts_volumes` rows of each asset sum to zero. -/
theorem conservation_current (ops : List StoreOp) (st : Store) (h : runOps ops = .ok st) (s : String) :
    netIn s st.accountsVolumes = 0 := (StoreInv_runOps h).net s

example : (runOps [.commit { postings := [⟨"world", "a", 10, "USD"⟩, ⟨"a", "b", 4, "USD"⟩], timestamp := 5, insertedAt := 7 },
                   .lock [("c", "USD")],
                   .commit { postings := [⟨"b", "b", 2, "USD"⟩], timestamp := 1, insertedAt := 8 }]).toOption.map
            (fun st => (st.accountsVolumes.length, netIn "USD" st.accountsVolumes)) = some (4, 0) := by
  decide

/-- At any point in time / window and for both date semantics: per asset, the balances of
    any duplicate-free list of accounts covering the history's accounts sum to zero. -/
theorem conservation_pit (txs : List TxRec) (w : Window) (mode : DateMode) (s : String)
    (accts : List String) (hn : accts.Nodup)
    (hc : ∀ p ∈ allPostings txs, p.source ∈ accts ∧ p.destination ∈ accts) :
    sumOver accts (fun a => balanceAt txs w mode (a, s)) = 0 := by
  unfold balanceAt volumesAt volumesOf txsIn
  exact sum_balances_postings s _ accts hn (fun p hp => hc p (mem_allPostings_filter hp))

example : sumOver ["a", "b", "world"] (fun a => balanceAt
    [{ id := 1, postings := [⟨"world", "a", 10, "USD"⟩], timestamp := 5, insertedAt := 7 },
     { id := 2, postings := [⟨"a", "b", 4, "USD"⟩], timestamp := 1, insertedAt := 8 }]
    { oot := some 2, pit := some 6 } .effective (a, "USD")) = 0 := by decide

example : balanceAt
    [{ id := 1, postings := [⟨"world", "a", 10, "USD"⟩], timestamp := 5, insertedAt := 7 },
     { id := 2, postings := [⟨"a", "b", 4, "USD"⟩], timestamp := 1, insertedAt := 8 }]
    { oot := some 2, pit := some 6 } .effective ("a", "USD") = 10 := by decide

/-- Aggregated balances (empty filter, no point in time: `sum(input), sum(output)` of the
    `accounts_volumes` rows grouped by asset — `Spec.aggregatedVolumes`, a hand-written image
    of the query): every asset row has input = output, i.e. balance zero. -/
theorem conservation_aggregated (ops : List StoreOp) (st : Store) (h : runOps ops = .ok st) (s : String)
    (v : Volumes) (hv : (aggregatedVolumes st.accountsVolumes).get? s = some v) : v.balance = 0 := by
  have := aggregated_balanced h s v hv
  simp only [Volumes.balance]; omega

/-- Aggregated balances at a point in time / window (sum over a duplicate-free account list
    covering the history): balance zero per asset, both date modes. -/
theorem conservation_aggregated_pit (txs : List TxRec) (w : Window) (mode : DateMode) (s : String)
    (accts : List String) (hn : accts.Nodup)
    (hc : ∀ p ∈ allPostings txs, p.source ∈ accts ∧ p.destination ∈ accts) :
    (aggregatedAt txs w mode accts s).balance = 0 := by
  unfold aggregatedAt
  rw [foldl_add_volumesAt, conservation_pit txs w mode s accts hn hc]
  rfl

example : (runOps [.commit { postings := [⟨"world", "a", 10, "USD"⟩, ⟨"a", "b", 4, "EUR"⟩], timestamp := 5, insertedAt := 7 }]).toOption.map
    (fun st => aggregatedVolumes st.accountsVolumes) = some [("EUR", ⟨4, 4⟩), ("USD", ⟨10, 10⟩)] := by decide

end Ledger.C01
