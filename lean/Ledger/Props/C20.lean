import Ledger.Proofs.QueryPushdown
import Ledger.Props.C21
import Ledger.Query.Date

/-!
C20 — List filters select exactly the matching entities (pure-Go part).

Models: `Ledger/Query/{Address,Filter,Pushdown}.lean`, hand-written from
`internal/storage/ledger/utils.go`, `transactions.go`,
`internal/storage/common/resource.go`, `internal/queries/*.go`, and tied to the
real functions by the `addrmatch` and `pushdown` correspondence workloads.

NOT covered here: the evaluation of the rendered SQL (`ResolveFilter` fragments on
real tables) — it needs the Postgres model; `Filter.eval` is the specification
side these theorems speak about.
-/
namespace Ledger.C20
open Ledger.Query

/-- An account-like row: no transaction sources / destinations. -/
def IsAccountRow (e : Entity) : Prop := e.sources = [] ∧ e.destinations = []

theorem isAddressKey_iff (k : String) : isAddressKey k = true ↔ k = "address" ∨ k = "account" := by
  simp [isAddressKey]

/-- On an account row, a leaf on `address` / `account` means `addrLeaf`: the
    address pattern (any operator but `$in`) or membership (`$in`). -/
theorem leafSem_address (pd : String → Option Int) (e : Entity) (he : IsAccountRow e)
    (op : Op) (k : String) (v : Val) (hk : isAddressKey k = true) :
    leafSem pd e op k v = addrLeaf false v [e.address] := by
  -- neither key has a `[`: `splitKey` returns it whole and `leafSem` takes that key's branch
  -- (by evaluation); on an account row the `account` branch is the `address` one
  rcases (isAddressKey_iff k).mp hk with rfl | rfl
  · rfl
  · obtain ⟨addr, src, dst, _, _, _, _, _, _⟩ := e
    obtain ⟨rfl, rfl⟩ := he
    rfl

/-- **The lateral pushdown is sound** (current code, `$in` members collected): if
    `canPushAddressFilterToLateral` accepts the filter and the filter selects the
    row, then either no address was collected (nothing is pushed) or the row's
    account matches one of the collected addresses — the lateral join, which keeps
    exactly the accounts matching one of them, does not drop the row.
    For every filter (any nesting), every row, every date parser. -/
theorem lateral_pushdown_sound (pd : String → Option Int) (f : Filter) (e : Entity)
    (he : IsAccountRow e) (hpush : canPush (some f) = true)
    (heval : Filter.eval (leafSem pd e) f = true) :
    addrs f = [] ∨ ∃ a ∈ addrs f, matchesAddress (Pattern.ofString a) e.address = true := by
  refine pushdown_sound_core true (leafSem pd e) e.address f (fun l _ hk ht => ?_) hpush heval
  rw [leafSem_address pd e he l.1 l.2.1 l.2.2 hk] at ht
  exact addrLeaf_witness l.2.2 e.address ht

/-- In terms of the join: a selected row survives the pushed lateral filter. -/
theorem lateral_keeps_selected (pd : String → Option Int) (f : Filter) (e : Entity)
    (he : IsAccountRow e) (hpush : canPush (some f) = true)
    (heval : Filter.eval (leafSem pd e) f = true) (hne : addrs f ≠ []) :
    lateralKeeps (addrs f) e.address = true := by
  rcases lateral_pushdown_sound pd f e he hpush heval with h | ⟨a, ha, hm⟩
  · exact absurd h hne
  · simp only [lateralKeeps, List.any_eq_true]
    exact ⟨a, ha, hm⟩

/-- **Before fix `df74127`** (`collectAddressFilters` skipped `$in` arrays while
    `nodeContainsAddressFilter` counted them) the statement was false: the minimal
    witness `$or[$in address [x], $match address "a:"]` on the account `x`. -/
theorem lateral_pushdown_counterexample :
    let f : Filter := .or [.leaf .in_ "address" (.arr [.str "x"]),
                           .leaf .match_ "address" (.sc (.str "a:"))]
    let e : Entity := { address := [['x']] }
    canPush (some f) = true ∧ Filter.eval (leafSem parseRFC3339 e) f = true ∧
    addrsPreFix f = ["a:"] ∧
    ¬ (addrsPreFix f = [] ∨
       ∃ a ∈ addrsPreFix f, matchesAddress (Pattern.ofString a) e.address = true) := by
  decide +kernel

/-- What held before the fix: soundness for filters whose address leaves carry no
    array (no `$in` on an address). -/
theorem lateral_pushdown_sound_partial (pd : String → Option Int) (f : Filter) (e : Entity)
    (he : IsAccountRow e) (hpush : canPush (some f) = true)
    (heval : Filter.eval (leafSem pd e) f = true)
    (hnoArr : ∀ l ∈ f.leaves, isAddressKey l.2.1 = true → ∀ a, l.2.2 ≠ .arr a) :
    addrsPreFix f = [] ∨
      ∃ a ∈ addrsPreFix f, matchesAddress (Pattern.ofString a) e.address = true := by
  refine pushdown_sound_core false (leafSem pd e) e.address f (fun l hl hk ht => ?_) hpush heval
  rw [leafSem_address pd e he l.1 l.2.1 l.2.2 hk] at ht
  exact addrLeaf_witness_preFix l.2.2 e.address (hnoArr l hl hk) ht

/-- An address filter under a `$not` is never pushed. -/
theorem not_address_never_pushed (op : Op) (k : String) (v : Val) (hk : isAddressKey k = true) :
    canPush (some (.not (.leaf op k v))) = false := by
  simp [canPush, safeLateral, hk]

/-- A `$or` mixing an address branch with a non-address branch is never pushed. -/
theorem mixed_or_never_pushed (g h : Filter) (hg : containsAddr g = true)
    (hh : containsAddr h = false) : canPush (some (.or [g, h])) = false := by
  simp [canPush, safeLateral, mixesAddr, hg, hh]

/-- Exact address: the filter selects the account with exactly that address. -/
theorem matches_exact (src a : List Seg) (h : isPartial src = false) :
    matchesAddress (Pattern.ofSegs src) a = true ↔ a = src :=
  Ledger.Query.matches_exact src a h

/-- Partial address `a::c`: same number of segments, every non-empty segment equal. -/
theorem matches_partial (src a : List Seg) (hp : isPartial src = true)
    (hl : (src.getLast? == some dots) = false) :
    matchesAddress (Pattern.ofSegs src) a = true ↔
      a.length = src.length ∧
      ∀ (i : Nat) (s : Seg), src[i]? = some s → s.isEmpty = false → (s == dots) = false →
        a[i]? = some s :=
  Ledger.Query.matches_partial src a hp hl

/-- Prefix address `a:b:...`: the account's segments start with `a, b`. -/
theorem matches_prefix (q a : List Seg)
    (hq : ∀ s ∈ q, s.isEmpty = false ∧ (s == dots) = false) :
    matchesAddress (Pattern.ofSegs (q ++ [dots])) a = true ↔ q <+: a :=
  Ledger.Query.matches_prefix q a hq

/-- Splitting an address into segments loses nothing (`account = 'a:b'` and
    equality of segment arrays are the same test). -/
theorem segments_injective {a b : List Char} (h : segments a = segments b) : a = b :=
  Ledger.Query.segments_injective h

/-- Transactions: `sources_arrays @> '[{…}]'` on the exploded address is the same
    condition as the length / per-segment form used for accounts. -/
theorem tx_containment_eq_matches (len : Option Nat) (cs : List (Nat × Seg)) (a : List Seg) :
    mapContains (Pattern.toMap (.part len cs)) (explode a) = matchesAddress (.part len cs) a :=
  mapContains_explode len cs a

/-- **Count equals the number of listed entities** (model level): `Count` runs over
    the same filtered dataset `T` as the listing (tied by the `cursor` workload), and
    the pages of the listing enumerate `T` exactly once. -/
theorem count_eq_length {φ : Type} (rest : φ) (o : Order) (T : List Row) (hT : KeysDistinct T)
    (pageSize fuel : Nat) (hfuel : fuel ≥ T.length + 1) :
    (((walkNextCol fuel (ColQuery.initial pageSize o rest) T).map (·.data)).flatten).length =
      T.length := by
  rw [(C21.column_pagination_complete rest o T hT pageSize fuel hfuel).1, orderBy_length]

/-- The hypotheses of `lateral_pushdown_sound` hold on a concrete nested filter with
    an `$in`, and the conclusion names the matching collected address. -/
example :
    let f : Filter := .and [.or [.leaf .in_ "address" (.arr [.str "x", .str "bank:1"]),
                                 .leaf .match_ "account" (.sc (.str "users::main"))],
                            .not (.leaf .match_ "metadata[k]" (.sc (.str "v")))]
    let e : Entity := { address := [['b','a','n','k'], ['1']] }
    canPush (some f) = true ∧ Filter.eval (leafSem parseRFC3339 e) f = true ∧
    addrs f = ["x", "bank:1", "users::main"] ∧ lateralKeeps (addrs f) e.address = true := by
  decide +kernel

example : matchesAddress (Pattern.ofString "users::main") [['u','s','e','r','s'], ['4','2'], ['m','a','i','n']] = true
    ∧ matchesAddress (Pattern.ofString "users:...") [['u','s','e','r','s']] = true
    ∧ matchesAddress (Pattern.ofString "users:...") [['b','a','n','k'], ['u','s','e','r','s']] = false := by
  decide +kernel

end Ledger.C20
