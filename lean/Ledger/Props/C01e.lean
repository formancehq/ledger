import Ledger.Proofs.SqlCommit

/-!
C01e — end-to-end refinement: the generated statements of `CommitTransaction` (UpdateVolumes; InsertTransaction; InsertMoves with the
row triggers of `moves`), run one after the other as commands of one transaction by LeanPG, refine `Ledger.Spec.applyTx` (the case
`upsertAccounts = false`, i.e. `CommitTransaction` proper; the account upsert is the object of C18b). This is the theorem that carries
the Spec-level properties C01–C04 (conservation, volumes, moves, effective volumes) to the SQL text.

* `commitTransaction_sem`: the SQL-level statement — outcome, RETURNING rows and final state of the three statements, for ANY rows /
  literals, ANY contents of the three tables satisfying the storage invariants, ANY other ledgers in the bucket.
* `commitTransaction_refines`: the Spec-level statement — if the state abstracts to the Spec store `st` and the parameters passed by
  the Go layer denote what `applyTx` computes from them, the final state abstracts to `applyTx st t`.

Hypotheses (all explicit in `Ledger.Sql.CommitState`, `TxLit`, `MvLit`, `SeqLit`):
- inside a transaction, no other transaction in progress (`TxState.solo`) — concurrency is checked elsewhere;
- storage invariants of the three tables (`AvInv`, `TxInv`, `MvInv`), command ids fresh, fewer than 10⁹ command ids;
- `moves`: exactly one BEFORE and one AFTER INSERT row trigger for the ledger, with the generated function bodies (C04b
  `triggerBodies_sem`), none on UPDATE; `transactions`: only `set_transaction_updated_at`-like BEFORE INSERT triggers and NO AFTER INSERT
  row trigger (feature TRANSACTION_METADATA_HISTORY off — with the feature on, the history row is an additional effect not covered here);
- the rendered literals parse to the typed values (`TxLit`, `MvLit`: the Go driver's rendering of timestamps, jsonb and composites is not
  modelled); the sequence literal names the ledger's sequence (`SeqLit`); no visible transaction of the ledger carries the same
  non-empty reference;
- the Spec store is taken with `nextSeq` = the next value of the BUCKET's `moves` sequence (in a bucket shared by several ledgers the
  sequence numbers of a ledger have gaps; `Spec.applyTx` does not depend on their being consecutive);
- results on `moves` are up to the order of the table (`List.Perm`); `seqRun` runs the statements as the session layer does (each under a
  new command id); the correspondence with `Ledger.Sql.execTop` is exercised by the kernel scenarios of C04b / C18b, not proved.
-/
namespace Ledger.C01e
open Ledger Ledger.Sql Ledger.Generated Ledger.Core Ledger.Base
open Ledger.Generated.WriteSql

theorem commitTransaction_sem (p : Nat) (env : Env) (b l : String) (id : Nat)
    (rsA : List Ver) (nrA : Nat) (trigsT : List TriggerDef) (nrT : Nat) (rowsT : List Ver) (fullT : String) (sqT : Seq)
    (trigsM : List TriggerDef) (B1 B2 : List TriggerDef) (trB : TriggerDef) (A1 A2 : List TriggerDef) (trA : TriggerDef)
    (item wher dflt_ : Expr) (fB : PlFunc) (setE whereU : Expr) (fA : PlFunc) (nrM : Nat) (rowsM : List Ver) (sqM : Seq) (s : St)
    (hst : CommitState s b l rsA nrA trigsT nrT rowsT fullT sqT trigsM B1 B2 trB A1 A2 trA item wher dflt_ fB setE whereU fA nrM rowsM sqM)
    (vrows : List P.VolumeRow) (hvne : vrows ≠ []) (hvnd : (vrows.map avKeyOf).Nodup)
    (av : PCV) (hwf : Map.WF av) (habs : ∀ k, avAbs s b l k = av.get? k)
    (L : TxLits) (hl : SeqLit (txSeqLit b id) fullT) (x : TxR) (hlit : TxLit s.w.types l L x) (hid : x.id = sqT.next)
    (href : ∀ r ∈ rowsT, r.visible (latestView s.w s.xid) = true → ∀ x', r.vals = txVals x' → txConf2 x x' = false)
    (pm : List (P.MoveRow × Spec.MoveRow)) (hne : pm ≠ []) (hlits : ∀ y ∈ pm, MvLit s.w.types y.1 y.2)
    (hsf : SeqFrom sqM.next (pm.map (·.2))) (hrange : sqM.next + pm.length ≤ 9223372036854775808)
    (hnc : s.nextCid + 3 + 4 * pm.length ≤ 1000000000)
    (T : List Spec.MoveRow) (hT : T.Perm (ledgerMoves l (mvAbs (latestView s.w s.xid) rowsM))) :
    ∃ (rsA' : List Ver) (nrA' : Nat) (rowsM' : List Ver) (seqs' : List Seq) (s' : St),
      (seqRun (p + 15) env (P.updateVolumes b l id vrows ++
          P.insertTransaction b l id L.postings L.metadata L.timestamp L.reference L.inserted_at L.updated_at L.post_commit_volumes
            L.template L.sources L.destinations L.sources_arrays L.destinations_arrays ++
          P.insertMoves b l id (pm.map (·.1)))).exec s =
        (.ok [{ rel := { cols := ["input", "output"],
                         rows := (Spec.upsertVolumes av (vuOf vrows)).2.map (fun e => [.int e.2.input, .int e.2.output]) },
                affected := vrows.length },
              { rel := { cols := ["id", "timestamp", "inserted_at", "updated_at"],
                         rows := [[.int x.id, .ts x.timestamp, optTs x.insertedAt, .ts x.updatedAt]] }, affected := 1 },
              { rel := { cols := ["post_commit_volumes", "post_commit_effective_volumes"],
                         rows := (Spec.insertedRows T (pm.map (·.2))).map retOf }, affected := pm.length }], s') ∧
      s' = ((((s.bump (3 + 4 * pm.length)).withSeqs seqs').withTable (avT b rsA' nrA')).withTable
              ((txT b trigsT (nrT + 1)).withRows (newVer s.xid (s.nextCid + 1) nrT (txVals x) :: rowsT))).withTable
              ((mvT b trigsM (nrM + pm.length)).withRows rowsM') ∧
      AvInv (latestView s.w s.xid) rsA' nrA' ∧
      (∀ k, avView (latestView s.w s.xid) rsA' l k = (Spec.upsertVolumes av (vuOf vrows)).1.get? k) ∧
      (∀ l', l' ≠ l → ∀ k, avView (latestView s.w s.xid) rsA' l' k = avView (latestView s.w s.xid) rsA l' k) ∧
      (ledgerMoves l (mvAbs (latestView s.w s.xid) rowsM')).Perm (Spec.insertMoves T (pm.map (·.2))) ∧
      (∀ l', l' ≠ l → (ledgerMoves l' (mvAbs (latestView s.w s.xid) rowsM')).Perm (ledgerMoves l' (mvAbs (latestView s.w s.xid) rowsM))) ∧
      MvInv (latestView s.w s.xid) (sqM.next + pm.length) rowsM' ∧
      seqs'.find? (·.name == mvSeqFull b) = some { sqM with last := sqM.next + pm.length - 1, called := true } ∧
      seqs'.find? (·.name == fullT) = some { sqT with last := sqT.next, called := true } :=
by
  obtain ⟨_, _, hrun, _, _, _, _, ⟨_, _, _, ⟨rsA', nrA', rfl, rfl, hinvA', hav1, hav2⟩, ⟨rfl, rfl⟩, rfl⟩,
      ⟨rowsM', seqs', rfl, rfl, hmv1, hmv2, hmvInv, hseqM, hseqO⟩, rfl⟩ :=
    (((step_updateVolumes (p + 8) env id hst.bne hst.avTable hst.avInv hst.avFresh vrows hvne hvnd av hwf habs).seq
        (step_insertTx (p + 9) env id L hst.txIns hst.txNoAfter hl x hlit hid href)).seq
        (step_insertMoves p env id hst.mv pm hne hlits hsf hrange T hT)).run
      hst.tx hst.q0 (by simp) (by simpa using hst.seqNe.symm) (by omega)
  refine ⟨rsA', nrA', rowsM', seqs', _, hrun, ?_, hinvA', hav1, hav2, hmv1, hmv2, hmvInv, hseqM, ?_⟩
  · rw [state_after3, show 1 + 1 + (1 + 4 * pm.length) = 3 + 4 * pm.length by omega]
    rfl
  · rw [hseqO fullT hst.seqNe]
    exact find_seqsSet _ _ _ _ hst.txSeq

theorem commitTransaction_refines (p : Nat) (env : Env) (b l : String) (id : Nat)
    (rsA : List Ver) (nrA : Nat) (trigsT : List TriggerDef) (nrT : Nat) (rowsT : List Ver) (fullT : String) (sqT : Seq)
    (trigsM : List TriggerDef) (B1 B2 : List TriggerDef) (trB : TriggerDef) (A1 A2 : List TriggerDef) (trA : TriggerDef)
    (item wher dflt_ : Expr) (fB : PlFunc) (setE whereU : Expr) (fA : PlFunc) (nrM : Nat) (rowsM : List Ver) (sqM : Seq) (s : St)
    (hst : CommitState s b l rsA nrA trigsT nrT rowsT fullT sqT trigsM B1 B2 trB A1 A2 trA item wher dflt_ fB setE whereU fA nrM rowsM sqM)
    (st st' : Spec.Store) (t : Spec.TxIn) (hup : t.upsertAccounts = false) (happly : Spec.applyTx st t = .ok st')
    (hwf : Map.WF st.accountsVolumes) (habsA : ∀ k, avAbs s b l k = st.accountsVolumes.get? k)
    (habsM : st.moves.Perm (ledgerMoves l (mvAbs (latestView s.w s.xid) rowsM)))
    (hidT : (st.nextTxId : Int) = sqT.next) (hidM : (st.nextSeq : Int) = sqM.next)
    (vrows : List P.VolumeRow) (hvu : vuOf vrows = volumeUpdates t.postings) (hvne : vrows ≠ []) (hvnd : (vrows.map avKeyOf).Nodup)
    (L : TxLits) (hl : SeqLit (txSeqLit b id) fullT) (x : TxR) (hlit : TxLit s.w.types l L x) (hid : x.id = st.nextTxId)
    (href : ∀ r ∈ rowsT, r.visible (latestView s.w s.xid) = true → ∀ x', r.vals = txVals x' → txConf2 x x' = false)
    (pm : List (P.MoveRow × Spec.MoveRow)) (hne : pm ≠ []) (hlits : ∀ y ∈ pm, MvLit s.w.types y.1 y.2)
    (hpm : ∀ ms, movesOf (Spec.upsertVolumes st.accountsVolumes (volumeUpdates t.postings)).2 t.postings = .ok ms →
      pm.map (·.2) = Spec.toRows st.nextSeq st.nextTxId t.insertedAt t.timestamp ms)
    (hrange : sqM.next + pm.length ≤ 9223372036854775808) (hnc : s.nextCid + 3 + 4 * pm.length ≤ 1000000000) :
    ∃ (rsA' : List Ver) (nrA' : Nat) (rowsM' : List Ver) (seqs' : List Seq) (res : List DmlResult),
      (seqRun (p + 15) env (P.updateVolumes b l id vrows ++
          P.insertTransaction b l id L.postings L.metadata L.timestamp L.reference L.inserted_at L.updated_at L.post_commit_volumes
            L.template L.sources L.destinations L.sources_arrays L.destinations_arrays ++
          P.insertMoves b l id (pm.map (·.1)))).exec s =
        (.ok res, ((((s.bump (3 + 4 * pm.length)).withSeqs seqs').withTable (avT b rsA' nrA')).withTable
              ((txT b trigsT (nrT + 1)).withRows (newVer s.xid (s.nextCid + 1) nrT (txVals x) :: rowsT))).withTable
              ((mvT b trigsM (nrM + pm.length)).withRows rowsM')) ∧
      (∀ k, avView (latestView s.w s.xid) rsA' l k = st'.accountsVolumes.get? k) ∧
      (∀ l', l' ≠ l → ∀ k, avView (latestView s.w s.xid) rsA' l' k = avView (latestView s.w s.xid) rsA l' k) ∧
      (ledgerMoves l (mvAbs (latestView s.w s.xid) rowsM')).Perm st'.moves ∧
      (∀ l', l' ≠ l → (ledgerMoves l' (mvAbs (latestView s.w s.xid) rowsM')).Perm (ledgerMoves l' (mvAbs (latestView s.w s.xid) rowsM))) ∧
      AvInv (latestView s.w s.xid) rsA' nrA' ∧ MvInv (latestView s.w s.xid) (st'.nextSeq : Int) rowsM' ∧
      (∃ sq', seqs'.find? (·.name == mvSeqFull b) = some sq' ∧ sq'.next = (st'.nextSeq : Int)) ∧
      (∃ sq', seqs'.find? (·.name == fullT) = some sq' ∧ sq'.next = (st'.nextTxId : Int)) :=
by
  obtain ⟨hsf, hspec⟩ := applyTx_of_sql happly (l := l) hvu hpm hidT hidM
  obtain ⟨rsA', nrA', rowsM', seqs', _, hrun, rfl, hinvA, hav1, hav2, hmv1, hmv2, hmvInv, hsM, hsT⟩ :=
    commitTransaction_sem p env b l id rsA nrA trigsT nrT rowsT fullT sqT trigsM B1 B2 trB A1 A2 trA item wher dflt_ fB setE whereU fA nrM
      rowsM sqM s hst vrows hvne hvnd st.accountsVolumes hwf habsA L hl x hlit (by rw [hid]; exact hidT) href pm hne hlits hsf hrange hnc
      st.moves habsM
  obtain ⟨hA, hM, hI, hsM', hsT'⟩ := hspec hav1 hmv1 hmvInv hsM hsT
  exact ⟨rsA', nrA', rowsM', seqs', _, hrun, hA, hav2, hM, hmv2, hinvA, hI, hsM', hsT'⟩

end Ledger.C01e
