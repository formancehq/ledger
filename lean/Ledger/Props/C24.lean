import Ledger.Proofs.Allotment

/-!
C24 — Allotments split amounts exactly.

The model is `Ledger/Machine/Allotment.lean` (hand-written from allotment.go / portion.go and
tied to the real `Allotment.Allocate`, `NewAllotment`, `ParsePortionSpecific` by
the `allot` correspondence workload).
-/
namespace Ledger.C24
open Ledger.Machine

/-- One result per portion. -/
theorem allocate_length (a : List Rat) (amt : Int) : (allocate a amt).length = a.length :=
  Machine.allocate_length a amt

/-- Portions summing to 100 %: the leftover `r = amt − Σ⌊amt·pᵢ⌋` satisfies
    `0 ≤ r < k` and part `i` is `⌊amt·pᵢ⌋ + 1` for `i < r`, `⌊amt·pᵢ⌋` otherwise
    (leftover units go to the earliest parts).  No sign hypothesis on `amt` or on
    the portions is needed. -/
theorem allocate_leftover_first (a : List Rat) (amt : Int) (hsum : a.sum = 1) :
    ∃ r : Int, 0 ≤ r ∧ r < a.length ∧
      ∀ (i : Nat) (h : i < a.length),
        (allocate a amt)[i]'(by rw [allocate_length]; exact h) =
          ⌊(amt : ℚ) * a[i]⌋ + (if (i : Int) < r then 1 else 0) :=
  Machine.allocate_leftover_first a amt hsum

/-- Each part lies between the floor of `amt·pᵢ` and that floor plus one. -/
theorem allocate_bounds (a : List Rat) (amt : Int) (hsum : a.sum = 1)
    (i : Nat) (h : i < a.length) :
    ⌊(amt : ℚ) * a[i]⌋ ≤ (allocate a amt)[i]'(by rw [allocate_length]; exact h) ∧
    (allocate a amt)[i]'(by rw [allocate_length]; exact h) ≤ ⌊(amt : ℚ) * a[i]⌋ + 1 := by
  obtain ⟨r, _, _, hr⟩ := allocate_leftover_first a amt hsum
  rw [hr i h]
  split <;> constructor <;> omega

/-- The allocated parts sum exactly to the amount. -/
theorem allocate_sum (a : List Rat) (amt : Int) (hsum : a.sum = 1) :
    (allocate a amt).sum = amt :=
  Machine.allocate_sum a amt hsum

/-- Parts of a non-negative amount with non-negative portions are non-negative. -/
theorem allocate_nonneg (a : List Rat) (amt : Int) (hsum : a.sum = 1) (hamt : 0 ≤ amt)
    (hpos : ∀ p ∈ a, 0 ≤ p) (i : Nat) (h : i < a.length) :
    0 ≤ (allocate a amt)[i]'(by rw [allocate_length]; exact h) :=
  Machine.allocate_nonneg a amt hsum hamt hpos i h

/-- `NewAllotment` with `remaining` (exactly one) always yields portions summing to 100 %. -/
theorem newAllotment_remaining_sum_one (ps : List Portion) (a : List Rat)
    (h : newAllotment ps = .ok a) (hrem : countRemaining ps = 1) : a.sum = 1 := by
  rw [newAllotment_sum h, hrem]; push_cast; ring

/-- `NewAllotment` without `remaining` keeps the portions; they sum to 100 % iff the
    explicit portions do. -/
theorem newAllotment_explicit_sum (ps : List Portion) (a : List Rat)
    (h : newAllotment ps = .ok a) (hrem : countRemaining ps = 0) : a.sum = specificTotal ps := by
  rw [newAllotment_sum h, hrem]; push_cast; ring

/-- Non-vacuity: a concrete allotment meets the hypotheses and the conclusion is
    the expected split (1/3, 1/3, remaining of 10 → 4, 3, 3). -/
example : ([1/3, 1/3, 1/3] : List Rat).sum = 1 ∧ allocate [1/3, 1/3, 1/3] 10 = [4, 3, 3] := by
  constructor
  · norm_num
  · decide +kernel

example : newAllotment [.specific (1/2), .remaining, .specific (1/8)] = .ok [1/2, 3/8, 1/8] := by
  decide +kernel

end Ledger.C24
