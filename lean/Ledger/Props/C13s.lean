import Ledger.Proofs.SchedUnique
import Ledger.Proofs.SchedHandles
import Ledger.Proofs.SchedWitnesses

/-!
# C13 (schedule part) — idempotency keys under concurrency

Over ALL schedules and ALL programs: the unique index `logs (ledger, idempotency_key)`
keeps a key on at most one log. The answers of the losers depend on the
controller: `forgeLogG false` is the code before /repo 0fbf80e (a loser that missed the
key in its first lookup re-runs the whole operation and can answer its own business
error — `…_counterexample`), `forgeLogG true` = `forgeLog` the repaired code (a failed
attempt carrying a key looks the key up once more).
-/
namespace Ledger.C13s
open Ledger.Sched

/-- `ik_at_most_once_any_schedule`: for every schedule and every programs, no two logs of one
    ledger — committed or in progress — carry the same idempotency key. -/
theorem ik_at_most_once_any_schedule (σ : Schedule) (w₀ : World) (h₀ : UniqInv w₀) :
    (run σ w₀).logs.Pairwise (fun a b => a.l = b.l → a.ik ≠ 0 → a.ik ≠ b.ik) := by
  refine (uniq_run σ w₀ h₀).2.imp ?_
  intro a b hab hl
  exact (hab hl).2

example : UniqInv { logs := [{ l := 1, id := 1, ik := 3, hash := 0, prev := 0, tx := 1, by_ := 1, com := true }] } :=
  ⟨List.Pairwise.nil, List.pairwise_singleton _ _⟩

/-- `ik_hit_returns_original` / `ik_different_input_validation_error`: what `fetchLogWithIK` answers -/
theorem ik_hit_returns_original (hash id tx : Nat) :
    ikAnswer hash { flag := true, vals := [id, hash, tx] } = { tx := tx, log := id, hit := true } := by
  simp [ikAnswer]

theorem ik_different_input_validation_error (hash h' id tx : Nat) (hne : h' ≠ hash) :
    ikAnswer hash { flag := true, vals := [id, h', tx] } = { err := "invalid-idempotency-input" } := by
  simp [ikAnswer, hne]

/-- a second INSERT with a key that a committed log carries fails with the key conflict and inserts
    nothing; while the holder is in progress it waits -/
theorem ik_conflict_or_wait :
    let e : Lg := { l := 1, id := 7, ik := 3, hash := 0, prev := 0, tx := 1, by_ := 9, com := true }
    (∃ w', insLog { logs := [e] } 2 1 3 0 false none 2 = .failed w' .uniqueIK ∧ w'.logs = [e]) ∧
    insLog { logs := [{ e with com := false }] } 2 1 3 0 false none 2 = .blocked 9 := by
  refine ⟨?_, rfl⟩
  unfold insLog
  simp

/-- (repaired code) an attempt carrying a key that fails for a non-retryable reason looks the key
    up once more; if a log is recorded the caller gets the recorded outcome, not its own error -/
theorem failed_attempt_rechecks_key (l ik hash : Nat) (hik : ik ≠ 0) (fin : Resp → Prog) (own : Resp) (o : Out)
    (ho : o.flag = true) :
    (recordedOutcome true l ik hash fin own).next = some (.readIK l ik) ∧
    (recordedOutcome true l ik hash fin own).cont o = fin (ikAnswer hash o) := by
  unfold recordedOutcome
  simp [hik, Prog.next, Prog.cont, ho]

/-- Before the repair the loser answers `insufficient-funds` although the key is committed with a
    success: `ik_no_contradicting_business_error` was false. -/
theorem ik_no_contradicting_business_error_counterexample :
    (run cxSchedule (cxWorld false)).resp 1 = some { tx := 1, log := 1 } ∧
    (run cxSchedule (cxWorld false)).resp 2 = some { err := "insufficient-funds" } ∧
    (run cxSchedule (cxWorld false)).logs.map (fun e => (e.ik, e.com)) = [(1, true)] := by
  decide

/-- On the repaired code the same schedule answers the loser with the original log. -/
theorem ik_loser_gets_recorded_outcome :
    (run cxSchedule (cxWorld true)).resp 1 = some { tx := 1, log := 1 } ∧
    (run cxSchedule (cxWorld true)).resp 2 = some { tx := 1, log := 1, hit := true } := by
  decide

/-- tie (regenerated): the key lookup comes first, inside the transaction, and a hit rolls back -/
theorem ik_hit_path_follows_generated_handles :
    (sendProg (exSend true (.bounded 0) 1 0) true).pathK
        (fun st => match st with | .readIK _ _ => { flag := true, vals := [1, 7, 1] } | _ => {}) 40
      = modelledKinds Generated.Handles.sendIkHit ∧
    (sendProg (exSend true (.bounded 0) 1 0) true).answer
        (fun st => match st with | .readIK _ _ => { flag := true, vals := [1, 7, 1] } | _ => {}) 40
      = some { tx := 1, log := 1, hit := true } := by
  decide

end Ledger.C13s
