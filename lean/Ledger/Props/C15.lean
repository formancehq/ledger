import Ledger.Proofs.CoreRevert
import Ledger.Props.C02

/-!
C15 — Revert is an exact, single inverse (Go-side and Spec algebra parts).

`Core.reversePostings`, `Core.Tx.reverse`, `Core.markReverts`, `Core.buildRevertTx` model
`Postings.Reverse`, `Transaction.Reverse`, `MarkReverts` and the construction in
`DefaultController.revertTransaction`; tied by the `reverse` differential workload, which
calls the real `revertTransaction` over a stub store.  The "marked reverted exactly once
under concurrency" part (`UPDATE … WHERE reverted_at IS NULL`) belongs to the SQL/schedule
layer and is not covered here.
-/
namespace Ledger.C15
open Ledger.Base Ledger.Core Ledger.Spec

/-- `Postings.Reverse` swaps source and destination of every posting and reverses the
    order; doing it twice gives the original back. -/
theorem reverse_postings (ps : List Posting) :
    reversePostings ps = (ps.map Posting.swap).reverse ∧
    reversePostings (reversePostings ps) = ps ∧
    (reversePostings ps).length = ps.length :=
  ⟨rfl, reversePostings_involutive ps, by simp [reversePostings]⟩

example : reversePostings [⟨"a", "b", 1, "USD"⟩, ⟨"b", "c", 2, "EUR"⟩] = [⟨"c", "b", 2, "EUR"⟩, ⟨"b", "a", 1, "USD"⟩] := by
  decide

/-- What the reversed postings do to any (account, asset): inputs and outputs trade places. -/
theorem reverse_volumes (ps : List Posting) (k : Key) :
    foldVolumes k (reversePostings ps) = ⟨(foldVolumes k ps).output, (foldVolumes k ps).input⟩ := by
  simp [foldVolumes, inSum_reversePostings, outSum_reversePostings]

/-- T plus its revert leave every balance unchanged, wherever they sit in the history. -/
theorem tx_plus_revert_balance_neutral (h1 h2 h3 : List TxRec) (T R : TxRec)
    (hR : R.postings = reversePostings T.postings) (k : Key) :
    balanceOf (h1 ++ [T] ++ h2 ++ [R] ++ h3) k = balanceOf (h1 ++ h2 ++ h3) k := by
  simp only [balanceOf, volumesOf, allPostings_append, foldVolumes_append, balance_add, allPostings,
    List.append_nil, hR, reverse_volumes]
  simp only [Volumes.balance]
  omega

/-- … and so do the stored volumes: once T and its revert R are committed (with anything
    in between and after), each row's balance is what the history without T and R gives. -/
theorem store_balance_neutral (ops : List StoreOp) (st : Store) (h : runOps ops = .ok st)
    (h1 h2 h3 : List TxRec) (T R : TxRec) (hh : st.txRecs = h1 ++ [T] ++ h2 ++ [R] ++ h3)
    (hR : R.postings = reversePostings T.postings) (k : Key) (v : Volumes)
    (hv : st.accountsVolumes.get? k = some v) : v.balance = balanceOf (h1 ++ h2 ++ h3) k := by
  rw [C02.balance_eq_fold ops st h k v hv, hh]
  exact tx_plus_revert_balance_neutral h1 h2 h3 T R hR k

example : balanceOf [{ id := 1, postings := [⟨"world", "a", 10, "USD"⟩], timestamp := 1, insertedAt := 1 },
                     { id := 2, postings := [⟨"a", "b", 4, "USD"⟩, ⟨"b", "c", 1, "USD"⟩], timestamp := 2, insertedAt := 2 },
                     { id := 3, postings := reversePostings [⟨"a", "b", 4, "USD"⟩, ⟨"b", "c", 1, "USD"⟩], timestamp := 3, insertedAt := 3 }]
            ("b", "USD") = 0 := by decide

/-- Shape of the revert transaction `revertTransaction` hands to `CommitTransaction`:
    reversed postings, the client metadata plus the mark
    `com.formance.spec/state/reverts = <id of T>` (overriding a client value for that key),
    T's timestamp when reverting at the effective date and T's `reverted_at` otherwise,
    no id, no reference. -/
theorem revert_tx_shape (orig : Tx) (inp : RevertInput) (balances : Balances) (tx : Tx)
    (hm : Map.WF inp.metadata) (h : buildRevertTx orig inp balances = .ok tx) :
    tx.postings = reversePostings orig.postings ∧
    (∃ id, orig.id = some id ∧ tx.metadata.get? revertMetaKey = some (toString id)) ∧
    (∀ key, key ≠ revertMetaKey → tx.metadata.get? key = inp.metadata.get? key) ∧
    tx.timestamp = (if inp.atEffectiveDate then orig.timestamp else orig.revertedAt) ∧
    (inp.atEffectiveDate = false → orig.revertedAt ≠ none) ∧
    tx.id = none ∧ tx.reference = "" ∧ tx.revertedAt = none :=
  buildRevertTx_shape .current orig inp balances tx hm h

example : (buildRevertTx { id := some 7, postings := [⟨"a", "b", 4, "USD"⟩], timestamp := some 5, revertedAt := some 9 }
             { force := false, atEffectiveDate := false, metadata := [("x", "y")] } [(("b", "USD"), 4)]).toOption.map
            (fun t => (t.postings, t.metadata, t.timestamp)) =
          some ([⟨"b", "a", 4, "USD"⟩], [("com.formance.spec/state/reverts", "7"), ("x", "y")], some 9) := by
  decide

/-- A revert whose inputs come from the store (id and `reverted_at` set; `balances` holding
    exactly the (destination, asset) pairs of the original transaction, as `GetBalances`
    returns them) never panics: it builds the revert transaction or reports insufficient funds. -/
theorem revert_nonforced_total (orig : Tx) (inp : RevertInput) (balances : Balances)
    (hid : orig.id ≠ none) (hrev : orig.revertedAt ≠ none)
    (hb : balances.keys = involvedDestinations orig.postings) :
    buildRevertTx orig inp balances ≠ .error .nilDeref := by
  apply buildRevertTxV_no_panic .current orig inp balances hid hrev
  intro _
  refine revertApply_no_panic .current _ _ (fun rp hrp => ⟨?_, fun h => by cases h⟩) balances rfl
  simp only [reversePostings, List.mem_reverse, List.mem_map] at hrp
  obtain ⟨p, hp, rfl⟩ := hrp
  rw [hb]
  exact dstKey_mem_involvedDestinations hp

example : buildRevertTx { id := some 1, postings := [⟨"a", "b", 10, "USD"⟩, ⟨"b", "c", 5, "EUR"⟩], timestamp := some 1, revertedAt := some 2 }
    { force := false, atEffectiveDate := false, metadata := [] } [(("b", "USD"), 10), (("c", "EUR"), 5)] =
    .ok { postings := [⟨"c", "b", 5, "EUR"⟩, ⟨"b", "a", 10, "USD"⟩], timestamp := some 2,
          metadata := [("com.formance.spec/state/reverts", "1")] } := by decide

/-- The same claim for the check as it was before commit fe6217d (kept type-checked; it was
    FALSE: found by the `reverse` workload, fixed in /repo). -/
def revert_nonforced_total_preFix : Prop :=
  ∀ (orig : Tx) (inp : RevertInput) (balances : Balances),
    orig.id ≠ none → orig.revertedAt ≠ none →
    balances.keys = involvedDestinations orig.postings →
    buildRevertTxV .preFix orig inp balances ≠ .error .nilDeref

/-- Witness: `[a→b 10 USD, b→c 5 EUR]`.  `balances` holds (b,USD) and (c,EUR); undoing the
    second posting credits `b` in EUR — `balances["b"]` exists but `balances["b"]["EUR"]`
    was a nil `*big.Int` and `Add` dereferenced it. -/
theorem revert_nonforced_total_preFix_counterexample : ¬ revert_nonforced_total_preFix := by
  intro h
  exact h { id := some 1, postings := [⟨"a", "b", 10, "USD"⟩, ⟨"b", "c", 5, "EUR"⟩], timestamp := some 1, revertedAt := some 2 }
    { force := false, atEffectiveDate := false, metadata := [] }
    [(("b", "USD"), 10), (("c", "EUR"), 5)] (by decide) (by decide) (by decide) (by decide)

/-- What did hold before the fix: no panic when forced, or when `balances` is closed for the
    transaction (every (destination, asset) pair and, for every posting whose source account
    appears in it, the (source, asset) pair too — e.g. every single-asset transaction). -/
theorem revert_nonforced_total_preFix_partial (orig : Tx) (inp : RevertInput) (balances : Balances)
    (hid : orig.id ≠ none) (hrev : orig.revertedAt ≠ none)
    (hc : inp.force = true ∨ ∀ p ∈ orig.postings, balances.contains p.dstKey = true ∧
            (hasAccount balances p.source = true → balances.contains p.srcKey = true)) :
    buildRevertTxV .preFix orig inp balances ≠ .error .nilDeref := by
  apply buildRevertTxV_no_panic .preFix orig inp balances hid hrev
  intro hf
  rcases hc with hc | hc
  · rw [hf] at hc; exact absurd hc (by simp)
  · refine revertApply_no_panic .preFix _ _ (fun rp hrp => ?_) balances rfl
    simp only [reversePostings, List.mem_reverse, List.mem_map] at hrp
    obtain ⟨p, hp, rfl⟩ := hrp
    simp only [← Map.contains_iff_mem_keys, ← hasAccount_eq_keys]
    exact ⟨(hc p hp).1, fun _ => (hc p hp).2⟩

end Ledger.C15
