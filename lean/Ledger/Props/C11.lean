import Ledger.Proofs.CtrlImport
import Ledger.Proofs.CtrlReplayHist
import Ledger.Proofs.CtrlWire
import Ledger.Proofs.CtrlExamples

/-!
# C11 — Export then import reproduces the ledger, and the copy stays writable
(controller layer, sequential)

`replay s` = `Export` of `s` (logs in id order) then `Import` into an empty
ledger.  The JSON wire encoding of the logs is compared on the real code by the
`ctrlimport` workload (every exported log must survive Marshal → UnmarshalJSON).
The unconditional round trip is FALSE on the unchanged code (same counterexamples
as C08); `import_export_roundtrip` proves it for all histories under `replaySafe`,
through the JSON wire (`wireStream`: `json.Marshal` → `HydrateLog` of every payload,
another area's model, linked by `Ledger.Log.decodePayload_encodePayload` (`Proofs/LogPayload`;
`Ledger.C08payload.payload_decode_encode` is the same statement)).
-/
namespace Ledger.C11
open Ledger.Ctrl Ledger.Core Ledger.Ctrl.Examples

/-- Round trip FALSE (1): chart default metadata of a metadata-created account is lost. -/
theorem import_export_roundtrip_counterexample :
    (replay (runHist true {} histDefaults)).2 = none ∧
    (replay (runHist true {} histDefaults)).1.db.accounts ≠ (runHist true {} histDefaults).db.accounts := by
  decide +kernel

/-- Round trip FALSE (2): the first usage of an account is lowered to the date of a
    metadata save that precedes its (future-dated) first transaction date. -/
theorem import_export_roundtrip_counterexample_dates :
    (replay (runHist true {} histDates)).2 = none ∧
    (replay (runHist true {} histDates)).1.db.accounts ≠ (runHist true {} histDates).db.accounts := by
  decide +kernel

/-- **Export → JSON → Import reproduces the ledger.**  For every sequential history
    whose committed logs are `logSafe` (`replaySafe`): the exported stream, each
    payload written as JSON and hydrated back (`wireStream`), imported into an empty
    ledger at any clock, succeeds and yields the source's tables: every table equal,
    `accounts_volumes` up to `(0,0)` rows (`Db.norm`; a zero row equals the empty fold).
    The controller model keeps text and time abstract, so its payloads are embedded
    into the byte-level payload model by `enc`/`dec` (any left-invertible embedding);
    `hcanon` asks that the exported payloads embed as canonical values — the set on
    which `payload_decode_encode` holds (well-formed UTF-8, normalised dates, …). -/
theorem import_export_roundtrip (strict : Bool) (now' : Time) (ops : List Op)
    (enc : Payload → Ledger.Log.Payload) (dec : Ledger.Log.Payload → Option Payload)
    (hdec : ∀ p, dec (enc p) = some p)
    (hcanon : ∀ l ∈ exportLogs (runHist strict {} ops), Ledger.Log.canonicalPayload (enc l.payload) = true)
    (hsafe : replaySafe strict {} ops = true) :
    ∃ stream, wireStream enc dec (exportLogs (runHist strict {} ops)) = some stream ∧
      (importLogs now' {} stream).2 = none ∧
      (importLogs now' {} stream).1.db.norm = (runHist strict {} ops).db.norm :=
  ⟨_, wireStream_id enc dec hdec _ hcanon, replay_reproduces_safe strict now' ops hsafe⟩

/-- Without the wire: `Import (Export s)` reproduces `s` (= `Ledger.C08.replay_reproduces`). -/
theorem import_export_roundtrip_direct (strict : Bool) (now' : Time) (ops : List Op)
    (hsafe : replaySafe strict {} ops = true) :
    (importLogs now' {} (exportLogs (runHist strict {} ops))).2 = none ∧
    (importLogs now' {} (exportLogs (runHist strict {} ops))).1.db.norm = (runHist strict {} ops).db.norm :=
  replay_reproduces_safe strict now' ops hsafe

/-- Round trip FALSE (3): `updated_at` of an account after a metadata delete is restamped. -/
theorem import_export_roundtrip_counterexample_restamp :
    (replay (runHist false {} histRestamp)).2 = none ∧
    (replay (runHist false {} histRestamp)).1.db.accounts ≠ (runHist false {} histRestamp).db.accounts := by
  decide +kernel

-- Remark (NOT a violation): the raw `accounts_volumes` tables may differ by `(0,0)` rows
-- left by balance locks of the live write path; as values they are equal.
example : (replay (runHist false {} histLocked)).1.db.volumes ≠ (runHist false {} histLocked).db.volumes ∧
    (replay (runHist false {} histLocked)).1.db.norm = (runHist false {} histLocked).db.norm := locked_zero_rows

/-- What holds for the divergent payload (see C08.replay_reproduces_partial). -/
theorem import_export_roundtrip_partial (w : Time) (accounts : Ledger.Base.Map String Account) (a : String)
    (m defaults : Meta) (acc : Account) (hex : accounts.get? a = some acc) (hfu : acc.firstUsage ≤ w) :
    upsertAccount w accounts { address := a, metadata := m, defaults := defaults } =
    updateAccountMeta w accounts (a, m) :=
  savedMeta_paths_agree w accounts a m defaults (fun h => nomatch hex.symm.trans h)
    fun _ h => by cases hex.symm.trans h; exact Or.inr (Int.not_lt.mpr hfu)

/-- After an import the first write resynchronises both sequences to `max(id)`:
    every imported id is at or below its sequence … -/
theorem post_import_sequences_cover (s : State) :
    (∀ t ∈ (resync s).db.txs, t.id ≤ (resync s).seq.tx) ∧ (∀ l ∈ (resync s).db.logs, l.id ≤ (resync s).seq.log) :=
  resync_bounds s

/-- … so (imported tables being id-sorted with unique keys / references) the copy
    satisfies the id invariant and every later write — through the state tracker —
    keeps it: new ids continue above the imported ones, never reusing one. -/
theorem post_import_ids_continue (strict : Bool) (l : Ledger) (op : Op) (hu : l.inUse = false)
    (h1 : l.state.db.logs.Pairwise (fun a b => a.id < b.id)) (h2 : l.state.db.txs.Pairwise (fun a b => a.id < b.id))
    (h3 : l.state.db.logs.Pairwise (fun a b => b.ik = "" ∨ a.ik ≠ b.ik))
    (h4 : l.state.db.txs.Pairwise (fun a b => b.reference = "" ∨ a.reference ≠ b.reference)) :
    Inv (facadeWrite strict l op).1.state.db (facadeWrite strict l op).1.state.seq := by
  have hinv := resync_inv l.state h1 h2 h3 h4
  have hstep := (inv_stable strict).forgeLog op [] false (resync l.state) hinv
  unfold facadeWrite
  simp only [hu, Bool.false_eq_true, ↓reduceIte]
  split
  · -- failed / dry run: tables as before, sequences as consumed
    exact hinv.seq_mono ((seqLe_stable strict _).forgeLog op [] false (resync l.state) (SeqLe.refl _))
  · exact hstep

/-! non-vacuity: a copy that is exact, and stays writable with continuing ids -/
example : (replay s1).2 = none ∧ (replay s1).1.db = s1.db := by
  unfold replay
  exact import_of_export_exact
example : ((facadeWrite false { state := (replay (step false s1 (pay false)).1).1 } (pay false)).1.state.db.txs.map (·.id)) = [1, 2, 3] := by
  decide +kernel

end Ledger.C11
