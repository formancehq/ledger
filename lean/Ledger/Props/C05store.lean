import Ledger.Proofs.CoreInsPcv

/-!
C05 — Point-in-time and window reads equal the history fold (Spec / algebra part).

`Spec.volumesAt` (window `oot ≤ d ≤ pit`, insertion- or effective-date) is the *definition* of
the point-in-time read by fold.  The theorems relate it to the `moves` table of the abstract
store, in the two shapes the point-in-time SQL uses: a sum over the moves in the window, and
the effective volumes of the latest move at or before the point in time.  The SQL queries
themselves are not tied here (SQL area).
-/
namespace Ledger.C05store
open Ledger.Base Ledger.Core Ledger.Spec

/-- In every reachable store, summing the moves of an account/asset whose (insertion or
    effective) date lies in the window gives exactly the fold of the committed postings whose
    transaction date lies in that window. -/
theorem moves_window_sum_eq_fold (ops : List StoreOp) (st : Store) (h : runOps ops = .ok st)
    (w : Window) (mode : DateMode) (k : Key) :
    movesWindowVolumes st.moves w mode k = volumesAt st.txRecs w mode k :=
  movesWindowVolumes_eq_fold h w mode k

/-- In every reachable store, the effective volumes carried by the latest move (in
    (effective_date, seq) order) dated at or before `pit` are the fold of all committed
    postings with an effective date `≤ pit` — including transactions inserted later in the
    past (uses C04's invariant). -/
theorem first_value_pcev_eq_fold (ops : List StoreOp) (st : Store) (h : runOps ops = .ok st)
    (k : Key) (pit : Int) :
    effectiveVolumesAt st.moves k pit = volumesAt st.txRecs { pit := some pit } .effective k := by
  rw [effectiveVolumesAt_eq_window (PCEV_Inv_runOps h),
    movesWindowVolumes_eq_fold h]

/-- Insertion-date mode: in every reachable store whose insertion dates never decrease along the
    commit order (a sequential history), the post-commit volumes carried by the latest move
    (largest seq) inserted at or before `pit` are the fold of all postings of the transactions
    inserted at or before `pit` (uses C03's move-level invariant `PCV_Inv`). -/
theorem first_value_pcv_eq_fold (ops : List StoreOp) (st : Store) (h : runOps ops = .ok st)
    (hmono : st.txRecs.Pairwise (fun a b => a.insertedAt ≤ b.insertedAt)) (k : Key) (pit : Int) :
    insertionVolumesAt st.moves k pit = volumesAt st.txRecs { pit := some pit } .insertion k :=
  insertionVolumesAt_eq_fold h hmono k pit

example : (runOps [.commit { postings := [⟨"world", "a", 10, "USD"⟩], timestamp := 5, insertedAt := 7 },
                   .commit { postings := [⟨"a", "b", 4, "USD"⟩], timestamp := 1, insertedAt := 8 }]).toOption.map
            (fun st => [effectiveVolumesAt st.moves ("a", "USD") 3, effectiveVolumesAt st.moves ("a", "USD") 5,
                        movesWindowVolumes st.moves { oot := some 8 } .insertion ("a", "USD"),
                        insertionVolumesAt st.moves ("a", "USD") 7, insertionVolumesAt st.moves ("a", "USD") 8]) =
          some [⟨0, 4⟩, ⟨10, 4⟩, ⟨0, 4⟩, ⟨10, 0⟩, ⟨10, 4⟩] := by decide

end Ledger.C05store
