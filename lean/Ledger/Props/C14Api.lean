import Ledger.Proofs.ApiDecode

/-!
C14 (transaction references are unique per ledger) — API-boundary layer.

Reference uniqueness is enforced by the store on the reference the CONTROLLER
receives; this layer states that the request decoders hand the client's reference
(and the other request-level fields) to the controller unchanged, for v1 in both
forms, v2 in both forms and bulk elements.  Models: `Ledger/Api/TxBody.lean`, tied
to the real handlers by the `txbody14` workload (every field of the recorded
`CreateTransaction` parameters compared, signature per field).
-/
namespace Ledger.C14Api
open Ledger.Api

/-- v1 `POST /{ledger}/transactions`, postings form and script form alike. -/
theorem createV1_passes_reference (parseTime : String → Option String) (kvs : List (String × JVal))
    (c : CreateCall) (h : createV1 parseTime (.obj kvs) = .ok c) :
    decStr (getField kvs "reference") = .ok c.reference :=
  (createV1_fields parseTime kvs c h).1

theorem createV1_passes_timestamp_metadata (parseTime : String → Option String) (kvs : List (String × JVal))
    (c : CreateCall) (h : createV1 parseTime (.obj kvs) = .ok c) :
    decTime parseTime (getField kvs "timestamp") = .ok c.timestamp ∧
    (decStrMap (getField kvs "metadata")).map (·.getD []) = .ok c.metadata :=
  (createV1_fields parseTime kvs c h).2

/-- v2 `POST /v2/{ledger}/transactions`, postings, script and template forms. -/
theorem createV2_passes_reference (parseTime : String → Option String) (queryForce : Bool)
    (kvs : List (String × JVal)) (c : CreateCall) (h : createV2 parseTime queryForce (.obj kvs) = .ok c) :
    decStr (getField kvs "reference") = .ok c.reference :=
  let ⟨_, hd, hc⟩ := createV2_ok h
  (request_fields hd hc).1

theorem createV2_passes_fields (parseTime : String → Option String) (queryForce : Bool)
    (kvs : List (String × JVal)) (c : CreateCall) (h : createV2 parseTime queryForce (.obj kvs) = .ok c) :
    decTime parseTime (getField kvs "timestamp") = .ok c.timestamp ∧
    (decStrMap (getField kvs "metadata")).map (·.getD []) = .ok c.metadata ∧
    decAccountMetadata (getField kvs "accountMetadata") = .ok c.accountMetadata ∧
    decStr (getField kvs "runtime") = .ok c.runtime :=
  let ⟨_, hd, hc⟩ := createV2_ok h
  (request_fields hd hc).2

/-- Bulk `CREATE_TRANSACTION` element: idempotency key and reference. -/
theorem bulkCreate_passes_reference (parseTime : String → Option String) (kvs dk : List (String × JVal))
    (ik : String) (c : CreateCall) (hdata : getField kvs "data" = some (.obj dk))
    (h : bulkElement parseTime (.obj kvs) = .call ik (.create c)) :
    decStr (getField kvs "ik") = .ok ik ∧ decStr (getField dk "reference") = .ok c.reference :=
  let ⟨hik, _, hd, hc⟩ := bulkCreate_ok hdata h
  ⟨hik, (request_fields hd hc).1⟩

/-- Non-vacuity: a v1 postings request with a reference is accepted and carries it. -/
example : (match createV1 (fun _ => none)
    (.obj [("postings", .arr [.obj [("source", .str "world"), ("destination", .str "bank"),
      ("amount", JVal.int 100), ("asset", .str "USD/2")]]), ("reference", .str "ref-1")]) with
    | .ok c => c.reference == "ref-1"
    | _ => false) = true := by
  decide +kernel

end Ledger.C14Api
