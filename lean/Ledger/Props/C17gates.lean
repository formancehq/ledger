import Ledger.Proofs.Gates

/-!
C17 (metadata-history gates of reads) — theorem over the REGENERATED read-shape matrix
(`Ledger.Generated.readShapeCodes`, rebuilt from /repo on every run by
`tools/t1_readshapes`: the real store read paths rendered over a recording
driver for every resource × call × PIT/OOT × date mode × expand × filter ×
feature set × alone-in-bucket).  The quantifier is a finite table regenerated
from the source, so `decide +kernel` over the whole table (one evaluation for the
three gates, `every_read_ok` in `Proofs/Gates.lean`, of which this theorem is a
component) is a proof about the current tree, not a sample.
-/
namespace Ledger.C17gates
open Ledger.Gates Ledger.Generated Ledger.GatesProps

/-- Metadata history tables are joined exactly when the corresponding
    *_METADATA_HISTORY feature is SYNC and the read is time-scoped. -/
theorem every_read_meta_history_ok :
    ∀ c ∈ readShapeCodes, (Shape.ofCode c).metaHistoryOk = true :=
  fun c hc => ((Shape.ok_iff _).1 (every_read_ok c hc)).2.1

/-- Non-vacuity: both history tables are joined by some shape, and some PIT read
    of transactions runs with the transaction history feature off. -/
example :
    (readShapeChunks.any fun ch => ch.any fun c => (Shape.ofCode c).tTxMeta) = true ∧
    (readShapeChunks.any fun ch => ch.any fun c => (Shape.ofCode c).tAccMeta) = true ∧
    (readShapeChunks.any fun ch => ch.any fun c =>
      (Shape.ofCode c).resource == .transactions && (Shape.ofCode c).pit && !(Shape.ofCode c).tmh && (Shape.ofCode c).amh) = true := by
  decide +kernel

end Ledger.C17gates
