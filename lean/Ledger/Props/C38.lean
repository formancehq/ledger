import Ledger.Proofs.ApiDecode
import Ledger.Api.ErrTable

/-!
C38 — Malformed client input yields a client error and no effect.

Models: `Ledger/Api/*.lean`
(request decoders as total functions into `ok | clientError | fault`, `fault` = Go
panic or 5xx), `Ledger/Generated/ErrTable.lean` (regenerated from the source by
`tools/t3_errtable` on every check).  Each model is tied to the real decoders /
router by the `vars`, `txbody`, `cursor` and `http` correspondence workloads.

Since the `fix:` commits 5483107 (v1 `Script.ToCore`), 2262951 (cursors), 8f6c072
(`HandleCommonErrors`, v1 revert / count) and 99c51f7 (logs import) no modelled
decoder faults and every (handler, client error) pair of the specification
resolves to a 4xx: all theorems are stated in full, without exclusions.
-/
namespace Ledger.C38
open Ledger.Api Ledger.Api.ErrTable Ledger.Generated.ErrTable

/-- v2 / bulk (`ScriptV1.ToCore`): no JSON value of `vars` makes the decoder fault. -/
theorem decodeVarsV2_never_faults (vars : Option JVal) (m : String) : decodeVarsV2 vars ≠ .fault m :=
  Res.ofDec_ne_fault _ _

/-- v1 (`Script.ToCore`): no JSON value of `vars` makes the decoder fault (a number,
    boolean or array variable is answered 400 VALIDATION; before 5483107 it panicked). -/
theorem decodeVarsV1_never_faults (vars : Option JVal) (m : String) : decodeVarsV1 vars ≠ .fault m := by
  unfold decodeVarsV1
  split
  · nofun
  · nofun
  · exact Res.ne_fault (isFault_varsV1Loop _) m
  · nofun

/-- The former panic input is a plain client error. -/
theorem decodeVarsV1_number_variable :
    decodeVarsV1 (some (.obj [("x", JVal.int 1)])) = .clientError "VALIDATION" := rfl

/-- The machine side (`NewValueFromString`, `ParseVariablesJSON`) never faults. -/
theorem setVars_never_faults (decl : List (String × VarType)) (vars : VarMap) (m : String) :
    Res.ofDec (setVars decl vars) ≠ .fault m :=
  Res.ofDec_ne_fault _ _

theorem createV2_never_faults (parseTime : String → Option String) (queryForce : Bool) (body : JVal)
    (m : String) : createV2 parseTime queryForce body ≠ .fault m := by
  unfold createV2
  split
  · nofun
  · split
    · nofun
    · split
      · nofun
      · split <;> nofun

theorem createV1_never_faults (parseTime : String → Option String) (body : JVal) (m : String) :
    createV1 parseTime body ≠ .fault m := by
  -- the only fault `createV1` can answer is one handed up by `decodeVarsV1`
  intro h
  unfold createV1 at h
  extract_lets dec decoded at h
  generalize decoded = d at h
  split at h
  · cases h
  · split at h
    · cases h
    · split at h
      · split at h <;> cases h
      · split at h
        · exact decodeVarsV1_never_faults _ _ ‹_›
        · cases h
        · cases h

theorem revertBodyV2_never_faults (body : Option JVal) (m : String) : revertBodyV2 body ≠ .fault m := by
  unfold revertBodyV2
  split
  · nofun
  · split <;> nofun

theorem metadataBody_never_faults (body : JVal) (m : String) : metadataBody body ≠ .fault m := by
  unfold metadataBody
  split <;> nofun

/-- Bulk elements: the outcome type has no fault; a rejected element is never a
    controller call. -/
theorem bulkElement_total (parseTime : String → Option String) (el : JVal) :
    bulkElement parseTime el = .decodeError ∨ bulkElement parseTime el = .elementError ∨
      ∃ ik c, bulkElement parseTime el = .call ik c := by
  cases bulkElement parseTime el with
  | decodeError => exact .inl rfl
  | elementError => exact .inr (.inl rfl)
  | call ik c => exact .inr (.inr ⟨ik, c, rfl⟩)

/-- `UnmarshalCursor`: every cursor — not base64, not JSON, JSON `null`, any JSON
    value with any members — is answered without a fault. -/
theorem decodeCursor_never_faults (filtersOk : Bool) (v : Option JVal) (m : String) :
    decodeCursor filtersOk v ≠ .fault m := by
  unfold decodeCursor
  split
  · nofun
  · nofun
  · exact Res.ofDec_ne_fault _ _
  · nofun

/-- The cursor `null` (`?cursor=bnVsbA`), which used to panic, is a client error. -/
theorem decodeCursor_null (filtersOk : Bool) :
    decodeCursor filtersOk (some .null) = .clientError "invalid cursor" := rfl

theorem pageSizeParam_never_faults (dflt max : Nat) (s m : String) : pageSizeParam dflt max s ≠ .fault m := by
  unfold pageSizeParam
  split
  · nofun
  · split <;> nofun

theorem dateParam_never_faults (parseTime : String → Option String) (s m : String) :
    dateParam parseTime s ≠ .fault m := by
  unfold dateParam
  split
  · nofun
  · split <;> nofun

theorem txIdParam_never_faults (s m : String) : txIdParam s ≠ .fault m := by
  unfold txIdParam
  split <;> nofun

/-- A case body either answers with a 4xx status or hands over to another handler
    (`other`: v1 `getAccount` turns "not found" into an empty account, 200). -/
def actIs4xxOrDelegates : Action → Bool
  | .status c _ => 400 ≤ c && c < 500
  | _ => true

/-- Every `case errors.Is(err, E)` of every handler answers a client error type `E`
    with a 4xx (or delegates). -/
theorem clientError_is_4xx :
    ∀ e ∈ entries, e.err ∈ clientErrors → actIs4xxOrDelegates e.act = true := by
  decide +kernel

/-- Every (handler, typed client error) pair of the specification is answered with a
    4xx, following the delegation chain of the table regenerated from the source. -/
theorem handlers_answer_client_errors_4xx :
    ∀ p ∈ canReturn, is4xx (statusOf p.1 p.2) = true := by
  decide +kernel

/-- Non-vacuity: a concrete well-formed v2 request decodes to a controller call. -/
example : (createV2 (fun _ => none) false
    (.obj [("postings", .arr [.obj [("source", .str "world"), ("destination", .str "bank"),
      ("amount", JVal.int 100), ("asset", .str "USD/2")]])])).isOk = true := by
  decide +kernel

example : statusOf F.«v2.createTransaction» E.ErrIdempotencyKeyConflict = 409 := by decide +kernel
example : statusOf F.«v1.listTransactions@direct» E.ErrInvalidQuery = 400 := by decide +kernel

end Ledger.C38
