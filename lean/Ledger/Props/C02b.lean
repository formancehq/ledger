import Ledger.Proofs.SqlVolumesSpec

/-!
C02b — bridge: the SQL of `UpdateVolumes` IS `Spec.upsertVolumes` (by proof).

Subject: the AST `Ledger.Generated.WriteSql.P.updateVolumes bucket ledger id rows`, regenerated by
translator `t1_writesql` from the statement the real `Store.UpdateVolumes` renders (as a function
of its rows), evaluated by LeanPG's evaluator (`Ledger.Sql.runStmt`) on the table
`accounts_volumes` of `Ledger.Generated.Schema` (translator `t2_schema`).

Quantification: ANY list of rows with pairwise distinct (account, asset) (PostgreSQL refuses a
statement that touches a row twice, SQLSTATE 21000), ANY contents of `accounts_volumes`
satisfying the storage invariants `AvState` (well-typed rows, primary key unique among the
versions visible to the transaction, a fresh command id, no concurrent transaction in progress),
ANY other tables, ANY fuel ≥ 7, any environment.

`avAbs s b l` is the abstraction function: the volumes of ledger `l` as the running transaction
reads them (first visible row version carrying the key).
-/
namespace Ledger.C02b
open Ledger.Sql Ledger.Base Ledger.Core Ledger.Generated.WriteSql
open Ledger.Generated.WriteSql.P (VolumeRow)

/-- The flagship. From a state whose `accounts_volumes` abstracts to `av`, the generated statement
    succeeds, RETURNs exactly the rows `(Spec.upsertVolumes av vu).2` (in the order of the rows),
    leaves a state abstracting to `(Spec.upsertVolumes av vu).1`, does not touch the rows of other
    ledgers, writes only this table, and keeps the storage invariants. -/
theorem updateVolumes_adds (n : Nat) (env : Env) (b l : String) (id : Nat) (hb : b.isEmpty = false)
    (s : St) (rs : List Ver) (nr : Nat) (hs : AvState s b l rs nr)
    (rows : List VolumeRow) (hne : rows ≠ []) (hnodup : (rows.map avKeyOf).Nodup)
    (av : PCV) (hwf : Map.WF av) (habs : ∀ k, avAbs s b l k = av.get? k) :
    ∃ s', ((P.updateVolumes b l id rows).mapM (runStmt (n + 7) env)).exec s =
        (.ok [{ rel := { cols := ["input", "output"],
                         rows := (Spec.upsertVolumes av (vuOf rows)).2.map (fun e => [.int e.2.input, .int e.2.output]) },
                affected := rows.length }], s') ∧
      (∀ k, avAbs s' b l k = (Spec.upsertVolumes av (vuOf rows)).1.get? k) ∧
      (∀ l', l' ≠ l → ∀ k, avAbs s' b l' k = avAbs s b l' k) ∧
      (∃ rs' nr', s' = s.withTable (avT b rs' nr') ∧ AvInv (latestView s.w s.xid) rs' nr') :=
  updateVolumes_bridge n env b l id hb s rs nr hs rows hne hnodup av hwf habs

/-- The same, read row by row and without the Spec: after the statement, the key of every row
    reads `old + excluded` when a row existed and the row's own values when none did; every key
    the statement does not mention reads what it read before. -/
theorem updateVolumes_adds_rowwise (n : Nat) (env : Env) (b l : String) (id : Nat) (hb : b.isEmpty = false)
    (s : St) (rs : List Ver) (nr : Nat) (hs : AvState s b l rs nr)
    (rows : List VolumeRow) (hne : rows ≠ []) (hnodup : (rows.map avKeyOf).Nodup)
    (av : PCV) (hwf : Map.WF av) (habs : ∀ k, avAbs s b l k = av.get? k) :
    ∃ r s', ((P.updateVolumes b l id rows).mapM (runStmt (n + 7) env)).exec s = (.ok r, s') ∧
      (∀ x ∈ rows, avAbs s' b l (x.accounts_address, x.asset) =
        some (match avAbs s b l (x.accounts_address, x.asset) with
              | some old => ⟨old.input + x.input_, old.output + x.output_⟩
              | none => ⟨x.input_, x.output_⟩)) ∧
      (∀ k, k ∉ rows.map avKeyOf → avAbs s' b l k = avAbs s b l k) := by
  obtain ⟨s', h1, h2, _, _⟩ := updateVolumes_adds n env b l id hb s rs nr hs rows hne hnodup av hwf habs
  refine ⟨_, s', h1, ?_, ?_⟩
  · intro x hx
    have hmem : ((x.accounts_address, x.asset), (⟨x.input_, x.output_⟩ : Volumes)) ∈ vuOf rows :=
      List.mem_map_of_mem (f := fun r : VolumeRow => ((r.accounts_address, r.asset), (⟨r.input_, r.output_⟩ : Volumes))) hx
    rw [h2, get?_upsert_mem (vuOf rows) av hwf (by rw [vuOf_keys]; exact hnodup) _ _ hmem, habs]
    unfold Spec.upsertRow
    cases Map.get? av (x.accounts_address, x.asset) <;> rfl
  · intro k hk
    rw [h2, get?_upsert_notMem (vuOf rows) av hwf (by rw [vuOf_keys]; exact hnodup) k (by rw [vuOf_keys]; exact hk), habs]

/-! The hypotheses are satisfiable: a bucket whose `accounts_volumes` holds one committed row,
    read by transaction 7 at command id 3. -/
example : AvState
    { w := { tables := [avT "_default" [{ rid := 1, xmin := 0, cmin := 0, vals := [.text "l", .text "a", .text "USD", .int 5, .int 2] }] 2],
             active := [7], nextXid := 8 },
      sid := 1, xid := 7, snap := { xip := [], xmax := 7 }, cid := 3, nextCid := 4, now := 0 }
    "_default" "l" [{ rid := 1, xmin := 0, cmin := 0, vals := [.text "l", .text "a", .text "USD", .int 5, .int 2] }] 2 := by
  refine ⟨rfl, by simp, by simp, by simp, ⟨?_, by simp, ?_⟩, ?_⟩
  · intro r hr; simp at hr; subst hr; exact ⟨_, _, _, _, _, rfl⟩
  · intro r1 h1 r2 h2 _ _; simp at h1 h2; subst h1 h2; simp
  · intro r hr h1; simp at hr; subst hr; simp at h1

end Ledger.C02b
