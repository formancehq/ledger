import Ledger.Proofs.Reads

/-!
C01 (read path) — double-entry conservation per asset of every volumes table a read works on.

Only property theorems and non-vacuity examples.  `volumesTable txs w mode` is what
`GetVolumesWithBalances(PIT, OOT, UseInsertionDate)`, the `expand=volumes|effectiveVolumes` of the
accounts at PIT and `GetAggregatedBalances(PIT)` list / sum; `currentVolumes` what they work on
without a point in time (`Reads/Views.lean`).  The theorems hold for ALL histories, windows and both
date modes.  That the REAL answers over LeanPG (the modelled Postgres) are these tables is tested
(workload `pit -prop C01`, which also evaluates the same predicate on the real answers).
-/
namespace Ledger.C01r
open Ledger.Base Ledger.Core Ledger.Spec Ledger.Reads

/-- **At every point in time / window and in both date modes, the balances (input − output) of the
    listed rows of each asset sum to zero.** -/
theorem pit_listing_conserved (txs : List TxRec) (w : Window) (mode : DateMode) (s : String) :
    netIn s (volumesTable txs w mode) = 0 := touchedTable_conserved (txsIn txs w mode) s

/-- The same without a point in time (`accounts_volumes`). -/
theorem current_listing_conserved (txs : List TxRec) (s : String) : netIn s (currentVolumes txs) = 0 :=
  touchedTable_conserved txs s

/-- The listing has one row per touched pair (no duplicates to double-count). -/
theorem listing_keys_nodup (txs : List TxRec) (w : Window) (mode : DateMode) :
    (volumesTable txs w mode).keys.Nodup := by
  rw [volumesTable, Map.keys_map_pair]
  exact touchedKeys_nodup _

example :
    let txs : List TxRec := [
      { id := 1, postings := [⟨"world", "a", 10, "USD"⟩, ⟨"a", "b", 4, "USD"⟩], timestamp := 5, insertedAt := 7 },
      { id := 2, postings := [⟨"a", "b", 3, "EUR"⟩], timestamp := 1, insertedAt := 8 }]
    (netIn "USD" (volumesTable txs (pitWindow (some 5)) .effective), netIn "EUR" (volumesTable txs (pitWindow (some 7)) .insertion),
     (volumesTable txs (pitWindow (some 1)) .effective).length) = (0, 0, 2) := by decide

end Ledger.C01r
