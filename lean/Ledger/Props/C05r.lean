import Ledger.Proofs.ReadsTxMeta
import Ledger.Props.C05store

/-!
C05 (read path) — Point-in-time and window reads equal the history fold.

Only property theorems and non-vacuity examples.  `Ledger.Reads` (`Reads/Views.lean`) is the read
API as functions of the Spec journal; the theorems say what each answer is in terms of the Spec's
folds for ALL histories, instants, windows and date modes, and — through `Ledger.C05store`'s
`moves_window_sum_eq_fold` / `first_value_pcev_eq_fold` — that these are exactly what the two
arithmetic dataset shapes of the PIT SQL (`sum(case when …)` over the moves of the window,
`first_value(post_commit_effective_volumes)` of the latest move ≤ pit) compute on every reachable
abstract store.

The step *rendered SQL → `Ledger.Reads`* is TESTED correspondence (workload `pit` of `vrreads`:
the real DefaultController over the real store over pgfake → LeanPG, the MODELLED Postgres), not
proved.
-/
namespace Ledger.C05r
open Ledger.Base Ledger.Core Ledger.Spec Ledger.Reads

/-- **Every row of a PIT / window volumes listing holds the fold of the postings whose date lies
    in the window** (`oot ≤ date ≤ pit`, both inclusive, either bound optional), for both date
    modes. -/
theorem window_volumes_eq_fold (txs : List TxRec) (w : Window) (mode : DateMode) (e : Key × Volumes)
    (h : e ∈ volumesTable txs w mode) : e.2 = volumesAt txs w mode e.1 :=
  volumesTable_row txs w mode e h

/-- The PIT special case (`GetVolumesWithBalances(PIT)`, `expand=volumes|effectiveVolumes` of an
    account at PIT, aggregated balances at PIT): the fold of the postings dated at or before `pit`. -/
theorem pit_volumes_eq_fold (txs : List TxRec) (pit : Int) (mode : DateMode) (e : Key × Volumes)
    (h : e ∈ volumesTable txs (pitWindow (some pit)) mode) :
    e.2 = volumesOf (txs.filter fun t => decide (t.date mode ≤ pit)) e.1 := by
  rw [volumesTable_row txs _ mode e h]
  unfold volumesAt txsIn pitWindow Window.contains
  simp

/-- **A pair is listed iff a transaction of the window touches it** (zero-amount postings
    included): no row is invented, none is dropped. -/
theorem window_row_listed_iff (txs : List TxRec) (w : Window) (mode : DateMode) (k : Key) :
    k ∈ (volumesTable txs w mode).keys ↔ ∃ t ∈ txs, w.contains (t.date mode) = true ∧ touches k t.postings = true := by
  rw [mem_volumesTable_keys]
  unfold txsIn
  constructor
  · rintro ⟨t, ht, hk⟩
    obtain ⟨h1, h2⟩ := List.mem_filter.mp ht
    exact ⟨t, h1, h2, hk⟩
  · rintro ⟨t, h1, h2, hk⟩
    exact ⟨t, List.mem_filter.mpr ⟨h1, h2⟩, hk⟩

/-- **Bridge to the moves table (`sum(case when …)` shape)**: on every reachable abstract store,
    the value of a window row is the sum of the moves of the pair whose date (insertion or
    effective) lies in the window. -/
theorem window_volumes_eq_moves_sum (ops : List StoreOp) (st : Store) (h : runOps ops = .ok st)
    (w : Window) (mode : DateMode) (e : Key × Volumes) (he : e ∈ volumesTable st.txRecs w mode) :
    e.2 = movesWindowVolumes st.moves w mode e.1 := by
  rw [volumesTable_row _ w mode e he, Ledger.C05store.moves_window_sum_eq_fold ops st h]

/-- **Bridge to the moves table (`first_value(post_commit_effective_volumes)` shape)**: on every
    reachable abstract store, the value of an effective-date PIT row is the post-commit effective
    volumes carried by the latest move of the pair at or before `pit` in (effective date, seq)
    order — back-dated inserts included. -/
theorem pit_effective_eq_first_value (ops : List StoreOp) (st : Store) (h : runOps ops = .ok st)
    (pit : Int) (e : Key × Volumes) (he : e ∈ volumesTable st.txRecs (pitWindow (some pit)) .effective) :
    e.2 = effectiveVolumesAt st.moves e.1 pit := by
  rw [volumesTable_row _ _ _ e he, Ledger.C05store.first_value_pcev_eq_fold ops st h]
  rfl

/-- **Transactions at a point in time**: a transaction is listed iff its timestamp is at or
    before `t`, and carries the reverted mark iff the revert happened at or before `t` — the
    listing is `Spec.txAt t` on every committed transaction (ids and marks). -/
theorem pit_transactions_reverted_mask (feat : Features) (l : Ledger) (t : Int) :
    (transactionsAt feat l (some t)).map (fun v => (v.id, v.timestamp, v.revertedAt)) =
      (l.txs.filterMap (txAt t)).map (fun x => (x.id, x.timestamp, x.revertedAt)) := by
  unfold transactionsAt
  rw [List.map_filterMap, List.map_filterMap]
  congr 1
  funext x
  unfold txAt maskReverted
  by_cases hle : x.timestamp ≤ t
  · cases hr : x.revertedAt <;> simp [hle]
  · simp [hle]

/-- **The transactions listing at `t`, in full**: exactly the committed transactions with
    timestamp ≤ t, in commit order, each with its postings / dates / reference, the reverted mark
    iff the revert happened at or before `t` (`Spec.txAt`), and the metadata `Spec.metaAt` gives at
    `t` (history SYNC) resp. now (history DISABLED). -/
theorem pit_transactions_eq_spec (feat : Features) (l : Ledger) (t : Int)
    (hok : feat.txMetaHist = true → ∀ x ∈ l.txs, TxJournalOK x.id false l.events) :
    (transactionsAt feat l (some t)).map
        (fun v => (v.id, v.postings, v.timestamp, v.insertedAt, v.reference, v.revertedAt, v.metadata)) =
      (l.txs.filterMap (txAt t)).map
        (fun x => (x.id, x.postings, x.timestamp, x.insertedAt, x.reference, x.revertedAt,
                   metaAt l (.tx x.id) (if feat.txMetaHist then some t else none))) := by
  unfold transactionsAt
  rw [List.map_filterMap, List.map_filterMap]
  apply filterMap_congr_mem
  intro x hx
  have hmeta : txMetaRead feat l x.id (some t) = metaAt l (.tx x.id) (if feat.txMetaHist then some t else none) := by
    cases hh : feat.txMetaHist with
    | true => simpa using txMetaRead_eq_metaAt feat l x.id t hh (hok hh x hx)
    | false => simp [txMetaRead, hh]
  unfold txAt maskReverted
  by_cases hle : x.timestamp ≤ t
  · cases hr : x.revertedAt <;> simp [hle, hmeta]
  · simp [hle]

/-- Every listed transaction satisfies the property's two inequalities. -/
theorem pit_transactions_bounds (feat : Features) (l : Ledger) (t : Int) (v : TxView)
    (hv : v ∈ transactionsAt feat l (some t)) :
    v.timestamp ≤ t ∧ ∀ r, v.revertedAt = some r → r ≤ t := by
  unfold transactionsAt at hv
  obtain ⟨x, _, hx⟩ := List.mem_filterMap.mp hv
  by_cases hle : x.timestamp ≤ t
  · simp only [hle, decide_true, if_true, Option.some.injEq] at hx
    subst hx
    refine ⟨hle, ?_⟩
    intro r hr
    simp only [maskReverted] at hr
    cases hxr : x.revertedAt with
    | none => simp [hxr] at hr
    | some d =>
      simp only [hxr] at hr
      by_cases hd : d ≤ t
      · simp [hd] at hr; omega
      · simp [hd] at hr
  · simp [hle] at hx

/-- **Accounts at a point in time appear only once their first usage is at or before `t`**, and
    the listed first usage / insertion date are the Spec's folds. -/
theorem pit_accounts_first_usage_le (feat : Features) (l : Ledger) (t : Int) (v : AccountView)
    (hv : v ∈ accountsAt feat l (some t)) :
    firstUsage l v.address = some v.firstUsage ∧ insertionDate l v.address = some v.insertionDate ∧
      v.firstUsage ≤ t ∧ accountExistsAt l v.address t = true := by
  obtain ⟨a, _, r, fu, ins, _, hf, hi, hle, rfl⟩ := mem_accountsAt.mp hv
  exact ⟨hf, hi, hle, by simp [accountExistsAt, hf, hle]⟩

/-- Conversely, an account of the journal whose first usage is at or before `t` (and that has a
    row) is listed at `t`. -/
theorem pit_accounts_listed_of_first_usage_le (feat : Features) (l : Ledger) (t : Int) (a : String) (r : AcctRow)
    (fu ins : Int) (ha : a ∈ l.accounts) (hr : acctRowOf l a = some r) (hf : firstUsage l a = some fu)
    (hi : insertionDate l a = some ins) (hle : fu ≤ t) :
    ∃ v ∈ accountsAt feat l (some t), v.address = a ∧ v.firstUsage = fu :=
  ⟨_, mem_accountsAt.mpr ⟨a, ha, r, fu, ins, hr, hf, hi, hle, rfl⟩, rfl, rfl⟩

/-- Without a point in time the volumes listing is `accounts_volumes`: every pair ever touched,
    holding the fold of all committed postings (C02's read path). -/
theorem current_volumes_eq_fold (txs : List TxRec) (e : Key × Volumes) (h : e ∈ currentVolumes txs) :
    e.2 = volumesOf txs e.1 := currentVolumes_row txs e h

/-- Non-vacuity / test: tx 1 at effective date 5 (inserted at 7), tx 2 back-dated to 1 (inserted
    at 8). At pit = 3 in effective time only tx 2 counts; at pit = 7 in insertion time only tx 1. -/
example :
    let txs : List TxRec := [
      { id := 1, postings := [⟨"world", "a", 10, "USD"⟩], timestamp := 5, insertedAt := 7 },
      { id := 2, postings := [⟨"a", "b", 4, "USD"⟩], timestamp := 1, insertedAt := 8 }]
    (volumesTable txs (pitWindow (some 3)) .effective, volumesTable txs (pitWindow (some 7)) .insertion,
     volumesTable txs { oot := some 8, pit := some 9 } .insertion) =
    ([(("a", "USD"), ⟨0, 4⟩), (("b", "USD"), ⟨4, 0⟩)],
     [(("a", "USD"), ⟨10, 0⟩), (("world", "USD"), ⟨0, 10⟩)],
     [(("a", "USD"), ⟨0, 4⟩), (("b", "USD"), ⟨4, 0⟩)]) := by decide

/-- Non-vacuity of the reverted mask: a transaction reverted at 9 shows the mark at t = 9 and not
    at t = 8. -/
example :
    let l : Ledger := { events := [
      .committed { id := 1, postings := [⟨"world", "a", 10, "USD"⟩], timestamp := 5, insertedAt := 5 } [] true,
      .reverted 1 9,
      .committed { id := 2, postings := [⟨"a", "world", 10, "USD"⟩], timestamp := 9, insertedAt := 9 } [] false] }
    ((transactionsAt {} l (some 8)).map (fun v => (v.id, v.revertedAt)),
     (transactionsAt {} l (some 9)).map (fun v => (v.id, v.revertedAt))) =
    ([(1, none)], [(1, some 9), (2, none)]) := by decide

end Ledger.C05r
