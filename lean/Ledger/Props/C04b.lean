import Ledger.Proofs.SqlMovesSpec
import Ledger.Proofs.SqlRunMoves

/-!
C04b — bridge: the triggers `set_effective_volumes` / `update_effective_volumes` (PL/pgSQL of the
migrations, regenerated by `t2_schema` as `Ledger.Generated.Schema.fn_…`) against
`Ledger.Spec.setEffective` / `updateEffective` / `insertMoves`.

* PROVED for all rows (`setEffectiveVolumes_sem`, `updateEffectiveVolumes_sem`, `triggerBodies_sem`): the meaning of every
  expression of the two function bodies under LeanPG's expression evaluator — the WHERE clauses
  (`<` vs `<=`, the `seq` tie-break, `>` of the AFTER trigger, the account / asset / ledger match), the
  computed volumes (`+`, which side `is_source` feeds) and the default; the shape of the statements
  (single table, ORDER BY effective_date DESC, seq DESC LIMIT 1; UPDATE without FROM) is fixed by
  syntactic equality with the generated AST.
* PROVED in general (`prevQuery_sem`, `insertMoves_refines`): LeanPG's SELECT (scan, WHERE, projection, ORDER BY … DESC, LIMIT 1),
  UPDATE loop, PL/pgSQL interpreter (`new.col := …`, nested commands with fresh command ids, `RETURN new`), the sequence default of
  `seq`, and the BEFORE / AFTER INSERT ROW trigger scheduling around the multi-row `INSERT INTO moves` of
  `Ledger.Generated.WriteSql.P.insertMoves` compose these expressions into `Ledger.Spec.insertMoves` — for ANY table contents
  satisfying the storage invariant `MvInv`, ANY non-empty batch, ANY number of other ledgers in the bucket.
  What is ASSUMED (hypotheses of `insertMoves_refines`, all in `MvStmtState` / `MvStatic` / `MvLit`):
  - exactly one BEFORE INSERT and one AFTER INSERT row trigger of `moves` has `WHEN (new.ledger = '<ln>')` (features
    MOVES_HISTORY = ON, POST_COMMIT_EFFECTIVE_VOLUMES = SYNC), all other INSERT row triggers are those of other ledgers,
    no row trigger fires on UPDATE of `moves`; their functions have the bodies of `Ledger.Generated.Schema` (`triggerBodies_sem`);
  - the rendered timestamp / composite literals of the VALUES rows parse to the moves' dates and volumes (`MvLit`: the Go
    driver's rendering is not modelled); transaction ids and sequence values fit `bigint`; fewer than 10⁹ command ids;
  - the session is alone in its transaction window (`TxState.solo`: no other transaction in progress — concurrency is the
    business of the schedule checks, not of this bridge).
* BOUNDED REGRESSION OBLIGATION below (kernel evaluation on a concrete scenario through the session layer `execTop`).
-/
namespace Ledger.C04b
open Ledger Ledger.Sql Ledger.Generated Ledger.Core

/-- `set_effective_volumes`: an instance of `Ledger.Sql.setEffective_all`. -/
theorem setEffectiveVolumes_sem (cb : Callbacks) (te : TypeEnv) (lm ln : String) (m n : Spec.MoveRow) (found : Bool) (rest : List Scope) (s : St) :
    ∃ (item wher dflt_ : Expr),
      Schema.fn_set_effective_volumes.body =
        [PlStmt.assign (PlTarget.field "new" "post_commit_effective_volumes")
          (Expr.call "" "coalesce" [Expr.subq (Query.mk [] (SetExpr.select (Select.mk false [] [SelItem.expr item ""] [FromItem.table "" "moves" ""] (some wher) [] none))
              [OrderItem.mk (Expr.col "" "effective_date") true NullsOrder.dflt, OrderItem.mk (Expr.col "" "seq") true NullsOrder.dflt]
              (some (Expr.int 1)) none LockMode.none), dflt_]),
         PlStmt.ret (some (Expr.col "" "new"))] ∧
      (evalExpr cb te (trigEnv lm m ln n found rest) wher).exec s =
        (.ok (.bool (decide (m.account = n.account ∧ m.asset = n.asset ∧ lm = ln) && m.before n)), s) ∧
      (evalExpr cb te (trigEnv lm m ln n found rest) item).exec s =
        (.ok (.row [] [.int (m.pcev.add n.delta).input, .int (m.pcev.add n.delta).output]), s) ∧
      (evalExpr cb te (plEnv ln n found rest) dflt_).exec s =
        (.ok (.row [] [.int n.delta.input, .int n.delta.output]), s) :=
  have ⟨item, wher, dflt_, hb, h⟩ := setEffective_all
  ⟨item, wher, dflt_, hb, h.hwher .., h.hitem .., h.hdflt ..⟩

/-- `update_effective_volumes`: an instance of `Ledger.Sql.updateEffective_all`. -/
theorem updateEffectiveVolumes_sem (cb : Callbacks) (te : TypeEnv) (lm ln : String) (m n : Spec.MoveRow) (found : Bool) (rest : List Scope)
    (src : Option (String × Nat)) (s : St) :
    ∃ (setE wher : Expr),
      Schema.fn_update_effective_volumes.body =
        [PlStmt.exec (Stmt.update [] "" "moves" "" [SetItem.mk "post_commit_effective_volumes" setE] [] (some wher) []) [],
         PlStmt.ret (some (Expr.col "" "new"))] ∧
      (evalExpr cb te (trigEnv lm m ln n found rest src) wher).exec s =
        (.ok (.bool (decide (m.account = n.account ∧ m.asset = n.asset ∧ lm = ln ∧ n.effectiveDate < m.effectiveDate))), s) ∧
      (evalExpr cb te (trigEnv lm m ln n found rest src) setE).exec s =
        (.ok (.row [] [.int (m.pcev.add n.delta).input, .int (m.pcev.add n.delta).output]), s) :=
  have ⟨setE, wher, hb, h⟩ := updateEffective_all
  ⟨setE, wher, hb, h.hwher .., h.hset ..⟩

/-- The bodies of the two trigger functions in `Ledger.Generated.Schema` have the shape and the meaning `insertMoves_refines`
    assumes of the functions attached to the triggers (`MvStatic.bodyB`/`sem`, `MvStmtState.bodyA`/`semA`). -/
theorem triggerBodies_sem :
    (∃ item wher dflt_, Schema.fn_set_effective_volumes.body = setEffBody item wher dflt_ ∧ SetEffSem item wher dflt_ ∧
      Schema.fn_set_effective_volumes.decls = [] ∧ outNames [(item, "")] = ["row"]) ∧
    (∃ setE wher, Schema.fn_update_effective_volumes.body = updEffBody setE wher ∧ UpdEffSem setE wher ∧
      Schema.fn_update_effective_volumes.decls = []) := by
  obtain ⟨item, wher, dflt_, h1, h2⟩ := setEffective_all
  obtain ⟨setE, whereU, h3, h4⟩ := updateEffective_all
  exact ⟨⟨item, wher, dflt_, h1, h2, rfl, by simp [outNames, h2.hnameE]⟩, ⟨setE, whereU, h3, h4, rfl⟩⟩

/-- the query of `set_effective_volumes` picks `Spec.prevMove` (general; see `Ledger.Sql.exec_prevQuery`) -/
theorem prevQuery_sem (p : Nat) (b ln : String) (n : Spec.MoveRow) (x : Value) (found : Bool)
    (item wher dflt_ : Expr) (hsem : SetEffSem item wher dflt_) (hname : outNames [(item, "")] = ["row"])
    (s : St) (hs : TxState s) (hsp : s.searchPath = b) (trigs : List TriggerDef) (nr : Nat) (rows : List Ver)
    (hT : s.w.table? (mvFull b) = some ((mvT b trigs nr).withRows rows))
    (tbl : List (String × Spec.MoveRow)) (hview : MvView (cv s) rows tbl) (hseq : (tbl.map (·.2.seq)).Nodup) :
    (evalQuery (p + 6) (plEnvV (mvValsX ln n x) found []) (prevQuery item wher)).exec s =
      (.ok { cols := ["row"], rows := match Spec.prevMove (ledgerMoves ln tbl) n with
        | some q => [[.row [] [.int (q.pcev.add n.delta).input, .int (q.pcev.add n.delta).output]]]
        | none => [] }, s) :=
  exec_prevQuery p b ln n x found item wher dflt_ hsem hname s hs hsp trigs nr rows hT tbl hview hseq

/-- **`InsertMoves` refines `Spec.insertMoves`** (general; see `Ledger.Sql.insertMoves_refines`): the generated statement with
    its row triggers, on ANY state satisfying the storage invariants, for ANY ordering `T` of the ledger's moves. -/
theorem insertMoves_refines (p : Nat) (env : Env) (b ln : String) (id : Nat) (trigs : List TriggerDef)
    (B1 B2 : List TriggerDef) (trB : TriggerDef) (A1 A2 : List TriggerDef) (trA : TriggerDef) (item wher dflt_ : Expr) (fB : PlFunc)
    (setE whereU : Expr) (fA : PlFunc) (nr : Nat) (rows : List Ver) (sq : Seq) (s : St)
    (hst : MvStmtState s b ln trigs B1 B2 trB A1 A2 trA item wher dflt_ fB setE whereU fA nr rows sq)
    (pm : List (WriteSql.P.MoveRow × Spec.MoveRow)) (hne : pm ≠ []) (hlits : ∀ x ∈ pm, MvLit s.w.types x.1 x.2)
    (hsf : SeqFrom sq.next (pm.map (·.2))) (hrange : sq.next + pm.length ≤ 9223372036854775808)
    (hnc : s.nextCid + 4 * pm.length ≤ 1000000000)
    (T : List Spec.MoveRow) (hT : T.Perm (ledgerMoves ln (mvAbs (latestView s.w s.xid) rows))) :
    ∃ (stmt : Stmt) (rows' : List Ver) (seqs' : List Seq),
      WriteSql.P.insertMoves b ln id (pm.map (·.1)) = [stmt] ∧
      (runStmt (p + 15) env stmt).exec s =
        (.ok { rel := { cols := ["post_commit_volumes", "post_commit_effective_volumes"],
                        rows := (Spec.insertedRows T (pm.map (·.2))).map retOf },
               affected := pm.length },
         ((s.withSeqs seqs').bump (4 * pm.length)).withTable ((mvT b trigs (nr + pm.length)).withRows rows')) ∧
      (ledgerMoves ln (mvAbs (latestView s.w s.xid) rows')).Perm (Spec.insertMoves T (pm.map (·.2))) ∧
      (∀ l, l ≠ ln → (ledgerMoves l (mvAbs (latestView s.w s.xid) rows')).Perm (ledgerMoves l (mvAbs (latestView s.w s.xid) rows))) ∧
      MvInv (latestView s.w s.xid) (sq.next + pm.length) rows' ∧ Fresh s.xid (s.nextCid + 4 * pm.length) rows' ∧
      (∀ r ∈ rows', r.rid < nr + pm.length) ∧
      seqs'.find? (·.name == mvSeqFull b) = some { sq with last := sq.next + pm.length - 1, called := true } ∧
      (∀ other, other ≠ mvSeqFull b → seqs'.find? (·.name == other) = s.w.seqs.find? (·.name == other)) := by
  obtain ⟨rows', seqs', h⟩ := Ledger.Sql.insertMoves_refines p env b ln trigs B1 B2 trB A1 A2 trA item wher dflt_ fB setE whereU fA nr rows sq s
    hst pm hne hlits hsf hrange hnc T hT
  exact ⟨_, rows', seqs', insertMoves_shape b ln id (pm.map (·.1)), h⟩

/-! ### BOUNDED REGRESSION OBLIGATION (kernel evaluation on a concrete scenario; not a general theorem)

The real `INSERT INTO moves` statements (`P.insertMoves`) run by LeanPG on the ledger created by the generated
`addLedger` script, with the per-ledger triggers calling the PL functions above; the resulting `moves` table
(every row's `post_commit_effective_volumes`) equals `Spec.insertMoves` applied batch by batch. The scenario
has a back-dated insert, ties on the effective date (before and after), a later date, a two-row statement
(the rows of one statement see each other). -/
open Ledger.Sql.Run in
example : agree [[⟨"a", 1, true, 2⟩], [⟨"a", 10, false, 1⟩], [⟨"a", 100, true, 2⟩], [⟨"a", 1000, false, 3⟩],
    [⟨"a", 100000, true, 2⟩, ⟨"a", 1000000, false, 2⟩]] = true := by
  decide +kernel

end Ledger.C04b
