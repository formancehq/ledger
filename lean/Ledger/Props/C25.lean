import Ledger.Proofs.MachineTxSem
import Ledger.Proofs.MachineBCStmt

/-!
C25 — A postings request is recorded exactly as submitted.

`txScript` / `txVars` / `txText` model `TxToScriptData`; text and variables are
compared with the real function's output on every generated case.  The theorems
are about running the generated program with the machine semantics `sem`.
-/
namespace Ledger.C25
open Ledger.Machine

variable {cfg : Cfg}

/-- One generated statement posts exactly its posting (any balances, any state),
    whenever it succeeds. -/
theorem statement_roundtrip (env : Env) (accs : List String) (mons : List (String × Int))
    (force : Bool) (p : TxPosting) (hb : txEnvOK env accs mons [p] = true) (st st' : State)
    (h : evalStmt cfg env (txStmt accs mons force p) st = .ok st') :
    st'.postings = st.postings ++ [p] :=
  txStmt_posts (txEnvOK_iff.mp hb p (List.mem_singleton_self p)) st st' h

/-- Running the statements `TxToScriptData` writes for `ps` appends exactly `ps`
    (same order, accounts, assets, amounts, zero amounts included). -/
theorem statements_roundtrip (env : Env) (accs : List String) (mons : List (String × Int))
    (force : Bool) : (ps : List TxPosting) → txEnvOK env accs mons ps = true → (st st' : State) →
    runStmts cfg env (ps.map (txStmt accs mons force)) st = .ok st' → st'.postings = st.postings ++ ps :=
  fun ps hb => txRun_posts ps (txEnvOK_iff.mp hb)

/-- The variables `va{i}` / `vm{j}` of the generated script resolve to the accounts /
    monetaries they were generated for, whenever variable resolution succeeds (string
    formatting / parsing round trip, sorted declarations, distinct names). -/
theorem generated_variables_resolve (ps : List TxPosting) (force : Bool) (inp : Input)
    (hv : inp.vars = txVars ps) (env : Env) (bal : Balances) (pairs : List (String × String))
    (h : prepare cfg (txScript ps force) inp = .ok (env, bal, pairs)) :
    txEnvOK env (txAccounts ps []) (txMons ps []) ps = true :=
  txEnvOK_iff.mpr (txBound_of_prepare hv h)

/-- `postings_roundtrip`: a successful run of the program `TxToScriptData` generates for
    `ps` (with the variables it generates) records exactly `ps` — same order, accounts,
    assets and amounts, zero amounts included.  No side hypothesis. -/
theorem postings_roundtrip (ps : List TxPosting) (force : Bool) (inp : Input)
    (hv : inp.vars = txVars ps) (r : Result)
    (h : sem cfg (txScript ps force) inp = .ok r) : r.postings = ps := by
  obtain ⟨ds, env, bal, pairs, st, _, hp, hst, rfl⟩ := sem_ok_inv h
  have := txRun_posts (force := force) ps (txBound_of_prepare hv hp) (initState bal) st
    (by simpa [txScript] using hst)
  simpa [initState] using this

/-- `postings_fail_iff`: once the request is well-formed enough for the variables to
    resolve (`prepare` succeeds: valid accounts and assets, non-negative amounts), the run
    fails with insufficient funds if and only if force is off and applying the postings in
    order takes some non-world source below zero (`applyPostings` = none); otherwise it
    succeeds. In particular it never fails when force is set. -/
theorem postings_fail_iff (ps : List TxPosting) (force : Bool) (inp : Input)
    (hv : inp.vars = txVars ps)
    (hprep : ∃ x, prepare cfg (txScript ps force) inp = .ok x) :
    (sem cfg (txScript ps force) inp = .error (.run "exec" "insufficient") ↔
      (force = false ∧ applyPostings inp.balance ps = none)) ∧
    ((∃ r, sem cfg (txScript ps force) inp = .ok r) ↔
      (force = true ∨ (applyPostings inp.balance ps).isSome)) := by
  obtain ⟨⟨env, bal, pairs⟩, hp⟩ := hprep
  obtain ⟨ds, hds⟩ := txScript_typechecks ps force
  obtain ⟨hb, hnn, T, hinv, hsrc⟩ := tx_prepared hv hp
  have hsem : sem cfg (txScript ps force) inp =
      match runStmts cfg env (ps.map (txStmt (txAccounts ps []) (txMons ps []) force)) (initState bal) with
      | .error e => .error e
      | .ok st => .ok { postings := st.postings, txMeta := st.txMeta, accMeta := st.accMeta, final := st } := by
    simp only [sem, hds, hp]
    rfl
  rw [hsem]
  obtain ⟨r1, r2⟩ := txRun (cfg := cfg) env (txAccounts ps []) (txMons ps []) force T ps hb hnn hsrc
    (initState bal) inp.balance hinv
  by_cases hs : force = true ∨ (applyPostings inp.balance ps).isSome
  · obtain ⟨st', h2⟩ := r2 hs
    rw [h2]
    rcases hs with rfl | hs
    · simp
    · simp [hs, Option.isSome_iff_ne_none.mp hs]
  · have hn : force = false ∧ applyPostings inp.balance ps = none := by simpa using hs
    rw [r1 hn.1 hn.2]
    simp [hn]

/-- Compiler correctness (`semBytecode_eq_sem_full`) for the program `TxToScriptData`
    writes: the VM model `exec` running its compiled opcodes computes exactly `sem`
    (result or error). -/
theorem generated_program_bytecode_eq_sem (ps : List TxPosting) (force : Bool) (p : Program)
    (hc : compile (txScript ps force) = .ok p) (inp : Input) :
    semBytecode Cfg.fixed (txScript ps force) inp = sem Cfg.fixed (txScript ps force) inp :=
  semBytecode_eq_sem_full hc inp

/-- `postings_roundtrip` at the byte-code level (compiled opcodes run by the VM model). -/
theorem postings_roundtrip_bytecode (ps : List TxPosting) (force : Bool) (p : Program)
    (hc : compile (txScript ps force) = .ok p) (inp : Input)
    (hv : inp.vars = txVars ps) (r : Result)
    (h : semBytecode Cfg.fixed (txScript ps force) inp = .ok r) : r.postings = ps := by
  rw [generated_program_bytecode_eq_sem ps force p hc inp] at h
  exact postings_roundtrip ps force inp hv r h

/-- `postings_fail_iff` at the byte-code level. -/
theorem postings_fail_iff_bytecode (ps : List TxPosting) (force : Bool) (p : Program)
    (hc : compile (txScript ps force) = .ok p) (inp : Input)
    (hv : inp.vars = txVars ps)
    (hprep : ∃ x, prepare Cfg.fixed (txScript ps force) inp = .ok x) :
    (semBytecode Cfg.fixed (txScript ps force) inp = .error (.run "exec" "insufficient") ↔
      (force = false ∧ applyPostings inp.balance ps = none)) ∧
    ((∃ r, semBytecode Cfg.fixed (txScript ps force) inp = .ok r) ↔
      (force = true ∨ (applyPostings inp.balance ps).isSome)) := by
  rw [generated_program_bytecode_eq_sem ps force p hc inp]
  exact postings_fail_iff ps force inp hv hprep

/-! Non-vacuity (kernel-evaluated tests): repeated accounts, a self posting, world on
    either side, a zero amount. -/

def exPostings : List TxPosting :=
  [⟨"world", "a", "USD", 10⟩, ⟨"a", "b", "USD", 4⟩, ⟨"b", "b", "USD", 0⟩, ⟨"a", "world", "USD", 6⟩]

def exInput : Input := { vars := txVars exPostings, balance := fun _ _ => 0, accountMeta := fun _ => none }

example : postingsOf (sem Cfg.fixed (txScript exPostings false) exInput) = some exPostings := by decide +kernel

example : (prepare Cfg.fixed (txScript exPostings false) exInput).toOption.isSome = true := by decide +kernel

example : (applyPostings (fun _ _ => 0) exPostings).isSome = true := by decide +kernel

example : (compile (txScript exPostings false)).toOption.isSome = true := by decide +kernel

example : postingsOf (semBytecode Cfg.fixed (txScript exPostings false) exInput) = some exPostings := by
  decide +kernel

/-- insufficient funds: `a` holds 10 and is asked for 11 -/
example : postingsOf (sem Cfg.fixed (txScript [⟨"world", "a", "USD", 10⟩, ⟨"a", "b", "USD", 11⟩] false)
    { exInput with vars := txVars [⟨"world", "a", "USD", 10⟩, ⟨"a", "b", "USD", 11⟩] }) = none := by
  decide +kernel

end Ledger.C25
