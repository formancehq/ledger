import Ledger.Proofs.WrapBulk

/-!
C32 — Bulk requests respect atomic, ordered and continue-on-failure semantics.

The model is `Ledger/Wrap/Bulk.lean` (hand-written from `internal/api/bulking/bulker.go` and
`writeJSONResponse` of `handler_json.go`; tied to the real `Bulker` and the real
JSON / JSON-stream / script-stream handlers by the `bulk` correspondence
workload, over a scripted in-memory controller).  Everything is stated for an
arbitrary element type, controller state and
`apply : El → S → Except E R × S` — "what the same request returns on its own".

`tag` is how `Bulker.run` fills `BulkElementResult.ElementID`: the code is
`elementTag` (the element index, since commit e1b0ad5); the snapshot originally
never set it (`elementTagBuggy`), which is what the `…_counterexample` is about.
-/
namespace Ledger.C32
open Ledger.Wrap.Bulk List

variable {El S R E : Type} (apply : El → S → Except E R × S)

/-- Both taggings are monotone (needed only for: a sequential run reaches the
    handler already ordered). -/
theorem elementTag_mono : ∀ i j, i ≤ j → elementTag i ≤ elementTag j := fun _ _ h => h

theorem elementTagBuggy_mono : ∀ i j, i ≤ j → elementTagBuggy i ≤ elementTagBuggy j :=
  fun _ _ _ => Nat.le_refl _

/-- **Sequential bulk: exactly one result per element, in order.**  After the
    handler's sort, position `k` holds the result of element `k`: skipped iff an
    earlier element failed and `continueOnFailure` is off, otherwise what element
    `k` yields when processed on its own in the state left by the elements
    before it.  (Holds for the code's tagging and for the pre-fix one.) -/
theorem one_result_per_element_in_order (tag : Nat → Nat)
    (hmono : ∀ i j, i ≤ j → tag i ≤ tag j) (cof : Bool) (els : List El) (s : S) :
    (sortByID (runSeq tag apply cof els 0 false s).1).length = els.length ∧
    ∀ k (hk : k < els.length),
      ((sortByID (runSeq tag apply cof els 0 false s).1)[k]?).map (·.out) =
        some (if (runSeq tag apply cof (els.take k) 0 false s).2.1 && !cof then .skipped
              else (outcomeOf apply els[k] (runSeq tag apply cof (els.take k) 0 false s).2.2).1) := by
  rw [sortByID_eq_self _ (runSeq_sorted tag apply hmono cof els 0 false s)]
  refine ⟨length_runSeq tag apply cof els 0 false s, fun k hk => ?_⟩
  rw [seq_result_at tag apply cof els s k hk]
  rfl

/-- **Parallel bulk: exactly one result per element, in order** — for every
    possible schedule (order of application, order of completion), the handler's
    sort puts the outcome of element `i` at position `i`. -/
theorem one_result_per_element_in_order_parallel [DecidableEq R] [DecidableEq E] (cof : Bool)
    (els : List El) (sc : Sched) (s : S) (h : schedOk apply cof els sc s = true) :
    sortByID (runPar elementTag apply els sc s).1 =
      (List.range els.length).map
        (fun i => mkRes elementTag i (lookupOutcome (applyInOrder apply els sc.applied s).1 i)) := by
  have hp := schedOk_order_perm apply cof els sc s h
  exact sortByID_tagged (fun i => lookupOutcome (applyInOrder apply els sc.applied s).1 i) sc.order _ hp

/-- **A sequential non-atomic bulk applies its elements in order …** : as long as
    no element of the first `k` failed, the controller state is the fold of the
    first `k` elements. -/
theorem sequential_applies_in_order (tag : Nat → Nat) (cof : Bool) (els : List El) (s : S) (k : Nat)
    (h : (runSeq tag apply cof (els.take k) 0 false s).2.1 = false) :
    (runSeq tag apply cof (els.take k) 0 false s).2.2 =
      (els.take k).foldl (fun s e => (apply e s).2) s :=
  (runSeq_no_error tag apply cof (els.take k) 0 s h).1

/-- **… and, after the first failure, applies no later element** (without
    `continueOnFailure`): if an element among the first `k` failed, the final
    state is the state after those `k` elements and every later element's result
    is `skipped` (`context.Canceled`). -/
theorem sequential_stops_after_first_failure (tag : Nat → Nat) (els : List El) (s : S) (k : Nat)
    (h : (runSeq tag apply false (els.take k) 0 false s).2.1 = true) :
    (runSeq tag apply false els 0 false s).2.2 = (runSeq tag apply false (els.take k) 0 false s).2.2 ∧
    ∀ m, k ≤ m → ∀ r, (runSeq tag apply false els 0 false s).1[m]? = some r → r.out = .skipped := by
  have hsplit := runSeq_append tag apply false (els.take k) (els.drop k) 0 false s
  rw [List.take_append_drop] at hsplit
  rw [hsplit, h]
  have hk := runSeq_after_error tag apply (els.drop k) (0 + (els.take k).length)
    (runSeq tag apply false (els.take k) 0 false s).2.2
  refine ⟨by rw [hk.1], ?_⟩
  intro m hm r hr
  simp only [] at hr
  have hlen : (runSeq tag apply false (els.take k) 0 false s).1.length ≤ m := by
    rw [length_runSeq, List.length_take]; omega
  rw [List.getElem?_append_right hlen] at hr
  exact hk.2 r (List.mem_of_getElem? hr)

/-- **With `continueOnFailure` a sequential bulk applies every element, in order**,
    and no result is `skipped`. -/
theorem continue_on_failure_applies_all (tag : Nat → Nat) (els : List El) (s : S) :
    (runSeq tag apply true els 0 false s).2.2 = els.foldl (fun s e => (apply e s).2) s ∧
    ∀ r ∈ (runSeq tag apply true els 0 false s).1, r.out ≠ .skipped :=
  runSeq_cof_state tag apply els 0 false s

/-- **With `continueOnFailure` a parallel bulk applies every element exactly once**
    (in every possible schedule the applied indices are a permutation of all). -/
theorem continue_on_failure_applies_all_parallel [DecidableEq R] [DecidableEq E] (els : List El)
    (sc : Sched) (s : S) (h : schedOk apply true els sc s = true) :
    sc.applied ~ List.range els.length := by
  unfold schedOk at h
  simp only [Bool.and_eq_true, beq_iff_eq, all_eq_true, mem_range, contains_eq_mem,
    decide_eq_true_eq, Bool.not_true, Bool.false_and, Bool.or_false, List.isEmpty_iff,
    filter_eq_nil_iff, Bool.not_eq_true', decide_eq_false_iff_not, Decidable.not_not] at h
  obtain ⟨⟨⟨⟨_, _⟩, hvalid⟩, hnd⟩, hall⟩ := h
  have hsub : sc.applied <+~ List.range els.length :=
    subperm_of_subset hnd (fun i hi => mem_range.2 (hvalid i hi))
  have hsub2 : List.range els.length <+~ sc.applied :=
    subperm_of_subset nodup_range (fun i hi => hall i (mem_range.1 hi))
  exact hsub.antisymm hsub2 |>.symm |>.symm

/-- **An atomic bulk applies all of its elements or none of them**: over a
    transactional controller (durable state `d`, `BeginTX` / `Commit` possibly
    failing), after `Bulker.Run` no transaction is left open and the durable
    state is either unchanged, or it is the fold of *all* elements and every
    element succeeded. -/
theorem atomic_all_or_nothing (tag : Nat → Nat) (cof : Bool) (els : List El) (d : S)
    (beginFail commitFail : Option E) :
    let out := runBulk (txCtrl beginFail commitFail) { atomic := true, cof := cof, parallel := false }
      (runSeq tag (txApply apply) cof els 0 false) (⟨d, none⟩ : TxS S)
    out.2.2.work = none ∧
    (out.2.2.durable = d ∨
      (out.2.2.durable = els.foldl (fun s e => (apply e s).2) d ∧
        ∀ r ∈ out.2.1, r.out.isOk = true)) := by
  refine runBulk_atomic (P := fun p : _ × TxS S => p.2.work = none ∧ (p.2.durable = d ∨
    (p.2.durable = els.foldl (fun s e => (apply e s).2) d ∧ ∀ r ∈ p.1, r.out.isOk = true))) ?_ ?_
  · -- `BeginTX` failed: nothing was opened
    intro e he
    cases beginFail with
    | some _ => exact ⟨rfl, .inl rfl⟩
    | none => cases he
  · intro hb
    cases beginFail with
    | some e => cases hb
    | none =>
      simp only [txCtrl, runSeq_txApply_some]
      -- rollback, a failed commit: the durable state is untouched; a commit: it is the work copy
      refine ⟨fun _ => ⟨trivial, .inl trivial⟩, fun hHE => ?_⟩
      cases commitFail with
      | some e => exact ⟨rfl, .inl rfl⟩
      | none => exact ⟨rfl, .inr (runSeq_no_error tag apply cof els 0 d hHE)⟩

/-- **Each successful element's result matches what the same request returns on
    its own** (sequential): if position `k` holds `ok r`, then processing element
    `k` alone in the state left by the elements before it returns `r`. -/
theorem element_result_eq_standalone (tag : Nat → Nat) (cof : Bool) (els : List El) (s : S)
    (k : Nat) (hk : k < els.length) (x : BRes R E) (r : R)
    (hx : (runSeq tag apply cof els 0 false s).1[k]? = some x) (hr : x.out = .ok r) :
    (apply els[k] (runSeq tag apply cof (els.take k) 0 false s).2.2).1 = .ok r := by
  rw [seq_result_at tag apply cof els s k hk] at hx
  cases hx
  simp only [mkRes] at hr
  split at hr
  · cases hr
  · exact (outcomeOf_ok apply _ _ r).1 hr

/-- The same for a parallel bulk: the outcome recorded for element `i` is what it
    returns on its own in the state left by the elements applied before it. -/
theorem element_result_eq_standalone_parallel (els : List El) (sc : Sched) (s : S) (i : Nat) (r : R)
    (h : lookupOutcome (applyInOrder apply els sc.applied s).1 i = .ok r) :
    ∃ e pre post, els[i]? = some e ∧ sc.applied = pre ++ i :: post ∧
      (apply e (applyInOrder apply els pre s).2).1 = .ok r := by
  unfold lookupOutcome at h
  split at h
  · rename_i o ho
    subst h
    have hmem : (i, Outcome.ok r) ∈ (applyInOrder apply els sc.applied s).1 := by
      have := List.lookup_eq_some_iff.1 ho
      obtain ⟨l1, l2, heq, _⟩ := this
      rw [heq]; simp
    obtain ⟨e, pre, post, he, hsplit, hout⟩ := applyInOrder_mem apply els sc.applied s i _ hmem
    exact ⟨e, pre, post, he, hsplit, (outcomeOf_ok apply _ _ r).1 hout.symm⟩
  · cases h

/-- Known finding (fixed by e1b0ad5): with the pre-fix tagging (`ElementID` never
    set) a parallel bulk of two elements whose second element completes first
    answers position 0 with element 1's result, labelled with element 0's action. -/
theorem parallel_results_misassigned_counterexample :
    let apply : Nat → Unit → Except Unit Nat × Unit := fun e _ => (.ok e, ())
    let sc : Sched := { applied := [1, 0], order := [1, 0] }
    schedOk apply true [10, 11] sc () = true ∧
    respond ["A", "B"] (runPar elementTagBuggy apply [10, 11] sc ()).1 =
      some [{ responseType := "A", out := .ok 11 }, { responseType := "B", out := .ok 10 }] ∧
    respond ["A", "B"] (runPar elementTag apply [10, 11] sc ()).1 =
      some [{ responseType := "A", out := .ok 10 }, { responseType := "B", out := .ok 11 }] := by
  decide

/-- What holds for ANY tagging (so also for the pre-fix code): the response of a
    parallel bulk contains every element's result exactly once — only the
    positions can be wrong. -/
theorem parallel_partial [DecidableEq R] [DecidableEq E] (tag : Nat → Nat) (cof : Bool)
    (els : List El) (sc : Sched) (s : S) (h : schedOk apply cof els sc s = true) :
    sortByID (runPar tag apply els sc s).1 ~
      (List.range els.length).map
        (fun i => mkRes tag i (lookupOutcome (applyInOrder apply els sc.applied s).1 i)) :=
  (sortByID_perm _).trans ((schedOk_order_perm apply cof els sc s h).map _)

/-- stop after the first failure: [ok, fail, ok] → third element skipped, state = after two -/
example :
    let apply : Nat → List Nat → Except Nat Nat × List Nat :=
      fun e s => if e % 2 = 0 then (.ok e, s ++ [e]) else (.error e, s)
    (runSeq elementTag apply false ([2, 3, 4].take 2) 0 false []).2.1 = true ∧
    (runSeq elementTag apply false [2, 3, 4] 0 false []).2.2 = [2] ∧
    (runSeq elementTag apply false [2, 3, 4] 0 false []).1.map (·.out) = [.ok 2, .err 3, .skipped] := by
  decide

/-- continue on failure: everything applied -/
example :
    let apply : Nat → List Nat → Except Nat Nat × List Nat :=
      fun e s => if e % 2 = 0 then (.ok e, s ++ [e]) else (.error e, s)
    (runSeq elementTag apply true [2, 3, 4] 0 false []).2.2 = [2, 4] := by
  decide

/-- atomic: one failing element → nothing durable; all succeeding → all durable -/
example :
    let apply : Nat → List Nat → Except Nat Nat × List Nat :=
      fun e s => if e % 2 = 0 then (.ok e, s ++ [e]) else (.error e, s)
    (runBulk (txCtrl none none) { atomic := true } (runSeq elementTag (txApply apply) false [2, 3, 4] 0 false)
      (⟨[], none⟩ : TxS (List Nat))).2.2.durable = [] ∧
    (runBulk (txCtrl none none) { atomic := true } (runSeq elementTag (txApply apply) false [2, 4] 0 false)
      (⟨[], none⟩ : TxS (List Nat))).2.2.durable = [2, 4] := by
  decide

/-- a valid parallel schedule with a skipped element -/
example :
    let apply : Nat → Unit → Except Nat Nat × Unit := fun e _ => if e = 0 then (.error e, ()) else (.ok e, ())
    schedOk apply false [1, 0, 2] { applied := [1, 0], order := [1, 2, 0] } () = true := by
  decide

end Ledger.C32
