import Ledger.Api.InterpCompare

/-!
C26 — Machine and interpreter runtimes agree on the shared language.

There is NO Lean model of the interpreter (nor a proof about the machine) in this file:
it serves the differential of the two real runtimes (`interp` workload).  Its only theorems
are sanity facts about the comparison relation the workload applies to the two recorded
results.  The model of the interpreter and the agreement theorems are in `Props/C26i.lean`.
-/
namespace Ledger.C26
open Ledger.Api.Interp

/-- The comparison never keeps a zero-amount posting of the input. -/
theorem dropZeros_nonzero (ps : List P) : ∀ p ∈ dropZeros ps, p.amount ≠ 0 := by
  intro p hp
  simpa [dropZeros] using (List.mem_filter.1 hp).2

/-- Zero-amount postings never make two results differ. -/
theorem samePostings_ignores_zero (a b : List P) (z : P) (hz : z.amount = 0) :
    samePostings (z :: a) b = samePostings a b := by
  simp [samePostings, norm, dropZeros, hz]

/-- The relation is reflexive (a runtime agrees with itself). -/
theorem samePostings_refl (a : List P) : samePostings a a = true := by
  simp [samePostings]

theorem samePostings_symm (a b : List P) : samePostings a b = samePostings b a := by
  simp [samePostings, eq_comm]

theorem samePostings_trans (a b c : List P) (h1 : samePostings a b = true) (h2 : samePostings b c = true) :
    samePostings a c = true := by
  simp [samePostings] at *
  exact h1.trans h2

example : samePostings [⟨"a", "b", "USD", 19⟩, ⟨"x", "b", "USD", 0⟩, ⟨"a", "b", "USD", 51⟩] [⟨"a", "b", "USD", 70⟩] = true := by
  decide

end Ledger.C26
