import Ledger.Proofs.SqlReadsFirst
import Ledger.Proofs.CoreReads
import Ledger.Proofs.CoreInsPcv

/-!
C05b — the window-volumes read (point in time / out of time), SQL leg, GENERAL statements.

`volumesResourceHandler.BuildDataset` renders, for a PIT / OOT query, the dataset
`SELECT asset, accounts_address AS account, sum(CASE WHEN NOT is_source THEN amount ELSE 0 END) AS input,
 sum(CASE WHEN is_source THEN amount ELSE 0 END) AS output, sum(CASE WHEN NOT is_source THEN amount ELSE -amount END) AS balance
 FROM moves WHERE ledger = … [AND <date> <= pit] [AND <date> >= oot] GROUP BY accounts_address, asset ORDER BY accounts_address, asset`.
`Ledger.Generated.ReadSql` (translator `t1_readsql`) holds the statements the real store renders; `window_dataset_shape_*`: each of
the six window statements IS `paginateVolumes (winQuery b (winWhere l <date column> <pit> <oot>))` — the dataset above inside the
pagination wrapper of the volumes resource.

`windowVolumes_sem`: the dataset (`winQuery`), evaluated by LeanPG (`Ledger.Sql.evalQuery`, the MODEL of PostgreSQL) in ANY state whose
`moves` table holds well-typed rows (`MvView`), for ANY ledger, window and date mode, ANY other ledgers in the bucket: one row per
(account, asset) that has a move of the ledger in the window, sorted strictly by (account, asset), each carrying
`Ledger.Spec.movesWindowVolumes` (input, output, input − output).
`windowVolumes_eq_fold`: composed with `movesWindowVolumes_eq_fold` — when the ledger's moves are those of a store
reached by `runOps`, the rows carry `Spec.volumesAt` (the fold of the committed postings whose date lies in the window).

Second dataset — `SELECT DISTINCT ON (accounts_address, asset) accounts_address, asset, first_value(post_commit_effective_volumes)
OVER (PARTITION BY (accounts_address, asset) ORDER BY effective_date DESC, seq DESC) AS volumes FROM moves WHERE ledger = … AND
effective_date <= pit` (insertion mode: `post_commit_volumes`, `ORDER BY seq DESC`, `insertion_date <= pit`), the dataset of
GetAggregatedBalances(PIT) (`firstValue_dataset_shape_*`: the regenerated statements are `aggregateWrap (fvQuery …)`).
`firstValue_sem`: evaluated by LeanPG on ANY table of well-typed rows with distinct sequence numbers: one row per (account, asset) with
a move of the ledger dated at or before `pit`, sorted strictly by (account, asset), carrying `Spec.effectiveVolumesAt` /
`Spec.insertionVolumesAt` (`volumesAtPit`) — the window function, its partition / ORDER BY and the DISTINCT ON (sort by the keys, keep
the first row of every key) all run by LeanPG's `evalSelect`. `firstValue_eq_fold_effective` / `_insertion`: composed with
`effectiveVolumesAt_eq_window` + `movesWindowVolumes_eq_fold` / `insertionVolumesAt_eq_fold` — the rows carry `Spec.volumesAt`
for the moves of a store reached by `runOps` (insertion mode: under monotone insertion dates, as in C05store).

Hypotheses, explicit in the statements: solo transaction (`TxState`); the bound literals parse to the window's bounds (`tsParse`; the
Go driver's rendering of the time is the translator's business); typed rows. NOT covered here: the aggregation wrapper of GetAggregatedBalances (sum per asset, `aggregate_objects`), the account-expansion variants of the
second dataset (extra `accounts_address IN (SELECT address FROM dataset)`), the pagination wrapper
(`DISTINCT ON (account, asset) … ORDER BY account LIMIT 101`, CTE) and the filter / address-segment variants of the dataset — those stay
with the kernel-evaluated scenarios of `Props/C05q*.lean`.
-/
namespace Ledger.C05b
open Ledger Ledger.Sql Ledger.Generated Ledger.Core Ledger.Base Ledger.Spec

theorem window_dataset_shape_effPit (b l pit : String) :
    ReadSql.volumesEffPit b l pit = [paginateVolumes (winQuery b (winWhere l (dateCol .effective) (some pit) none))] := rfl
theorem window_dataset_shape_effOot (b l oot : String) :
    ReadSql.volumesEffOot b l oot = [paginateVolumes (winQuery b (winWhere l (dateCol .effective) none (some oot)))] := rfl
theorem window_dataset_shape_effPitOot (b l pit oot : String) :
    ReadSql.volumesEffPitOot b l pit oot = [paginateVolumes (winQuery b (winWhere l (dateCol .effective) (some pit) (some oot)))] := rfl
theorem window_dataset_shape_insPit (b l pit : String) :
    ReadSql.volumesInsPit b l pit = [paginateVolumes (winQuery b (winWhere l (dateCol .insertion) (some pit) none))] := rfl
theorem window_dataset_shape_insOot (b l oot : String) :
    ReadSql.volumesInsOot b l oot = [paginateVolumes (winQuery b (winWhere l (dateCol .insertion) none (some oot)))] := rfl
theorem window_dataset_shape_insPitOot (b l pit oot : String) :
    ReadSql.volumesInsPitOot b l pit oot = [paginateVolumes (winQuery b (winWhere l (dateCol .insertion) (some pit) (some oot)))] := rfl

/-- **The window dataset on any `moves` table = `Spec.movesWindowVolumes`.** -/
theorem windowVolumes_sem (q : Nat) (env : Env) (b l : String) (hb : b.isEmpty = false) (mode : DateMode) (pitT ootT : Option (String × Int))
    (hp : ∀ x, pitT = some x → tsParse x.1 = .ok x.2) (ho : ∀ x, ootT = some x → tsParse x.1 = .ok x.2)
    (s : St) (hs : TxState s) (trigs : List TriggerDef) (nr : Nat) (rows : List Ver)
    (hT : s.w.table? (mvFull b) = some ((mvT b trigs nr).withRows rows))
    (tbl : List (String × MoveRow)) (hview : MvView (cv s) rows tbl)
    (T : List MoveRow) (hTp : T.Perm (ledgerMoves l tbl)) :
    ∃ (keys : List Key) (tie : Bool),
      (evalQuery (q + 6) env (winQuery b (winWhere l (dateCol mode) (pitT.map Prod.fst) (ootT.map Prod.fst)))).exec s =
        (.ok { cols := ["asset", "account", "input", "output", "balance"],
               rows := keys.map (fun k => winRow k (movesWindowVolumes T (Window.mk (ootT.map Prod.snd) (pitT.map Prod.snd)) mode k)) },
          s.tie tie) ∧
      keys.Nodup ∧
      (∀ k, k ∈ keys ↔ ∃ m ∈ T, m.key = k ∧ (Window.mk (ootT.map Prod.snd) (pitT.map Prod.snd)).contains (m.date mode) = true) ∧
      keys.Pairwise (fun a c => KeyOrd.lt c a = false) :=
  exec_winQuery q env b l hb mode pitT ootT hp ho s hs trigs nr rows hT tbl hview T hTp

/-- **… = the fold of the history**: when the ledger's rows are the moves of a store reached by `runOps`. -/
theorem windowVolumes_eq_fold (ops : List StoreOp) (st : Store) (hrun : runOps ops = .ok st)
    (q : Nat) (env : Env) (b l : String) (hb : b.isEmpty = false) (mode : DateMode) (pitT ootT : Option (String × Int))
    (hp : ∀ x, pitT = some x → tsParse x.1 = .ok x.2) (ho : ∀ x, ootT = some x → tsParse x.1 = .ok x.2)
    (s : St) (hs : TxState s) (trigs : List TriggerDef) (nr : Nat) (rows : List Ver)
    (hT : s.w.table? (mvFull b) = some ((mvT b trigs nr).withRows rows))
    (tbl : List (String × MoveRow)) (hview : MvView (cv s) rows tbl) (hTp : st.moves.Perm (ledgerMoves l tbl)) :
    ∃ (keys : List Key) (tie : Bool),
      (evalQuery (q + 6) env (winQuery b (winWhere l (dateCol mode) (pitT.map Prod.fst) (ootT.map Prod.fst)))).exec s =
        (.ok { cols := ["asset", "account", "input", "output", "balance"],
               rows := keys.map (fun k => winRow k (volumesAt st.txRecs (Window.mk (ootT.map Prod.snd) (pitT.map Prod.snd)) mode k)) },
          s.tie tie) ∧
      keys.Nodup ∧
      (∀ k, k ∈ keys ↔ ∃ m ∈ st.moves, m.key = k ∧ (Window.mk (ootT.map Prod.snd) (pitT.map Prod.snd)).contains (m.date mode) = true) ∧
      keys.Pairwise (fun a c => KeyOrd.lt c a = false) := by
  simpa only [movesWindowVolumes_eq_fold hrun] using
    windowVolumes_sem q env b l hb mode pitT ootT hp ho s hs trigs nr rows hT tbl hview st.moves hTp

theorem firstValue_dataset_shape_effective (b l pit : String) :
    ReadSql.aggregatedEffPit b l pit = [aggregateWrap (fvQuery b (winWhere l (dateCol .effective) (some pit) none) 2 .effective)] := rfl

theorem firstValue_dataset_shape_insertion (b l pit : String) :
    ReadSql.aggregatedInsPit b l pit = [aggregateWrap (fvQuery b (winWhere l (dateCol .insertion) (some pit) none) 2 .insertion)] := rfl

/-- **The `first_value` dataset on any `moves` table = the volumes of the latest move at or before `pit`.** -/
theorem firstValue_sem (q : Nat) (env : Env) (b l : String) (hb : b.isEmpty = false) (mode : DateMode) (id : Nat) (pitT : String × Int)
    (hp : tsParse pitT.1 = .ok pitT.2)
    (s : St) (hs : TxState s) (trigs : List TriggerDef) (nr : Nat) (rows : List Ver)
    (hT : s.w.table? (mvFull b) = some ((mvT b trigs nr).withRows rows))
    (tbl : List (String × MoveRow)) (hview : MvView (cv s) rows tbl) (hseq : (tbl.map (·.2.seq)).Nodup)
    (T : List MoveRow) (hTp : T.Perm (ledgerMoves l tbl)) :
    ∃ (keys : List Key),
      (evalQuery (q + 6) env (fvQuery b (winWhere l (dateCol mode) (some pitT.1) none) id mode)).exec s =
        (.ok { cols := ["accounts_address", "asset", "volumes"],
               rows := keys.map (fun k => [.text k.1, .text k.2, volVal (volumesAtPit mode T k pitT.2)]) }, s) ∧
      keys.Nodup ∧
      (∀ k, k ∈ keys ↔ ∃ m ∈ T, m.key = k ∧ m.date mode ≤ pitT.2) ∧
      keys.Pairwise (fun a c => KeyOrd.lt c a = false) :=
  exec_fvQuery q env b l hb mode id pitT hp s hs trigs nr rows hT tbl hview hseq T hTp

theorem volumesAtPit_effective (T : List MoveRow) (k : Key) (pit : Int) : volumesAtPit .effective T k pit = effectiveVolumesAt T k pit := rfl
theorem volumesAtPit_insertion (T : List MoveRow) (k : Key) (pit : Int) : volumesAtPit .insertion T k pit = insertionVolumesAt T k pit := rfl

/-- **… = the fold of the history (effective dates)**, for the moves of a store reached by `runOps`. -/
theorem firstValue_eq_fold_effective (ops : List StoreOp) (st : Store) (hrun : runOps ops = .ok st)
    (q : Nat) (env : Env) (b l : String) (hb : b.isEmpty = false) (id : Nat) (pitT : String × Int) (hp : tsParse pitT.1 = .ok pitT.2)
    (s : St) (hs : TxState s) (trigs : List TriggerDef) (nr : Nat) (rows : List Ver)
    (hT : s.w.table? (mvFull b) = some ((mvT b trigs nr).withRows rows))
    (tbl : List (String × MoveRow)) (hview : MvView (cv s) rows tbl) (hseq : (tbl.map (·.2.seq)).Nodup)
    (hTp : st.moves.Perm (ledgerMoves l tbl)) :
    ∃ (keys : List Key),
      (evalQuery (q + 6) env (fvQuery b (winWhere l (dateCol .effective) (some pitT.1) none) id .effective)).exec s =
        (.ok { cols := ["accounts_address", "asset", "volumes"],
               rows := keys.map (fun k => [.text k.1, .text k.2, volVal (volumesAt st.txRecs { pit := some pitT.2 } .effective k)]) }, s) ∧
      keys.Nodup ∧
      (∀ k, k ∈ keys ↔ ∃ m ∈ st.moves, m.key = k ∧ m.date .effective ≤ pitT.2) ∧
      keys.Pairwise (fun a c => KeyOrd.lt c a = false) := by
  simpa only [volumesAtPit_effective, effectiveVolumesAt_eq_window (PCEV_Inv_runOps hrun),
    movesWindowVolumes_eq_fold hrun] using firstValue_sem q env b l hb .effective id pitT hp s hs trigs nr rows hT tbl hview hseq st.moves hTp

/-- **… = the fold of the history (insertion dates)**, for a store reached by `runOps` whose insertion dates never decrease. -/
theorem firstValue_eq_fold_insertion (ops : List StoreOp) (st : Store) (hrun : runOps ops = .ok st)
    (hmono : st.txRecs.Pairwise (fun a b => a.insertedAt ≤ b.insertedAt))
    (q : Nat) (env : Env) (b l : String) (hb : b.isEmpty = false) (id : Nat) (pitT : String × Int) (hp : tsParse pitT.1 = .ok pitT.2)
    (s : St) (hs : TxState s) (trigs : List TriggerDef) (nr : Nat) (rows : List Ver)
    (hT : s.w.table? (mvFull b) = some ((mvT b trigs nr).withRows rows))
    (tbl : List (String × MoveRow)) (hview : MvView (cv s) rows tbl) (hseq : (tbl.map (·.2.seq)).Nodup)
    (hTp : st.moves.Perm (ledgerMoves l tbl)) :
    ∃ (keys : List Key),
      (evalQuery (q + 6) env (fvQuery b (winWhere l (dateCol .insertion) (some pitT.1) none) id .insertion)).exec s =
        (.ok { cols := ["accounts_address", "asset", "volumes"],
               rows := keys.map (fun k => [.text k.1, .text k.2, volVal (volumesAt st.txRecs { pit := some pitT.2 } .insertion k)]) }, s) ∧
      keys.Nodup ∧
      (∀ k, k ∈ keys ↔ ∃ m ∈ st.moves, m.key = k ∧ m.date .insertion ≤ pitT.2) ∧
      keys.Pairwise (fun a c => KeyOrd.lt c a = false) := by
  simpa only [volumesAtPit_insertion, insertionVolumesAt_eq_fold hrun hmono] using
    firstValue_sem q env b l hb .insertion id pitT hp s hs trigs nr rows hT tbl hview hseq st.moves hTp

end Ledger.C05b
