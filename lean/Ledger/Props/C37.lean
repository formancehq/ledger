import Ledger.Proofs.QueryTemplate
import Ledger.Proofs.QueryPaginate

/-!
C37 — Query templates equal the direct query they describe.

Models: `Ledger/Query/{Template,RunQuery,Paginate,Cursor}.lean`, hand-written from
`internal/queries/{filter_template,substitution,variables,schema}.go`,
`internal/query_template.go` and `RunQuery` / `runQueryFromCursor` /
`templateParamsToQuery` in `internal/controller/ledger/controller_default.go`;
tied to the real `ResolveFilterTemplate` and `DefaultController.RunQuery` (over a
recording store) by the `template` correspondence workload.
-/
namespace Ledger.C37
open Ledger.Query

/-- **The resolved filter is the template's tree with every leaf value replaced by
    its substituted, typed value**: when `ResolveFilterTemplate` succeeds, every leaf
    resolved, and the result is `substTree` of the body — `$and` / `$or` / `$not`
    structure, operators and keys untouched (`substTree` only rewrites leaf values). -/
theorem resolve_is_substitution (pd : String → Option Int) (t : Template) (call : Vars) (g : Filter)
    (h : resolveTemplate pd t call = .ok (some g)) :
    ∃ f vars schema, t.body = some f ∧ buildVars pd t.vars call = .ok vars ∧
      templateSchema t.resource = some schema ∧
      (∀ l ∈ f.leaves, ∃ v', resolveLeaf codePoints intLit? schema vars l.1 l.2.1 l.2.2 = .ok v') ∧
      g = substTree (resolvedValue (resolveLeaf codePoints intLit? schema vars)) f := by
  unfold resolveTemplate resolveTemplateWith at h
  split at h
  · cases h
  · rename_i vars hv
    split at h
    · cases h
    · rename_i schema hs
      split at h
      · cases h
      · rename_i f hb
        cases hr : resolveTree (resolveLeaf codePoints intLit? schema vars) f with
        | error e => rw [hr] at h; cases h
        | ok g' =>
          rw [hr] at h; cases h
          exact ⟨f, vars, schema, hb, hv, hs, resolveTree_ok _ f _ hr⟩

/-- Substitution keeps every leaf's operator and key, in order; only values change. -/
theorem resolve_keeps_structure (σ : Op → String → Val → Val) (f : Filter) :
    (substTree σ f).leaves.map (fun l => (l.1, l.2.1)) = f.leaves.map (fun l => (l.1, l.2.1)) := by
  rw [leaves_substTree]; simp [List.map_map, Function.comp_def]

/-- A failing resolution reports the error of a leaf (the first one in walk order). -/
theorem resolve_error_is_leaf_error (leaf : Op → String → Val → Except TErr Val) (f : Filter)
    (e : TErr) (h : resolveTree leaf f = .error e) :
    ∃ l ∈ f.leaves, leaf l.1 l.2.1 l.2.2 = .error e := by
  rw [resolveTree_eq] at h
  split at h <;> cases h
  exact firstError_eq_some ‹_›

/-- A string value without `$` is a literal: it is substituted by itself (any
    characters, ASCII or not). -/
theorem literal_is_unchanged (s : String) (vars : Vars) (h : ∀ c ∈ s.toList, c ≠ '$') :
    replaceVariables codePoints s vars = .ok s := by
  have hcp : ∀ c ∈ s.toList.map Char.toNat, c ≠ 36 := by
    intro c hc h36
    obtain ⟨ch, hch, rfl⟩ := List.mem_map.mp hc
    exact h ch hch (by simpa using congrArg Char.ofNat h36)
  have hid : s.toList.map (Char.ofNat ∘ Char.toNat) = s.toList := by simp [Function.comp_def]
  unfold replaceVariables parseTemplate codePoints
  rw [parseTemplateAux_noDollar _ [] _ hcp (by simp)]
  simp only [List.reverse_nil, List.nil_append, List.map_map, hid]
  by_cases he : s.toList = []
  · rw [String.toList_eq_nil_iff.mp he]; rfl
  · simp [he, renderPieces]

/-- **Before fix `36e323f`** literal bytes were re-encoded one by one: the template
    `{"$match": {"metadata[k]": "é"}}` resolved to `"Ã©"`. -/
theorem literal_reencoding_counterexample :
    let t : Template := { resource := "accounts", vars := [],
                          body := some (.leaf .match_ "metadata[k]" (.sc (.str "é"))) }
    ((resolveTemplatePreFix (fun _ => none) t []).toOption.bind id).map Filter.leaves =
      some [(.match_, "metadata[k]", .sc (.str "Ã©"))] ∧
    ((resolveTemplate (fun _ => none) t []).toOption.bind id).map Filter.leaves =
      some [(.match_, "metadata[k]", .sc (.str "é"))] := by
  decide +kernel

/-- **Parameters: a later object overrides exactly the keys it gives** — for the two
    objects `RunQuery` merges (template params, then request params) on top of the
    defaults `d`: page size, expand, end / start time, the volumes options, and the
    sort column / order when neither object has a `sort`. -/
theorem params_overwrite_order (pd : String → Option Int) (d p : Params) (t r : ParamsJson)
    (h : overwrite pd d [some t, some r] = .ok p) :
    p.pageSize = r.pageSize.getD (t.pageSize.getD d.pageSize) ∧
    p.expand = r.expand.getD (t.expand.getD d.expand) ∧
    (r.endTime = none → t.endTime = none → p.pit = d.pit) ∧
    (∀ s, r.endTime = some s → p.pit = pd s) ∧
    (r.endTime = none → ∀ s, t.endTime = some s → p.pit = pd s) ∧
    (r.startTime = none → t.startTime = none → p.oot = d.oot) ∧
    (∀ s, r.startTime = some s → p.oot = pd s) ∧
    (r.startTime = none → ∀ s, t.startTime = some s → p.oot = pd s) ∧
    p.opts.groupLvl = r.groupBy.getD (t.groupBy.getD d.opts.groupLvl) ∧
    p.opts.useInsertionDate = r.insertionDate.getD (t.insertionDate.getD d.opts.useInsertionDate) ∧
    (r.sort = none → t.sort = none → p.sortColumn = d.sortColumn ∧ p.sortOrder = d.sortOrder) := by
  obtain ⟨p1, h1, h⟩ := overwrite_cons_some h
  obtain ⟨_, h2, h⟩ := overwrite_cons_some h
  cases h
  obtain ⟨a1, a2, a3, a4, a5, a6, a7⟩ := applyParams_fields pd d p1 t h1
  obtain ⟨b1, b2, b3, b4, b5, b6, b7⟩ := applyParams_fields pd p1 p r h2
  refine ⟨by rw [b1, a1], by rw [b2, a2], ?_, ?_, ?_, ?_, ?_, ?_, by rw [b5, a5], by rw [b6, a6], ?_⟩
  · intro hr ht; rw [b3, a3, hr, ht]; rfl
  · intro s hs; rw [b3, hs]; rfl
  · intro hr s hs; rw [b3, a3, hr, hs]; rfl
  · intro hr ht; rw [b4, a4, hr, ht]; rfl
  · intro s hs; rw [b4, hs]; rfl
  · intro hr s hs; rw [b4, a4, hr, hs]; rfl
  · intro hr ht
    exact ⟨(b7 hr).1.trans (a7 ht).1, (b7 hr).2.trans (a7 ht).2⟩

/-- Empty / `null` params objects are skipped. -/
theorem params_overwrite_skips_empty (pd : String → Option Int) (d : Params) (t : Option ParamsJson) :
    overwrite pd d [t, none] = overwrite pd d [t] ∧ overwrite pd d [none, t] = overwrite pd d [t] := by
  cases t with
  | none => simp [overwrite]
  | some j =>
    simp only [overwrite]
    cases applyParams pd d j <;> simp

/-- **Before fix `04cc4e9`** request params that did not repeat a key reset it: the
    template's `pageSize: 3` and `endTime` were lost when the request only gave `sort`. -/
theorem params_overwrite_counterexample :
    let d : Params := { sortColumn := "id", sortOrder := some .desc, pageSize := 15 }
    let t : ParamsJson := { pageSize := some 3, endTime := some "T" }
    let r : ParamsJson := { sort := some "timestamp:asc" }
    let pd : String → Option Int := fun _ => some 7
    (overwritePreFix pd d [some t, some r]).toOption.map (fun p => (p.pageSize, p.pit)) = some (0, none) ∧
    (overwrite pd d [some t, some r]).toOption.map (fun p => (p.pageSize, p.pit, p.sortColumn, p.sortOrder)) =
      some (3, some 7, "timestamp", some .asc) := by
  decide +kernel

/-- **`RunQuery` ends in the same `Paginate` call as a direct list query**: without a
    cursor, it hands `store.<Resource>().Paginate` exactly the initial query built
    from the resolved filter and the merged parameters (page size capped at the
    maximum) — the argument a list endpoint passes for the same filter / parameters. -/
theorem runQuery_eq_list {C D R : Type} (pd : String → Option Int) (decode : C → Option D)
    (paginate : String → D ⊕ InitialQuery ResourceQuery → R) (dps mps : Nat)
    (t : StoredTemplate) (vars : Vars) (params : Option ParamsJson)
    (b : Option Filter) (d p : Params)
    (hres : resolveTemplate pd t.tmpl vars = .ok b)
    (hdef : defaultParams t.tmpl.resource dps = some d)
    (hpar : overwrite pd d [t.params, params] = .ok p) :
    runQuery pd decode paginate dps mps t { params, vars, cursor := none } =
      .ok (t.tmpl.resource, paginate t.tmpl.resource (.inr (templateParamsToQuery p b mps))) := by
  simp [runQuery, runQueryTarget, hres, hdef, hpar]

/-- The query it builds: sort column / order and page size of the merged parameters,
    the resolved filter, PIT / OOT / expand / options of the merged parameters. -/
theorem runQuery_query_fields (p : Params) (b : Option Filter) (mps : Nat) :
    (templateParamsToQuery p b mps).column = p.sortColumn ∧
    (templateParamsToQuery p b mps).order = p.sortOrder ∧
    (templateParamsToQuery p b mps).pageSize = min p.pageSize mps ∧
    (templateParamsToQuery p b mps).options.builder = b ∧
    (templateParamsToQuery p b mps).options.pit = p.pit ∧
    (templateParamsToQuery p b mps).options.oot = p.oot ∧
    (templateParamsToQuery p b mps).options.expand = p.expand := by
  refine ⟨rfl, rfl, ?_, rfl, rfl, rfl, rfl⟩
  simp only [templateParamsToQuery]
  split <;> omega

/-- **Following the returned cursor continues that same query** (1): with a cursor,
    `RunQuery` ignores the template's params / vars and hands `Paginate` the decoded
    cursor. -/
theorem cursor_continues_same_query {C D R : Type} (pd : String → Option Int) (decode : C → Option D)
    (paginate : String → D ⊕ InitialQuery ResourceQuery → R) (dps mps : Nat)
    (t : StoredTemplate) (vars : Vars) (params : Option ParamsJson) (c : C) (dq : D)
    (hres : (templateSchema t.tmpl.resource).isSome) (hdec : decode c = some dq) :
    runQuery pd decode paginate dps mps t { params, vars, cursor := some c } =
      .ok (t.tmpl.resource, paginate t.tmpl.resource (.inl dq)) := by
  have : (templateSchema t.tmpl.resource).isNone = false := by
    cases h : templateSchema t.tmpl.resource <;> simp_all
  simp [runQuery, runQueryTarget, this, hdec]

/-- (2): every cursor a page hands out (`next`, `previous`) carries the query's filters
    / column (`rest`), order and page size unchanged — column paginator. -/
theorem next_cursor_same_query_col {φ : Type} (q : ColQuery φ) (T : List Row)
    (p : Page (ColQuery φ)) (h : paginateCol q T = .ok p) :
    ∀ q', (q' ∈ p.next ∨ q' ∈ p.previous) →
      q'.rest = q.rest ∧ q'.pageSize = q.pageSize ∧ q'.order = q.order := by
  unfold paginateCol at h
  split at h
  · cases h
  · exact buildCursorCol_same_query q _ _ p h

/-- (2'): the same for the offset paginator. -/
theorem next_cursor_same_query_off {φ : Type} (q : OffQuery φ) (T : List Row)
    (p : Page (OffQuery φ)) (h : paginateOff q T = .ok p) :
    ∀ q', (q' ∈ p.next ∨ q' ∈ p.previous) →
      q'.rest = q.rest ∧ q'.pageSize = q.pageSize ∧ q'.order = q.order := by
  unfold paginateOff at h
  split at h
  · cases h
  · split at h
    · cases h
    · exact buildCursorOff_same_query q _ p h

/-- Non-vacuity: a template with a string and a numeric variable resolves to the
    substituted tree, `$and` / `$not` kept. -/
example :
    let t : Template := {
      resource := "accounts",
      vars := [("iban", { type := .string }), ("min", { type := .numeric, default := .num "10" })],
      body := some (.and [.leaf .match_ "address" (.sc (.str "banks:${iban}:")),
                          .not (.leaf .lt "balance[USD]" (.sc (.str "${min}")))]) }
    ((resolveTemplate (fun _ => none) t [("iban", .str "FR76é")]).toOption.bind id).map
        (fun g => (g.leaves, g.depth)) =
      some ([(.match_, "address", .sc (.str "banks:FR76é:")), (.lt, "balance[USD]", .sc (.int 10))], 2) := by
  decide +kernel

end Ledger.C37
