import Ledger.Reads.RunQuery
import Ledger.Props.C37

/-!
C37 (end to end) — running a stored query template equals the direct list query it describes.

Only property theorems and non-vacuity examples.  `Reads.runQueryVia` is `DefaultController.RunQuery`
(no cursor) stated over the model of `Ledger.Query` — `Query.resolveTemplate` (ResolveFilterTemplate),
`Query.overwrite` (QueryTemplateParams.Overwrite), `Query.templateParamsToQuery` — ending in an
arbitrary list endpoint `paginate : resource → ListQuery → R`; the `runquery` workload instantiates
`paginate` with the listing `Ledger.Reads` computes from the Spec and compares with the REAL RunQuery
over LeanPG (the modelled Postgres) page by page, and the real RunQuery with the real direct list
call (tested, not proved).
-/
namespace Ledger.C37r
open Ledger.Query Ledger.Reads

/-- **RunQuery = the list call at the resolved query**: whenever the template resolves to the
    filter `b` under the call variables and the defaults overwritten by the template's and then the
    request's params give `p`, running the template returns, for the template's resource, exactly
    what the list endpoint returns for the query with filter `b`, PIT / OOT / expand / sort /
    page size (capped) / volumes options of `p` — for ANY list endpoint. -/
theorem runquery_eq_list {R : Type} (paginate : String → ListQuery → R)
    (t : StoredTemplate) (vars : Vars) (params : Option ParamsJson) (b : Option Filter) (d p : Params)
    (hres : resolveTemplate parseRFC3339 t.tmpl vars = .ok b)
    (hdef : defaultParams t.tmpl.resource rqDefaultPageSize = some d)
    (hpar : overwrite parseRFC3339 d [t.params, params] = .ok p) :
    runQueryVia paginate t vars params =
      .ok (t.tmpl.resource, paginate t.tmpl.resource (ListQuery.ofInitial (templateParamsToQuery p b rqMaxPageSize))) := by
  unfold runQueryVia
  rw [Ledger.C37.runQuery_eq_list parseRFC3339 _ _ rqDefaultPageSize rqMaxPageSize t vars params b d p hres hdef hpar]

/-- The list call RunQuery makes, field by field. -/
theorem runquery_list_fields (p : Params) (b : Option Filter) :
    let q := ListQuery.ofInitial (templateParamsToQuery p b rqMaxPageSize)
    q.filter = b ∧ q.pit = p.pit ∧ q.oot = p.oot ∧ q.expand = p.expand ∧ q.sort = p.sortColumn ∧
    q.order = p.sortOrder ∧ q.pageSize = min p.pageSize rqMaxPageSize ∧
    q.insertionDate = p.opts.useInsertionDate ∧ q.groupLvl = p.opts.groupLvl.toNat := by
  have h := Ledger.C37.runQuery_query_fields p b rqMaxPageSize
  refine ⟨rfl, rfl, rfl, rfl, rfl, rfl, ?_, rfl, rfl⟩
  exact h.2.2.1

/-- A template that does not resolve (missing / ill-typed variable, …) is rejected, never run. -/
theorem runquery_unresolved_rejected {R : Type} (paginate : String → ListQuery → R)
    (t : StoredTemplate) (vars : Vars) (params : Option ParamsJson) (e : TErr)
    (hres : resolveTemplate parseRFC3339 t.tmpl vars = .error e) :
    runQueryVia paginate t vars params = .error (.resolve e) := by
  simp [runQueryVia, runQuery, runQueryTarget, hres]

/-- Non-vacuity: a volumes template with an int variable bound as a float64 (2^64), a template
    page size / groupBy and a request sort order: the list call made has the substituted filter,
    page size 2, group level 1, descending order. -/
example :
    (runQueryVia (fun _ q => (q.filter.map Filter.leaves == some [(.lt, "balance[USD/2]", .sc (.int 18446744073709551616))],
                              q.pageSize, q.groupLvl, q.order == some .desc))
        { tmpl := { resource := "volumes", vars := [("v_big", { type := .numeric })],
                    body := some (.leaf .lt "balance[USD/2]" (.sc (.str "${v_big}"))) },
          params := some { pageSize := some 2, groupBy := some 1 } }
        [("v_big", .float 18446744073709551616 0)] (some { sort := some "account:desc" })).toOption.map (·.2) =
      some (true, 2, 1, true) := by
  decide +kernel

end Ledger.C37r
