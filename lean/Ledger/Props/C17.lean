import Ledger.Proofs.CtrlSpec
import Ledger.Proofs.CtrlDefaults
import Ledger.Proofs.CtrlExamples

/-!
# C17 — Current metadata = the saves in order minus the deletes, chart defaults on
first creation only (controller layer; metadata HISTORY / point-in-time reads are
the SQL layer's concern and out of scope here)

Proved for ALL histories: the tables' metadata equal the fold of the journal
(`current_meta_eq_fold`), plus the store-contract facts behind it (later save
wins, chart defaults only when the row is created and below the explicit values,
delete removes exactly the key).
-/
namespace Ledger.C17
open Ledger.Ctrl Ledger.Core Ledger.Ctrl.Examples

/-- On an existing account the chart's default metadata plays no role at all. -/
theorem defaults_only_on_creation (now : Time) (accounts : Ledger.Base.Map String Account) (r : AccIn) (d' : Meta)
    (acc : Account) (hex : accounts.get? r.address = some acc) :
    upsertAccount now accounts r = upsertAccount now accounts { r with defaults := d' } := by
  unfold upsertAccount
  simp only [hex]

/-- On creation the metadata is the defaults overridden by the explicit values. -/
theorem creation_merges_defaults_below (now : Time) (accounts : Ledger.Base.Map String Account) (r : AccIn)
    (hnew : accounts.get? r.address = none) :
    ∃ acc, (upsertAccount now accounts r).get? r.address = some acc ∧ acc.metadata = metaMerge r.defaults r.metadata := by
  unfold upsertAccount
  simp only [hnew]
  exact ⟨_, Base.Map.get?_insert_self _ _ _, rfl⟩

/-- `upsertTransactionAccounts` (the `UpsertAccounts` batch of a create, rows from
    `tx.AccountsWithDefaultMetadata(schema, …)` = `accountRows`): whatever chart the
    operation's schema carries — or none — every account that already had a row ends
    up with the same row. Together with `creation_merges_defaults_below` (a created row
    gets `defaults` below the explicit values): chart defaults are applied exactly when
    this call CREATES the account. -/
theorem tx_accounts_defaults_only_on_creation (now : Time) (schema schema' : Option Schema) (tx : Ledger.Ctrl.Tx)
    (am : Ledger.Base.Map String Meta) (d : Db) (a : String) (x : Account) (hex : d.accounts.get? a = some x) :
    (upsertAccounts now (accountRows schema tx am) d).accounts.get? a =
    (upsertAccounts now (accountRows schema' tx am) d).accounts.get? a := by
  unfold upsertAccounts accountRows
  exact upsertAccounts_existing_ignores_defaults now _ _ (fun _ => rfl) (fun _ => rfl) _ _ _ a x hex hex

/-- `saveAccountMetadata` (`saveAccMetaBody`: one `UpsertAccounts` row with NULL dates
    and the chart defaults of the operation's schema): on an existing account the
    schema plays no role; on a new one the row is created with the defaults below the
    saved values. -/
theorem save_defaults_exactly_on_creation (now : Time) (schema schema' : Option Schema) (a : String) (m : Meta) (d : Db) :
    (∀ x, d.accounts.get? a = some x →
      upsertAccounts now [{ address := a, metadata := m, defaults := defaultsOf schema a }] d =
      upsertAccounts now [{ address := a, metadata := m, defaults := defaultsOf schema' a }] d) ∧
    (d.accounts.get? a = none →
      ∃ acc, (upsertAccounts now [{ address := a, metadata := m, defaults := defaultsOf schema a }] d).accounts.get? a = some acc ∧
        acc.metadata = metaMerge (defaultsOf schema a) m) := by
  constructor
  · intro x hx
    unfold upsertAccounts
    simp only [List.foldl_cons, List.foldl_nil]
    rw [defaults_only_on_creation now d.accounts { address := a, metadata := m, defaults := defaultsOf schema a }
      (defaultsOf schema' a) x hx]
  · intro hn
    exact creation_merges_defaults_below now d.accounts { address := a, metadata := m, defaults := defaultsOf schema a } hn

/-- The journal-level reading of the same fact: in the reference fold `specOf`
    (`Ledger/Ctrl/Spec.lean`) `specTouch` and `specSave` consult the chart
    (`specDefaults`) only in their "no row yet" branch; `current_meta_eq_fold` below
    proves the tables equal that fold after every history. -/
theorem spec_defaults_only_on_creation (schemas schemas' : List Schema) (v v' : String) (ts ins : Time)
    (accounts : Ledger.Base.Map String AccSpec) (a : String) (m : Meta) (x : AccSpec) (hex : accounts.get? a = some x) :
    specTouch schemas v ts ins accounts a m = specTouch schemas' v' ts ins accounts a m ∧
    specSave schemas v ts accounts a m = specSave schemas' v' ts accounts a m := by
  unfold specTouch specSave
  simp only [hex, and_self]

/-- A save on an existing account: the new metadata is the old one overridden by
    the saved values (later write wins), or the row is untouched when they are
    already there. -/
theorem save_overrides (now : Time) (accounts : Ledger.Base.Map String Account) (a : String) (m defaults : Meta)
    (acc : Account) (hex : accounts.get? a = some acc) :
    (metaContains acc.metadata m = true ∧
      upsertAccount now accounts { address := a, metadata := m, defaults := defaults } = accounts) ∨
    (∃ acc', (upsertAccount now accounts { address := a, metadata := m, defaults := defaults }).get? a = some acc' ∧
      acc'.metadata = metaMerge acc.metadata m) := by
  unfold upsertAccount
  simp only [hex, Bool.false_or]
  by_cases hc : metaContains acc.metadata m = true
  · left; simp only [hc, Bool.not_true, Bool.false_eq_true, ↓reduceIte, and_self]
  · right
    simp only [Bool.not_eq_true] at hc
    simp only [hc, Bool.not_false, ↓reduceIte]
    exact ⟨_, Base.Map.get?_insert_self _ _ _, rfl⟩

/-- A delete removes exactly that key of that account. -/
theorem delete_removes_key (now : Time) (d : Db) (a key : String) (acc : Account) (hex : d.accounts.get? a = some acc) :
    ∃ acc', (deleteAccountMeta now a key d).accounts.get? a = some acc' ∧ acc'.metadata = acc.metadata.erase key := by
  unfold deleteAccountMeta
  simp only [hex]
  exact ⟨_, Base.Map.get?_insert_self _ _ _, rfl⟩

/-- After ANY sequential history (failing, dry-run, idempotent operations included)
    the current metadata of every account and of every transaction is exactly the
    reference reading of the journal (`specOf`, Ledger/Ctrl/Spec.lean): the saves in
    order (later values win) minus the deletes, chart defaults added below the
    explicit values when the account is first created and never again. -/
theorem current_meta_eq_fold (strict : Bool) (ops : List Op) :
    projAccounts (runHist strict {} ops).db = (specOf (runHist strict {} ops).db.logs).accounts ∧
    projTxMeta (runHist strict {} ops).db = (specOf (runHist strict {} ops).db.logs).txMeta := by
  rw [runHist_view]
  exact ⟨rfl, rfl⟩

/-- The same for one more operation on any state that agrees with its journal, under
    any injected fault. -/
theorem current_meta_eq_fold_step (strict : Bool) (s : State) (op : Op) (f : Faults) (cf : Bool)
    (h : SpecOk s.db) : SpecOk (stepF strict s op f cf).1.db :=
  forgeLog_spec strict op f cf s h

/-! tests of the full statement on concrete histories -/
example : projTxMeta (runHist false s1 [pay false, overdraw]).db = (specOf (runHist false s1 [pay false, overdraw]).db.logs).txMeta := by
  decide +kernel
example : (projAccounts (runHist true {} histDefaults).db).map (fun e => (e.1, e.2.metadata)) =
    ((specOf (runHist true {} histDefaults).db.logs).accounts).map (fun e => (e.1, e.2.metadata)) := by decide +kernel

end Ledger.C17
