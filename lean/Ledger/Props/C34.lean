import Ledger.Sched.Writers
import Ledger.Proofs.SchedBlocks
import Ledger.Proofs.SchedSafeProgs
import Ledger.Proofs.SchedHandles
import Ledger.Proofs.SchedWitnesses

/-!
# C34 — async log blocks (HASH_LOGS=ASYNC)

`create_blocks` (migration 38) builds blocks from the logs with `id > previous.max_log_id`
that are COMMITTED when it runs. With HASH_LOGS=ASYNC no advisory lock orders log-id
allocation and commit, so a log can commit after a higher id was already put into a
block: it is never hashed (`…_counterexample`). What holds: the blocks built by one
call form a contiguous chain over exactly the committed logs above the previous block
(`blocks_contiguous`, `block_covers_committed_at_build_time`); and, over ALL schedules,
`blocks_partition_partial`: IF the writers follow the discipline that makes commit order =
id order (log INSERT under the advisory lock held to commit — what HASH_LOGS=SYNC does and
ASYNC does not), every block covers exactly the committed log ids of its range for ever, and
the ranges are disjoint and ordered.
PostgreSQL (snapshot of the procedure call) is MODELLED (LeanPG).
-/
namespace Ledger.C34
open Ledger.Sched

/-- `blocks_contiguous`: the blocks appended by one `create_blocks` call form a contiguous chain
    starting at the previous block's end, for any committed ids, block size and fuel. -/
theorem blocks_contiguous (l size : Nat) (ids : List Nat) :
    ∀ (fuel last : Nat), ChainedFrom last (mkBlocks l size fuel last ids) :=
  mkBlocks_induct l size ids (Q := ChainedFrom) (fun _ => trivial)
    fun _ _ _ htop ih => ⟨rfl, (batch_top htop).2, ih⟩

/-- `block_covers_committed_at_build_time`: the hash of a block covers exactly the committed ids above
    the previous block's end, up to the block size, as they were when the call ran -/
theorem block_covers_committed_at_build_time (l size fuel last : Nat) (ids : List Nat) (b : Blk) (r : List Blk)
    (h : mkBlocks l size (fuel + 1) last ids = b :: r) :
    b.ids = (ids.filter (· > last)).take size ∧ b.from_ = last := by
  unfold mkBlocks at h
  simp only at h
  split at h
  · cases h
  · injection h with hb _
    subst hb
    exact ⟨rfl, rfl⟩

example : mkBlocks 1 2 5 0 [1, 2, 4] =
    [{ l := 1, from_ := 0, to := 2, ids := [1, 2] }, { l := 1, from_ := 2, to := 4, ids := [4] }] := by decide

/-- `blocks_partition_partial`: for every schedule, for programs following the lock discipline of
    `Ledger.C09s.chain_linear_any_schedule` (commit order = id order), with any number of block-builder
    calls interleaved anywhere: every block's digest input is exactly the set of committed log ids of its
    range `(from, to]` — at that moment and at every later one —, no log in progress has an id inside a
    built range, and the ranges are disjoint and ordered. -/
theorem blocks_partition_partial (l₀ : Nat) (σ : Schedule) (w₀ : World)
    (hg : GInv ⟨logKey l₀, l₀, true⟩ w₀) (hc : ChainInv ⟨logKey l₀, l₀, true⟩ w₀) (hb : BInv l₀ w₀) :
    let w := run σ w₀
    (∀ b ∈ w.blocks, b.l = l₀ → ∀ i, i ∈ b.ids ↔ (i ∈ Cids l₀ w ∧ b.from_ < i ∧ i ≤ b.to)) ∧
    (∀ b ∈ w.blocks, b.l = l₀ → ∀ e ∈ w.logs, e.l = l₀ → e.com = false → b.to < e.id) ∧
    (w.blocks.filter (fun b => b.l = l₀)).Pairwise (fun a b => a.to ≤ b.from_) := by
  intro w
  have h := binv_run ⟨logKey l₀, l₀, true⟩ rfl σ w₀ hg hc hb
  refine ⟨h.bi, ?_, h.bd⟩
  intro b hb' hbl e he hel hec
  exact h.bu b hb' hbl e (mem_lof.mpr ⟨he, hel⟩) hec

/-- non-vacuity: two SYNC-disciplined writers and two block-builder calls satisfy the hypotheses; under the
    schedule of the counterexample the second writer waits for the lock and the blocks are complete -/
example :
    let w₀ : World := { sess := fun s =>
      if s = 1 then { prog := sendProg { cxA with sync := true } true } else if s = 2 then { prog := sendProg { cxB with sync := true } true }
      else if s = 3 ∨ s = 4 then { prog := blocksProg 1 100 } else {} }
    GInv ⟨logKey 1, 1, true⟩ w₀ ∧ ChainInv ⟨logKey 1, 1, true⟩ w₀ ∧ BInv 1 w₀ ∧
    (run ([1, 1, 1, 1, 1, 1] ++ [2, 2, 2, 2, 2] ++ [3, 1] ++ [2, 2, 2, 4]) w₀).blocks =
      [{ l := 1, from_ := 0, to := 2, ids := [1, 2] }] := by
  intro w₀
  refine ⟨ginv_init _ _ rfl rfl fun s => ?_, chainInv_init _ _ rfl rfl, ?_, by decide⟩
  · show Safe _ _ (if s = 1 then _ else _ : Session).prog
    split
    · exact safe_sendProg_inUse _ _ (fun _ => ⟨rfl, rfl⟩) {}
    · split
      · exact safe_sendProg_inUse _ _ (fun _ => ⟨rfl, rfl⟩) {}
      · split
        · exact ⟨trivial, fun _ _ => trivial⟩
        · trivial
  · refine ⟨?_, ?_, ?_, List.Pairwise.nil⟩ <;> intro b hb <;> cases hb

/-- After quiescence both logs are committed, the only block spans ids (0, 2], and its hash covers
    log 2 alone: log 1 is skipped for ever. `blocks_partition_committed_logs` is false. -/
theorem blocks_partition_counterexample :
    (run cxSchedule cxWorld).logs.map (fun e => (e.id, e.com)) = [(1, true), (2, true)] ∧
    (run cxSchedule cxWorld).blocks = [{ l := 1, from_ := 0, to := 2, ids := [2] }] := by
  decide

/-- the same requests when commit order = id order: the blocks cover every log -/
example :
    (run [1, 1, 1, 1, 1, 1, 3, 2, 2, 2, 2, 2, 2, 4] cxWorld).blocks =
      [{ l := 1, from_ := 0, to := 1, ids := [1] }, { l := 1, from_ := 1, to := 2, ids := [2] }] := by
  decide

/-- tie (regenerated): the ASYNC write path takes no advisory lock between the log-id allocation
    (`insertLog`) and COMMIT, and the block builder is one autocommit call -/
theorem async_path_follows_generated_handles :
    (sendProg { cxA with allow := .bounded 0 } true).pathK okAnswers 40 = modelledKinds Generated.Handles.sendAsyncBounded ∧
    (blocksProg 1 10).pathK okAnswers 5 = modelledKinds Generated.Handles.createBlocks ∧
    ¬ (Kind.advLockLog ∈ modelledKinds Generated.Handles.sendAsyncBounded) := by
  decide

end Ledger.C34
