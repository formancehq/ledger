import Ledger.Proofs.ChartRoundtrip
import Ledger.Proofs.ChartEnforce

/-!
C30 — Schemas round-trip without changing meaning.

Models: `Ledger/Chart/Model.lean` (chart.go: MarshalJSON / UnmarshalJSON /
FindAccountSchema, hand-written, tied to the real code by the `chartrt` and
`classify` workloads) and `Ledger/Chart/SchemaJson.lean` (SchemaData with
transaction and query templates, tied by the `schemart` workload).

`ops : RegexOps` stands for Go's `regexp.Compile` / `regexp.Match` on segment
patterns: every theorem holds for any such pair of functions.

Not covered: what Postgres does to the JSON text between `InsertSchema` and
`FindSchema` (jsonb columns) – the theorems are about the Go encoders / decoders
on both sides of the database.
-/
namespace Ledger.C30
open Ledger.Chart

/-- Marshalling a valid chart and unmarshalling the result gives the chart back –
    for every chart (any depth, any number of fixed / variable segments, patterns,
    `.self`, `.metadata`). -/
theorem chart_roundtrip (ops : RegexOps) (c : Chart) (h : Valid ops c) :
    unmarshal ops (marshal c) = .ok c := by
  simp only [unmarshal, marshal, JTree.fields?]
  exact root_rt ops c h

/-- In the shape asked for: the re-read chart exists and classifies every address
    identically – accepted or rejected, with the same account schema, hence the same
    default metadata – and validates every posting identically. -/
theorem chart_roundtrip_classify (ops : RegexOps) (c : Chart) (h : Valid ops c) :
    ∃ c', unmarshal ops (marshal c) = .ok c' ∧
      (∀ addr, classify ops c' addr = classify ops c addr) ∧
      (∀ addr, classifyDefaults ops c' addr = classifyDefaults ops c addr) ∧
      (∀ src dst, validatePosting ops c' src dst = validatePosting ops c src dst) :=
  ⟨c, chart_roundtrip ops c h, fun _ => rfl, fun _ => rfl, fun _ _ => rfl⟩

/-- `Valid` is exactly what can come out of `UnmarshalJSON`: every chart decoded
    from any JSON document is valid … -/
theorem unmarshal_valid (ops : RegexOps) (j : JTree) (c : Chart) (h : unmarshal ops j = .ok c) :
    Valid ops c := unmarshal_valid' ops j c h

/-- … so a chart that was accepted once (API request, stored schema) survives any
    number of further marshal / unmarshal cycles unchanged. -/
theorem stored_chart_stable (ops : RegexOps) (j : JTree) (c : Chart)
    (h : unmarshal ops j = .ok c) : unmarshal ops (marshal c) = .ok c :=
  chart_roundtrip ops c (unmarshal_valid ops j c h)

/-- The whole `SchemaData` – chart, transaction templates, query templates –
    survives the JSON round trip unchanged. -/
theorem schema_roundtrip (ops : RegexOps) (s : SchemaData) (h : s.Valid ops) :
    unmarshalSchemaData ops (marshalSchemaData s) = .ok s := by
  obtain ⟨chart, ts, qs⟩ := s
  have hc : unmarshal ops (marshal chart) = .ok chart := root_rt ops chart h.1
  have ht := templates_rt ts
  have hq := queries_rt qs h.2
  simp +decide only [marshalSchemaData, unmarshalSchemaData, mapFieldOf, findField_append, findField_omit,
    ff_cons, ff_nil, if_true, if_false]
  cases ts <;> cases qs <;> simp_all <;> rfl

theorem templates_roundtrip (ts : List (Key × TxTemplate)) :
    unmarshalTemplates (marshalTemplates ts) = .ok ts := templates_rt ts

theorem queries_roundtrip (qs : List (Key × QueryTemplate)) (h : ∀ kq ∈ qs, kq.2.Valid) :
    unmarshalQueries (marshalQueries qs) = .ok qs := queries_rt qs h

example : Valid sampleOps sampleChart := sampleChart_valid
example : classifyDefaults sampleOps sampleChart ["users".toList, "42".toList, "main".toList]
    = some [("kind".toList, "wallet")] := by decide +kernel
example : classify sampleOps sampleChart ["users".toList, "x1".toList] = none := by decide +kernel
example : classify sampleOps sampleChart ["users".toList] = none := by decide +kernel
example : (classify sampleOps sampleChart ["users".toList, "7".toList]).isSome = true := by decide +kernel
-- a schema with a template and a query template (opaque params / body, a typed variable with default)
example : (⟨sampleChart, [("pay".toList, ⟨"", "send …", "machine"⟩)],
    [("q".toList, ⟨"d", "accounts", some (.obj [("pageSize".toList, .num "10")]),
      [("v".toList, ⟨.string, some (.str "x")⟩)], some (.obj [])⟩)]⟩ : SchemaData).Valid sampleOps := by
  refine ⟨sampleChart_valid, ?_⟩
  simp [QueryTemplate.Valid, VarDecl.Valid]

end Ledger.C30
