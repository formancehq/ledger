import Ledger.Proofs.CtrlImport
import Ledger.Proofs.CtrlReplayHist
import Ledger.Proofs.CtrlExamples
import Ledger.Props.C11

/-!
# C08 — The log is a complete, ordered journal (controller layer, sequential)

`step` = one write through `forgeLog`; `runHist` = a sequential history.
`replay` = `Export` (logs in id order) followed by `Import` / `importLog` into an
empty ledger.  The unconditional replay statement is FALSE on the unchanged code
(three counterexamples below, one per way in which `importLog` differs from the live
write path); `replay_reproduces` proves it for ALL histories and ALL log kinds under
the decidable hypothesis `replaySafe` (`Ledger/Ctrl/Replay.lean`), which excludes
exactly those three.  `accounts_volumes` is compared as values (`Db.norm`: `(0,0)`
rows dropped on both sides — a zero row equals the empty fold, DESIGN §3.0); every
other table is compared row for row.
-/
namespace Ledger.C08
open Ledger.Ctrl Ledger.Core Ledger.Ctrl.Examples

/-- A successful, non-dry-run, non-idempotent write appends exactly one log: the
    one it answers, carrying the request's key, hash, schema version and clock. -/
theorem one_log_per_successful_write (strict : Bool) (s : State) (op : Op)
    (he : (step strict s op).2.isError = false) (hh : (step strict s op).2.hit = false) (hd : op.dry = false) :
    ∃ log, (step strict s op).2.log = some log ∧ (step strict s op).1.db.logs = s.db.logs ++ [log] ∧
      log.ik = op.ik ∧ log.ihash = op.ihash ∧ log.schemaVersion = op.sv ∧ log.date = op.now :=
  step_committed_appended strict s op he hh hd

/-- A failed, dry-run or idempotent write appends none (and rewrites none). -/
theorem no_log_otherwise (strict : Bool) (s : State) (op : Op)
    (h : (step strict s op).2.isError = true ∨ (step strict s op).2.hit = true ∨ op.dry = true) :
    (step strict s op).1.db.logs = s.db.logs :=
  congrArg Db.logs ((forgeLog_ending strict op [] false s).1.db_eq h)

/-- The journal is append-only: every operation leaves the existing logs in place. -/
theorem journal_append_only (strict : Bool) (s : State) (op : Op) :
    ∃ suffix, (step strict s op).1.db.logs = s.db.logs ++ suffix ∧ suffix.length ≤ 1 :=
  step_logs_prefix strict s op

/-- Log ids strictly increase in commit order (sequential histories), whatever
    fails in between. -/
theorem log_ids_increase (strict : Bool) (ops : List Op) :
    (runHist strict {} ops).db.logs.Pairwise (fun a b => a.id < b.id) :=
  (runHist_inv strict {} ops Inv.empty).logSorted

/-- **Replay reproduces the ledger.**  For every sequential history (failing, dry-run
    and idempotent operations included) whose committed logs are all `logSafe`
    (`replaySafe`, decidable: `Ledger/Ctrl/Replay.lean`), exporting the journal and
    importing it into an empty ledger — at ANY import clock `now'` — succeeds and
    yields the same tables: transactions (ids, dates, post-commit volumes,
    reverted-at), accounts (metadata and the three dates), schemas and logs are EQUAL;
    `accounts_volumes` is equal up to `(0,0)` rows (`Db.norm` drops them on both sides).
    By induction over the history; per log kind, `importLog` on the tables the write
    started from is shown to produce the tables the write ended with
    (`Ledger/Proofs/CtrlReplay.lean`). -/
theorem replay_reproduces (strict : Bool) (now' : Time) (ops : List Op) (hsafe : replaySafe strict {} ops = true) :
    (importLogs now' {} (exportLogs (runHist strict {} ops))).2 = none ∧
    (importLogs now' {} (exportLogs (runHist strict {} ops))).1.db.norm = (runHist strict {} ops).db.norm :=
  replay_reproduces_safe strict now' ops hsafe

/-- Table by table: everything but `accounts_volumes` is equal outright, and the
    copy's volumes are the source's minus possibly some `(0,0)` rows (`VolRel`: every
    row of the copy is a row of the source, and a row only the source has is `(0,0)`). -/
theorem replay_reproduces_tables (strict : Bool) (now' : Time) (ops : List Op) (hsafe : replaySafe strict {} ops = true) :
    let c := (importLogs now' {} (exportLogs (runHist strict {} ops))).1.db
    let d := (runHist strict {} ops).db
    c.txs = d.txs ∧ c.accounts = d.accounts ∧ c.logs = d.logs ∧ c.schemas = d.schemas ∧ VolRel d.volumes c.volumes :=
  Ledger.Ctrl.replay_reproduces_tables strict now' ops hsafe

/-- The same for one committed write, from ANY tables: `importLog` of the log it
    produced, run on the tables it started from (volumes `vR` = the live ones up to
    zero rows), ends with the tables it ended with (volumes again up to zero rows). -/
theorem replay_reproduces_step (now now' : Time) (hn : String) (f : Faults) (strict : Bool) (kind : OpKind)
    (ik ihash sv : String) (n : Nat) (st0 st : RunSt) (log : Log) (sqR : Seqs) (vR : PCV)
    (h : run now hn f (runLog strict kind ik ihash sv n) st0 = (.ok log, st))
    (hv : VolRel st0.db.volumes vR) (hsafe : logSafe st0.db log = true) :
    ∃ vR', eval now' (importLog log) (st0.db.withVol vR) sqR = some ((), st.db.withVol vR', sqR) ∧
      VolRel st.db.volumes vR' :=
  runLog_replay now now' hn f strict kind ik ihash sv n st0 st log sqR vR h hv hsafe

/-- Without `replaySafe` the statement is FALSE (1): an account first created by a
    metadata save under a schema gets the chart's default metadata live, not on replay. -/
theorem replay_reproduces_counterexample :
    (replay (runHist true {} histDefaults)).2 = none ∧
    (replay (runHist true {} histDefaults)).1.db ≠ (runHist true {} histDefaults).db :=
  C11.import_export_roundtrip_counterexample.imp_right (mt (congrArg Db.accounts))

/-- FALSE (2): replaying a metadata save lowers the first usage of an account whose
    (future-dated) first usage is later than the save. -/
theorem replay_reproduces_counterexample_dates :
    (replay (runHist true {} histDates)).2 = none ∧
    (replay (runHist true {} histDates)).1.db ≠ (runHist true {} histDates).db :=
  C11.import_export_roundtrip_counterexample_dates.imp_right (mt (congrArg Db.accounts))

/-- FALSE (3): replaying an account `DELETE_METADATA` stamps `updated_at` with the
    import's clock (here 0), the live ledger has the delete's date. -/
theorem replay_reproduces_counterexample_restamp :
    (replay (runHist false {} histRestamp)).2 = none ∧
    (replay (runHist false {} histRestamp)).1.db ≠ (runHist false {} histRestamp).db :=
  C11.import_export_roundtrip_counterexample_restamp.imp_right (mt (congrArg Db.accounts))

/-- `replaySafe` rejects each of the three witnesses (it excludes nothing else: see
    `logSafe`), and accepts a history with every kind of write, failing operations,
    an idempotency key and a revert, as well as the locked-zero-row history below. -/
theorem replaySafe_exact_on_witnesses :
    replaySafe true {} histDefaults = false ∧ replaySafe true {} histDates = false ∧
    replaySafe false {} histRestamp = false ∧
    replaySafe true {} histSafe = true ∧ replaySafe false {} histLocked = true := by decide +kernel

/-- What holds for the divergent SET_METADATA payload (account): the replayed
    row equals the live row when the account exists with a first usage not after
    the save … -/
theorem replay_reproduces_partial (w : Time) (accounts : Ledger.Base.Map String Account) (a : String)
    (m defaults : Meta) (acc : Account) (hex : accounts.get? a = some acc) (hfu : acc.firstUsage ≤ w) :
    upsertAccount w accounts { address := a, metadata := m, defaults := defaults } =
    updateAccountMeta w accounts (a, m) :=
  C11.import_export_roundtrip_partial w accounts a m defaults acc hex hfu

/-- … or when it is new and the chart gives it no default metadata. -/
theorem replay_reproduces_partial_new (w : Time) (accounts : Ledger.Base.Map String Account) (a : String) (m : Meta)
    (hnew : accounts.get? a = none) :
    upsertAccount w accounts { address := a, metadata := m, defaults := [] } = updateAccountMeta w accounts (a, m) :=
  savedMeta_paths_agree w accounts a m [] (fun _ => rfl) fun _ h => nomatch hnew.symm.trans h

/-! non-vacuity -/
example : (step false s1 (pay false)).2.isError = false ∧ (step false s1 (pay false)).1.db.logs.length = 2 := by decide
example : (step false s1 overdraw).2.isError = true := by decide
-- `replay_reproduces` instantiated (all seven payload kinds in the journal)
example : (importLogs 0 {} (exportLogs (runHist true {} histSafe))).1.db.norm = (runHist true {} histSafe).db.norm :=
  (replay_reproduces true 0 histSafe replaySafe_exact_on_witnesses.2.2.2.1).2
-- Remark (NOT a violation): a Numscript run that locks the balance of an account it
-- then does not use (`GetBalances`: `INSERT (0,0) … ON CONFLICT DO NOTHING`) leaves a
-- `(0,0)` `accounts_volumes` row in the live ledger which the replay never creates:
-- the raw tables differ by that row, the values (`Db.norm`) do not.
example : (replay (runHist false {} histLocked)).1.db.volumes ≠ (runHist false {} histLocked).db.volumes ∧
    (replay (runHist false {} histLocked)).1.db.norm = (runHist false {} histLocked).db.norm :=
  locked_zero_rows
example : (runHist true {} histSafe).db.logs.length = 8 := by decide +kernel
-- a replay that does reproduce: no metadata-created account
example : (replay (runHist false {} [{ kind := .createP {} [⟨"world", "bank", 100, "USD"⟩] false, now := 10 }, pay false])).1.db =
    (runHist false {} [{ kind := .createP {} [⟨"world", "bank", 100, "USD"⟩] false, now := 10 }, pay false]).db := by
  decide +kernel

end Ledger.C08
