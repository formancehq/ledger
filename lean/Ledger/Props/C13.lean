import Ledger.Proofs.CtrlStep
import Ledger.Ctrl.Request
import Ledger.Proofs.CtrlExamples

/-!
# C13 — Idempotency keys give exactly-once effects (controller layer, sequential)

`ihash` is `ComputeIdempotencyHash(input)`; that equal inputs have equal hashes
and different inputs different ones is the hash's concern (C10 / collision
resistance), not this layer's.  The concurrent form (two requests racing on one
key) is out of scope here.
-/
namespace Ledger.C13
open Ledger.Ctrl Ledger.Core Ledger.Ctrl.Examples

/-- After any history no two logs carry the same (non-empty) idempotency key: a
    key is applied at most once. -/
theorem ik_at_most_once (strict : Bool) (ops : List Op) :
    (runHist strict {} ops).db.logs.Pairwise (fun a b => b.ik = "" ∨ a.ik ≠ b.ik) :=
  (runHist_inv strict {} ops Inv.empty).ikUnique

/-- Same key, same input (or a legacy log without hash): the original log is
    returned, flagged as a hit, and nothing at all changes — sequences included. -/
theorem ik_hit_returns_original (strict : Bool) (s : State) (op : Op) (l : Log)
    (hk : op.ik ≠ "") (hf : readLogWithIK op.ik s.db = some l) (hh : l.ihash = "" ∨ l.ihash = op.ihash) :
    step strict s op = (s, { hit := true, log := some l }) := by
  have hh' : ¬ (l.ihash ≠ "" ∧ l.ihash ≠ op.ihash) := fun ⟨h1, h2⟩ => hh.elim h1 h2
  unfold step forgeLog
  simp only [fires_nil, ikLookup, if_neg hk, run, exec, hf, if_neg hh', rolledBack]

/-- Same key, different input: a validation error, and nothing at all changes. -/
theorem ik_different_input_validation_error (strict : Bool) (s : State) (op : Op) (l : Log)
    (hk : op.ik ≠ "") (hf : readLogWithIK op.ik s.db = some l) (h1 : l.ihash ≠ "") (h2 : l.ihash ≠ op.ihash) :
    step strict s op = (s, { err := some .invalidIdempotencyInput }) := by
  unfold step forgeLog
  simp only [fires_nil, ikLookup, if_neg hk, run, exec, hf, if_pos (And.intro h1 h2), rolledBack]

/-- **Key reuse with a different input is refused, whatever field differs.**  Let `H` be
    the fingerprint of requests (`ComputeIdempotencyHash` = base64(SHA-256(`json.Marshal`
    of the input))), the log found under the key carry `H r0` (it does: `ik_recorded`) and
    the re-sent request `r` carry `H r`.  ASSUMED about `H`, and nothing else: it is
    injective on requests — i.e. the JSON encoding of the input distinguishes every two
    values of `Request` (every field of every write kind takes part: script, template,
    each variable, timestamp, metadata, reference, account metadata, runtime; force,
    atEffectiveDate, id; address / key / value; version, schema data) and SHA-256 does not
    collide on them — and never the empty string.  Then `r ≠ r0` ⇒ validation error,
    nothing at all changes.  (A `MarshalJSON` that drops a field from the encoding breaks
    exactly the injectivity hypothesis; the `ctrlhist` workload re-sends every request with
    exactly one field changed and checks the real answer.) -/
theorem ik_hash_injective_on_inputs (H : Request → String) (hinj : ∀ a b, H a = H b → a = b)
    (hne0 : ∀ a, H a ≠ "") (strict : Bool) (s : State) (op : Op) (l : Log) (r r0 : Request)
    (hk : op.ik ≠ "") (hf : readLogWithIK op.ik s.db = some l)
    (h0 : l.ihash = H r0) (h1 : op.ihash = H r) (hdiff : r ≠ r0) :
    step strict s op = (s, { err := some .invalidIdempotencyInput }) := by
  refine ik_different_input_validation_error strict s op l hk hf (by rw [h0]; exact hne0 r0) ?_
  rw [h0, h1]
  exact fun h => hdiff (hinj _ _ h).symm

/-- …and the same request under the same key gets the recorded outcome: the original
    log as a hit, nothing changes (needs only that `H` is a function of the request). -/
theorem ik_same_input_recorded_outcome (H : Request → String) (strict : Bool) (s : State) (op : Op) (l : Log)
    (r : Request) (hk : op.ik ≠ "") (hf : readLogWithIK op.ik s.db = some l)
    (h0 : l.ihash = H r) (h1 : op.ihash = H r) :
    step strict s op = (s, { hit := true, log := some l }) :=
  ik_hit_returns_original strict s op l hk hf (Or.inr (by rw [h0, h1]))

/-- A committed write with a key records the key and the input's hash in its log,
    so every later request with that key meets the two theorems above. -/
theorem ik_recorded (strict : Bool) (s : State) (op : Op)
    (he : (step strict s op).2.isError = false) (hh : (step strict s op).2.hit = false) (hd : op.dry = false) :
    ∃ log, (step strict s op).1.db.logs = s.db.logs ++ [log] ∧ log.ik = op.ik ∧ log.ihash = op.ihash := by
  obtain ⟨log, _, hl, hik, hih, _, _⟩ := step_committed_appended strict s op he hh hd
  exact ⟨log, hl, hik, hih⟩

/-- The store refuses a second log with the same key even if the controller's
    lookup were bypassed (`logs_idempotency_key` → ErrIdempotencyKeyConflict). -/
theorem store_refuses_duplicate_key (now : Time) (l : LogIn) (d : Db) (sq : Seqs)
    (hk : l.ik ≠ "") (hdup : ∃ x ∈ d.logs, x.ik = l.ik) (hid : ∀ x ∈ d.logs, x.id ≠ (match l.id with | some i => i | none => sq.log + 1)) :
    (insertLog now l d sq).2 = .error .ikConflict :=
  insertLog_dup_ik hk hdup hid

/-! non-vacuity -/
example : (step false s1 payIK).2.isError = false ∧ (step false s1 payIK).1.db.logs.length = 2 := by decide
example : (step false (step false s1 payIK).1 payIK).2.hit = true ∧
          (step false (step false s1 payIK).1 payIK).1 = (step false s1 payIK).1 := by decide +kernel
example : (step false (step false s1 payIK).1 { payIK with ihash := "h2" }).2.err = some .invalidIdempotencyInput := by
  decide +kernel

/-- The idempotency-key conflict branch of `forgeLogRetry` (a concurrent request
    committed the same key first: the store reports the unique violation, the
    controller re-reads the log on the root handle): under the store contract that
    re-read finds the log, so `panic("incoherent error, received duplicate IK but log
    not found in database")` is unreachable — unless the conflict was injected by the
    test harness rather than reported by the store (`hnof`). -/
theorem ik_conflict_refetch_finds_log (strict : Bool) (op : Op) (f : Faults) (cf : Bool) (s : State) (i tx : Nat)
    (seq : Seqs) (n : Nat) (trace : List String) (seq' : Seqs) (n' : Nat) (trace' : List String)
    (hnof : ∀ x ∈ f, x.kind ≠ .ikConflict)
    (h : runTx strict op f cf s i tx seq n trace = .failed (.store .ikConflict) seq' n' trace') :
    (fetchAfterConflict op f s seq' (n' + 1) trace').resp.err ≠ some .panic :=
  conflict_panic_unreachable strict op f cf s i tx seq n trace seq' n' trace' hnof h

end Ledger.C13
