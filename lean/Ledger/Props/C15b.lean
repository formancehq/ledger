import Ledger.Proofs.SqlTxStmts
import Ledger.Proofs.SqlRunAccounts

/-!
C15b — bridge: `RevertTransaction` (the SQL, under LeanPG) against `Ledger.Spec.markReverted`; the
transaction-metadata statements are in `Props/C15bMeta.lean`.

* PROVED for every row (`revertTransaction_sem`, `revertTransactionAt_sem`): the UPDATE inside the CTE of
  the regenerated statement sets `reverted_at` and `updated_at` and its WHERE clause, under LeanPG's
  expression evaluator, holds exactly when the row is transaction `txid` of this ledger AND
  `reverted_at IS NULL` — the guard of `Spec.markReverted` (the `reverted_at is null` part is what makes a
  second revert a no-op).
* PROVED in general (`revertTransaction_update_sem`, `revertTransactionAt_update_sem`): the data-modifying CTE
  of the statement — LeanPG's whole UPDATE loop (scan under the statement's snapshot, WHERE, latest version,
  row lock check, SET, constraints, both unique indexes of `transactions`, new row version) — for ANY
  contents of `transactions` satisfying the storage invariants `TxTblState` (typed rows, primary key and
  reference index unique among the versions the transaction sees, fresh command id, no other transaction in
  progress): exactly the rows with `id = txid ∧ reverted_at IS NULL ∧ ledger = l` get `reverted_at =
  updated_at = date`, every other row and every other table is untouched, the invariants are kept, and
  RETURNING holds the new rows. Restriction: `transactions` carries no UPDATE trigger (ledger without
  TRANSACTION_METADATA_HISTORY); for the plain variant the transaction's `transaction_date()` is already set.
* NOT proved in general: the outer `SELECT … UNION ALL … LIMIT 1` that turns RETURNING into the `modified`
  flag, and the per-ledger AFTER UPDATE trigger (`update_transaction_metadata_history`) that fires on the
  revert when metadata history is on. Fallback, labelled below: BOUNDED REGRESSION OBLIGATIONS by kernel
  evaluation on concrete scenarios.
-/
namespace Ledger.C15b
open Ledger Ledger.Sql Ledger.Generated Ledger.Generated.WriteSql

/-- `RevertTransaction`: the statement is `WITH upd AS (UPDATE transactions SET reverted_at = transaction_date(),
    updated_at = transaction_date() WHERE wher RETURNING …) SELECT … LIMIT 1`, and `wher` holds iff
    `id = txid ∧ reverted_at IS NULL ∧ ledger = l`, for any row in which these columns resolve. -/
theorem revertTransaction_sem (cb : Callbacks) (te : TypeEnv) (env : Env) (b l : String) (id : Nat) (txid i : Int) (ra : Option Int) (lr : String) (s : St)
    (h1 : lookupColumn env "" "id" = .ok (.int i)) (h2 : lookupColumn env "" "reverted_at" = .ok (optTs ra))
    (h3 : lookupColumn env "" "ledger" = .ok (.text lr)) :
    ∃ (wher : Expr) (ret : List SelItem) (body : SetExpr),
      P.revertTransaction b l id txid =
        [Stmt.query (Query.mk [Cte.mk "upd" [] (Stmt.update [] b "transactions" ""
            [SetItem.mk "reverted_at" (Expr.call b "transaction_date" []), SetItem.mk "updated_at" (Expr.call b "transaction_date" [])]
            [] (some wher) ret)] body [] (some (Expr.int 1)) none LockMode.none)] ∧
      (evalExpr cb te env wher).exec s = (.ok (.bool (decide (i = txid ∧ ra = none ∧ lr = l))), s) :=
  let ⟨wher, body, hstmt, hg⟩ := revertTransaction_shape b l id txid
  ⟨wher, _, body, hstmt, Evals.of_pv wher (hg te env i ra lr h1 h2 h3) s⟩

/-- the same for the variant with an explicit date -/
theorem revertTransactionAt_sem (cb : Callbacks) (te : TypeEnv) (env : Env) (b l : String) (id : Nat) (txid i : Int) (atTs : String)
    (ra : Option Int) (lr : String) (s : St)
    (h1 : lookupColumn env "" "id" = .ok (.int i)) (h2 : lookupColumn env "" "reverted_at" = .ok (optTs ra))
    (h3 : lookupColumn env "" "ledger" = .ok (.text lr)) :
    ∃ (wher : Expr) (ret : List SelItem) (body : SetExpr),
      P.revertTransactionAt b l id txid atTs =
        [Stmt.query (Query.mk [Cte.mk "upd" [] (Stmt.update [] b "transactions" ""
            [SetItem.mk "reverted_at" (Expr.str atTs), SetItem.mk "updated_at" (Expr.str atTs)]
            [] (some wher) ret)] body [] (some (Expr.int 1)) none LockMode.none)] ∧
      (evalExpr cb te env wher).exec s = (.ok (.bool (decide (i = txid ∧ ra = none ∧ lr = l))), s) :=
  let ⟨wher, body, hstmt, hg⟩ := revertTransactionAt_shape b l id txid atTs
  ⟨wher, _, body, hstmt, Evals.of_pv wher (hg te env i ra lr h1 h2 h3) s⟩

/-- General: the UPDATE of `RevertTransaction … AT`. `visLookup lv rows rid` = the values of the version of row
    `rid` the transaction sees; on a typed row `txG g (txVals x) = g x` and `txF f (txVals x) = txVals (f x)`
    (`Ledger.Sql.tx_row_effect`), with `revG l txid x = (x.id = txid ∧ x.revertedAt = none ∧ x.ledger = l)` and
    `revF T x = { x with revertedAt := some T, updatedAt := T }` — the guard and effect of `Spec.markReverted`. -/
theorem revertTransactionAt_update_sem (n : Nat) (env : Env) (b l : String) (id : Nat) (txid : Int) (atTs : String) (T : Int)
    (hb : b.isEmpty = false) (hT : tsParse atTs = .ok T)
    (trigs : List TriggerDef) (nr : Nat) (rows : List Ver) (s : St) (hs : TxTblState s b trigs nr rows)
    (hnb : trigs.filter (fun tr => tr.timing == .before && tr.event == .update) = [])
    (hna : trigs.filter (fun tr => tr.timing == .after && tr.event == .update) = []) :
    ∃ rows', (((P.revertTransactionAt b l id txid atTs).flatMap cteStmts).mapM (execStmt (n + 7) env)).exec s =
        (.ok [txUpdResult (latestView s.w s.xid) rows (revG l txid) (revF T)], s.withTable ((txT b trigs nr).withRows rows')) ∧
      (∀ rid, visLookup (latestView s.w s.xid) rows' rid =
        (visLookup (latestView s.w s.xid) rows rid).map (fun v => if txG (revG l txid) v then txF (revF T) v else v)) ∧
      TxInv (latestView s.w s.xid) rows' ∧ RidInj (latestView s.w s.xid) rows' :=
  tx_update_exec n env b hb trigs nr rows s hs hnb hna _ (revG l txid) (revF T) (fun _ => ⟨rfl, rfl, rfl⟩)
    (fun _ => True) (fun _ _ _ _ => trivial) (fun _ => True) (fun _ _ _ => trivial) (fun _ _ _ => trivial) trivial
    (revertTransactionAt_means env b l id txid atTs T hT)

/-- General: the UPDATE of `RevertTransaction` (date = the transaction's `transaction_date()`, already set to `d`). -/
theorem revertTransaction_update_sem (n : Nat) (env : Env) (b l : String) (id : Nat) (txid : Int) (d : Int)
    (hbs : (b.isEmpty || b == "public" || b == "pg_catalog") = false)
    (trigs : List TriggerDef) (nr : Nat) (rows : List Ver) (s : St) (hs : TxTblState s b trigs nr rows) (hd : TxDateSet b d s)
    (hnb : trigs.filter (fun tr => tr.timing == .before && tr.event == .update) = [])
    (hna : trigs.filter (fun tr => tr.timing == .after && tr.event == .update) = []) :
    ∃ rows', (((P.revertTransaction b l id txid).flatMap cteStmts).mapM (execStmt (n + 7) env)).exec s =
        (.ok [txUpdResult (latestView s.w s.xid) rows (revG l txid) (revF d)], s.withTable ((txT b trigs nr).withRows rows')) ∧
      (∀ rid, visLookup (latestView s.w s.xid) rows' rid =
        (visLookup (latestView s.w s.xid) rows rid).map (fun v => if txG (revG l txid) v then txF (revF d) v else v)) ∧
      TxInv (latestView s.w s.xid) rows' ∧ RidInj (latestView s.w s.xid) rows' :=
  tx_update_exec n env b (by cases hb : b.isEmpty <;> simp_all) trigs nr rows s hs hnb hna _ (revG l txid) (revF d)
    (fun _ => ⟨rfl, rfl, rfl⟩) (fun _ => True) (fun _ _ _ _ => trivial) (TxDateSet b d) (fun s t h => h.withTable s t) (fun s q h => h.addQ s q) hd
    (revertTransaction_means env b l id txid d hbs)

/-- a reverted row stays as it is: the guard is false on it (the second revert is a no-op) -/
theorem revert_guard_false_on_reverted (l : String) (txid : Int) (x : TxR) (T : Int) (h : x.revertedAt = some T) :
    revG l txid x = false := by
  simp [revG, h]

/-! ### BOUNDED REGRESSION OBLIGATIONS (kernel evaluation on concrete scenarios; not general theorems) -/

open Ledger.Sql.Run

/-- Two transactions; revert #1 at t=20, again at t=30, and a non-existent #3: the table equals
    `Spec.markReverted` applied in order (the first date is kept), and the answers carry `modified = true`
    the first time, `false` the second time, no row for #3. -/
example : (let r := run w1 (on 1 (mkTx 1 10 "{\"k\":\"v\"}" ++ mkTx 2 11 "{}" ++ revertAt 1 20 ++ revertAt 1 30 ++ revertAt 3 31))
    (revertedAbs r.1, lastCols (r.2.drop 2))) =
    (specReverted [1, 2] [(1, 20), (1, 30), (3, 31)], [["true"], ["false"], []]) := by
  decide +kernel

end Ledger.C15b
