import Ledger.Proofs.InterpAgree

/-!
C26 (model layer) — Machine and interpreter runtimes agree on the shared language.

`Machine.sem` is the model of the default machine runtime (tied to the real compiler + VM
by C22's `prog` workload and, again, by `interpmodel`); `Interp.run` is the model of the
`numscript` v0.0.24 interpreter (hand-written from the library source, tied to the real
interpreter by the `interpmodel` / `interpedge` / `interpfuzz` workloads, error kinds
included).  Both run on the same abstract syntax (`Ledger.Machine.Ast`), the same
variables, balances and account metadata (`Machine.Input`).

`machine_interp_agree_F2` (and its allotment-free special case `machine_interp_agree_F1`):
for EVERY program and input of the fragment (`Ledger/Interp/Fragment.lean`: `InF2` / `InF1`,
decidable, evaluated on every generated case) the two models both fail, or yield the same
non-zero postings in the same order, the same transaction metadata and the same account
metadata.  The proof is a simulation by
structural induction over sources and destinations between the machine's fundings and the
interpreter's funds queue, both read as lists of units (`Ledger/Proofs/Interp*.lean`).

Outside F2 the full statement is false: `machine_interp_agree_full` is a `def … : Prop`
and the `…_counterexample_*` theorems refute it on the witnesses of the divergence classes
(each class is a condition F2 excludes; each was confirmed on the two REAL runtimes).
-/
namespace Ledger.C26i
open Ledger.Machine Ledger.Interp

/-- F1 (no allotment), in the relation the differential applies to the two real runtimes. -/
theorem machine_interp_agree_F1 (p : Script) (inp : Input) (h : InF1 p inp = true) :
    SameResult p inp :=
  sameResult_of_agree (agree_F1 p inp h)

/-- F2 = F1 + allotment sources and destinations (literal portions, `remaining`). -/
theorem machine_interp_agree_F2 (p : Script) (inp : Input) (h : InF2 p inp = true) :
    SameResult p inp :=
  sameResult_of_agree (agree_F2 p inp h)

/-- F2, unfolded (see `machine_interp_agree_F1_units`). -/
theorem machine_interp_agree_F2_units (p : Script) (inp : Input) (h : InF2 p inp = true) :
    match sem Cfg.fixed p inp, Ledger.Interp.run p inp with
    | .error _, .error _ => True
    | .ok rm, .ok ri =>
      unitsP rm.postings = unitsP ri.postings ∧
      (∀ q ∈ rm.postings, 0 ≤ q.amount) ∧ (∀ q ∈ ri.postings, 0 ≤ q.amount) ∧
      rm.txMeta = ri.txMeta ∧
      rm.accMeta.map (fun x => (x.1, x.2.1, valStr x.2.2)) = ri.accMeta
    | _, _ => False :=
  agree_F2 p inp h

/-- No front-end hypothesis for programs WITHOUT variable declarations: if the machine
    compiles the program, the input passes no variable, and every statement is a statement of
    F2 (`stmtWf []`: a condition on the program text alone, the environment being empty), the
    two models agree — for all balances and account metadata. -/
theorem machine_interp_agree_F2_novars (p : Script) (inp : Input) (hv : p.vars = [])
    (hi : inp.vars = []) (htc : compiles p = true) (hwf : ∀ st ∈ p.stmts, stmtWf [] st = true) :
    SameResult p inp :=
  sameResult_of_agree (agree_F2_novars p inp hv hi htc hwf)

/-- Without variable declarations (and without variables in the input, statements of F2) the two front ends
    agree: `FrontAgree`, elsewhere a hypothesis of F2, is proved. -/
theorem front_ends_agree_novars (p : Script) (inp : Input) (hv : p.vars = []) (hi : inp.vars = [])
    (hwf : ∀ st ∈ p.stmts, stmtWf [] st = true) : FrontAgree p inp = true :=
  frontAgree_novars p inp hv hi hwf

/-- Allotments: on an allotment of F2 both runtimes compute the same shares
    (`Allotment.Allocate` = the interpreter's `makeAllotment`). -/
theorem allotment_shares_agree {env : Env} (ienv : Env) {ps : List PortionE}
    (h : allotOK env ps = true) :
    ∃ a, Machine.makeAllotment env ps = .ok a ∧ a.sum = 1 ∧
      ∀ amt, Ledger.Interp.makeAllotment ienv amt ps = .ok (allocate a amt) := by
  obtain ⟨a, h1, h2, _, h4⟩ := makeAllotment_agree ienv h
  exact ⟨a, h1, h2, h4⟩

/-- F1, unfolded: both models fail, or the postings are the same lists of units (one
    (source, destination, asset) triple per unit of amount, in order), every amount is ≥ 0,
    the transaction metadata are the same values under the same keys in the same order, and
    the account metadata agree once rendered. -/
theorem machine_interp_agree_F1_units (p : Script) (inp : Input) (h : InF1 p inp = true) :
    match sem Cfg.fixed p inp, Ledger.Interp.run p inp with
    | .error _, .error _ => True
    | .ok rm, .ok ri =>
      unitsP rm.postings = unitsP ri.postings ∧
      (∀ q ∈ rm.postings, 0 ≤ q.amount) ∧ (∀ q ∈ ri.postings, 0 ≤ q.amount) ∧
      rm.txMeta = ri.txMeta ∧
      rm.accMeta.map (fun x => (x.1, x.2.1, valStr x.2.2)) = ri.accMeta
    | _, _ => False :=
  agree_F1 p inp h

/-- The comparison of the differential only depends on the units: zero-amount postings and
    the way a run of units is cut into postings are invisible to it. -/
theorem same_units_same_normal_form {ps qs : List Posting} (hp : ∀ p ∈ ps, 0 ≤ p.amount)
    (hq : ∀ p ∈ qs, 0 ≤ p.amount) (h : unitsP ps = unitsP qs) :
    Ledger.Api.Interp.norm (toP ps) = Ledger.Api.Interp.norm (toP qs) :=
  norm_eq_of_units hp hq h

/-- One send of F2 from a source tree: from related states (`SRel`: tracked balances of the machine = cached
    balances of the interpreter on the tracked pairs, same postings as units, same metadata,
    empty funds queue) both models fail or end in related states. -/
theorem send_agrees {env ienv : Env} (heq : EnvEq env ienv) (henv : EnvOK env)
    {P : List (String × String)} {mon : Expr} {s : Source} {dst : Dest} {st : State} {ist : IState}
    (hwf : stmtWf env (.send mon (.src s) dst) = true)
    (hin : stmtLeavesIn P env (.send mon (.src s) dst) = true) (h : SRel P st ist) :
    StmtAgree P (Machine.evalStmt Cfg.fixed env (.send mon (.src s) dst) st)
      (Ledger.Interp.evalStmt ienv (.send mon (.src s) dst) ist) :=
  send_sim heq henv hwf hin h

/-- Sources: the interpreter's `tryTakingUpTo s amt` pushes exactly the first `amt` units of
    the funding the machine's `evalSource s` yields, topped up from the unbounded fallback
    account of `s` when it has one — the units the machine's `TakeMax amt` keeps. -/
theorem source_agrees {env ienv : Env} (heq : EnvEq env ienv) (henv : EnvOK env)
    {P : List (String × String)} {c : String} (s : Source) (hwf : srcWf env c s = true)
    (hin : LeavesIn P env c s.neededAccts) (b : Balances) (ist : IState) (amt : Int)
    (hamt : 0 ≤ amt) (hc : ist.asset = c) (hb : b.WF) (hrel : Rel P b ist.bal) :
    ∃ f b1, evalSource Cfg.fixed env c s b = .ok (f, b1) ∧ f.asset = c ∧
      ∃ sent ist', tryUpTo ienv s amt ist = .ok (sent, ist') ∧
        Pushed c ist ist' (takeExt amt.toNat (units f.parts) (fbOf env s.fallback)) ∧
        sent = ((takeExt amt.toNat (units f.parts) (fbOf env s.fallback)).length : Int) := by
  obtain ⟨f, b1, h1, h2, _, _, sent, ist', h4, h5, h6⟩ :=
    src_sim heq henv s hwf hin b ist amt hamt hc hb hrel.hasP (fun _ => hrel)
  exact ⟨f, b1, h1, h2, sent, ist', h4, h5, h6⟩

/-- Expressions: where the machine's `evalExpr` yields a value the interpreter's
    `evaluateExpr` yields the same one (same bindings, literals both parsers read alike). -/
theorem expr_agrees {env ienv : Env} (heq : EnvEq env ienv) (henv : EnvOK env) (e : Expr)
    (v : Value) (hl : litsOK e = true) (h : Machine.evalExpr env e = .ok v) :
    Ledger.Interp.evalExpr ienv e = .ok v :=
  evalExpr_agree heq henv e v hl h

-- a funded program of F1 with variables, capped / overdraft / unbounded sources, nested
-- in-order destinations, `send [A *]`, both metadata statements
example : InF1 wF1 wF1In = true := by decide +kernel
example : mSum wF1 wF1In = some
    ([⟨"a", "x", "COIN", 15⟩, ⟨"a", "y", "COIN", 15⟩, ⟨"a2", "y", "COIN", 28⟩, ⟨"world", "y", "COIN", 57⟩,
      ⟨"world", "z", "COIN", 55⟩, ⟨"x", "a2", "COIN", 18⟩, ⟨"a", "a2", "COIN", 5⟩],
     [("k", "COIN 3")], [("a2", "tag", "3/4")]) := by decide +kernel
example : iSum wF1 wF1In = mSum wF1 wF1In := by decide +kernel
-- a program of F2 (allotment source over in-order / capped-unbounded / overdraft sources,
-- allotment destination with a nested in-order destination), not in F1
example : InF2 wF2 wF2In = true := by decide +kernel
example : InF1 wF2 wF2In = false := by decide +kernel
example : mSum wF2 wF2In = some
    ([⟨"a", "x", "COIN", 20⟩, ⟨"world", "x", "COIN", 6⟩, ⟨"world", "y", "COIN", 7⟩, ⟨"world", "z", "COIN", 1⟩,
      ⟨"b", "z", "COIN", 10⟩, ⟨"c", "z", "COIN", 45⟩, ⟨"c", "x", "COIN", 12⟩], [], []) := by
  decide +kernel
example : SameResult wF2 wF2In := by unfold SameResult; decide +kernel
-- … and one where both fail (insufficient funds)
example : InF1 wF1Poor (coinInput [("a", 50), ("a2", 8)]) = true := by decide +kernel
example : mSum wF1Poor (coinInput [("a", 50), ("a2", 8)]) = none := by decide +kernel
example : iSum wF1Poor (coinInput [("a", 50), ("a2", 8)]) = none := by decide +kernel

/-- the witnesses of the three refutations below are compiled by the machine -/
theorem witnesses_compile : compiles wKept = true ∧ compiles wSaveOd = true ∧ compiles wPortions = true := by
  decide +kernel

example : compiles wKept = true ∧ compiles wSaveOd = true ∧ compiles wPortions = true := witnesses_compile

theorem kept_witness_machine : mSum wKept wKeptIn =
    some ([⟨"alice", "bob", "COIN", 5⟩, ⟨"carol", "bob", "COIN", 1⟩], [], []) := by decide +kernel

theorem kept_witness_interp : iSum wKept wKeptIn =
    some ([⟨"alice", "bob", "COIN", 1⟩, ⟨"carol", "bob", "COIN", 5⟩], [], []) := by decide +kernel

/-- `kept`: `send [COIN 10] from {@alice(5) @carol(5)} to {max [COIN 4] kept, remaining to @bob}`:
    the machine keeps carol's funds, the interpreter alice's. -/
theorem machine_interp_agree_full_counterexample_kept : ¬ machine_interp_agree_full :=
  refuted_by witnesses_compile.1 kept_witness_machine kept_witness_interp (by decide)

theorem save_overdraft_witness_machine : mSum wSaveOd wSaveOdIn = none := by decide +kernel

theorem save_overdraft_witness_interp : iSum wSaveOd wSaveOdIn =
    some ([⟨"alice", "bob", "COIN", 17⟩], [], []) := by decide +kernel

/-- `save` + bounded overdraft: `save [COIN 112] from @alice(15)` then
    `send [COIN 17] from @alice allowing overdraft up to [COIN 36]`: the machine's tracked
    balance is −97 (insufficient funds), the interpreter's is 0 (posts 17). -/
theorem machine_interp_agree_full_counterexample_save_overdraft : ¬ machine_interp_agree_full :=
  refuted_by witnesses_compile.2.1 save_overdraft_witness_machine save_overdraft_witness_interp rfl

theorem portions_witness_machine : mSum wPortions wPortionsIn = none := by decide +kernel

theorem portions_witness_interp : iSum wPortions wPortionsIn =
    some ([⟨"world", "a", "COIN", 50⟩, ⟨"world", "b", "COIN", 25⟩, ⟨"world", "c", "COIN", 25⟩], [], []) := by
  decide +kernel

/-- Portions over 100 %: `{$p(1/2) to @a, 25% to @b, 1/2 to @c, remaining to @d}`: the machine
    rejects the allotment at run time, the interpreter allocates (a negative `remaining`). -/
theorem machine_interp_agree_full_counterexample_portions : ¬ machine_interp_agree_full :=
  refuted_by witnesses_compile.2.2 portions_witness_machine portions_witness_interp rfl

/-- A cap that evaluates negative (`max [COIN 5] - [COIN 9] from @a`): refused by the machine,
    read as 0 by the interpreter. -/
theorem negative_cap_witness_machine : mSum wNegCap wNegCapIn = none := by decide +kernel

theorem negative_cap_witness_interp : iSum wNegCap wNegCapIn =
    some ([⟨"b", "d", "COIN", 7⟩, ⟨"world", "d", "COIN", 13⟩], [], []) := by decide +kernel

/-- An account variable holding `world` in source position: refused by the machine. -/
theorem world_variable_witness_machine : mSum wWorldVar wWorldVarIn = none := by decide +kernel

theorem world_variable_witness_interp : iSum wWorldVar wWorldVarIn =
    some ([⟨"world", "d", "COIN", 20⟩], [], []) := by decide +kernel

/-- `save` of more than the balance: the machine's tracked balance goes to −20, the
    interpreter's stops at 0; of the 25 received afterwards 5 resp. 25 can be sent on. -/
theorem save_clamp_witness_machine : mSum wSaveClamp wSaveClampIn =
    some ([⟨"world", "a", "COIN", 25⟩, ⟨"a", "d", "COIN", 5⟩], [], []) := by decide +kernel

theorem save_clamp_witness_interp : iSum wSaveClamp wSaveClampIn =
    some ([⟨"world", "a", "COIN", 25⟩, ⟨"a", "d", "COIN", 25⟩], [], []) := by decide +kernel

/-- `save [COIN 5] + [COIN 3]`: the machine saves 5 (leftmost atom), the interpreter 8. -/
theorem save_expression_witness_machine : mSum wSaveExpr wSaveExprIn =
    some ([⟨"a", "d", "COIN", 14⟩], [], []) := by decide +kernel

theorem save_expression_witness_interp : iSum wSaveExpr wSaveExprIn = none := by decide +kernel

/-- The portion literal `010/100`: 8/100 for the machine (octal numerator), 1/10 for the
    interpreter. -/
theorem octal_portion_witness_machine : mSum wOctal (coinInput []) =
    some ([], [("k", "2/25")], []) := by decide +kernel

theorem octal_portion_witness_interp : iSum wOctal (coinInput []) =
    some ([], [("k", "1/10")], []) := by decide +kernel

/-- A destination maximum in another asset after the funds are exhausted: only the machine
    looks at it. -/
theorem asset_mismatch_witness_machine : mSum wLateAsset (coinInput []) = none := by decide +kernel

theorem asset_mismatch_witness_interp : iSum wLateAsset (coinInput []) =
    some ([⟨"world", "b", "COIN", 10⟩], [], []) := by decide +kernel

/-- `balance(@world, COIN)`: the machine reads the store (negative: refused), the interpreter
    never queries `@world` and yields 0. -/
theorem balance_world_witness_machine : mSum wBalWorld wBalWorldIn = none := by decide +kernel

theorem balance_world_witness_interp : iSum wBalWorld wBalWorldIn =
    some ([], [("k", "COIN 0")], []) := by decide +kernel

/-- Front ends: a variable the program does not declare is refused by the machine only. -/
theorem extraneous_variable_witness_machine : mSum wPlain wExtraIn = none := by decide +kernel

theorem extraneous_variable_witness_interp : iSum wPlain wExtraIn =
    some ([⟨"world", "d", "COIN", 10⟩], [], []) := by decide +kernel

/-- Front ends: `"007"` is a number for the interpreter only. -/
theorem variable_format_witness_machine : mSum wNumFmt wNumFmtIn = none := by decide +kernel

theorem variable_format_witness_interp : iSum wNumFmt wNumFmtIn =
    some ([], [("k", "7")], []) := by decide +kernel

end Ledger.C26i
