import Ledger.Proofs.SqlCommit

/-!
C18e — end-to-end, transaction creation: the generated statements UpdateVolumes; InsertTransaction; InsertMoves; UpsertAccounts, run
one after the other as commands of one transaction by LeanPG (`Ledger.Sql.seqRun`), on ANY state satisfying the storage invariants of
the four tables (`CommitState`, `CommitAccounts`): outcome of each statement, the EXPLICIT final state (four tables, two sequences,
command counter; nothing else changes) and what the transaction sees afterwards — volumes = `Spec.upsertVolumes`, moves =
`Spec.insertMoves` (up to order), accounts = `insRow` / `updOf` of C18b (up to order; metadata as jsonb values — the correspondence
jsonb ↔ `Spec.Metadata` is not proved, see C18b), other ledgers untouched.
Hypotheses: those of C01e and C18b (in particular TRANSACTION_METADATA_HISTORY and ACCOUNT_METADATA_HISTORY off).
-/
namespace Ledger.C18e
open Ledger Ledger.Sql Ledger.Generated Ledger.Core Ledger.Base
open Ledger.Generated.WriteSql

theorem commitWithAccounts_sem (k : Nat) (env : Env) (henv : env.ctes = []) (b l : String) (id : Nat)
    (rsA : List Ver) (nrA : Nat) (trigsT : List TriggerDef) (nrT : Nat) (rowsT : List Ver) (fullT : String) (sqT : Seq)
    (trigsM : List TriggerDef) (B1 B2 : List TriggerDef) (trB : TriggerDef) (A1 A2 : List TriggerDef) (trA : TriggerDef)
    (item wher dflt_ : Expr) (fB : PlFunc) (setE whereU : Expr) (fA : PlFunc) (nrM : Nat) (rowsM : List Ver) (sqM : Seq)
    (trigsC : List TriggerDef) (nrC : Nat) (rowsC : List Ver) (s : St)
    (hst : CommitState s b l rsA nrA trigsT nrT rowsT fullT sqT trigsM B1 B2 trB A1 A2 trA item wher dflt_ fB setE whereU fA nrM rowsM sqM)
    (hac : CommitAccounts s b trigsC nrC rowsC)
    (vrows : List P.VolumeRow) (hvne : vrows ≠ []) (hvnd : (vrows.map avKeyOf).Nodup)
    (av : PCV) (hwf : Map.WF av) (habs : ∀ key, avAbs s b l key = av.get? key)
    (L : TxLits) (hl : SeqLit (txSeqLit b id) fullT) (x : TxR) (hlit : TxLit s.w.types l L x) (hid : x.id = sqT.next)
    (href : ∀ r ∈ rowsT, r.visible (latestView s.w s.xid) = true → ∀ x', r.vals = txVals x' → txConf2 x x' = false)
    (pm : List (P.MoveRow × Spec.MoveRow)) (hne : pm ≠ []) (hlits : ∀ y ∈ pm, MvLit s.w.types y.1 y.2)
    (hsf : SeqFrom sqM.next (pm.map (·.2))) (hrange : sqM.next + pm.length ≤ 9223372036854775808)
    (hnc : s.nextCid + 4 + 4 * pm.length ≤ 1000000000)
    (T : List Spec.MoveRow) (hT : T.Perm (ledgerMoves l (mvAbs (latestView s.w s.xid) rowsM)))
    (am : List (P.AccountRow × DbR)) (halits : ∀ y ∈ am, DbLit s.w.types y.1 y.2) (hand : ((am.map (·.2)).map (·.address)).Nodup) :
    ∃ (rsA' : List Ver) (nrA' : Nat) (rowsM' : List Ver) (seqs' : List Seq) (rowsC' : List Ver) (nC : Nat) (resA : DmlResult) (s' : St),
      (seqRun (k + 19) env (P.updateVolumes b l id vrows ++
          P.insertTransaction b l id L.postings L.metadata L.timestamp L.reference L.inserted_at L.updated_at L.post_commit_volumes
            L.template L.sources L.destinations L.sources_arrays L.destinations_arrays ++
          P.insertMoves b l id (pm.map (·.1)) ++ P.upsertAccounts b l id (am.map (·.1)))).exec s =
        (.ok [{ rel := { cols := ["input", "output"],
                         rows := (Spec.upsertVolumes av (vuOf vrows)).2.map (fun e => [.int e.2.input, .int e.2.output]) },
                affected := vrows.length },
              { rel := { cols := ["id", "timestamp", "inserted_at", "updated_at"],
                         rows := [[.int x.id, .ts x.timestamp, optTs x.insertedAt, .ts x.updatedAt]] }, affected := 1 },
              { rel := { cols := ["post_commit_volumes", "post_commit_effective_volumes"],
                         rows := (Spec.insertedRows T (pm.map (·.2))).map retOf }, affected := pm.length },
              resA], s') ∧
      s' = (((((s.bump (4 + 4 * pm.length)).withSeqs seqs').withTable (avT b rsA' nrA')).withTable
              ((txT b trigsT (nrT + 1)).withRows (newVer s.xid (s.nextCid + 1) nrT (txVals x) :: rowsT))).withTable
              ((mvT b trigsM (nrM + pm.length)).withRows rowsM')).withTable ((acT b trigsC (nrC + nC)).withRows rowsC') ∧
      AvInv (latestView s.w s.xid) rsA' nrA' ∧
      (∀ key, avView (latestView s.w s.xid) rsA' l key = (Spec.upsertVolumes av (vuOf vrows)).1.get? key) ∧
      (∀ l', l' ≠ l → ∀ key, avView (latestView s.w s.xid) rsA' l' key = avView (latestView s.w s.xid) rsA l' key) ∧
      (ledgerMoves l (mvAbs (latestView s.w s.xid) rowsM')).Perm (Spec.insertMoves T (pm.map (·.2))) ∧
      (∀ l', l' ≠ l → (ledgerMoves l' (mvAbs (latestView s.w s.xid) rowsM')).Perm (ledgerMoves l' (mvAbs (latestView s.w s.xid) rowsM))) ∧
      MvInv (latestView s.w s.xid) (sqM.next + pm.length) rowsM' ∧
      (acAbs (latestView s.w s.xid) rowsC').Perm
        (((am.map (·.2)).filter (fun d => !hasAccount l (acAbs (latestView s.w s.xid) rowsC) d.address)).map (insRow l) ++
          (acAbs (latestView s.w s.xid) rowsC).map (updOf l (am.map (·.2)))) ∧
      AcInv (latestView s.w s.xid) (nrC + nC) rowsC' ∧
      seqs'.find? (·.name == mvSeqFull b) = some { sqM with last := sqM.next + pm.length - 1, called := true } ∧
      seqs'.find? (·.name == fullT) = some { sqT with last := sqT.next, called := true } :=
by
  obtain ⟨_, _, hrun, _, _, _, _, ⟨_, _, _, ⟨_, _, _, ⟨rsA', nrA', rfl, rfl, hinvA', hav1, hav2⟩, ⟨rfl, rfl⟩, rfl⟩,
      ⟨rowsM', seqs', rfl, rfl, hmv1, hmv2, hmvInv, hseqM, hseqO⟩, rfl⟩, ⟨resA, rowsC', nC, rfl, rfl, hperm4, hinv4⟩, rfl⟩ :=
    ((((step_updateVolumes (k + 12) env id hst.bne hst.avTable hst.avInv hst.avFresh vrows hvne hvnd av hwf habs).seq
        (step_insertTx (k + 13) env id L hst.txIns hst.txNoAfter hl x hlit hid href)).seq
        (step_insertMoves (k + 4) env id hst.mv pm hne hlits hsf hrange T hT)).seq
        (step_upsertAccounts k env henv l id hst.bne hac am halits hand)).run
      hst.tx hst.q0 (by simp) (by simpa using hst.seqNe.symm) (by omega)
  refine ⟨rsA', nrA', rowsM', seqs', rowsC', nC, resA, _, hrun, ?_, hinvA', hav1, hav2, hmv1, hmv2, hmvInv, hperm4, hinv4, hseqM, ?_⟩
  · rw [state_after3, state_after4, show 1 + 1 + (1 + 4 * pm.length) + 1 = 4 + 4 * pm.length by omega]
    rfl
  · rw [hseqO fullT hst.seqNe]
    exact find_seqsSet _ _ _ _ hst.txSeq

end Ledger.C18e
