import Ledger.Proofs.SchedLocks
import Ledger.Proofs.SchedImport
import Ledger.Proofs.SchedHandles
import Ledger.Proofs.SchedWitnesses
import Ledger.Props.C06

/-!
# C12 (schedule part) — Import and concurrent writes on one ledger never interleave

Mechanism: `Import` takes the SESSION-scoped advisory lock `hashtext('ledger:<id>')`
for its whole run (several SQL transactions); a write on a ledger whose state
tracker still says `initializing` takes the TRANSACTION-scoped lock on the same key
inside its transaction, before the state update and the operation. Proved for ALL
schedules: `lock_excludes` for that key; the step-level facts (a second locker waits;
the state update re-evaluates its WHERE on the latest version), and
`import_write_never_interleave_any_schedule`: for every schedule and all programs following the
discipline "a log INSERT on the ledger runs inside a transaction while the ledger lock is held;
the session lock is released only when no log of the session is uncommitted" (`Safe`), while
one session holds the ledger lock no other session has an uncommitted log of the ledger nor
commits one. `Import` is proved to follow the discipline for every answer of every statement
(`import_is_safe`); for the state tracker's first-write path the discipline is NOT proved (its
lock must survive failed statements inside the savepoint, which needs one more monitor fact) —
that path is covered by the regenerated tie, kernel-evaluated examples and the `import` workload.
-/
namespace Ledger.C12s
open Ledger.Sched

/-- `lock_excludes` for the ledger key, any schedule of other sessions -/
theorem ledger_lock_excludes (s : Sid) (l : Nat) (σ : Schedule) (w : World)
    (hwf : AdvWf w) (hheld : Holds w s (ledgerKey l)) (hσ : ∀ t ∈ σ, t ≠ s) :
    Holds (run σ w) s (ledgerKey l) ∧ ∀ t, t ≠ s → ¬ Holds (run σ w) t (ledgerKey l) :=
  lock_excludes_run s (ledgerKey l) σ w hwf hheld hσ

example : AdvWf {} := by intro a ha; cases ha

/-- `import_write_never_interleave_any_schedule`: for every schedule, in every world reached from one
    satisfying the ledger-lock discipline, while session `s` holds the ledger lock of `l₀` (an Import
    between its lock and unlock, or a first write inside its transaction) any other session `t` has no
    uncommitted log of `l₀`, and a step of `t` commits no log of `l₀`. -/
theorem import_write_never_interleave_any_schedule (l₀ : Nat) (σ : Schedule) (w₀ : World)
    (hg : GInv (impDisc l₀) w₀) (s t : Sid) (hts : t ≠ s) (hheld : Holds (run σ w₀) s (ledgerKey l₀)) :
    (∀ e ∈ (run σ w₀).logs, e.l = l₀ → e.by_ = t → e.com = true) ∧
    (step (run σ w₀) t).logCommits.filter (fun c => c.1 = l₀) = (run σ w₀).logCommits.filter (fun c => c.1 = l₀) :=
  holder_excludes_log_commits (impDisc l₀) (run σ w₀) (ginv_run (impDisc l₀) σ w₀ hg) s t hts hheld

/-- `Import` follows the discipline, for every answer of every statement -/
theorem import_is_safe (l : Nat) (sync : Bool) (logs : List ImpLog) :
    Safe (impDisc l) {} (importProg l sync logs) := safe_importProg l sync logs {} rfl

/-- non-vacuity: two concurrent Imports into the same initializing ledger satisfy the hypothesis; the one
    that locks second waits through all of the first one's transactions and is then rejected -/
example :
    let w₀ : World := { state := fun l => if l = 1 then { com := some false } else {}
                        sess := fun s => if s = 1 ∨ s = 2 then { prog := importProg 1 false exImp } else {} }
    GInv (impDisc 1) w₀ ∧
    (run ([1, 2] ++ List.replicate 15 1 ++ List.replicate 4 2) w₀).logCommits = [(1, 1, 1), (1, 2, 1)] ∧
    (run ([1, 2] ++ List.replicate 15 1 ++ List.replicate 4 2) w₀).resp 2 = some { err := "import" } := by
  intro w₀
  refine ⟨ginv_init _ _ rfl rfl fun s => ?_, by decide, by decide⟩
  show Safe _ _ (if s = 1 ∨ s = 2 then _ else _ : Session).prog
  split
  · exact import_is_safe 1 false exImp
  · trivial

/-- the session lock of Import and the transaction lock of a first write are the same key, distinct
    from the log-insert lock -/
theorem import_and_write_lock_same_key (w : World) (s t : Sid) (l : Nat)
    (h : holder? w.adv (ledgerKey l) s = some t) :
    exec w s (.lockLedgerX l) = .blocked t ∧ exec w s (.lockLedgerS l) = .blocked t ∧ logKey l ≠ ledgerKey l := by
  exact ⟨by simp only [exec, h], by simp only [exec, h], keys_ne l⟩

/-- `import_requires_initializing`: once `_system.ledgers.state` is committed `in-use`, Import's state
    read answers "not initializing" and the program unlocks and answers the import error -/
theorem import_requires_initializing (w : World) (s : Sid) (l : Nat) (hst : (w.state l).com = some true)
    (hown : (w.state l).own ≠ some s) :
    exec w s (.readState l) = .done w { flag := false } := by
  simp [exec, hown, hst]

/-- the state update of `handleState` re-evaluates `state = 'initializing'` on the latest version:
    on a committed in-use ledger it updates nothing (so the sequences are not reset) -/
theorem state_update_is_once (w : World) (s : Sid) (l : Nat) (hst : (w.state l).com = some true) :
    exec w s (.updateState l) = .done w { flag := false } := by
  simp [exec, hst]

/-- tie (regenerated): Import takes the session lock first and releases it last; a first write takes
    the transaction lock right after BEGIN, before the state update and the operation; since /repo
    17dbc4b an atomic bulk does the same inside its transaction (savepoint) -/
theorem lock_first_in_generated_handles :
    (modelledKinds Generated.Handles.importTwoLogs).head? = some .lockLedgerS ∧
    (modelledKinds Generated.Handles.importTwoLogs).getLast? = some .unlockLedgerS ∧
    (modelledKinds Generated.Handles.sendFirstWrite).take 3 = [.begin, .lockLedgerX, .updateState] ∧
    (importProg 1 true exImp).pathK okAnswers 60 = modelledKinds Generated.Handles.importTwoLogs ∧
    (sendProg (exSend true .unbounded 0 0) false).pathK okAnswers 40 = modelledKinds Generated.Handles.sendFirstWrite :=
  ⟨by decide, by decide, by decide, by decide, C06.writers_follow_generated_handles.2.2.2.1⟩

/-- Import first: the writer waits at the ledger lock through both of Import's transactions, then sees
    the imported state (ids continue after the imported ones) -/
example :
    let w := run ([1, 2, 2] ++ List.replicate 15 1 ++ List.replicate 14 2) (exWorld (sendProg exW false))
    w.logCommits = [(1, 1, 1), (1, 2, 1), (1, 3, 2)] ∧ w.resp 1 = some {} ∧ w.resp 2 = some { tx := 3, log := 3 } := by
  decide

/-- the writer first: Import waits, then finds the ledger in use and is rejected with no effect -/
example :
    let w := run ([2, 2, 1] ++ List.replicate 12 2 ++ List.replicate 6 1) (exWorld (sendProg exW false))
    w.logCommits = [(1, 1, 2)] ∧ w.resp 1 = some { err := "import" } ∧ w.resp 2 = some { tx := 1, log := 1 } := by
  decide

/-- a write that bypasses the state tracker (the atomic bulk BEFORE /repo 17dbc4b: no lock, no state
    update, no sequence reset) interleaves with Import and its `nextval` id collides with an imported one -/
example :
    let bypass : Prog := .stmt .begin fun _ => forgeLog nestedTx 1 0 0 (sendBody exW) fun r =>
      if r.err = "" then .stmt .commit fun _ => .done r else .stmt .rollback fun _ => .done r
    let w := run (List.replicate 9 1 ++ List.replicate 6 2) (exWorld bypass)
    w.resp 2 = some { err := "panic" } := by
  decide

end Ledger.C12s
