import Ledger.Proofs.CoreStore

/-!
C02 — Account volumes equal the fold of committed postings.

The `accounts_volumes` table of the abstract store (hand-written image of the upsert of
`UpdateVolumes` and of the zero rows of `GetBalances`; tied to the rendered SQL by `Ledger.C02b.updateVolumes_adds` and
`Ledger.C06b.getBalances_zero_rows`)
against the Spec fold `volumesOf`.
-/
namespace Ledger.C02
open Ledger.Base Ledger.Core Ledger.Spec

/-- The store's transaction list is exactly the committed history (ids 1, 2, … in commit
    order), up to the `revertedAt` marks. -/
theorem history_of_store (ops : List StoreOp) (st : Store) (h : runOps ops = .ok st) :
    st.txRecs.map TxRec.clearReverted = recsFrom 1 (commitsOf ops) := (runOps_txs h).1

/-- For every (account, asset): the row, if any, holds (Σ postings crediting, Σ postings
    debiting) over the committed history; no row means the fold is (0, 0).  A zero row
    created by the balance lock equals the empty fold. -/
theorem volumes_eq_fold (ops : List StoreOp) (st : Store) (h : runOps ops = .ok st) (k : Key) :
    st.accountsVolumes.get? k = some (volumesOf st.txRecs k) ∨
    (st.accountsVolumes.get? k = none ∧ volumesOf st.txRecs k = Volumes.zero) := by
  rcases (StoreInv_runOps h).av k with h1 | ⟨h1, h2⟩
  · exact Or.inl h1
  · exact Or.inr ⟨h1, foldVolumes_untouched h2⟩

/-- A pair touched by a committed posting has a row. -/
theorem row_of_touched (ops : List StoreOp) (st : Store) (h : runOps ops = .ok st) (k : Key)
    (ht : touches k (allPostings st.txRecs) = true) :
    st.accountsVolumes.get? k = some (volumesOf st.txRecs k) := by
  rcases (StoreInv_runOps h).av k with h1 | ⟨_, h2⟩
  · exact h1
  · rw [h2] at ht; exact absurd ht (by simp)

/-- The table stays key-sorted without duplicates. -/
theorem accounts_volumes_wf (ops : List StoreOp) (st : Store) (h : runOps ops = .ok st) :
    Map.WF st.accountsVolumes := (StoreInv_runOps h).wf

/-- The balance of a row is input − output of the fold. -/
theorem balance_eq_fold (ops : List StoreOp) (st : Store) (h : runOps ops = .ok st) (k : Key) (v : Volumes)
    (hv : st.accountsVolumes.get? k = some v) : v.balance = balanceOf st.txRecs k := by
  rcases volumes_eq_fold ops st h k with h1 | ⟨h1, _⟩
  · rw [h1] at hv; cases hv; rfl
  · rw [h1] at hv; cases hv

example : (runOps [.commit { postings := [⟨"world", "a", 10, "USD"⟩, ⟨"a", "b", 4, "USD"⟩, ⟨"a", "a", 1, "USD"⟩], timestamp := 5, insertedAt := 7 },
                   .lock [("c", "USD")]]).toOption.map (fun st => (st.accountsVolumes.get? ("a", "USD"), st.accountsVolumes.get? ("c", "USD"),
                      st.accountsVolumes.get? ("d", "USD"))) = some (some ⟨11, 5⟩, some ⟨0, 0⟩, none) := by
  decide

end Ledger.C02
