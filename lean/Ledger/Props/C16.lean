import Ledger.Proofs.CtrlStep
import Ledger.Proofs.CtrlExamples

/-!
# C16 — Ids are unique and increase (controller layer, sequential histories)

For every sequential history of write operations (failing, dry-run, idempotent
and faulted ones included) starting from the empty ledger.  "Commit order" of a
sequential history is the order of the operations.  The concurrent (any-schedule)
form is out of scope of this layer.
-/
namespace Ledger.C16
open Ledger.Ctrl Ledger.Core Ledger.Ctrl.Examples

/-- Transaction ids and log ids are strictly increasing in insertion (= commit)
    order — hence unique — after any history. -/
theorem ids_unique_increasing (strict : Bool) (ops : List Op) :
    (runHist strict {} ops).db.txs.Pairwise (fun a b => a.id < b.id) ∧
    (runHist strict {} ops).db.logs.Pairwise (fun a b => a.id < b.id) :=
  let h := runHist_inv strict {} ops Inv.empty
  ⟨h.txSorted, h.logSorted⟩

/-- Every id in the tables was issued by its sequence: later ids are larger. -/
theorem ids_below_sequences (strict : Bool) (ops : List Op) :
    (∀ t ∈ (runHist strict {} ops).db.txs, t.id ≤ (runHist strict {} ops).seq.tx) ∧
    (∀ l ∈ (runHist strict {} ops).db.logs, l.id ≤ (runHist strict {} ops).seq.log) :=
  let h := runHist_inv strict {} ops Inv.empty
  ⟨h.txIds, h.logIds⟩

/-- One more operation — whatever it is, whatever fault hits it — keeps all of
    this (so ids issued later are above every id issued before). -/
theorem ids_step (strict : Bool) (s : State) (op : Op) (f : Faults) (cf : Bool) (h : Inv s.db s.seq) :
    Inv (stepF strict s op f cf).1.db (stepF strict s op f cf).1.seq :=
  (inv_stable strict).forgeLog op f cf s h

/-- Sequences are never rolled back: a failed write may leave a gap, never a reuse. -/
theorem sequences_never_decrease (strict : Bool) (s : State) (op : Op) (f : Faults) (cf : Bool) :
    s.seq.tx ≤ (stepF strict s op f cf).1.seq.tx ∧ s.seq.log ≤ (stepF strict s op f cf).1.seq.log :=
  (seqLe_stable strict s.seq).forgeLog op f cf s (SeqLe.refl _)

example : ((runHist false {} [pay false, overdraw, pay false]).db.txs.map (·.id)) = [] := by decide
example : ((runHist false s1 [pay false, overdraw, pay false]).db.txs.map (·.id)) = [1, 2, 3] := by decide
-- a reference conflict consumes a transaction id: a gap, never a reuse
example : ((runHist false s1 [payRef, { payRef with now := 40 }, pay false]).db.txs.map (·.id)) = [1, 2, 4] := by
  decide +kernel

end Ledger.C16
