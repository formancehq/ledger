import Ledger.Proofs.SchedOverdraft
import Ledger.Sched.Writers
import Ledger.Proofs.SchedHandles
import Ledger.Proofs.SchedWitnesses

/-!
# C06 — no account overdrawn beyond its allowance, under any interleaving

Theorems over ALL schedules of the abstract protocol model (`Ledger/Sched`),
whose PostgreSQL rules are those of LeanPG (`Ledger/Sql/Session.lean`; modelled,
not verified) and which is tied to the real code by the deterministic-schedule
correspondence (`sched.overdraft`).

The full statement is FALSE on the unchanged code for never-used
(account, asset) pairs: `no_overdraft_never_used_counterexample`. What holds is
the `…_partial` form: for a pair whose `accounts_volumes` row is visible to the
`GetBalances` statement when it is first issued (committed before, or written
earlier in the same transaction), the balance the funds check used is the
balance at commit.
-/
namespace Ledger.C06
open Ledger.Sched

/-- `lock_excludes` (rows): while session `s` owns a row (insert, update or `FOR UPDATE`), no step
    of any other session changes it — over every schedule that does not run `s`. -/
theorem lock_excludes (p : Nat) (s : Sid) (σ : Schedule) (w : World)
    (hown : (w.vols p).own = some s) (hσ : ∀ t ∈ σ, t ≠ s) :
    (run σ w).vols p = w.vols p :=
  (sameFor_run hσ w).vols p hown

example : ∃ (w : World) (p : Nat) (s : Sid), (w.vols p).own = some s :=
  ⟨{ vols := fun _ => { com := some 5, own := some 1 } }, 0, 1, rfl⟩

/-- `epq_sees_latest`: a `GetBalances` that completes — at once or after any number of waits —
    returns, for every pair its snapshot sees, the row's LATEST version at that moment (not the
    snapshot's), and holds the row lock from then on. -/
theorem epq_sees_latest (w w' : World) (s : Sid) (ps vis : List Nat) (o : Out) (p : Nat)
    (he : getBal w s ps vis = .done w' o) (hp : p ∈ ps) (hsees : sees w vis p = true) :
    w'.reads s p = some (((w.vols p).latest).getD 0) ∧ (w'.vols p).own = some s :=
  getBal_reads he hp hsees

/-- the negative half: a pair the snapshot does not see is neither locked nor read, even when its
    row is committed by the time the statement runs -/
theorem getBalances_skips_unseen (w w' : World) (s : Sid) (ps vis : List Nat) (o : Out) (p : Nat)
    (he : getBal w s ps vis = .done w' o) (hrow : (w.vols p).com.isSome = true)
    (hunseen : sees w vis p = false) :
    w'.vols p = w.vols p ∧ w'.reads s p = w.reads s p := by
  obtain ⟨_, _, rfl⟩ := (getBal_fine ..).of_done he
  have h1 : ¬ (((w.vols p).com.isNone && (w.vols p).own.isNone) = true) := by
    cases hc : (w.vols p).com <;> simp_all
  dsimp only [World.afterGetBal]
  constructor
  · simp only [h1, hunseen, if_false, Bool.false_eq_true, ite_self]
  · simp [hunseen]

/-- Invariant over ALL schedules: a balance `b` that a writer read under lock is, up to the writer's
    own spending since, the row's latest version, and the writer still owns the row. -/
theorem checked_balance_is_latest_any_schedule (σ : Schedule) (w₀ : World) (h₀ : ReadInv w₀)
    (s : Sid) (p : Nat) (b : Int) (hr : (run σ w₀).reads s p = some b) :
    ((run σ w₀).vols p).own = some s ∧ ((run σ w₀).vols p).latest = some (b + (run σ w₀).spent s p) :=
  (readInv_run σ w₀ h₀).2 s p b hr

example : ReadInv {} := ⟨fun _ _ => rfl, fun _ _ _ h => by cases h⟩

/-- C06, the part that holds: for every schedule, when a writer that read balance `b` of pair `p`
    under lock and spent `spent` with `b + spent ≥ −allowance` (the funds check: Numscript's bounded
    sources, C23; `revertTransaction`'s explicit test) commits, the committed balance of `p` becomes
    exactly `b + spent`, hence `≥ −allowance`. -/
theorem no_overdraft_any_schedule_partial (σ : Schedule) (w₀ : World) (h₀ : ReadInv w₀)
    (s : Sid) (p : Nat) (b : Int) (allowance : Int)
    (hr : (run σ w₀).reads s p = some b)
    (hfunds : b + (run σ w₀).spent s p ≥ -allowance) :
    ∃ v, (((run σ w₀).commitTx s).vols p).com = some v ∧ v = b + (run σ w₀).spent s p ∧ v ≥ -allowance := by
  have h := checked_balance_is_latest_any_schedule σ w₀ h₀ s p b hr
  refine ⟨b + (run σ w₀).spent s p, ?_, rfl, hfunds⟩
  rw [commit_latest _ _ _ h.1, h.2]

/-- The same with the hypothesis spelled out as a decidable predicate on the world in which the
    statement runs: `CommittedWhenIssued w s ps p` = "pair `p` is in the snapshot `GetBalances ps` took
    when it was first issued (its row was committed, or written earlier in the same transaction, at
    that moment) and has a version". For such a pair the completing step reads the latest balance `b`
    under lock, and for every later schedule, as long as that read stands (the transaction has not
    ended), a commit under the funds check leaves the pair at `b + spent ≥ −allowance`. -/
theorem no_overdraft_any_schedule_partial_explicit (σ σ' : Schedule) (w₀ : World) (h₀ : ReadInv w₀)
    (s : Sid) (ps : List Nat) (k : Out → Prog) (w' : World) (o : Out) (p : Nat) (allowance : Int)
    (hp : ((run σ w₀).sess s).prog = .stmt (.getBalances ps) k) (hab : ((run σ w₀).sess s).aborted = false)
    (he : getBal (run σ w₀) s ps (snapOf (run σ w₀) s ps) = .done w' o) (hmem : p ∈ ps)
    (hc : CommittedWhenIssued (run σ w₀) s ps p = true) :
    let b := (((run σ w₀).vols p).latest).getD 0
    let w1 := step (run σ w₀) s
    w1.reads s p = some b ∧
    ((run σ' w1).reads s p = some b → b + (run σ' w1).spent s p ≥ -allowance →
      ∃ v, (((run σ' w1).commitTx s).vols p).com = some v ∧ v ≥ -allowance) := by
  intro b w1
  have hw1 : w1 = advance w' s k o := step_of_exec_done hp rfl hab he
  refine ⟨hw1 ▸ (getBal_reads he hmem hc).1, ?_⟩
  intro hr hf
  have hinv : ReadInv w1 := readInv_step _ s (readInv_run σ w₀ h₀)
  obtain ⟨v, hv, _, hge⟩ := no_overdraft_any_schedule_partial σ' w1 hinv s p b allowance hr hf
  exact ⟨v, hv, hge⟩

/-- non-vacuity: a REACHABLE world with two concurrent writers on a pair whose row is committed
    beforehand (both have begun; writer 1 is about to run `GetBalances [1]`): the hypotheses hold, and
    the conclusion is the expected one — writer 1 reads 0, spends 10 within its allowance of 10, and
    after both ran (writer 2 waited for the row lock and was refused) the pair is at −10. -/
example :
    let w₀ : World := { cxWorld with vols := fun k => if k = 1 then { com := some 0 } else {} }
    let w := run [1, 2] w₀
    ReadInv w₀ ∧ CommittedWhenIssued w 1 [1] 1 = true ∧ ((w.sess 1).prog.next.map Stmt.kindK = some .getBalances) ∧
    (w.sess 1).aborted = false ∧ ((w.sess 2).prog.next.map Stmt.kindK = some .getBalances) ∧
    (step w 1).reads 1 1 = some 0 ∧
    ((run [1, 2, 1, 1, 1] (step w 1)).reads 1 1 = some 0 ∧ (run [1, 2, 1, 1, 1] (step w 1)).spent 1 1 = -10) ∧
    ((run ([1, 2, 1, 1, 1, 1] ++ [2, 2, 2]) (step w 1)).vols 1).com = some (-10) := by
  refine ⟨⟨fun k => ?_, fun s p b h => by cases h⟩, by decide⟩
  intro h
  simp only
  split <;> rfl

theorem commit_step (w : World) (s : Sid) (k : Out → Prog)
    (hp : (w.sess s).prog = .stmt .commit k) (htx : (w.sess s).inTx = true) (hab : (w.sess s).aborted = false) :
    (step w s).vols = (w.commitTx s).vols := by
  unfold step stepR
  simp [hp, htx, hab, advance]

/-- the funds check of a bounded send is made on the value `GetBalances` returned (single-statement
    script; for several statements `fundsOk` runs the same test statement by statement on the tracked balances) -/
theorem send_checks_funds (q : Send) (x : Nat) (hq : q.allow = .bounded x) (hl : q.legs = []) (hr : q.readPairs = [])
    (fail refuse succ) (v : Int) (rest : List Int)
    (o : Out) (ho : o.err = none) (hv : o.vals = v :: rest) (hpos : q.amt ≠ 0) (hlt : v + (x : Int) < (q.amt : Int)) :
    (sendBody q fail refuse succ).next = some (.getBalances [q.src]) ∧
    (sendBody q fail refuse succ).cont o = refuse "insufficient-funds" := by
  unfold sendBody
  simp only [Send.reads, hq, hr, hl, List.isEmpty_nil, Bool.not_true, Bool.false_eq_true, if_false, List.isEmpty_cons,
    Prog.next, Prog.cont, ho, true_and, hv, List.zip_cons_cons, fundsOk]
  have h1 : ¬ (q.amt = 0) := hpos
  have h2 : ¬ ((v + (x : Int)) ≥ (q.amt : Int)) := by omega
  simp [h1, h2]

/-- `nonforced_revert_refuses_negative`: a non-forced revert whose reverse posting would leave the
    (non-world) account negative is refused before anything is written -/
theorem nonforced_revert_refuses_negative (q : Revert) (hf : q.force = false) (hw : q.dstWorld = false)
    (fail refuse succ) (o ob : Out) (ho : o.err = none) (hfound : o.vals.headD 0 ≠ 0) (hmod : o.flag = true)
    (hob : ob.err = none) (hneg : (ob.vals.headD 0) - (q.amt : Int) < 0) :
    (revertBody q fail refuse succ).next = some (.revertUpdate q.l q.tx q.guarded) ∧
    ((revertBody q fail refuse succ).cont o).next = some (.getBalances [q.dst]) ∧
    ((revertBody q fail refuse succ).cont o).cont ob = refuse "insufficient-funds" := by
  unfold revertBody
  simp only [Prog.next, Prog.cont, ho, hmod, hf, hw, true_and]
  rw [if_neg hfound]
  simp [hob]
  intro hge
  have : (ob.vals.headD 0) = ob.vals.head?.getD 0 := by cases ob.vals <;> rfl
  omega

/-- The writers' programs issue, along their success paths, exactly the modelled statements the REAL
    controller stack issued (`Ledger.Generated.Handles`): bounded send with HASH_LOGS=SYNC and ASYNC,
    unbounded send (no balance read), first write through the state tracker, revert. In particular
    `GetBalances` — the statement with BOTH the zero-row insert and `FOR UPDATE` (a statement without
    either is classified differently and breaks this fact) — precedes `UpdateVolumes` in the same
    transaction for bounded sources and for reverts. -/
theorem writers_follow_generated_handles :
    (sendProg (exSend true (.bounded 0) 1 1) true).pathK okAnswers 40 = modelledKinds Generated.Handles.sendSyncBounded ∧
    (sendProg (exSend false (.bounded 0) 0 0) true).pathK okAnswers 40 = modelledKinds Generated.Handles.sendAsyncBounded ∧
    (sendProg (exSend true .unbounded 0 0) true).pathK okAnswers 40 = modelledKinds Generated.Handles.sendSyncUnbounded ∧
    (sendProg (exSend true .unbounded 0 0) false).pathK okAnswers 40 = modelledKinds Generated.Handles.sendFirstWrite ∧
    (revertProg exRevert true).pathK okAnswers 40 = modelledKinds Generated.Handles.revertSync ∧
    (sendProg (exSend true (.bounded 0) 0 0) true).pathK (fun _ => {}) 40 = modelledKinds Generated.Handles.sendInsufficient := by
  decide

/-- handle discipline (the C07 fact, regenerated): in every captured write, every statement between
    BEGIN and COMMIT/ROLLBACK runs on the transaction (or a savepoint of it), never on the pool — so the
    balance read, its row locks and the volume update share one transaction. -/
theorem handles_discipline : ∀ t ∈ Generated.Handles.all, disciplined false t.2 = true := by
  decide

/-- Both writers are answered success and the pair ends at −20 with an allowance of 10:
    the unrestricted `no_overdraft_any_schedule` is false. -/
theorem no_overdraft_never_used_counterexample :
    (run cxSchedule cxWorld).resp 1 = some { tx := 1, log := 1 } ∧
    (run cxSchedule cxWorld).resp 2 = some { tx := 2, log := 2 } ∧
    ((run cxSchedule cxWorld).vols 1).com = some (-20) ∧
    (runR cxSchedule cxWorld).2.count .blocked = 1 := by
  decide

/-- The same schedule on the SQL model (LeanPG executing the REGENERATED `GetBalances` / `UpdateVolumes`
    statements of the real store, kernel-evaluated): B's first `GetBalances` waits; retried after A's
    commit it returns NO row (nothing locked, balance read as 0), and the pair ends with output 20. -/
theorem no_overdraft_never_used_counterexample_sql :
    (sqlRun Ledger.Sql.Tests.w0 sqlSchedule).2 =
      ["ok:rows=0", "ok:rows=0", "ok:rows=0", "blocked", "ok:rows=1", "ok:rows=0", "ok:rows=0", "ok:rows=1", "ok:rows=0"] ∧
    Ledger.Sql.Tests.rowsOf (sqlRun Ledger.Sql.Tests.w0 sqlSchedule).1 "_default.accounts_volumes" = [["l", "alice", "USD", "0", "20"]] := by
  decide +kernel

/-- the same two writers on a pair whose row is committed beforehand: B waits for A's lock, then
    reads −10 and is refused -/
example :
    let w : World := { cxWorld with vols := fun k => if k = 1 then { com := some 0 } else {} }
    (run cxSchedule w).resp 2 = some { err := "insufficient-funds" } ∧ ((run cxSchedule w).vols 1).com = some (-10) := by
  decide

end Ledger.C06
