import Ledger.Proofs.LogHashMain

/-!
C10 — SQL and Go log hashing agree on every input.

`sqlPreimage log prev` : the bytes the GENERATED final `set_log_hash()` (folded from
the migrations by tools/t2_loghash) hands to `public.digest(…,'sha256')` for the row
`InsertLog` sends, under the PostgreSQL semantics of Ledger/Log/PgEval.lean.
`goPreimage log prev`  : the bytes `Log.ComputeHash(previous)` writes into SHA-256
(Ledger/Log/Model.lean, tied byte-exactly to the real function by the `gohash`
workload).  Hashes themselves are opaque: equal preimages ⇒ equal hashes; different
preimages ⇒ different hashes unless SHA-256 collides.

The property as stated ("for every log content") is FALSE on the unchanged tree:
`hash_preimages_agree_all_false` and the `…_counterexample_*` theorems exhibit one
concrete log per mismatch class.  What holds for ALL inputs is
`hash_preimages_agree_safe`.
-/
namespace Ledger.C10
open Ledger.Log

/-- For every payload whatsoever (quotes, backslashes, HTML-special, non-ASCII and
    control characters in references, metadata keys/values, addresses … included),
    every previous hash shorter than 57 bytes, and every log whose idempotency key is
    `safeText` (well-formed UTF-8, non-ASCII allowed, ASCII printable other than
    `" \ < > &`, no U+2028/U+2029), whose schema version is empty, whose date is UTC
    with whole microseconds and year 1..9999 and whose `Hash` field is still nil:
    PostgreSQL and Go hash exactly the same bytes.  (Both sides are `Except`: a nil
    reverted-transaction id makes `GetMemento` panic before any SQL, on both.) -/
theorem hash_preimages_agree_safe (log : Log) (prev : PrevHash)
    (h : SafeChars bunTags.dateNullZero log prev = true) :
    sqlPreimage log prev = goPreimage log prev :=
  preimages_agree_safe log prev h

/-- non-vacuity: a `SafeChars` log with a non-ASCII idempotency key, a payload full of
    quotes / backslashes / `<>&` / control and non-ASCII characters, and a previous hash
    containing 0x00, 0xff, `\` and `"`; both sides succeed. -/
example : SafeChars bunTags.dateNullZero { wLog b!"clé-é-日本" [] with payload := wNastyPayload } wPrev = true ∧
    (sqlPreimage { wLog b!"clé-é-日本" [] with payload := wNastyPayload } wPrev).toBool = true := by
  decide +kernel

/-- The memento is never a source of disagreement: `encode(memento,'escape')` followed
    by the `text → bytea` cast of `set_log_hash` gives back the memento bytes, for
    every byte string (zero bytes, high-bit bytes, backslashes included). -/
theorem memento_escape_roundtrip (m : Bytes) : byteaInAux .normal (escEncode m) = .ok m :=
  byteaInAux_escEncode m

/-- One log per mismatch class, evaluated together: first the classes of the idempotency key, then those of the
    other fields.  All run the same generated `set_log_hash`, and the kernel keeps what it has computed of a
    closed subterm only within one declaration.  The theorems below state the classes one by one.  (Of the lone
    backslash only Go's side is evaluated here: that the SQL's cast fails is `sqlPreimage_lone_backslash`.) -/
theorem mismatch_classes :
    ((sqlPreimage (wLog b!"a\"b" []) none ≠ goPreimage (wLog b!"a\"b" []) none) ∧
     ((goPreimage (wLog b!"a\\b" []) none).toBool = true) ∧
     ((sqlPreimage (wLog b!"a\\\\b" []) none).toBool = true ∧
       sqlPreimage (wLog b!"a\\\\b" []) none ≠ goPreimage (wLog b!"a\\\\b" []) none) ∧
     (sqlPreimage (wLog b!"a<b" []) none ≠ goPreimage (wLog b!"a<b" []) none) ∧
     (sqlPreimage (wLog b!"a\tb" []) none ≠ goPreimage (wLog b!"a\tb" []) none) ∧
     (sqlPreimage (wLog [0x61, 0xe2, 0x80, 0xa8] []) none ≠ goPreimage (wLog [0x61, 0xe2, 0x80, 0xa8] []) none) ∧
     (sqlPreimage (wLog [0x61, 0xff] []) none = .error (.invalidText "idempotency_key") ∧
       (goPreimage (wLog [0x61, 0xff] []) none).toBool = true)) ∧
    ((sqlPreimage (wLog b!"ik" b!"v1") none ≠ goPreimage (wLog b!"ik" b!"v1") none) ∧
     (sqlPreimage (wLogAt { wDate with zone := 120 }) none ≠ goPreimage (wLogAt { wDate with zone := 120 }) none) ∧
     (sqlPreimage (wLogAt { wDate with nano := 123456789 }) none ≠
       goPreimage (wLogAt { wDate with nano := 123456789 }) none) ∧
     (sqlPreimage { wLog b!"ik" [] with hash := some [1, 2, 3] } none ≠
       goPreimage { wLog b!"ik" [] with hash := some [1, 2, 3] } none) ∧
     (sqlPreimage (wLog b!"ik" []) (some (List.replicate 57 0x41)) ≠
       goPreimage (wLog b!"ik" []) (some (List.replicate 57 0x41)))) := by
  decide +kernel

/-- `"` in the idempotency key: Go writes `\"`, the SQL concatenates the raw key. -/
theorem hash_preimages_agree_counterexample_quote :
    sqlPreimage (wLog b!"a\"b" []) none ≠ goPreimage (wLog b!"a\"b" []) none :=
  mismatch_classes.1.1

/-- The full statement (no hypothesis) is false. -/
theorem hash_preimages_agree_all_false : ¬ ∀ (log : Log) (prev : PrevHash), sqlPreimage log prev = goPreimage log prev :=
  fun h => hash_preimages_agree_counterexample_quote (h _ _)

/-- a single `\` in the idempotency key: the SQL's `marshalledAsJSON::bytea` fails
    (`invalid input syntax for type bytea`) — the INSERT of the log is rejected —
    while `ComputeHash` succeeds. -/
theorem hash_preimages_agree_counterexample_backslash :
    sqlPreimage (wLog b!"a\\b" []) none = .error .invalidByteaInput ∧
    (goPreimage (wLog b!"a\\b" []) none).toBool = true :=
  ⟨sqlPreimage_lone_backslash (pre := b!"a") (c := 0x62) (post := []) rfl (by decide) (by decide) (by decide)
    (by decide) (by decide) (by decide) (by decide) nofun, mismatch_classes.1.2.1⟩

/-- `\\` (two backslashes) in the idempotency key: the `bytea` cast turns them into one,
    Go writes four. -/
theorem hash_preimages_agree_counterexample_backslash_pair :
    (sqlPreimage (wLog b!"a\\\\b" []) none).toBool = true ∧
    sqlPreimage (wLog b!"a\\\\b" []) none ≠ goPreimage (wLog b!"a\\\\b" []) none :=
  mismatch_classes.1.2.2.1

/-- `<` (likewise `>`, `&`): Go writes backslash-u-003c, the SQL the raw character. -/
theorem hash_preimages_agree_counterexample_html :
    sqlPreimage (wLog b!"a<b" []) none ≠ goPreimage (wLog b!"a<b" []) none :=
  mismatch_classes.1.2.2.2.1

/-- a control character (TAB): Go writes `\t`, the SQL the raw byte. -/
theorem hash_preimages_agree_counterexample_control :
    sqlPreimage (wLog b!"a\tb" []) none ≠ goPreimage (wLog b!"a\tb" []) none :=
  mismatch_classes.1.2.2.2.2.1

/-- U+2028: Go writes the escape backslash-u-2028, the SQL the raw three bytes. -/
theorem hash_preimages_agree_counterexample_linesep :
    sqlPreimage (wLog [0x61, 0xe2, 0x80, 0xa8] []) none ≠ goPreimage (wLog [0x61, 0xe2, 0x80, 0xa8] []) none :=
  mismatch_classes.1.2.2.2.2.2.1

/-- ill-formed UTF-8: PostgreSQL rejects the value, Go writes the escape backslash-u-fffd. -/
theorem hash_preimages_agree_counterexample_invalid_utf8 :
    sqlPreimage (wLog [0x61, 0xff] []) none = .error (.invalidText "idempotency_key") ∧
    (goPreimage (wLog [0x61, 0xff] []) none).toBool = true :=
  mismatch_classes.1.2.2.2.2.2.2

/-- Non-ASCII text is NOT a counterexample (well-formed UTF-8 is copied by both sides);
    it is covered by `hash_preimages_agree_safe`. -/
theorem hash_preimages_agree_nonascii_ok (log : Log) (prev : PrevHash)
    (h : SafeChars bunTags.dateNullZero { log with idempotencyKey := b!"é日本" } prev = true) :
    sqlPreimage { log with idempotencyKey := b!"é日本" } prev = goPreimage { log with idempotencyKey := b!"é日本" } prev :=
  hash_preimages_agree_safe _ prev h

/-- any non-empty schema version: the final `set_log_hash` (migration 37) never reads
    `schema_version`; `ComputeHash` appends `,"schemaVersion":"v1"`. -/
theorem hash_preimages_agree_counterexample_schema_version :
    sqlPreimage (wLog b!"ik" b!"v1") none ≠ goPreimage (wLog b!"ik" b!"v1") none :=
  mismatch_classes.2.1

/-- a non-UTC `time.Time`: the `timestamp` column drops the zone, the SQL prints `Z`. -/
theorem hash_preimages_agree_counterexample_date_zone :
    sqlPreimage (wLogAt { wDate with zone := 120 }) none ≠ goPreimage (wLogAt { wDate with zone := 120 }) none :=
  mismatch_classes.2.2.1

/-- nanoseconds: the column keeps microseconds, Go prints all nine digits. -/
theorem hash_preimages_agree_counterexample_date_submicro :
    sqlPreimage (wLogAt { wDate with nano := 123456789 }) none ≠ goPreimage (wLogAt { wDate with nano := 123456789 }) none :=
  mismatch_classes.2.2.2.1

/-- `ComputeHash` on a log whose `Hash` is already set includes it; the SQL writes `null`. -/
theorem hash_preimages_agree_counterexample_hash_preset :
    sqlPreimage { wLog b!"ik" [] with hash := some [1, 2, 3] } none ≠ goPreimage { wLog b!"ik" [] with hash := some [1, 2, 3] } none :=
  mismatch_classes.2.2.2.2.1

/-- a 57-byte "previous hash": PostgreSQL's base64 inserts a newline after 76 characters. -/
theorem hash_preimages_agree_counterexample_prev_long :
    sqlPreimage (wLog b!"ik" []) (some (List.replicate 57 0x41)) ≠ goPreimage (wLog b!"ik" []) (some (List.replicate 57 0x41)) :=
  mismatch_classes.2.2.2.2.2

end Ledger.C10
