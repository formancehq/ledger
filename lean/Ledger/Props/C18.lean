import Ledger.Proofs.CtrlListed
import Ledger.Proofs.CtrlExamples

/-!
# C18 — Account existence and first usage follow the history (controller layer)

Proved for all states / operations / faults: accounts are never removed, the
insertion date is constant, the first usage never rises; and for ALL histories
the accounts table equals the reference reading of the journal (`specOf`,
Ledger/Ctrl/Spec.lean: listed iff involved or metadata-saved; first usage =
creation date of a metadata-created account, else the earliest transaction
timestamp).
-/
namespace Ledger.C18
open Ledger.Ctrl Ledger.Core Ledger.Ctrl.Examples

/-- An account, once listed, stays listed; its insertion date never changes; its
    first usage never rises — across any write operation, failing or not, with or
    without an injected fault. -/
theorem insertion_date_constant (strict : Bool) (s : State) (op : Op) (f : Faults) (cf : Bool)
    (a : String) (acc : Account) (h : s.db.accounts.get? a = some acc) :
    ∃ acc', (stepF strict s op f cf).1.db.accounts.get? a = some acc' ∧
      acc'.insertionDate = acc.insertionDate ∧ acc'.firstUsage ≤ acc.firstUsage :=
  (accLe_stable strict s.db.accounts).forgeLog op f cf s (AccLe.refl _) a acc h

/-- The same along a whole history. -/
theorem account_rows_monotone (strict : Bool) (s : State) (ops : List Op) (a : String) (acc : Account)
    (h : s.db.accounts.get? a = some acc) :
    ∃ acc', (runHist strict s ops).db.accounts.get? a = some acc' ∧
      acc'.insertionDate = acc.insertionDate ∧ acc'.firstUsage ≤ acc.firstUsage :=
  (accLe_stable strict s.db.accounts).runHist s ops (AccLe.refl _) a acc h

/-- A back-dated transaction lowers the first usage of an existing account to its
    timestamp (store contract of `UpsertAccounts`). -/
theorem first_usage_lowered_by_backdated (now ts : Time) (accounts : Ledger.Base.Map String Account) (a : String)
    (acc : Account) (m : Meta) (hex : accounts.get? a = some acc) (hlt : ts < acc.firstUsage) :
    ∃ acc', (upsertAccount now accounts { address := a, metadata := m, firstUsage := some ts }).get? a = some acc' ∧
      acc'.firstUsage = ts ∧ acc'.insertionDate = acc.insertionDate := by
  unfold upsertAccount
  simp only [hex, hlt, decide_true, Bool.true_or, ↓reduceIte]
  exact ⟨_, Base.Map.get?_insert_self _ _ _, rfl, rfl⟩

/-- After ANY sequential history the accounts table is exactly the reference reading
    of the journal (`specOf`): an account is listed iff some committed transaction
    involves it (source, destination or account-metadata key) or metadata was saved
    on it (`specTouch` / `specSave` are the only steps that add a row); its first
    usage is the date of the metadata save that created it, or the timestamp of the
    creating transaction, lowered by every later transaction with an earlier
    timestamp and by nothing else; its insertion date is the one of its creation. -/
theorem account_table_eq_journal (strict : Bool) (ops : List Op) :
    projAccounts (runHist strict {} ops).db = (specOf (runHist strict {} ops).db.logs).accounts :=
  (congrArg SpecSt.accounts (runHist_view strict ops)).symm

/-- An account is listed iff the journal involves it: some committed transaction
    has it as source, destination or account-metadata key, or metadata was saved on it. -/
theorem account_listed_iff (strict : Bool) (ops : List Op) (a : String) :
    ((runHist strict {} ops).db.accounts.get? a).isSome = true ↔
      ∃ l ∈ (runHist strict {} ops).db.logs, l.involves a := by
  rw [← projAccounts_listed, account_table_eq_journal strict ops, specOf_listed]

/-- First usage is a running minimum: a transaction touching an existing account
    sets it to `min(timestamp, previous)`, keeps the insertion date, and a metadata
    save never moves it (reference reading; equal to the tables by
    `account_table_eq_journal`). -/
theorem first_usage_is_min (schemas : List Schema) (v : String) (ts ins date : Time)
    (acc : Ledger.Base.Map String AccSpec) (b : String) (m : Meta) (x : AccSpec) (hx : acc.get? b = some x) :
    (∃ y, (specTouch schemas v ts ins acc b m).get? b = some y ∧
        y.firstUsage = (if ts < x.firstUsage then ts else x.firstUsage) ∧ y.insertionDate = x.insertionDate) ∧
    (∃ y, (specSave schemas v date acc b m).get? b = some y ∧
        y.firstUsage = x.firstUsage ∧ y.insertionDate = x.insertionDate) := by
  -- the dates of the row after either step, as `CtrlSpecLinkAcc` reads them off (`stepDates` is the running minimum)
  have hd : datesS acc b = some (x.firstUsage, x.insertionDate) := by rw [datesS, hx]; rfl
  have h1 := touchWith_dates (specDefaults schemas v b) ts ins acc b m b
  have h2 := specSave_dates schemas v date acc b m b
  rw [if_pos rfl, hd] at h1 h2
  obtain ⟨y1, hy1, e1⟩ := Option.map_eq_some_iff.mp h1
  obtain ⟨y2, hy2, e2⟩ := Option.map_eq_some_iff.mp h2
  exact ⟨⟨y1, hy1, congrArg Prod.fst e1, congrArg Prod.snd e1⟩, ⟨y2, hy2, congrArg Prod.fst e2, congrArg Prod.snd e2⟩⟩

/-! tests on concrete histories, and non-vacuity -/
example : projAccounts (runHist true {} histDates).db = (specOf (runHist true {} histDates).db.logs).accounts := by
  decide +kernel
example : projAccounts (runHist true {} histDefaults).db = (specOf (runHist true {} histDefaults).db.logs).accounts := by
  decide +kernel
example : (s1.db.accounts.get? "bank").isSome = true := by decide

end Ledger.C18
