import Ledger.Proofs.LogChain
import Ledger.Props.C10

/-!
C09 — Log hash chain is linear and verifiable (HASH_LOGS=SYNC).

All statements are about PREIMAGES (`H` is an arbitrary digest function) and about
one-session-at-a-time inserts: each stored hash is `H` of the SQL preimage built over
the STORED hash of the log with the previous id, and what `set_log_hash` hashes equals
the documented input EXCEPT that the schema version is never part of it.

OUT OF SCOPE here (needs the session/lock model): the any-schedule form
`Ledger.C09s.chain_linear_any_schedule` (concurrent inserts serialised by the
transactional advisory lock `InsertLog` takes before the insert).
-/
namespace Ledger.C09
open Ledger.Log Ledger.Generated

/-- `ledgerSetups` (default_bucket.go) attaches `set_log_hash()` as a BEFORE INSERT,
    FOR EACH ROW trigger on `logs`, restricted to the ledger's rows, exactly when the
    ledger has HASH_LOGS=SYNC.  (Finite fact regenerated from the source.) -/
theorem trigger_attached_under_sync :
    LogHash.trigger = { attached := true, timing := "before insert", table := "logs", forEachRow := true,
                        whenLedgerEqName := true, function := "set_log_hash",
                        featureName := "HASH_LOGS", featureValue := "SYNC" } := by
  decide

/-- `InsertLog` takes `pg_advisory_xact_lock(<ledger id>)` before the insert exactly under
    HASH_LOGS=SYNC (regenerated fact read from storage/ledger/logs.go).  This is the
    anchor of the any-schedule linearity argument (lock held until the end of the SQL
    transaction ⇒ inserts of one ledger are serialised), which itself is NOT proved here. -/
theorem insert_takes_advisory_lock_under_sync :
    LogHash.insertLogAdvisoryXactLock = true ∧ LogHash.insertLogLockFeature = ("HASH_LOGS", "SYNC") := by
  decide

/-- Sequential inserts build a linear chain: starting from an empty ledger, after
    inserting `logs` one after the other, the table is exactly one row per log, in
    order, row `k` has id `k+1` and hash `H(preimage_k)` where `preimage_k` is the SQL
    preimage of `logs[k]` over the stored hash of row `k-1` (nothing for the first). -/
theorem chain_linear_sequential (H : Bytes → Bytes) (ledger : Bytes) (logs : List Log) (tbl : Table)
    (h : insertAll H ledger logs [] = .ok tbl) :
    Chained H 0 none logs tbl := by
  obtain ⟨rows, htbl, _, hch⟩ := insertAll_chained H ledger logs [] tbl trivial h
  simpa [htbl, lastHash] using hch

/-- The evaluated obligations of this file, together: the two non-vacuity witnesses and the schema-version
    counterexample below all run the generated `set_log_hash`, and the kernel keeps what it has computed of a
    closed subterm only within one declaration. -/
theorem bounded_obligations :
    ((insertAll (fun b => b.take 4) b!"l"
        [wLog b!"ik1" [], { wLog b!"clé" [] with payload := wNastyPayload }] []).toBool = true) ∧
    (sqlPreimage (wLog b!"ik" b!"v1") wPrev ≠ documentedPreimage (wLog b!"ik" b!"v1") wPrev ∧
      SafeChars bunTags.dateNullZero (wLog b!"ik" []) wPrev = true) ∧
    (pgTextOk b!"v1" = true ∧ pgTextOk b!"v2" = true ∧ (sqlPreimage (wLog b!"ik" b!"v1") none).toBool = true) := by
  decide +kernel

/-- non-vacuity: two logs, the second with a nasty payload, insert successfully. -/
example : (insertAll (fun b => b.take 4) b!"l" [wLog b!"ik1" [], { wLog b!"clé" [] with payload := wNastyPayload }] []).toBool = true :=
  bounded_obligations.1

/-- Each further insert chains from the last stored hash (the invariant behind
    `chain_linear_sequential`, for a ledger that already holds a well-formed chain). -/
theorem insert_chains_from_last (H : Bytes → Bytes) (ledger : Bytes) (tbl tbl' : Table) (log : Log)
    (hg : GoodTbl ledger 1 tbl) (h : insertLog H ledger tbl log = .ok tbl') :
    ∃ row pre, tbl' = tbl ++ [row] ∧ row.id = .num (tbl.length + 1) ∧
      sqlPreimage log (lastHash tbl) = .ok pre ∧ row.hash = .bytea (H pre) := by
  obtain ⟨row, pre, h1, _, h3, h4, h5, _⟩ := insertLog_good H ledger tbl log tbl' hg h
  exact ⟨row, pre, h1, h3, h4, h5⟩

/-- What the trigger hashes is the documented input (`documentedPreimage` =
    the reference implementation's input: previous hash, then type, memento, date,
    idempotency key, `"id":0,"hash":null`, schema version) for every `SafeChars` log —
    in particular for logs WITHOUT schema version. -/
theorem stored_preimage_eq_documented_partial (log : Log) (prev : PrevHash)
    (h : SafeChars bunTags.dateNullZero log prev = true) :
    sqlPreimage log prev = documentedPreimage log prev :=
  C10.hash_preimages_agree_safe log prev h

/-- `stored_preimage_eq_documented` for all logs is FALSE: with a schema version the
    documented input contains `,"schemaVersion":"v1"`, the stored one does not. -/
theorem stored_preimage_eq_documented_counterexample :
    sqlPreimage (wLog b!"ik" b!"v1") wPrev ≠ documentedPreimage (wLog b!"ik" b!"v1") wPrev ∧
    SafeChars bunTags.dateNullZero (wLog b!"ik" []) wPrev = true :=
  bounded_obligations.2.1

/-- The stored hash does not cover the schema version at all: two logs that differ
    only in their schema version (any two values PostgreSQL accepts as text) get the
    same digest input, hence the same stored hash. -/
theorem stored_hash_ignores_schema_version (log : Log) (sv sv' : Bytes) (prev : PrevHash)
    (h : pgTextOk sv = true) (h' : pgTextOk sv' = true) :
    sqlPreimage { log with schemaVersion := sv } prev = sqlPreimage { log with schemaVersion := sv' } prev := by
  obtain ⟨v, hv⟩ := textParam_ok "schema_version" bunTags.schemaVersionNullZero sv h
  obtain ⟨v', hv'⟩ := textParam_ok "schema_version" bunTags.schemaVersionNullZero sv' h'
  rw [sqlPreimage, sqlPreimage, sqlPreimageAt_eq, sqlPreimageAt_eq]
  simp only [hv, hv']

/-- non-vacuity of the above on distinct versions -/
example : pgTextOk b!"v1" = true ∧ pgTextOk b!"v2" = true ∧ (sqlPreimage (wLog b!"ik" b!"v1") none).toBool = true :=
  bounded_obligations.2.2

/-- Recomputing from the exported logs with the reference implementation reproduces a
    stored hash whenever the log is `SafeChars` with respect to its predecessor's
    stored hash: same preimage, hence same digest for any `H`. -/
theorem chain_recomputable_safe (H : Bytes → Bytes) (ledger : Bytes) (tbl tbl' : Table) (log : Log)
    (hg : GoodTbl ledger 1 tbl) (h : insertLog H ledger tbl log = .ok tbl')
    (hs : SafeChars bunTags.dateNullZero log (lastHash tbl) = true) :
    ∃ row pre, tbl' = tbl ++ [row] ∧ goPreimage log (lastHash tbl) = .ok pre ∧ row.hash = .bytea (H pre) := by
  obtain ⟨row, pre, h1, _, _, h4, h5, _⟩ := insertLog_good H ledger tbl log tbl' hg h
  refine ⟨row, pre, h1, ?_, h5⟩
  rw [← preimages_agree_safe log _ hs]
  exact h4

end Ledger.C09
