import Ledger.Proofs.CtrlImport
import Ledger.Proofs.CtrlExamples

/-!
# C12 — Import only on pristine ledgers, ids must follow (controller layer, sequential)

`facadeImport` / `facadeWrite` model the state tracker
(controller/system/state_tracker.go) over the controller's `Import`.  Exclusivity
against concurrent writers (advisory locks) is out of scope of this layer.
-/
namespace Ledger.C12
open Ledger.Ctrl Ledger.Core Ledger.Ctrl.Examples

/-- Import is refused on a ledger that is not in the initializing state, with no effect. -/
theorem import_requires_initializing (now : Time) (l : Ledger) (stream : List Log) (h : l.inUse = true) :
    facadeImport now l stream = (l, some .notInitializing) := by
  unfold facadeImport; rw [if_pos h]

/-- A committed write makes the ledger in-use … -/
theorem write_makes_in_use (strict : Bool) (l : Ledger) (op : Op)
    (he : (facadeWrite strict l op).2.isError = false) (hd : op.dry = false) :
    (facadeWrite strict l op).1.inUse = true := by
  unfold facadeWrite at *
  by_cases hu : l.inUse = true
  · simp only [hu, ↓reduceIte] at *
  · simp only [hu, Bool.false_eq_true, ↓reduceIte, hd, Bool.or_false] at he ⊢
    by_cases hb : (step strict (resync l.state) op).2.isError = true
    · rw [if_pos hb] at he
      simp only at he
      rw [hb] at he
      exact absurd he (by decide)
    · rw [if_neg hb]

/-- … so a later import is refused. -/
theorem write_then_import_rejected (strict : Bool) (now : Time) (l : Ledger) (op : Op) (stream : List Log)
    (he : (facadeWrite strict l op).2.isError = false) (hd : op.dry = false) :
    (facadeImport now (facadeWrite strict l op).1 stream).2 = some .notInitializing := by
  rw [import_requires_initializing now _ stream (write_makes_in_use strict l op he hd)]

/-- The imported ids must follow the existing ones: a stream whose first log id is
    not above the ledger's last log id is refused before anything is applied. -/
theorem import_ids_must_follow (now : Time) (s : State) (m : Nat) (l : Log) (r : List Log)
    (hmax : maxLogId s.db = some m) (h : l.id ≤ m) :
    importLogs now s (l :: r) = (s, some (.alreadyExists l.id)) := by
  unfold importLogs
  rw [hmax]
  exact importFrom_reject_first now s m l r h

/-- … and inside a stream every id must be above the previous one. -/
theorem import_ids_must_increase (now : Time) (s : State) (m : Nat) (l : Log) (r : List Log) (h : l.id ≤ m) :
    importFrom now s (some m) (l :: r) = (s, some (.alreadyExists l.id)) :=
  importFrom_reject_first now s m l r h

/-- `rejected_import_no_effect` is FALSE for a rejection in mid-stream: every log is
    applied in its own SQL transaction, logs 1..k−1 stay. -/
theorem rejected_import_no_effect_counterexample :
    let logs := exportLogs s1
    (importLogs 0 {} (logs ++ logs)).2 = some (.alreadyExists 1) ∧ (importLogs 0 {} (logs ++ logs)).1.db ≠ ({} : Db) := by
  decide +kernel

/-- What holds: rejections decided before the first log is applied have no effect. -/
theorem rejected_import_no_effect_partial (now : Time) (l : Ledger) (stream : List Log) :
    (l.inUse = true → (facadeImport now l stream).1 = l) ∧
    (∀ m x r, stream = x :: r → maxLogId l.state.db = some m → x.id ≤ m → l.inUse = false →
      (facadeImport now l stream).1 = l) := by
  constructor
  · intro h; rw [import_requires_initializing now l stream h]
  · intro m x r hs hmax hle hu
    unfold facadeImport
    rw [if_neg (by rw [hu]; decide), hs, import_ids_must_follow now l.state m x r hmax hle]

/-! non-vacuity -/
example : (facadeWrite false {} { kind := .createP {} [⟨"world", "bank", 100, "USD"⟩] false, now := 10 }).1.inUse = true := by
  decide
example : (importLogs 0 {} (exportLogs s1)).2 = none ∧ (importLogs 0 {} (exportLogs s1)).1.db = s1.db :=
  import_of_export_exact
example : (importLogs 0 (importLogs 0 {} (exportLogs s1)).1 (exportLogs s1)).2 = some (.alreadyExists 1) := by decide +kernel

end Ledger.C12
