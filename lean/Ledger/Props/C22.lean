import Ledger.Proofs.MachineAsset
import Ledger.Proofs.MachineBCStmt

/-!
C22 — Numscript sends move exactly the requested amount.

Theorems about the big-step semantics `sem` / `evalStmt` of
`Ledger/Machine/Sem.lean` (tied to the real compiler + VM by the `prog`
correspondence workload), for ALL programs — structural induction over sources
and destinations, no size bound.  `kept` is the part of the funding the
destination kept: it is handed back to the sources (`repay`) and never posted.
-/
namespace Ledger.C22
open Ledger.Machine

variable {cfg : Cfg}

/-- `send <monetary>`: for a statement the compiler accepted, a successful execution
    appends postings that are all in the monetary's asset, non-negative, and whose
    sum plus the kept part is exactly the sent amount. -/
theorem send_conserves (env : Env) (henv : EnvGood env) (ds : Decls) (mon : Expr) (src : VSource)
    (dst : Dest) (st st' : State) (hc : checkStmt ds (.send mon src dst) = .ok ())
    (h : evalStmt cfg env (.send mon src dst) st = .ok st') :
    ∃ asset amt new kept, evalMonetary env mon = .ok (asset, some amt) ∧
      st'.postings = st.postings ++ new ∧ (∀ p ∈ new, p.asset = asset ∧ 0 ≤ p.amount) ∧
      amountSum new + kept = amt ∧ 0 ≤ kept := by
  obtain ⟨asset, amt, new, kept, hm, ok, _⟩ := send_ok henv hc h
  exact ⟨asset, amt, new, kept, hm, ok.postings, fun p hp => ⟨ok.assetOk p hp, ok.nonneg p hp⟩,
    ok.sum, ok.keptNonneg⟩

/-- What is left of a non-negative funding by a kept-free destination the compiler
    accepted is worth nothing. -/
theorem keptfree_destination_sends_everything (env : Env) (henv : EnvGood env) (ds : Decls)
    (asset : String) (d : Dest) (hk : keptFreeDest d = true) (hc : checkDest ds d = .ok ())
    (f : List Part) (st : State) (rem : List Part) (st' : State) (hf : partsNonneg f)
    (h : evalDest env asset d f st = .ok (rem, st')) : total rem = 0 :=
  evalDest_keptfree env henv ds asset d hk hc f st rem st' hf h

/-- When the destination has no `kept` clause, the postings of `send <monetary>` sum to
    the sent amount EXACTLY. -/
theorem send_conserves_keptfree (env : Env) (henv : EnvGood env) (ds : Decls) (mon : Expr)
    (src : VSource) (dst : Dest) (st st' : State) (hc : checkStmt ds (.send mon src dst) = .ok ())
    (hk : keptFreeDest dst = true) (h : evalStmt cfg env (.send mon src dst) st = .ok st') :
    ∃ asset amt new, evalMonetary env mon = .ok (asset, some amt) ∧
      st'.postings = st.postings ++ new ∧ (∀ p ∈ new, p.asset = asset ∧ 0 ≤ p.amount) ∧
      amountSum new = amt := by
  obtain ⟨asset, amt, new, kept, hm, ok, h0⟩ := send_ok henv hc h
  exact ⟨asset, amt, new, hm, ok.postings, fun p hp => ⟨ok.assetOk p hp, ok.nonneg p hp⟩,
    by have := ok.sum; have := h0 hk; omega⟩

/-- Same for `send [A *]` with a kept-free destination: the postings sum exactly to the
    funds available from the sources. -/
theorem send_all_keptfree_sum_eq_available (env : Env) (henv : EnvGood env) (ds : Decls)
    (assetE : Expr) (s : Source) (dst : Dest) (st st' : State)
    (hc : checkStmt ds (.sendAll assetE (.src s) dst) = .ok ()) (hk : keptFreeDest dst = true)
    (h : evalStmt cfg env (.sendAll assetE (.src s) dst) st = .ok st') :
    ∃ asset f b1 new, evalAssetE env assetE = .ok asset ∧
      evalSource cfg env asset s st.bal = .ok (f, b1) ∧
      st'.postings = st.postings ++ new ∧ amountSum new = total f.parts := by
  obtain ⟨asset, f, b1, new, kept, ha, hs, ok, h0⟩ := sendAll_ok h
  exact ⟨asset, f, b1, new, ha, hs, ok.postings,
    by have := ok.sum; have := h0 ds henv hk (checkStmt_inv hc).2.2; omega⟩

/-- `send [A *]`: the postings are non-negative, all in one asset (the asset of the
    funding the sources yield) and their sum plus the kept part is exactly the
    funds available from the sources. -/
theorem send_all_sum_eq_available (env : Env) (assetE : Expr) (s : Source) (dst : Dest)
    (st st' : State) (h : evalStmt cfg env (.sendAll assetE (.src s) dst) st = .ok st') :
    ∃ asset f b1 new kept, evalAssetE env assetE = .ok asset ∧
      evalSource cfg env asset s st.bal = .ok (f, b1) ∧
      st'.postings = st.postings ++ new ∧ (∀ p ∈ new, p.asset = f.asset ∧ 0 ≤ p.amount) ∧
      amountSum new + kept = total f.parts ∧ 0 ≤ kept := by
  obtain ⟨asset, f, b1, new, kept, ha, hs, ok, _⟩ := sendAll_ok h
  exact ⟨asset, f, b1, new, kept, ha, hs, ok.postings,
    fun p hp => ⟨ok.assetOk p hp, ok.nonneg p hp⟩, ok.sum, ok.keptNonneg⟩

/-- The claim "the postings of `send [A *]` are in the statement's asset `A`", for a
    variant `cfg` of the code. -/
def send_all_in_statement_asset (cfg : Cfg) : Prop :=
  ∀ (env : Env) (assetE : Expr) (s : Source) (dst : Dest) (st st' : State) (a : String),
    evalStmt cfg env (.sendAll assetE (.src s) dst) st = .ok st' → evalAssetE env assetE = .ok a →
    ∃ new, st'.postings = st.postings ++ new ∧ ∀ p ∈ new, p.asset = a ∧ 0 ≤ p.amount

/-- What holds for every variant: when every overdraft clause of the source is in asset
    `A` (or the compiler emits the asset check of commit 7a34851), all postings are in `A`. -/
theorem send_all_in_statement_asset_partial (env : Env) (assetE : Expr) (s : Source) (dst : Dest)
    (st st' : State) (a : String) (h : evalStmt cfg env (.sendAll assetE (.src s) dst) st = .ok st')
    (ha : evalAssetE env assetE = .ok a) (ho : cfg.overdraftAssetCheck = true ∨ OdAsset env a s) :
    ∃ new, st'.postings = st.postings ++ new ∧ ∀ p ∈ new, p.asset = a ∧ 0 ≤ p.amount := by
  obtain ⟨asset, f, b1, new, kept, ha', hs, ok, _⟩ := sendAll_ok h
  rw [ha] at ha'; cases ha'
  refine ⟨new, ok.postings, fun p hp => ⟨?_, ok.nonneg p hp⟩⟩
  rw [ok.assetOk p hp]
  exact evalSource_asset cfg env a s st.bal f b1 hs ho

/-- Since commit 7a34851 the claim holds in full for the current code: all postings of
    `send [A *]` are in `A` (and non-negative). -/
theorem send_all_in_statement_asset_holds : send_all_in_statement_asset Cfg.fixed := by
  intro env assetE s dst st st' a h ha
  exact send_all_in_statement_asset_partial env assetE s dst st st' a h ha (Or.inl rfl)

/-- Witness script: the overdraft clause is in USD, the statement in GEM. -/
def witnessScript : Script :=
  { vars := [⟨.monetary, "b", .balance (.acct "bank") (.asset "USD")⟩],
    stmts := [.sendAll (.asset "GEM")
      (.src (.account (.acct "bank") (.upTo (.mon (.asset "USD") 79)))) (.account (.acct "u"))] }

def witnessInput : Input := { vars := [], balance := fun _ _ => 0, accountMeta := fun _ => none }

/-- The defect repaired by 7a34851, as a statement about the PRE-FIX variant of the
    model: `send [GEM *]` from a source `allowing overdraft up to [USD 79]` posted 79 USD;
    the current variant rejects the script ("cannot add different assets"). -/
theorem send_all_in_statement_asset_prefix_counterexample :
    postingsOf (sem Cfg.preFix witnessScript witnessInput) = some [⟨"bank", "u", "USD", 79⟩] ∧
    postingsOf (sem Cfg.fixed witnessScript witnessInput) = none := by
  constructor <;> decide +kernel

/-- A `kept` clause hands its funding back untouched: no posting, no balance change. -/
theorem kept_produces_no_posting (env : Env) (asset : String) (f : List Part) (st : State) :
    evalKD env asset .kept f st = .ok (f, st) := by
  simp [evalKD]

/-- Whatever a destination does, every unit of the funding is either posted or left
    over (kept), and only postings change the state's posting list. -/
theorem destination_conserves (env : Env) (asset : String) (d : Dest) (f : List Part)
    (st : State) (rem : List Part) (st' : State) (h : evalDest env asset d f st = .ok (rem, st')) :
    ∃ new, st'.postings = st.postings ++ new ∧ total f = total rem + amountSum new := by
  obtain ⟨new, hs, ht, _⟩ := evalDest_ok env asset d f st rem st' h
  refine ⟨new, hs.postings, ?_⟩
  have := ht (fun _ => true)
  rw [← total_eq_totalOf, ← total_eq_totalOf, ← amountSum_eq_outOf] at this
  exact this

/-- The tracked balance of every pair of a non-world account equals the initial
    balance plus the postings of the run minus what `save` removed. -/
theorem balances_track (s : Script) (inp : Input) (r : Result) (h : sem cfg s inp = .ok r)
    (a c : String) (ha : a ≠ "world") (v0 : Int) (hv : trackedInit cfg s inp a c = some v0) :
    v0 = inp.balance a c ∧
    r.final.bal.get a c =
      some (inp.balance a c + flowIn a c r.postings - flowOut a c r.postings - r.final.saved a c) := by
  obtain ⟨_, _, e0, v', g, e, _⟩ := sem_tracked h ha hv
  refine ⟨e0, ?_⟩
  rw [g, ← e0]
  congr 1; omega

/-- `balances_track` at the byte-code level, for every compiled program (compiler
    correctness `semBytecode_eq_sem_full`): the VM model `exec` on the compiled byte code
    tracks exactly initial + postings - saved. -/
theorem balances_track_bytecode (s : Script) (p : Program)
    (hc : compile s = .ok p) (inp : Input) (r : Result) (h : semBytecode Cfg.fixed s inp = .ok r)
    (a c : String) (ha : a ≠ "world") (v0 : Int) (hv : trackedInit Cfg.fixed s inp a c = some v0) :
    r.final.bal.get a c =
      some (inp.balance a c + flowIn a c r.postings - flowOut a c r.postings - r.final.saved a c) := by
  rw [semBytecode_eq_sem_full hc inp] at h
  exact (balances_track s inp r h a c ha v0 hv).2

/-- `compiler_only_accepts_sum_one` (the compiler/VM side of C24): an allotment that
    `VisitAllotment` accepted and OP_MAKE_ALLOTMENT built sums to exactly 100 %. -/
theorem compiler_only_accepts_sum_one (env : Env) (henv : EnvGood env) (ds : Decls)
    (ps : List PortionE) (a : List Rat) (hc : checkAllotment ds ps = .ok ())
    (hm : makeAllotment env ps = .ok a) : a.sum = 1 :=
  makeAllotment_sum_one henv hc hm

/-! Non-vacuity: concrete programs that run (kernel-evaluated tests, not obligations). -/

def exScript : Script :=
  { vars := [⟨.monetary, "m", .none⟩],
    stmts := [
      .send (.var "m")
        (.src (.inorder (.cons (.account (.acct "a") .none)
          (.cons (.account (.acct "b") (.upTo (.mon (.asset "USD") 10))) .nil))))
        (.allot (.cons (.lit "1/3") (.to (.account (.acct "x")))
          (.cons (.lit "1/3") .kept (.cons .remaining (.to (.account (.acct "y"))) .nil)))),
      .save (.mon (.asset "USD") 5) (.acct "b")] }

def exInput : Input :=
  { vars := [("m", "USD 100")],
    balance := fun a c => if a = "a" ∧ c = "USD" then 70 else if a = "b" ∧ c = "USD" then 25 else 0,
    accountMeta := fun _ => none }

example : postingsOf (sem Cfg.fixed exScript exInput) =
    some [⟨"a", "x", "USD", 34⟩, ⟨"a", "y", "USD", 33⟩] := by decide +kernel

example : trackedInit Cfg.fixed exScript exInput "b" "USD" = some 25 := by decide +kernel

example : (checkStmts [("m", .monetary)] exScript.stmts = .ok ()) := by decide +kernel

example : keptFreeDest (.inorder (.cons (.mon (.asset "USD") 5) (.to (.account (.acct "x"))) .nil)
    (.to (.allot (.cons (.lit "1/2") (.to (.account (.acct "y"))) (.cons .remaining (.to (.account (.acct "z"))) .nil))))) = true := by
  decide +kernel

end Ledger.C22
