import Ledger.Proofs.SqlVolumesZeroSpec
import Ledger.Proofs.SqlBalances
import Ledger.Proofs.SqlRun

/-!
C06b — bridge: `GetBalances` (the SQL, under LeanPG).

The statement is `WITH ins AS (INSERT INTO accounts_volumes … VALUES (…, '0', '0', …)… ON CONFLICT DO
NOTHING) SELECT … FROM accounts_volumes WHERE (key₁) OR (key₂) … ORDER BY accounts_address, asset
FOR UPDATE` (regenerated: `Ledger.Generated.WriteSql.P.getBalances`).

* PROVED in general (`getBalances_zero_rows`): its data-modifying part — any requested keys, any
  table contents satisfying the storage invariants — is `Spec.lockBalances` on `accounts_volumes`.
* PROVED in general (`getBalances_sem`): the WHOLE statement — CTE, FROM/WHERE (the or-chain of keys), projection,
  ORDER BY (LeanPG's merge sort: a sorted permutation), FOR UPDATE loop — for ANY keys and ANY contents satisfying
  `BalState` (TxState: alone, in a transaction, READ COMMITTED snapshot; AvInv; fresh command id; distinct row
  ids): the answer is a permutation, sorted by (account, asset), of the `(account, asset, input, output)` of the
  requested rows of this ledger that were visible BEFORE the statement — a never-used pair is NOT returned, the
  statement does not see the zero row its own CTE inserts (the Go code fills in 0) —; afterwards the zero rows
  exist (`avRunN`), exactly the returned rows carry the transaction's row lock (`lockRun`), and what the
  transaction reads is `Spec.lockBalances` (`getBalances_view`).
* The kernel-evaluated scenarios below are regression obligations (they also exercise several sessions:
  the lock really blocks).
-/
namespace Ledger.C06b
open Ledger.Sql Ledger.Base Ledger.Core Ledger.Generated.WriteSql
open Ledger.Generated.WriteSql.P (BalanceRow)

/-- General: the zero-row insert of `GetBalances` is `Spec.lockBalances`: a requested key without a
    row gets `(0, 0)`, a key with a row keeps it, other ledgers and other tables are untouched. -/
theorem getBalances_zero_rows (n : Nat) (env : Env) (b l : String) (id : Nat) (hb : b.isEmpty = false)
    (s : St) (rs : List Ver) (nr : Nat) (hs : AvStateN s b rs nr) (rows : List BalanceRow)
    (av : PCV) (hwf : Map.WF av) (habs : ∀ k, avAbs s b l k = av.get? k) :
    ∃ r s', (((P.getBalances b l id rows).flatMap cteStmts).mapM (execStmt (n + 5) env)).exec s = (.ok r, s') ∧
      (∀ k, avAbs s' b l k = (Spec.lockBalances { accountsVolumes := av } (bkOf rows)).accountsVolumes.get? k) ∧
      (∀ l', l' ≠ l → ∀ k, avAbs s' b l' k = avAbs s b l' k) ∧
      (∃ rs' nr', s' = s.withTable (avT b rs' nr') ∧ AvInv (latestView s.w s.xid) rs' nr') := by
  obtain ⟨ins, _, hins, _⟩ := getBalances_query_shape b l id rows
  obtain ⟨hinv', hoth, hspec⟩ := avRunN_sem s.w s.xid s.cid hs.xid hs.cid l rows rs nr hs.inv
  have hT' := withTable_av_table? s b rs (avRunN (latestView s.w s.xid) s.xid s.cid l rows (rs, nr)).1 nr
    (avRunN (latestView s.w s.xid) s.xid s.cid l rows (rs, nr)).2 hs.table
  refine ⟨_, _, by simp only [hins, exec_mapM_cons, exec_mapM_nil, exec_getBalances_cte n env b l id hb s rs nr hs rows ins hins]; rfl,
    fun k => ?_, fun l' hl k => ?_, ⟨_, _, rfl, hinv'⟩⟩
  · rw [avAbs_of_table hT']
    exact hspec av hwf (fun k => by rw [← avAbs_of_table hs.table]; exact habs k) k
  · rw [avAbs_of_table hT', avAbs_of_table hs.table]
    exact hoth l' hl k

/-- General: `GetBalances(keys)` as a whole (see the header). `sorted` are the output rows, `srcRid` their row ids. -/
theorem getBalances_sem (n : Nat) (env : Env) (b l : String) (id : Nat) (keys : List BalanceRow) (hb : b.isEmpty = false)
    (s : St) (rs : List Ver) (nr : Nat) (hs : BalState s b rs nr) :
    ∃ (sorted : List OutRow) (tie : Bool),
      ((P.getBalances b l id keys).mapM (execStmt (n + 8) env)).exec s =
        (.ok [{ rel := { cols := ["accounts_address", "asset", "input", "output"], rows := sorted.map (·.vals) },
                affected := sorted.length }],
         ((s.withTable (avT b (avRunN (latestView s.w s.xid) s.xid s.cid l keys (rs, nr)).1
                              (avRunN (latestView s.w s.xid) s.xid s.cid l keys (rs, nr)).2)).tie tie).withTable
           (avT b (lockRun (latestView s.w s.xid) s.xid s.cid (avRunN (latestView s.w s.xid) s.xid s.cid l keys (rs, nr)).1 (sorted.map srcRid))
                  (avRunN (latestView s.w s.xid) s.xid s.cid l keys (rs, nr)).2)) ∧
      (sorted.map (·.vals)).Perm ((((rs.filter (fun r => r.visible (latestView s.w s.xid))).reverse).filter (fun r => balWanted l keys r.vals)).map
        (fun r => r.vals.drop 1)) ∧
      sorted.Pairwise (fun x y => balCmp (y.vals.take 2) (x.vals.take 2) ≠ .lt) ∧
      (sorted.map srcRid).Perm ((((rs.filter (fun r => r.visible (latestView s.w s.xid))).reverse).filter (fun r => balWanted l keys r.vals)).map (·.rid)) := by
  obtain ⟨ins, cond, hins, hshape, hcond⟩ := getBalances_query_shape b l id keys
  have hcte := exec_getBalances_cte n env b l id hb s rs nr ⟨hs.table, hs.tx.names, hs.tx.solo, hs.tx.xid, hs.tx.cid, hs.inv⟩ keys ins hins
  obtain ⟨hst, hfilt, hsub⟩ := avRunN_live s hs.tx l keys rs nr
    ((⟨hs.ridNodup, hs.fresh, hs.inv.ridLt⟩ : Stored (latestView s.w s.xid) s.xid s.cid nr rs).mono (Nat.le_succ _))
  have hinvR := (avRunN_sem s.w s.xid s.cid hs.tx.xid hs.tx.cid l keys rs nr hs.inv).1
  generalize avRunN (latestView s.w s.xid) s.xid s.cid l keys (rs, nr) = R at hcte hst hfilt hsub hinvR ⊢
  obtain ⟨rs1, nr1⟩ := R
  simp only at hcte hst hfilt hsub hinvR ⊢
  -- the statement's SELECT scans what the transaction read before the statement
  rw [filter_cv_latest s hs.tx rs hs.fresh] at hfilt
  have hs1 : TxState (s.withTable (avT b rs1 nr1)) := hs.tx.withTable _
  have hT1 : (s.withTable (avT b rs1 nr1)).w.table? (avFull b) = some (avT b rs1 nr1) := withTable_av_table? s b rs rs1 nr nr1 hs.table
  obtain ⟨sorted, tie, hsel, hperm, hpw⟩ := exec_getBalances_select (n + 1)
    { env with ctes := ("ins", ({ cols := [], rows := [] } : Rel)) :: env.ctes } b l keys cond hcond hb (s.withTable (avT b rs1 nr1)) hs1
    rs1 nr1 hT1 hinvR.typed
  rw [cv_withTable, hfilt] at hperm
  have hridperm : (sorted.map srcRid).Perm ((((rs.filter (fun r => r.visible (latestView s.w s.xid))).reverse).filter (fun r => balWanted l keys r.vals)).map (·.rid)) := by
    have := hperm.map srcRid
    rw [List.map_map] at this
    exact this
  have hs2 : TxState ((s.withTable (avT b rs1 nr1)).tie tie) := hs1.tie tie
  have hT2 : ((s.withTable (avT b rs1 nr1)).tie tie).w.table? (avFull b) = some ((avT b [] nr1).withRows rs1) := by
    rw [tie_w]; exact hT1
  have hlock := exec_lockLoop (n + 4) { env with ctes := ("ins", ({ cols := [], rows := [] } : Rel)) :: env.ctes }
    (SetExpr.select (Select.mk false [] (balItems.map (fun p => SelItem.expr p.1 p.2)) [FromItem.table b "accounts_volumes" ""]
      (some (P.orChain (keys.map cond))) [] none))
    (avFull b) (avT b [] nr1) ((s.withTable (avT b rs1 nr1)).tie tie) hs2 rs1 hT2 rfl sorted rs1 []
    (by
      intro o ho
      obtain ⟨r, hr, rfl⟩ := List.mem_map.mp ((hperm.mem_iff).mp ho)
      have hr' := List.mem_filter.mp hr
      have hr'' := List.mem_filter.mp (List.mem_reverse.mp hr'.1)
      refine ⟨r, hsub r hr''.1, by simpa using hr''.2, rfl, ?_⟩
      exact ⟨rowScopeOf (avT b rs1 nr1) "accounts_volumes" r, by simp [outRowV], rfl, rfl⟩)
    (by
      apply (List.Perm.nodup_iff hridperm).mpr
      exact List.Nodup.sublist (List.Sublist.map _ List.filter_sublist) (targets_all hs.ridNodup).2)
    (by simpa using hst.ridInj)
  simp only [tie_w, tie_xid, tie_cid, withTable_latestView, withTable_xid, withTable_cid, List.nil_append] at hlock
  rw [withTable_self _ ((avT b [] nr1).withRows rs1) hT2 hs2.names] at hlock
  refine ⟨sorted, tie, ?_, ?_, hpw, hridperm⟩
  · rw [hshape]
    simp only [exec_mapM_cons, exec_mapM_nil]
    rw [execStmt, evalQuery, evalCtes]
    simp only [exec_bind, exec_pure, hcte, List.isEmpty_nil, if_true]
    rw [evalCtes_nil]
    simp only [exec_pure, exec_bind, exec_typeEnv, hsel, evalOpt, applyLimit, hlock]
    erw [hlock]
    simp
    rfl
  · have := hperm.map (·.vals)
    rw [List.map_map] at this
    exact this

/-- What the transaction reads afterwards: the row locks change nothing, the zero rows are `Spec.lockBalances`. -/
theorem getBalances_view (b l : String) (keys : List BalanceRow) (s : St) (rs : List Ver) (nr : Nat) (hs : BalState s b rs nr)
    (rids : List Nat) (av : PCV) (hwf : Map.WF av) (habs : ∀ k, avView (latestView s.w s.xid) rs l k = av.get? k) (k : Key) :
    avView (latestView s.w s.xid)
      (lockRun (latestView s.w s.xid) s.xid s.cid (avRunN (latestView s.w s.xid) s.xid s.cid l keys (rs, nr)).1 rids) l k =
      (Spec.lockBalances { accountsVolumes := av } (bkOf keys)).accountsVolumes.get? k := by
  unfold avView
  rw [avGet_lockRun]
  exact (avRunN_sem s.w s.xid s.cid hs.tx.xid hs.tx.cid l keys rs nr hs.inv).2.2 av hwf habs k

/-! ### BOUNDED REGRESSION OBLIGATIONS (kernel evaluation on concrete worlds; not general theorems) -/

open Ledger.Sql.Run

/-- The bounded obligations of this file, evaluated together: they share the world `w0` and, all but the fourth, the first
    `UpdateVolumes`, and the kernel keeps what it has computed of a closed subterm only within one declaration.
    The examples below state them one by one. -/
theorem bounded_obligations :
    (table (run w0 (on 1 (P.updateVolumes "_default" "l" 1 [⟨"a", "USD", 100, 7⟩, ⟨"b", "EUR", 5, 0⟩] ++
                          P.updateVolumes "_default" "m" 2 [⟨"a", "USD", 9, 9⟩]))).1 "_default.accounts_volumes" =
      [["l", "a", "USD", "100", "7"], ["l", "b", "EUR", "5", "0"], ["m", "a", "USD", "9", "9"]]) ∧
    (((run w0 (on 1 (P.updateVolumes "_default" "l" 1 [⟨"a", "USD", 100, 7⟩, ⟨"b", "EUR", 5, 0⟩] ++
                     P.updateVolumes "_default" "m" 2 [⟨"a", "USD", 9, 9⟩] ++
                     P.getBalances "_default" "l" 1 [⟨"c", "USD"⟩, ⟨"b", "EUR"⟩, ⟨"a", "USD"⟩]))).2.map (·.2)).getLast? =
      some [["a", "USD", "100", "7"], ["b", "EUR", "5", "0"]]) ∧
    (table (run w0 (on 1 (P.updateVolumes "_default" "l" 1 [⟨"a", "USD", 100, 7⟩, ⟨"b", "EUR", 5, 0⟩] ++
                          P.getBalances "_default" "l" 1 [⟨"c", "USD"⟩, ⟨"b", "EUR"⟩, ⟨"a", "USD"⟩]))).1 "_default.accounts_volumes" =
      [["l", "a", "USD", "100", "7"], ["l", "b", "EUR", "5", "0"], ["l", "c", "USD", "0", "0"]]) ∧
    (((run w0 (on 1 (P.getBalances "_default" "l" 1 [⟨"c", "USD"⟩] ++ P.getBalances "_default" "l" 1 [⟨"c", "USD"⟩]))).2.map (·.2)) =
      [[], [["c", "USD", "0", "0"]]]) ∧
    (((run w0 (on 1 (P.updateVolumes "_default" "l" 1 [⟨"a", "USD", 100, 7⟩, ⟨"b", "EUR", 5, 0⟩]) ++
               on 1 ([Stmt.begin] ++ P.getBalances "_default" "l" 1 [⟨"a", "USD"⟩]) ++
               on 2 ([Stmt.begin] ++ P.getBalances "_default" "l" 1 [⟨"b", "EUR"⟩]) ++
               on 3 (P.getBalances "_default" "l" 1 [⟨"a", "USD"⟩]))).2.map (·.1)) =
      ["ok:2", "ok:0", "ok:1", "ok:0", "ok:1", "blocked on row:_default.accounts_volumes:1:xid:2"]) := by
  decide +kernel

/-- a world with volumes for ledger `l` (a/USD, b/EUR) and for ledger `m` (a/USD) -/
example : table (run w0 (on 1 (P.updateVolumes "_default" "l" 1 [⟨"a", "USD", 100, 7⟩, ⟨"b", "EUR", 5, 0⟩] ++
                                P.updateVolumes "_default" "m" 2 [⟨"a", "USD", 9, 9⟩]))).1 "_default.accounts_volumes" =
    [["l", "a", "USD", "100", "7"], ["l", "b", "EUR", "5", "0"], ["m", "a", "USD", "9", "9"]] :=
  bounded_obligations.1

/-- The SELECT returns the requested pairs that had a row BEFORE the statement, of this ledger only,
    ordered by (account, asset) whatever the order of the request; a never-used pair (c/USD) is not
    returned — the statement's snapshot does not see the zero row its own CTE inserts. -/
example : ((run w0 (on 1 (P.updateVolumes "_default" "l" 1 [⟨"a", "USD", 100, 7⟩, ⟨"b", "EUR", 5, 0⟩] ++
                          P.updateVolumes "_default" "m" 2 [⟨"a", "USD", 9, 9⟩] ++
                          P.getBalances "_default" "l" 1 [⟨"c", "USD"⟩, ⟨"b", "EUR"⟩, ⟨"a", "USD"⟩]))).2.map (·.2)).getLast? =
    some [["a", "USD", "100", "7"], ["b", "EUR", "5", "0"]] :=
  bounded_obligations.2.1

/-- … and the zero row is there afterwards (and only that one is new). -/
example : table (run w0 (on 1 (P.updateVolumes "_default" "l" 1 [⟨"a", "USD", 100, 7⟩, ⟨"b", "EUR", 5, 0⟩] ++
                                P.getBalances "_default" "l" 1 [⟨"c", "USD"⟩, ⟨"b", "EUR"⟩, ⟨"a", "USD"⟩]))).1 "_default.accounts_volumes" =
    [["l", "a", "USD", "100", "7"], ["l", "b", "EUR", "5", "0"], ["l", "c", "USD", "0", "0"]] :=
  bounded_obligations.2.2.1

/-- a second call returns the zero row -/
example : ((run w0 (on 1 (P.getBalances "_default" "l" 1 [⟨"c", "USD"⟩] ++ P.getBalances "_default" "l" 1 [⟨"c", "USD"⟩]))).2.map (·.2)) =
    [[], [["c", "USD", "0", "0"]]] :=
  bounded_obligations.2.2.2.1

/-- FOR UPDATE: inside a transaction the returned row stays locked; another session asking for the same
    pair waits (LeanPG answers `blocked`), one asking for another pair does not. -/
example : ((run w0 (on 1 (P.updateVolumes "_default" "l" 1 [⟨"a", "USD", 100, 7⟩, ⟨"b", "EUR", 5, 0⟩]) ++
                    on 1 ([Stmt.begin] ++ P.getBalances "_default" "l" 1 [⟨"a", "USD"⟩]) ++
                    on 2 ([Stmt.begin] ++ P.getBalances "_default" "l" 1 [⟨"b", "EUR"⟩]) ++
                    on 3 (P.getBalances "_default" "l" 1 [⟨"a", "USD"⟩]))).2.map (·.1)) =
    ["ok:2", "ok:0", "ok:1", "ok:0", "ok:1", "blocked on row:_default.accounts_volumes:1:xid:2"] :=
  bounded_obligations.2.2.2.2

end Ledger.C06b
