import Ledger.Proofs.Reads
import Ledger.Props.C21

/-!
C21 (real tables) — cursor pagination enumerates each result exactly once, in order.

Only property theorems and non-vacuity examples.  `Reads.walkPages` cuts the pages of a listing
with the paginator model of `Ledger.Query` (`Query.walkNextCol` / `walkNextOff`); the theorems
instantiate `Ledger.C21`'s `column_pagination_complete` / `offset_pagination_complete` on it:
the concatenated pages are the whole sorted listing, each row exactly once.

Tested (not proved): that the REAL `Paginate` / `BuildCursor` / cursor encode–decode over the real
tables on LeanPG (the MODELLED Postgres) produce exactly these pages for every paginated resource
(transactions and logs by id — column paginator; accounts by address and volumes, grouped or not,
by account — offset paginator), page sizes 1..N+1, both orders, filters, PIT — workload `page`.
-/
namespace Ledger.C21r
open Ledger.Query Ledger.Reads

/-- **Column-paginated listings (numeric / date sort column with unique keys)**: following `next`
    from the first page yields pages whose concatenation is the listing in the requested order,
    for every page size (0 = default 15). -/
theorem pages_concat_eq_list (o : Order) (pageSize : Nat) (T : List Row) (hT : KeysDistinct T) :
    ((walkPages true o pageSize T).1.map (·.tags)).flatten = (orderBy o T).map (·.tag) := by
  unfold walkPages
  simp only [if_true]
  have h := (Ledger.C21.column_pagination_complete () o T hT pageSize (T.length + 2) (by omega)).1
  rw [← h]
  simp only [List.map_map, List.map_flatten]
  congr 1

/-- … and every row appears exactly once. -/
theorem pages_each_once (o : Order) (pageSize : Nat) (T : List Row) (hT : KeysDistinct T) :
    (((walkPages true o pageSize T).1.map (·.tags)).flatten).Perm (T.map (·.tag)) := by
  rw [pages_concat_eq_list o pageSize T hT]
  exact (orderBy_perm o T).map _

/-- **Offset-paginated listings (string sort column: accounts by address, volumes by account)**:
    the same, under *StableTies* (`orderBy` fixes one total order for the whole walk — volumes
    are sorted by account only, ties among the assets of an account included). -/
theorem offset_pages_concat_eq_list (o : Order) (pageSize : Nat) (T : List Row) (hmax : T.length ≤ maxInt32) :
    ((walkPages false o pageSize T).1.map (·.tags)).flatten = (orderBy o T).map (·.tag) := by
  unfold walkPages
  simp only [Bool.false_eq_true, if_false]
  have h := (Ledger.C21.offset_pagination_complete () o T hmax pageSize (T.length + 2) (by omega)).1
  rw [← h]
  simp only [List.map_map, List.map_flatten]
  congr 1

/-- Non-vacuity: five transactions listed by id descending with page size 2: the hypothesis holds
    and the pages concatenate to `5 4 3 2 1` (tags 4 3 2 1 0). -/
example :
    let T : List Row := [⟨1, 0⟩, ⟨2, 1⟩, ⟨3, 2⟩, ⟨4, 3⟩, ⟨5, 4⟩]
    ((walkPages true .desc 2 T).1.map (·.tags)).flatten = [4, 3, 2, 1, 0] := by
  intro T
  have hs : T.Pairwise (fun a b => a.key < b.key) := by decide
  have hd : KeysDistinct T := by unfold KeysDistinct; decide
  rw [pages_concat_eq_list .desc 2 T hd, (Ledger.C21.orderBy_of_sorted T hs).2]
  rfl

end Ledger.C21r
