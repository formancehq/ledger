import Ledger.Proofs.SqlCommit

/-!
C18h — transaction creation in the DEFAULT feature set: TRANSACTION_METADATA_HISTORY = SYNC and ACCOUNT_METADATA_HISTORY = SYNC.

* `accountMetadataHistory_bodies`: the two trigger functions of `Ledger.Generated.Schema` (migration 11, regenerated by `t2_schema`) ARE
  `INSERT INTO accounts_metadata (ledger, accounts_address, revision, date, metadata) VALUES (new.ledger, new.address, <rev>, <date>,
  new.metadata); RETURN new` with `1, new.insertion_date` (AFTER INSERT) and `coalesce((SELECT revision + 1 FROM accounts_metadata WHERE
  accounts_metadata.accounts_address = new.address AND accounts_metadata.ledger = new.ledger ORDER BY revision DESC LIMIT 1), 1),
  new.updated_at` (AFTER UPDATE).
* `accountMetadataRevision_sem`: that revision expression, evaluated by LeanPG (scan, WHERE, projection, ORDER BY … DESC through the merge
  sort, LIMIT 1, lazy COALESCE) on ANY `accounts_metadata` table of well-typed rows: one more than the largest stored revision of the
  account (`NextRev`), or 1.
* `upsertAccounts_hist_sem`: the WHOLE regenerated UpsertAccounts statement on an `accounts` table carrying both triggers for the ledger
  (other ledgers' triggers skipped by their WHEN clause): the rows of C18b, every updated / inserted row queues its trigger, the queue
  is drained at the end of the statement in order (updates, then inserts), each trigger run by the PL/pgSQL interpreter as a nested
  command appending one revision (`amDrainSt`: explicit final state; `amNew`: revision `amRevOf` = `nextRevF` of the stored revisions,
  date `updated_at`, for updates; revision 1, date `insertion_date`, for inserts).
* `commitWithAccounts_hist_sem`, `commitTransaction_default_refines`: UpdateVolumes; InsertTransaction (+ its history trigger, C01h);
  InsertMoves (+ the `moves` triggers); UpsertAccounts (+ both account history triggers), as successive commands of one transaction:
  outcome and explicit final state; refinement of `Spec.applyTx st t` with `t.upsertAccounts = true` (volumes, moves, accounts,
  sequences) exactly as C18f — WITHOUT assuming any feature off. The two history tables are not part of the Spec store; what they
  receive is given by `tmOf` / `amDrainSt`.

Hypotheses (explicit: `CommitStateH`, `CommitAccountsH`, `TxLit`, `MvLit`, `DbLit`, `SeqLit`, `IsMeta`): solo transaction; storage invariants
of the tables; exactly one applicable trigger per (table, event) with the generated body; history tables typed with stored sequence
numbers below their sequences; literals parse; ids / sequence values fit bigint; fewer than 10⁹ command ids.
-/
namespace Ledger.C18h
open Ledger Ledger.Sql Ledger.Generated Ledger.Core Ledger.Base
open Ledger.Generated.WriteSql
open Ledger.Spec

theorem accountMetadataHistory_bodies :
    (Schema.fn_insert_account_metadata_history.body =
        [PlStmt.exec (amInsertStmt (Expr.int 1) (Expr.col "new" "insertion_date")) [], PlStmt.ret (some (Expr.col "" "new"))] ∧
      Schema.fn_insert_account_metadata_history.decls = []) ∧
    (Schema.fn_update_account_metadata_history.body =
        [PlStmt.exec (amInsertStmt amRevExpr (Expr.col "new" "updated_at")) [], PlStmt.ret (some (Expr.col "" "new"))] ∧
      Schema.fn_update_account_metadata_history.decls = []) := ⟨insertAcMeta_body, updateAcMeta_body⟩

theorem accountMetadataRevision_sem (q : Nat) (b : String) (a : AcR) (old : Option AcR) (fd : Bool) (s : St) (hs : TxState s) (hsp : s.searchPath = b)
    (nr : Nat) (rows : List Ver) (hT : s.w.table? (amFull b) = some ((amT b nr).withRows rows))
    (tbl : List AmR) (hview : AmView (cv s) rows tbl) :
    ∃ rv, (evalExpr (cbs (q + 7)) s.w.types (acPlEnv a old fd) amRevExpr).exec s = (.ok (.int rv), s) ∧
      NextRev ((tbl.filter (amCand a)).map (·.revision)) rv :=
  Ledger.Sql.exec_amRevExpr q b a old fd s hs hsp nr rows hT tbl hview

theorem upsertAccounts_hist_sem (k : Nat) (env : Env) (b l : String) (id : Nat) (trigs : List TriggerDef) (nr : Nat) (rows : List Ver)
    (AU1 AU2 : List TriggerDef) (trU : TriggerDef) (AI1 AI2 : List TriggerDef) (trI : TriggerDef) (fnI fnU : PlFunc)
    (nrH : Nat) (rowsH : List Ver) (sqH : Seq) (tblH : List AmR)
    (s : St) (hst : UpsertStateH s b l trigs nr rows AU1 AU2 trU AI1 AI2 trI fnI fnU nrH rowsH sqH tblH) (henv : env.ctes = [])
    (pm : List (P.AccountRow × DbR)) (hlits : ∀ x ∈ pm, DbLit s.w.types x.1 x.2) (hnd : ((pm.map (·.2)).map (·.address)).Nodup)
    (items : List AmItem)
    (hitems : items = acUpdItems l (pm.map (·.2)) ((rows.filter (fun r => r.visible (latestView s.w s.xid))).reverse) ++
      acInsItems l ((pm.map (·.2)).filter (fun d => !(exAddrs b l trigs nr rows (cv s) (pm.map (·.2))).contains d.address)))
    (hnc : s.nextCid + 2 * items.length ≤ 1000000000) (hrange : sqH.next + items.length ≤ 9223372036854775807) :
    ∃ res : DmlResult,
      ((P.upsertAccounts b l id (pm.map (·.1))).mapM (runStmt (k + 19) env)).exec s =
        (.ok [res],
         amDrainSt b s.xid
           (s.withTable ((acT b trigs (nr + ((pm.map (·.2)).filter (fun d => !(exAddrs b l trigs nr rows (cv s) (pm.map (·.2))).contains d.address)).length)).withRows
             (acInsRows s.xid s.cid l nr (acUpdRows (latestView s.w s.xid) s.xid s.cid l (pm.map (·.2)) rows)
               ((pm.map (·.2)).filter (fun d => !(exAddrs b l trigs nr rows (cv s) (pm.map (·.2))).contains d.address)))))
           nrH sqH.next rowsH tblH items) :=
  Ledger.Sql.exec_runStmt_upsertAccounts_hist k env b l id trigs nr rows AU1 AU2 trU AI1 AI2 trI fnI fnU nrH rowsH sqH tblH s hst henv pm hlits hnd items hitems hnc hrange

theorem commitWithAccounts_hist_sem (k : Nat) (env : Env) (henv : env.ctes = []) (b l : String) (id : Nat)
    (rsA : List Ver) (nrA : Nat) (trigsT : List TriggerDef) (nrT : Nat) (rowsT : List Ver) (fullT : String) (sqT : Seq)
    (AT1 AT2 : List TriggerDef) (trAT : TriggerDef) (fAT : PlFunc) (nrH : Nat) (rowsH : List Ver) (sqH : Seq)
    (trigsM : List TriggerDef) (B1 B2 : List TriggerDef) (trB : TriggerDef) (A1 A2 : List TriggerDef) (trA : TriggerDef)
    (item wher dflt_ : Expr) (fB : PlFunc) (setE whereU : Expr) (fA : PlFunc) (nrM : Nat) (rowsM : List Ver) (sqM : Seq) (s : St)
    (hst : CommitStateH s b l rsA nrA trigsT nrT rowsT fullT sqT AT1 AT2 trAT fAT nrH rowsH sqH trigsM B1 B2 trB A1 A2 trA item wher dflt_ fB
      setE whereU fA nrM rowsM sqM)
    -- UpdateVolumes
    (vrows : List P.VolumeRow) (hvne : vrows ≠ []) (hvnd : (vrows.map avKeyOf).Nodup)
    (av : PCV) (hwf : Map.WF av) (habs : ∀ k, avAbs s b l k = av.get? k)
    -- InsertTransaction
    (L : TxLits) (hl : SeqLit (txSeqLit b id) fullT) (x : TxR) (hlit : TxLit s.w.types l L x) (hid : x.id = sqT.next)
    (hi1 : -9223372036854775808 ≤ x.id) (hi2 : x.id ≤ 9223372036854775807)
    (href : ∀ r ∈ rowsT, r.visible (latestView s.w s.xid) = true → ∀ x', r.vals = txVals x' → txConf2 x x' = false)
    -- InsertMoves
    (pm : List (P.MoveRow × Spec.MoveRow)) (hne : pm ≠ []) (hlits : ∀ y ∈ pm, MvLit s.w.types y.1 y.2)
    (hsf : SeqFrom sqM.next (pm.map (·.2))) (hrange : sqM.next + pm.length ≤ 9223372036854775808)
    (T : List Spec.MoveRow) (hT : T.Perm (ledgerMoves l (mvAbs (latestView s.w s.xid) rowsM)))
    (trigsC : List TriggerDef) (nrC : Nat) (rowsC : List Ver)
    (AU1 AU2 : List TriggerDef) (trU : TriggerDef) (AI1 AI2 : List TriggerDef) (trI : TriggerDef) (fnI fnU : PlFunc)
    (nrHA : Nat) (rowsHA : List Ver) (sqHA : Seq) (tblHA : List AmR)
    (hac : CommitAccountsH s b l fullT trigsC nrC rowsC AU1 AU2 trU AI1 AI2 trI fnI fnU nrHA rowsHA sqHA tblHA)
    (am : List (P.AccountRow × DbR)) (halits : ∀ y ∈ am, DbLit s.w.types y.1 y.2) (hand : ((am.map (·.2)).map (·.address)).Nodup)
    (items : List AmItem)
    (hitems : items = acUpdItems l (am.map (·.2)) ((rowsC.filter (fun r => r.visible (latestView s.w s.xid))).reverse) ++
      acInsItems l ((am.map (·.2)).filter (fun d => !hasAccount l (acAbs (latestView s.w s.xid) rowsC) d.address)))
    (hnc : s.nextCid + 6 + 4 * pm.length + 2 * items.length ≤ 1000000000)
    (hrangeA : sqHA.next + items.length ≤ 9223372036854775807) :
    ∃ (rsA' : List Ver) (nrA' : Nat) (rowsM' : List Ver) (seqs' : List Seq) (rowsC' : List Ver) (nC : Nat) (resA : DmlResult) (s' : St),
      (seqRun (k + 19) env (P.updateVolumes b l id vrows ++
          P.insertTransaction b l id L.postings L.metadata L.timestamp L.reference L.inserted_at L.updated_at L.post_commit_volumes
            L.template L.sources L.destinations L.sources_arrays L.destinations_arrays ++
          P.insertMoves b l id (pm.map (·.1)) ++ P.upsertAccounts b l id (am.map (·.1)))).exec s =
        (.ok [{ rel := { cols := ["input", "output"],
                         rows := (Spec.upsertVolumes av (vuOf vrows)).2.map (fun e => [.int e.2.input, .int e.2.output]) },
                affected := vrows.length },
              { rel := { cols := ["id", "timestamp", "inserted_at", "updated_at"],
                         rows := [[.int x.id, .ts x.timestamp, optTs x.insertedAt, .ts x.updatedAt]] }, affected := 1 },
              { rel := { cols := ["post_commit_volumes", "post_commit_effective_volumes"],
                         rows := (Spec.insertedRows T (pm.map (·.2))).map retOf }, affected := pm.length },
              resA], s') ∧
      s' = (amDrainSt b s.xid
              ((((((((s.bump (5 + 4 * pm.length)).withSeqs seqs').withTable (avT b rsA' nrA')).withTable
                ((txT b trigsT (nrT + 1)).withRows (newVer s.xid (s.nextCid + 1) nrT (txVals x) :: rowsT))).withTable
                ((tmT b (nrH + 1)).withRows (newVer s.xid (s.nextCid + 2) nrH (tmVals (tmOf x sqH.next)) :: rowsH))).withTable
                ((mvT b trigsM (nrM + pm.length)).withRows rowsM')).enter).withTable ((acT b trigsC (nrC + nC)).withRows rowsC'))
              nrHA sqHA.next rowsHA tblHA items).withCid s.cid ∧
      AvInv (latestView s.w s.xid) rsA' nrA' ∧
      (∀ key, avView (latestView s.w s.xid) rsA' l key = (Spec.upsertVolumes av (vuOf vrows)).1.get? key) ∧
      (∀ l', l' ≠ l → ∀ key, avView (latestView s.w s.xid) rsA' l' key = avView (latestView s.w s.xid) rsA l' key) ∧
      (ledgerMoves l (mvAbs (latestView s.w s.xid) rowsM')).Perm (Spec.insertMoves T (pm.map (·.2))) ∧
      (∀ l', l' ≠ l → (ledgerMoves l' (mvAbs (latestView s.w s.xid) rowsM')).Perm (ledgerMoves l' (mvAbs (latestView s.w s.xid) rowsM))) ∧
      MvInv (latestView s.w s.xid) (sqM.next + pm.length) rowsM' ∧
      (acAbs (latestView s.w s.xid) rowsC').Perm
        (((am.map (·.2)).filter (fun d => !hasAccount l (acAbs (latestView s.w s.xid) rowsC) d.address)).map (insRow l) ++
          (acAbs (latestView s.w s.xid) rowsC).map (updOf l (am.map (·.2)))) ∧
      AcInv (latestView s.w s.xid) (nrC + nC) rowsC' ∧
      seqs'.find? (·.name == mvSeqFull b) = some { sqM with last := sqM.next + pm.length - 1, called := true } ∧
      seqs'.find? (·.name == fullT) = some { sqT with last := sqT.next, called := true } ∧
      seqs'.find? (·.name == tmSeqFull b) = some { sqH with last := sqH.next, called := true } :=
by
  obtain ⟨_, _, hrun3, h3, _, _, _, ⟨_, _, _, ⟨rsA', nrA', rfl, rfl, hinvA', hav1, hav2⟩, ⟨rfl, rfl⟩, rfl⟩,
      ⟨rowsM', seqs', rfl, rfl, hmv1, hmv2, hmvInv, hseqM, hsq⟩, rfl⟩ :=
    (((step_updateVolumes (k + 12) env id hst.bne hst.avTable hst.avInv hst.avFresh vrows hvne hvnd av hwf habs).seq
        (step_insertTx_hist (k + 7) env id L (hst.txIns (by omega)) hl x hlit hid hi1 hi2 href)).seq
        (step_insertMoves (k + 4) env id hst.mv pm hne hlits hsf hrange T hT)).run hst.tx hst.q0 (by simp)
      (by simpa using ⟨⟨(bucket_ne b (by simp) : mvSeqFull b ≠ tmSeqFull b), hst.seqNe.symm⟩, hst.seqNeH.symm⟩) (by omega)
  obtain ⟨resA, rowsC', nC, hrun4, hpermC, hinvC⟩ := step_upsertAccounts_hist k env henv id hst.bne hac am halits hand items hitems hrangeA h3
    (by simp) (by simp)
    (by simpa using ⟨(bucket_ne b (by simp) : amSeqFull b ≠ mvSeqFull b), (bucket_ne b (by simp) : amSeqFull b ≠ tmSeqFull b), hac.seqNeT⟩)
    (by rw [h3.cid]; omega)
  replace hsq : ∀ other, other ≠ mvSeqFull b → seqs'.find? (·.name == other) =
      (seqsSet (tmSeqFull b) sqH.next (seqsSet fullT sqT.next s.w.seqs)).find? (·.name == other) := hsq
  refine ⟨rsA', nrA', rowsM', seqs', rowsC', nC, resA, _, exec_seqRun_append (k + 19) env _ _ _ _ _ _ _ hrun3 hrun4, ?_, hinvA', hav1, hav2,
    hmv1, hmv2, hmvInv, hpermC, hinvC, hseqM, ?_, ?_⟩
  · rw [state_after3H, show 1 + 3 + (1 + 4 * pm.length) = 5 + 4 * pm.length by omega]
    rfl
  · rw [hsq fullT hst.seqNe, find_seqsSet_ne (tmSeqFull b) fullT sqH.next hst.seqNeH]
    exact find_seqsSet _ _ _ _ hst.txSeq
  · rw [hsq (tmSeqFull b) (bucket_ne b (by simp))]
    exact find_seqsSet _ _ _ _ ((find_seqsSet_ne fullT (tmSeqFull b) sqT.next (fun e => hst.seqNeH e.symm) _).trans hst.histSeq)

theorem commitTransaction_default_refines (k : Nat) (env : Env) (henv : env.ctes = []) (b l : String) (id : Nat)
    (rsA : List Ver) (nrA : Nat) (trigsT : List TriggerDef) (nrT : Nat) (rowsT : List Ver) (fullT : String) (sqT : Seq)
    (AT1 AT2 : List TriggerDef) (trAT : TriggerDef) (fAT : PlFunc) (nrH : Nat) (rowsH : List Ver) (sqH : Seq)
    (trigsM : List TriggerDef) (B1 B2 : List TriggerDef) (trB : TriggerDef) (A1 A2 : List TriggerDef) (trA : TriggerDef)
    (item wher dflt_ : Expr) (fB : PlFunc) (setE whereU : Expr) (fA : PlFunc) (nrM : Nat) (rowsM : List Ver) (sqM : Seq)
    (trigsC : List TriggerDef) (nrC : Nat) (rowsC : List Ver)
    (AU1 AU2 : List TriggerDef) (trU : TriggerDef) (AI1 AI2 : List TriggerDef) (trI : TriggerDef) (fnI fnU : PlFunc)
    (nrHA : Nat) (rowsHA : List Ver) (sqHA : Seq) (tblHA : List AmR) (s : St)
    (hst : CommitStateH s b l rsA nrA trigsT nrT rowsT fullT sqT AT1 AT2 trAT fAT nrH rowsH sqH trigsM B1 B2 trB A1 A2 trA item wher dflt_ fB
      setE whereU fA nrM rowsM sqM)
    (hac : CommitAccountsH s b l fullT trigsC nrC rowsC AU1 AU2 trU AI1 AI2 trI fnI fnU nrHA rowsHA sqHA tblHA)
    -- the Spec store the state abstracts to
    (st st' : Spec.Store) (t : Spec.TxIn) (hup : t.upsertAccounts = true) (happly : Spec.applyTx st t = .ok st')
    (hwf : Map.WF st.accountsVolumes) (habsA : ∀ key, avAbs s b l key = st.accountsVolumes.get? key)
    (habsM : st.moves.Perm (ledgerMoves l (mvAbs (latestView s.w s.xid) rowsM)))
    (habsC : AcAbsTo l (acAbs (latestView s.w s.xid) rowsC) st.accounts)
    (hmetaC : ∀ a ∈ acAbs (latestView s.w s.xid) rowsC, IsMeta a.md)
    (hidT : (st.nextTxId : Int) = sqT.next) (hidM : (st.nextSeq : Int) = sqM.next)
    -- what the Go layer passes
    (vrows : List P.VolumeRow) (hvu : vuOf vrows = volumeUpdates t.postings) (hvne : vrows ≠ []) (hvnd : (vrows.map avKeyOf).Nodup)
    (L : TxLits) (hl : SeqLit (txSeqLit b id) fullT) (x : TxR) (hlit : TxLit s.w.types l L x) (hid : x.id = st.nextTxId)
    (hidR : (st.nextTxId : Int) ≤ 9223372036854775807)
    (href : ∀ r ∈ rowsT, r.visible (latestView s.w s.xid) = true → ∀ x', r.vals = txVals x' → txConf2 x x' = false)
    (pm : List (P.MoveRow × Spec.MoveRow)) (hne : pm ≠ []) (hlits : ∀ y ∈ pm, MvLit s.w.types y.1 y.2)
    (hpm : ∀ ms, movesOf (Spec.upsertVolumes st.accountsVolumes (volumeUpdates t.postings)).2 t.postings = .ok ms →
      pm.map (·.2) = toRows st.nextSeq st.nextTxId t.insertedAt t.timestamp ms)
    (hrange : sqM.next + pm.length ≤ 9223372036854775808)
    (am : List (P.AccountRow × DbR)) (halits : ∀ y ∈ am, DbLit s.w.types y.1 y.2) (hand : ((am.map (·.2)).map (·.address)).Nodup)
    (hbatch : (am.map (·.2)).map (fun d => (d.address, metaOfJV d.md)) = acctBatch t)
    (hdmeta : ∀ d ∈ am.map (·.2), IsMeta d.md ∧ d.dm = JV.obj [])
    (hdates : ∀ d ∈ am.map (·.2), d.fu = t.timestamp ∧ d.ins = t.insertedAt ∧ d.upd = t.insertedAt)
    (items : List AmItem)
    (hitems : items = acUpdItems l (am.map (·.2)) ((rowsC.filter (fun r => r.visible (latestView s.w s.xid))).reverse) ++
      acInsItems l ((am.map (·.2)).filter (fun d => !hasAccount l (acAbs (latestView s.w s.xid) rowsC) d.address)))
    (hnc : s.nextCid + 6 + 4 * pm.length + 2 * items.length ≤ 1000000000)
    (hrangeA : sqHA.next + items.length ≤ 9223372036854775807) :
    ∃ (rsA' : List Ver) (nrA' : Nat) (rowsM' : List Ver) (seqs' : List Seq) (rowsC' : List Ver) (nC : Nat) (res : List DmlResult),
      (seqRun (k + 19) env (P.updateVolumes b l id vrows ++
          P.insertTransaction b l id L.postings L.metadata L.timestamp L.reference L.inserted_at L.updated_at L.post_commit_volumes
            L.template L.sources L.destinations L.sources_arrays L.destinations_arrays ++
          P.insertMoves b l id (pm.map (·.1)) ++ P.upsertAccounts b l id (am.map (·.1)))).exec s =
        (.ok res, (amDrainSt b s.xid
              ((((((((s.bump (5 + 4 * pm.length)).withSeqs seqs').withTable (avT b rsA' nrA')).withTable
                ((txT b trigsT (nrT + 1)).withRows (newVer s.xid (s.nextCid + 1) nrT (txVals x) :: rowsT))).withTable
                ((tmT b (nrH + 1)).withRows (newVer s.xid (s.nextCid + 2) nrH (tmVals (tmOf x sqH.next)) :: rowsH))).withTable
                ((mvT b trigsM (nrM + pm.length)).withRows rowsM')).enter).withTable ((acT b trigsC (nrC + nC)).withRows rowsC'))
              nrHA sqHA.next rowsHA tblHA items).withCid s.cid) ∧
      (∀ key, avView (latestView s.w s.xid) rsA' l key = st'.accountsVolumes.get? key) ∧
      (∀ l', l' ≠ l → ∀ key, avView (latestView s.w s.xid) rsA' l' key = avView (latestView s.w s.xid) rsA l' key) ∧
      (ledgerMoves l (mvAbs (latestView s.w s.xid) rowsM')).Perm st'.moves ∧
      (∀ l', l' ≠ l → (ledgerMoves l' (mvAbs (latestView s.w s.xid) rowsM')).Perm (ledgerMoves l' (mvAbs (latestView s.w s.xid) rowsM))) ∧
      AcAbsTo l (acAbs (latestView s.w s.xid) rowsC') st'.accounts ∧
      AvInv (latestView s.w s.xid) rsA' nrA' ∧ MvInv (latestView s.w s.xid) (st'.nextSeq : Int) rowsM' ∧
      AcInv (latestView s.w s.xid) (nrC + nC) rowsC' ∧
      (∃ sq', seqs'.find? (·.name == mvSeqFull b) = some sq' ∧ sq'.next = (st'.nextSeq : Int)) ∧
      (∃ sq', seqs'.find? (·.name == fullT) = some sq' ∧ sq'.next = (st'.nextTxId : Int)) :=
by
  obtain ⟨hsf, hspec⟩ := applyTx_of_sql happly (l := l) hvu hpm hidT hidM
  obtain ⟨rsA', nrA', rowsM', seqs', rowsC', nC, resA, _, hrun, rfl, hinvA, hav1, hav2, hmv1, hmv2, hmvInv, hpermC, hinvC, hsM, hsT, _⟩ :=
    commitWithAccounts_hist_sem k env henv b l id rsA nrA trigsT nrT rowsT fullT sqT AT1 AT2 trAT fAT nrH rowsH sqH trigsM B1 B2 trB A1 A2 trA
      item wher dflt_ fB setE whereU fA nrM rowsM sqM s hst vrows hvne hvnd st.accountsVolumes hwf habsA L hl x hlit
      (by rw [hid]; exact hidT) (by rw [hid]; omega) (by rw [hid]; exact hidR) href pm hne hlits hsf hrange st.moves habsM
      trigsC nrC rowsC AU1 AU2 trU AI1 AI2 trI fnI fnU nrHA rowsHA sqHA tblHA hac am halits hand items hitems hnc hrangeA
  obtain ⟨hA, hM, hI, hsM', hsT'⟩ := hspec hav1 hmv1 hmvInv hsM hsT
  exact ⟨rsA', nrA', rowsM', seqs', rowsC', nC, _, hrun, hA, hav2, hM, hmv2,
    applyTx_accounts_of_sql happly hup habsC (acAbs_keys_nodup _ _ _ hinvC) hpermC hand hmetaC hbatch hdmeta hdates,
    hinvA, hI, hinvC, hsM', hsT'⟩

end Ledger.C18h
