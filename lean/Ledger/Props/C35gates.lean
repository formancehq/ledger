import Ledger.Proofs.Gates

/-!
C35 (feature gates of reads) — theorem over the REGENERATED read-shape matrix
(`Ledger.Generated.readShapeCodes`, rebuilt from /repo on every run by
`tools/t1_readshapes`: the real store read paths rendered over a recording
driver for every resource × call × PIT/OOT × date mode × expand × filter ×
feature set × alone-in-bucket).  The quantifier is a finite table regenerated
from the source, so `decide +kernel` over the whole table (one evaluation for the
three gates, `every_read_ok` in `Proofs/Gates.lean`, of which this theorem is a
component) is a proof about the current tree, not a sample.
-/
namespace Ledger.C35gates
open Ledger.Gates Ledger.Generated Ledger.GatesProps

/-- Every rendered read either does not need a disabled feature, or was rejected
    with the missing-feature error naming a feature that is off. -/
theorem every_read_features_ok :
    ∀ c ∈ readShapeCodes, (Shape.ofCode c).featuresOk = true :=
  fun c hc => ((Shape.ok_iff _).1 (every_read_ok c hc)).1

/-- Non-vacuity: the matrix contains rendered moves-reading shapes and rejected ones. -/
example : 40 ≤ readShapeChunks.length ∧
    (readShapeChunks.any fun ch => ch.any fun c => (Shape.ofCode c).err == .ok && (Shape.ofCode c).tMoves) = true ∧
    (readShapeChunks.any fun ch => ch.any fun c => (Shape.ofCode c).err == .missingPCEV) = true ∧
    (readShapeChunks.any fun ch => ch.any fun c => (Shape.ofCode c).err == .missingMH) = true := by
  decide +kernel

end Ledger.C35gates
