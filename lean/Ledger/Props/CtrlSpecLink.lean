import Ledger.Proofs.CtrlSpecLink
import Ledger.Proofs.CtrlListed
import Ledger.Proofs.CtrlExamples

/-!
# Link: controller model → abstract reference store (`Ledger/Spec`)

The controller model (`Ledger/Ctrl`) is verified against its own store contract
(`Ledger/Ctrl/Store.lean`); the ledger algebra (C01–C04, C15, C18) is proved about the
abstract reference store `Spec.Store` (`Ledger/Spec/Store.lean`), which the regenerated
SQL statements are shown to refine (`Ledger.C01e.commitTransaction_refines`).  This
file proves that the two stores are the same thing on the shared tables:

* `abs : Ctrl.State → Spec.Store` (`Ledger/Ctrl/SpecLink.lean`): `accounts_volumes`,
  `transactions` with their post-commit volumes, `accounts`; the next transaction id is
  the next value of the gap-leaving sequence; `moves` is not part of the controller's
  contract (left empty: statements about moves stay at the Spec / SQL level);
* call by call: `CommitTransaction` = `Spec.applyTx` (accounts upserted separately,
  `upsertAccounts := false` — the form the SQL refinement theorem is about), the balance
  locks of `GetBalances` = `Spec.lockBalances`, the reverted mark = `Spec.markReverted`;
* hence the Spec invariant `StoreInv` holds in every state the controller model reaches
  — after failing, dry-run, idempotent, faulted and retried operations alike — and C01,
  C02, C03 transfer to controller histories.
-/
namespace Ledger.CtrlSpecLink
open Ledger.Ctrl Ledger.Core Ledger.Base Ledger.Ctrl.Examples

/-- **`CommitTransaction` of the controller's store contract refines `Spec.applyTx`**:
    for the commits the write path issues (id from the sequence, not born reverted), on
    tables with a key-sorted `accounts_volumes`, the Spec store accepts the same
    transaction and ends with the same `accounts_volumes`, the same `transactions`
    (new row: same id, dates, reference, metadata, post-commit volumes), the same
    `accounts` and the same next id. -/
theorem ctrl_commit_refines_spec (now : Time) (t : TxIn) (ht : t.id = none) (htr : t.revertedAt = none)
    (d : Db) (sq sq' : Seqs) (row : Ledger.Ctrl.Tx) (d' : Db) (hw : Map.WF d.volumes)
    (h : commitTransaction now t d sq = (sq', .ok (row, d'))) :
    ∃ st', Spec.applyTx (abs ⟨d, sq⟩) (specTxIn now t) = .ok st' ∧
      st'.accountsVolumes = (abs ⟨d', sq'⟩).accountsVolumes ∧ st'.txs = (abs ⟨d', sq'⟩).txs ∧
      st'.accounts = (abs ⟨d', sq'⟩).accounts ∧ st'.nextTxId = (abs ⟨d', sq'⟩).nextTxId :=
  commit_refines now t ht htr d sq sq' row d' hw h

/-- The table and the `RETURNING` rows of `UpdateVolumes` are the Spec's `upsertVolumes`. -/
theorem ctrl_updateVolumes_eq_spec (ups v : PCV) (hw : Map.WF v) (hu : Map.WF ups) :
    updateVolumes ups v = ((Spec.upsertVolumes v ups).2, (Spec.upsertVolumes v ups).1) :=
  updateVolumes_eq_upsertVolumes ups v hw hu

/-- **`GetBalances` (`INSERT (0,0) ON CONFLICT DO NOTHING` + lock) refines
    `Spec.lockBalances`** — equality of the whole abstracted store. -/
theorem ctrl_lock_refines_spec (q : List Key) (d : Db) (sq : Seqs) (hw : Map.WF d.volumes) :
    abs ⟨(getBalances q d).2, sq⟩ = Spec.lockBalances (abs ⟨d, sq⟩) q :=
  lock_refines q d sq hw

/-- **The reverted mark of `RevertTransaction` refines `Spec.markReverted`** — equality
    of the whole abstracted store, on tables with distinct transaction ids (an invariant
    of the controller's histories, `Ledger.Ctrl.Inv.txSorted`). -/
theorem ctrl_revert_refines_spec (now : Time) (id : Nat) (at_ : Option Time) (d : Db) (sq : Seqs)
    (t' : Ledger.Ctrl.Tx) (d' : Db) (hs : d.txs.Pairwise (fun a b => a.id < b.id))
    (h : revertTransaction now id at_ d = .ok ((t', true), d')) :
    abs ⟨d', sq⟩ = Spec.markReverted (abs ⟨d, sq⟩) id (at_.getD now) :=
  revert_refines hs h

/-- The Spec invariant (`Ledger.Spec.StoreInv`: key-sorted volumes, C02, C03, C01) holds
    in every state the controller model reaches from the empty ledger, whatever failed,
    was retried, dry-run or answered from the idempotency record on the way. -/
theorem spec_invariant_along_controller_histories (strict : Bool) (ops : List Op) :
    Spec.StoreInv (abs (runHist strict {} ops)) :=
  (storeInv_stable strict).runHist {} ops StoreInv_abs_empty

/-- …and it is preserved by one more operation under any fault plan. -/
theorem spec_invariant_step (strict : Bool) (s : State) (op : Op) (f : Faults) (cf : Bool)
    (inv : Spec.StoreInv (abs s)) : Spec.StoreInv (abs (stepF strict s op f cf).1) :=
  (storeInv_stable strict).forgeLog op f cf s inv

/-- **C01 along controller histories**: the balances (`input − output`) of the
    `accounts_volumes` rows of each asset sum to zero. -/
theorem conservation_along_controller_histories (strict : Bool) (ops : List Op) (asset : String) :
    Spec.netIn asset (runHist strict {} ops).db.volumes = 0 :=
  (spec_invariant_along_controller_histories strict ops).net asset

/-- **C02 along controller histories**: every `accounts_volumes` row holds the fold of
    the committed postings (Σ crediting, Σ debiting); no row means the fold is `(0,0)`. -/
theorem volumes_eq_fold_along_controller_histories (strict : Bool) (ops : List Op) (k : Key) :
    (runHist strict {} ops).db.volumes.get? k = some (Spec.volumesOf (recsOf (runHist strict {} ops).db) k) ∨
    ((runHist strict {} ops).db.volumes.get? k = none ∧
      Spec.volumesOf (recsOf (runHist strict {} ops).db) k = Volumes.zero) := by
  have inv := spec_invariant_along_controller_histories strict ops
  have hrec : (abs (runHist strict {} ops)).txRecs = recsOf (runHist strict {} ops).db := by
    simp only [Spec.Store.txRecs, abs, recsOf, List.map_map]; rfl
  rcases inv.av k with h1 | ⟨h1, h2⟩
  · left; rw [← hrec]; exact h1
  · right; rw [← hrec]; exact ⟨h1, Spec.foldVolumes_untouched h2⟩

/-- **C03 along controller histories**: the post-commit volumes stored with the `i`-th
    transaction are, for the pairs it touches, the fold of transactions `0..i`. -/
theorem pcv_is_state_after_along_controller_histories (strict : Bool) (ops : List Op)
    (i : Nat) (hi : i < (runHist strict {} ops).db.txs.length) (k : Key) :
    ((runHist strict {} ops).db.txs[i]).pcv.get? k =
      if Spec.touches k ((runHist strict {} ops).db.txs[i]).postings
      then some (Spec.volumesOf ((recsOf (runHist strict {} ops).db).take (i + 1)) k) else none := by
  have inv := spec_invariant_along_controller_histories strict ops
  have hrec : (abs (runHist strict {} ops)).txRecs = recsOf (runHist strict {} ops).db := by
    simp only [Spec.Store.txRecs, abs, recsOf, List.map_map]; rfl
  have hi' : i < (abs (runHist strict {} ops)).txs.length := by simpa [abs] using hi
  have := inv.pcv i hi' k
  simp only [abs, List.getElem_map, absTx] at this
  rw [← hrec]
  exact this

/-- `accounts_volumes` stays key-sorted along controller histories. -/
theorem volumes_wf_along_controller_histories (strict : Bool) (ops : List Op) :
    Map.WF (runHist strict {} ops).db.volumes :=
  (spec_invariant_along_controller_histories strict ops).wf

/-- **C18 along controller histories** (`Ledger.C18store.accounts_follow_history` transferred):
    the `(first_usage, insertion_date)` of every account row — and its absence — is the Spec's
    fold `datesOfOps` over the store operations the journal stands for (`specOpsOf`: a new
    transaction upserts the accounts it involves, a revert does not, an account metadata
    save creates the account when absent). -/
theorem accounts_follow_history_along_controller_histories (strict : Bool) (ops : List Op) (a : String) :
    datesOfRow (runHist strict {} ops).db.accounts a =
      Spec.datesOfOps (specOpsOf (runHist strict {} ops).db.logs) a :=
  accounts_follow_spec _ (runHist_view strict ops) a

/-- An account is listed iff some journal entry stands for a store operation touching it
    (a committed non-revert transaction involving it, or metadata saved on it). -/
theorem account_listed_iff_along_controller_histories (strict : Bool) (ops : List Op) (a : String) :
    ((runHist strict {} ops).db.accounts.get? a).isSome = true ↔
      ∃ o ∈ specOpsOf (runHist strict {} ops).db.logs, o.touches a = true := by
  rw [← projAccounts_listed,
    show projAccounts _ = (specOf _).accounts from (congrArg SpecSt.accounts (runHist_view strict ops)).symm]
  exact specOf_listed_ops _ a

/-- `first_usage` of a row is at or below the timestamp of every journal transaction that
    upserts its accounts and involves the account, and it is attained — by one of those
    transactions or by the date of the metadata save that created the account
    (`Ledger.C18store.first_usage_is_min_partial` transferred; reverts do not upsert
    their accounts: the known finding `C18:first-usage-not-earliest-effective-timestamp`). -/
theorem first_usage_is_min_along_controller_histories (strict : Bool) (ops : List Op) (a : String)
    (r : Account) (hr : (runHist strict {} ops).db.accounts.get? a = some r) :
    (∀ t, Spec.StoreOp.commit t ∈ specOpsOf (runHist strict {} ops).db.logs → t.involves a = true →
        r.firstUsage ≤ t.timestamp) ∧
    ((∃ t, Spec.StoreOp.commit t ∈ specOpsOf (runHist strict {} ops).db.logs ∧ t.involves a = true ∧
        t.timestamp = r.firstUsage) ∨
     (∃ md, Spec.StoreOp.saveAccountMeta a r.firstUsage md ∈ specOpsOf (runHist strict {} ops).db.logs)) :=
  Spec.firstUsage_min_of_dates a _ r.firstUsage r.insertionDate
    (by rw [← accounts_follow_history_along_controller_histories strict ops a, datesOfRow, hr]; rfl)

/-- One row of the controller contract's `UpsertAccounts` moves the dates of the
    addressed account as the Spec's `upsertAccount` does (`stepDates`), and no other row. -/
theorem ctrl_upsertAccount_dates (now ts ins : Time) (accounts : Map String Account) (a : String) (m D : Meta) (b : String) :
    datesOfRow (upsertAccount now accounts { address := a, metadata := m, firstUsage := some ts, insertionDate := some ins, updatedAt := some ins, defaults := D }) b =
      if b = a then Spec.stepDates ts ins (datesOfRow accounts a) else datesOfRow accounts b := by
  rw [datesOfRow_eq_datesS, touch_step, touchWith_dates, ← datesOfRow_eq_datesS, ← datesOfRow_eq_datesS]

/-! non-vacuity -/
example : datesOfRow (runHist true {} histSafe).db.accounts "users:001" = some (20, 20) ∧
    Spec.datesOfOps (specOpsOf (runHist true {} histSafe).db.logs) "users:001" = some (20, 20) := by decide +kernel
example : Spec.netIn "USD" (runHist true {} histSafe).db.volumes = 0 ∧ (runHist true {} histSafe).db.volumes.length = 3 := by
  decide +kernel
example : ((runHist true {} histSafe).db.txs.map (·.pcv.length)) = [2, 2, 2] := by decide +kernel

end Ledger.CtrlSpecLink
