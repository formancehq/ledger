import Ledger.Proofs.ReadsTxMeta

/-!
C17 (read path) — metadata reads reflect the latest write, history reflects the past.

Only property theorems and non-vacuity examples.  `accountMetaRead` / `txMetaRead`
(`Reads/Views.lean`) are the metadata a read at `pit` returns: the current metadata when no point in
time is given or the `*_METADATA_HISTORY` feature is not SYNC, otherwise the metadata of the latest
revision of `accounts_metadata` / `transactions_metadata` dated at or before `pit`, where the
revisions are the fold `acctRowOf` / `txRowOf` of the triggers of migration 11 over the journal.

Tested (not proved): that the real PIT reads over LeanPG (the MODELLED Postgres, which executes the
regenerated triggers) return exactly these values — workload `meta` of `vrreads`, all four
feature combinations.

FOUND AND REPAIRED (fix 2c0d233, exhibited by workload `meta` on the real code over LeanPG): before
it `DeleteAccountMetadata` did not touch `updated_at`, so the history trigger stamped the post-delete
revision with the date of the *previous* write and a read at `t` between that write and the delete
already showed the key deleted — kept as `account_meta_delete_backdated_counterexample` about the
explicitly parameterised `DeleteVariant.preFix`.
-/
namespace Ledger.C17r
open Ledger.Base Ledger.Core Ledger.Spec Ledger.Reads

/-- **History DISABLED ⇒ a read at any `t` returns the current metadata** (accounts). -/
theorem meta_at_t_disabled_is_current (feat : Features) (l : Ledger) (a : String) (pit : Option Int)
    (h : feat.acctMetaHist = false) :
    accountMetaRead feat l a pit = metaAt l (.account a) none := by
  unfold accountMetaRead accountMetaReadV
  cases pit <;> simp [h]

/-- The same for transactions. -/
theorem tx_meta_at_t_disabled_is_current (feat : Features) (l : Ledger) (id : Nat) (pit : Option Int)
    (h : feat.txMetaHist = false) :
    txMetaRead feat l id pit = metaAt l (.tx id) none := by
  unfold txMetaRead
  cases pit <;> simp [h]

/-- Without a point in time every read returns the current metadata, whatever the features. -/
theorem meta_no_pit_is_current (feat : Features) (l : Ledger) (a : String) (id : Nat) :
    accountMetaRead feat l a none = metaAt l (.account a) none ∧
    txMetaRead feat l id none = metaAt l (.tx id) none := ⟨rfl, rfl⟩

/-- **History SYNC ⇒ a read at `t` returns the latest revision dated ≤ t** (accounts / transactions). -/
theorem meta_at_t_sync_latest_revision (feat : Features) (l : Ledger) (a : String) (t : Int) (r : AcctRow)
    (h : feat.acctMetaHist = true) (hr : acctRowOf l a = some r) :
    accountMetaRead feat l a (some t) = revisionAt r.revisions t := by
  unfold accountMetaRead accountMetaReadV
  unfold acctRowOf at hr
  simp [h, hr]

theorem tx_meta_at_t_sync_latest_revision (feat : Features) (l : Ledger) (id : Nat) (t : Int) (r : Reads.TxRow)
    (h : feat.txMetaHist = true) (hr : txRowOf l id = some r) :
    txMetaRead feat l id (some t) = revisionAt r.revisions t := by
  unfold txMetaRead
  simp [h, hr]

/-- A write that appends the revision `(d, m)` is seen by exactly the reads at `t ≥ d`; earlier
    reads keep seeing the past. -/
theorem revision_lookup_append (revs : List Revision) (d : Int) (m : Metadata) (t : Int) :
    revisionAt (revs ++ [(d, m)]) t = if d ≤ t then m else revisionAt revs t :=
  revisionAt_append revs d m t

/-- **History SYNC ⇒ a read at `t` returns the metadata as it was at `t`** (accounts), for every
    journal in date order (dates may repeat; back-dated and future-dated *timestamps* are
    unrestricted — only the write dates are ordered, as a sequential history produces them), every
    account, every instant: the latest revision dated ≤ t carries exactly the Spec's fold of the
    writes dated ≤ t — metadata carried by transactions, saves, deletes, no-op saves (no new
    revision), first-usage-only updates (a revision with unchanged metadata) included. -/
theorem meta_at_t_sync (feat : Features) (l : Ledger) (a : String) (t : Int) (h : feat.acctMetaHist = true)
    (hc : Chrono l.events) (hrev : RevertsCarryNoMeta a l.events) :
    accountMetaRead feat l a (some t) = metaAt l (.account a) (some t) := by
  obtain ⟨lb, _, _, hk⟩ := AcctInv_journal t l a hc hrev
  unfold acctRowOf at hk
  unfold accountMetaRead accountMetaReadV
  simp only [h, if_true]
  cases hrow : acctRowOfV .current l a with
  | none => rw [hrow] at hk; exact hk.2.symm
  | some r => rw [hrow] at hk; exact hk.2.1

/-- … and the current metadata of the row is the fold of all writes (last write wins per key,
    deleted keys removed). -/
theorem current_meta_eq_fold (l : Ledger) (a : String) (r : AcctRow)
    (hc : Chrono l.events) (hrev : RevertsCarryNoMeta a l.events) (hr : acctRowOf l a = some r) :
    r.metadata = metaAt l (.account a) none := by
  obtain ⟨lb, _, _, hk⟩ := AcctInv_journal 0 l a hc hrev
  rw [hr] at hk
  exact hk.1

/-- **Transactions, history SYNC ⇒ the read at `t` is the Spec's `metaAt`** (the highest
    `transactions_metadata` revision dated ≤ t: revision 1 dated by the transaction's timestamp,
    later ones — changing saves, deletes of existing keys, reverts — by the write's date), for
    every journal in which the transaction is committed once, before any write on it, with JSON
    objects as metadata (`TxJournalOK`); no ordering of the dates is assumed. The SQL predicates
    `not (metadata @> m)` / `metadata -> key is not null` that decide whether a revision is written
    are shown equivalent to "the metadata changed". -/
theorem tx_meta_at_t_sync (feat : Features) (l : Ledger) (id : Nat) (t : Int)
    (h : feat.txMetaHist = true) (hok : TxJournalOK id false l.events) :
    txMetaRead feat l id (some t) = metaAt l (.tx id) (some t) :=
  txMetaRead_eq_metaAt feat l id t h hok

/-- Non-vacuity: the hypothesis holds on a journal with a back-dated commit, a save, a no-op save, a
    delete and a revert. -/
example : TxJournalOK 1 false [
    .committed { id := 1, postings := [⟨"world", "a", 1, "USD"⟩], timestamp := 2, insertedAt := 5, metadata := [("k", "v")] } [] true,
    .metaWrite ⟨.tx 1, 10, .save [("x", "y")]⟩, .metaWrite ⟨.tx 1, 11, .save [("x", "y")]⟩,
    .metaWrite ⟨.tx 1, 20, .delete "k"⟩, .reverted 1 30] := by
  simp [TxJournalOK, Map.WF]

/-- **Counterexample (code before fix 2c0d233) to "a read at time t returns the metadata as it was
    at t"** for accounts with history SYNC: `k` saved at 10, deleted at 20; the read at 15 already
    misses `k`, because the delete did not move `updated_at` and its revision was stamped 10. -/
theorem account_meta_delete_backdated_counterexample :
    ∃ (l : Ledger) (a : String) (t : Int),
      accountMetaReadV .preFix { acctMetaHist := true } l a (some t) ≠ metaAt l (.account a) (some t) :=
  ⟨{ events := [.metaWrite ⟨.account "a", 10, .save [("k", "v")]⟩, .metaWrite ⟨.account "a", 20, .delete "k"⟩] },
   "a", 15, by decide⟩

/-- The same journal before and after the fix: `{}` at 15 before, `{k: v}` after — equal to the
    Spec's fold at 15. -/
example :
    let l : Ledger := { events := [.metaWrite ⟨.account "a", 10, .save [("k", "v")]⟩,
                                    .metaWrite ⟨.account "a", 20, .delete "k"⟩] }
    (accountMetaReadV .preFix {} l "a" (some 15), accountMetaRead {} l "a" (some 15), metaAt l (.account "a") (some 15),
     accountMetaRead {} l "a" (some 9), accountMetaRead {} l "a" (some 20)) =
    ([], [("k", "v")], [("k", "v")], [], []) := by decide

/-- Transactions: the delete moves `updated_at`, so the history is faithful. -/
example :
    let l : Ledger := { events := [
      .committed { id := 1, postings := [⟨"world", "a", 1, "USD"⟩], timestamp := 5, insertedAt := 5, metadata := [("k", "v")] } [] true,
      .metaWrite ⟨.tx 1, 10, .save [("x", "y")]⟩, .metaWrite ⟨.tx 1, 20, .delete "k"⟩] }
    (txMetaRead {} l 1 (some 5), txMetaRead {} l 1 (some 15), txMetaRead {} l 1 (some 20)) =
    ([("k", "v")], [("k", "v"), ("x", "y")], [("x", "y")]) := by decide

end Ledger.C17r
