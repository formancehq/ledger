import Ledger.Proofs.WrapStack
import Ledger.Proofs.WrapSpec

/-!
C31 — Events are published exactly for committed writes, after commit.

The model is `Ledger/Wrap/{Trace,Events,Stack,Discipline}.lean`: `ControllerWithEvents`
(`handleEvent`, the write methods, `BeginTX`, `LockLedger`, `Commit`, `Rollback`),
the state tracker's `handleState` and the sequential `Bulker.Run` on top of it,
over a model of the scripted fake controller; tied to the real code by the
`events` correspondence workload (global trace equality).

`c31Ok` is the decidable predicate on a global trace (`Ledger/Wrap/Trace.lean`):
the specification fold `Spec` computes from the underlying calls alone which
writes are durable (outside a transaction: at once; inside: when the outermost
enclosing transaction commits; never for failed, dry-run, rolled-back or
commit-failed writes) and checks every listener call against it.

`St.lockTx` is how `LockLedger` sets `hasTx` on the wrapper it returns: the code
is `lockHasTx` (keeps the receiver's flag, since commit 79c17ec); the snapshot
originally dropped it (`lockHasTxBuggy`), which is what `events_counterexample`
is about.
-/
namespace Ledger.C31
open Ledger.Wrap List

/-- **Meaning of the predicate, part 1 (after commit, only for durable writes).**
    On a trace accepted by `c31Ok`, at the moment of each listener call the write it
    describes is durable — made outside any transaction, or the outermost
    transaction containing it has committed — and has been published fewer times
    than it is durable. -/
theorem publish_only_when_durable (tr pre rest : List Item) (k : Kind) (w : Nat)
    (hok : c31Ok tr = true) (hsplit : tr = pre ++ .publish k w :: rest) :
    (specOf pre).pub.count (k, w) < (specOf pre).dur.count (k, w) := by
  by_contra hlt
  have hbad : ((specOf pre).step (.publish k w)).bad = true := by
    simp [Spec.step, hlt]
  have : (specOf tr).bad = true := by
    rw [hsplit, specOf, Spec.run_append]
    show (Spec.run ((Spec.run {} pre).step (.publish k w)) rest).bad = true
    exact bad_sticky _ _ hbad
  simp [c31Ok, this] at hok

/-- **Meaning of the predicate, part 2 (exactly once).**  On a trace accepted by
    `c31Ok`, every durable write has been published exactly as many times as it is
    durable. -/
theorem durable_published_exactly_once (tr : List Item) (hok : c31Ok tr = true) :
    ∀ x ∈ (specOf tr).dur, (specOf tr).pub.count x = (specOf tr).dur.count x := by
  simp only [c31Ok, Bool.and_eq_true, List.all_eq_true, beq_iff_eq] at hok
  exact hok.2

/-- **Only successful non-dry-run writes ever become durable**: failed writes and
    dry runs contribute nothing to the durable set of the specification fold. -/
theorem durable_only_from_successful_writes (tr : List Item) (x : Ev)
    (hx : x ∈ (specOf tr).dur) : ∃ t, Item.write t x.1 false x.2 .ok ∈ tr := by
  have h0 : Src {} [] := by
    constructor
    · intro y hy; exact absurd hy (by simp)
    · intro t y hy; exact absurd hy (by simp)
  have := src_run {} [] tr h0
  simpa using this.1 x hx

/-- **Failed writes and dry runs publish nothing**: on a trace accepted by `c31Ok`
    every listener call describes a successful non-dry-run write of the trace. -/
theorem published_only_for_successful_writes (tr : List Item) (k : Kind) (w : Nat)
    (hok : c31Ok tr = true) (hp : Item.publish k w ∈ tr) :
    ∃ t, Item.write t k false w .ok ∈ tr := by
  obtain ⟨pre, rest, hsplit⟩ := List.append_of_mem hp
  have hlt := publish_only_when_durable tr pre rest k w hok hsplit
  have hmem : (k, w) ∈ (specOf pre).dur := by
    apply List.count_pos_iff.1
    omega
  obtain ⟨t, ht⟩ := durable_only_from_successful_writes pre (k, w) hmem
  exact ⟨t, by rw [hsplit]; exact List.mem_append_left _ ht⟩

/-- **C31 for the code.**  For every ledger state (`inUse` or initializing) and
    every program — any sequence of writes through the state tracker (all seven
    kinds, dry-run or not, succeeding or failing, with `BeginTX` / `LockLedger` /
    SQL / `Commit` / `Rollback` failures injected), sequential bulks through
    `Bulker.Run` (atomic or not, `continueOnFailure` or not, any element list) and
    raw calls on any wrapper handle, interleaved in any way — that respects the
    calling discipline (a *raw* `BeginTX` only outside a transaction, no `Commit`
    through a wrapper returned by `LockLedger` inside a transaction; the nested
    `BeginTX` that `handleState` itself issues inside an atomic bulk's transaction is
    part of the model and covered), the global trace
    satisfies `c31Ok`: every event is published after the successful commit of
    the outermost transaction containing its write, failed / dry-run / rolled-back /
    commit-failed writes publish nothing, every committed write publishes exactly once. -/
theorem events_iff_committed_and_after (inUse : Bool) (ops : List Op)
    (hd : disciplined true ({ inUse := inUse } : St) ops = true) :
    c31Ok (runOps ({ inUse := inUse } : St) ops).2.trace = true := by
  have hinit := inv_init lockHasTx rfl inUse
  exact c31Ok_of_inv (runOps_pres (lockInTx := true) ops _ hinit.1 hinit.2 (fun _ => rfl) hd)

/-- The programs made only of state-tracker writes and bulks (what the API does)
    are always within the discipline. -/
theorem api_programs_disciplined (s : St) (ops : List Op)
    (h : ∀ op ∈ ops, match op with | .raw _ => False | _ => True) :
    disciplined true s ops = true := by
  induction ops generalizing s with
  | nil => rfl
  | cons op ops ih =>
    simp only [disciplined, Bool.and_eq_true]
    refine ⟨?_, ih _ (fun o ho => h o (List.mem_cons_of_mem _ ho))⟩
    have := h op (List.mem_cons_self ..)
    cases op with
    | raw c => exact absurd this id
    | swrite k dry ok w f => simp [opOk]
    | bulk a c e f => simp [opOk]

/-- Known finding (fixed by 79c17ec): with the pre-fix `LockLedger` (returned
    wrapper without `hasTx`) the first write on an initializing ledger publishes
    its event before the enclosing transaction commits — and still publishes it
    when that commit fails (second program: nothing is durable, one event out). -/
theorem events_counterexample :
    let s0 : St := { lockTx := lockHasTxBuggy, inUse := false }
    let first : List Op := [.swrite .createTx false true 1 {}]
    let commitFails : List Op := [.swrite .createTx false true 1 { commit := true }]
    disciplined true s0 first = true ∧
    c31Ok (runOps s0 first).2.trace = false ∧
    (runOps s0 first).2.trace =
      [.begin 1 0 .ok, .lock 1 .ok, .sql 1 1 .ok, .sql 1 2 .ok, .sql 1 3 .ok,
       .write 1 .createTx false 1 .ok, .publish .createTx 1, .release 1, .commit 1 .ok] ∧
    c31Ok (runOps s0 commitFails).2.trace = false ∧
    (specOf (runOps s0 commitFails).2.trace).dur = [] ∧
    (specOf (runOps s0 commitFails).2.trace).pub = [(.createTx, 1)] ∧
    -- the same programs on the code as it is now
    c31Ok (runOps ({ inUse := false } : St) first).2.trace = true ∧
    c31Ok (runOps ({ inUse := false } : St) commitFails).2.trace = true := by
  decide

/-- What held for the pre-fix code as well: C31 for every disciplined program
    that never calls `LockLedger` inside a transaction — in particular every
    program on a ledger that is already in use. -/
theorem events_partial (inUse : Bool) (ops : List Op)
    (hd : disciplined false ({ lockTx := lockHasTxBuggy, inUse := inUse } : St) ops = true) :
    c31Ok (runOps ({ lockTx := lockHasTxBuggy, inUse := inUse } : St) ops).2.trace = true := by
  have hinit := inv_init lockHasTxBuggy rfl inUse
  exact c31Ok_of_inv (runOps_pres (lockInTx := false) ops _ hinit.1 hinit.2
    (fun h => by cases h) hd)

-- Non-vacuity: disciplined programs with committed, rolled-back, failed and dry-run writes.

example :
    let ops : List Op := [
      .swrite .saveAccMeta false true 1 {},                       -- first write: BeginTX+LockLedger+Commit
      .swrite .createTx true true 2 {},                           -- dry run
      .bulk true false [⟨.createTx, true, 3⟩, ⟨.revertTx, false, 4⟩, ⟨.createTx, true, 5⟩] {},  -- rolled back
      .bulk true false [⟨.createTx, true, 6⟩, ⟨.delTxMeta, true, 7⟩] {},                         -- committed
      .bulk true false [⟨.createTx, true, 8⟩] { commit := true },                                 -- commit fails
      .raw (.begin 0 true), .raw (.lock 1 true), .raw (.write 2 .insertSchema false true 9),
      .raw (.commit 1 true)]
    disciplined true ({ inUse := false } : St) ops = true ∧
    (specOf (runOps ({ inUse := false } : St) ops).2.trace).pub =
      [(.saveAccMeta, 1), (.createTx, 6), (.delTxMeta, 7), (.insertSchema, 9)] := by
  decide

/-- Non-vacuity for the nested shape: an atomic bulk on an initializing ledger — the
    first element runs `handleState` inside the bulk's transaction (savepoint 2 in
    transaction 1); its event waits for the OUTER commit; when a later element
    fails, or the outer commit fails, nothing is published. -/
example :
    let ok : List Op := [.bulk true false [⟨.createTx, true, 1⟩, ⟨.saveAccMeta, true, 2⟩] {}]
    let laterFails : List Op := [.bulk true false [⟨.createTx, true, 1⟩, ⟨.saveAccMeta, false, 2⟩] {}]
    let outerCommitFails : List Op := [.bulk true false [⟨.createTx, true, 1⟩] { commitTop := true }]
    (runOps ({ inUse := false } : St) ok).2.trace =
      [.begin 1 0 .ok, .begin 2 1 .ok, .lock 2 .ok, .sql 2 1 .ok, .sql 2 2 .ok, .sql 2 3 .ok,
       .write 2 .createTx false 1 .ok, .release 2, .commit 2 .ok,
       .write 1 .saveAccMeta false 2 .ok, .commit 1 .ok,
       .publish .createTx 1, .publish .saveAccMeta 2] ∧
    (specOf (runOps ({ inUse := false } : St) laterFails).2.trace).pub = [] ∧
    (specOf (runOps ({ inUse := false } : St) laterFails).2.trace).dur = [] ∧
    (specOf (runOps ({ inUse := false } : St) outerCommitFails).2.trace).pub = [] ∧
    (specOf (runOps ({ inUse := false } : St) outerCommitFails).2.trace).dur = [] := by
  decide

end Ledger.C31
