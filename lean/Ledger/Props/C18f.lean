import Ledger.Props.C18e

/-!
C18f — `UpsertAccounts` and the whole of transaction creation against the Spec (`upsertAccounts = true`).

* `metadata_concat_is_merge` / `metadata_contains_is_contains`: on jsonb objects of strings with distinct keys (`IsMeta`; what ledger
  metadata is), LeanPG's `a || d` (`jsonConcat`, jsonb key order) read as `Core.Metadata` (`metaOfJV`, `<` order) is `Spec.metaMerge`, and
  `a @> d` (`jsonContains`) is `Spec.metaContains`.
* `upsertAccounts_refines`: the WHOLE regenerated UpsertAccounts statement (C18b `upsertAccounts_sem`), on ANY `accounts` table whose
  visible rows abstract for the ledger to the Spec accounts `m` (`AcAbsTo`), ANY batch with distinct addresses carrying one date and no
  default metadata: afterwards the table abstracts to `m` with `Spec.upsertAccount` folded over the batch.
* `commitTransaction_full_refines`: UpdateVolumes; InsertTransaction; InsertMoves (with the `moves` triggers); UpsertAccounts, run as
  successive commands of one transaction, refine `Spec.applyTx st t` with `t.upsertAccounts = true`: volumes, moves (up to order),
  ACCOUNTS, the two sequences; invariants re-established; other ledgers untouched. The batch passed by the Go layer is assumed to be
  `acctBatch t` (the accounts of the postings with their metadata, then the metadata-only accounts), first_usage = the transaction's
  timestamp, insertion/update date = its insertion date.

Hypotheses: those of C01e / C18b / C18e (in particular TRANSACTION_METADATA_HISTORY and ACCOUNT_METADATA_HISTORY off — C01h lifts the first
for the three-statement sequence), stored and passed metadata are objects of strings with distinct keys, no default metadata.
-/
namespace Ledger.C18f
open Ledger Ledger.Sql Ledger.Generated Ledger.Core Ledger.Base
open Ledger.Generated.WriteSql
open Ledger.Spec

theorem metadata_concat_is_merge (a d : JV) (ha : IsMeta a) (hd : IsMeta d) :
    metaOfJV (jsonConcat a d) = metaMerge (metaOfJV a) (metaOfJV d) := metaOfJV_concat a d ha hd

theorem metadata_contains_is_contains (a d : JV) (ha : IsMeta a) (hd : IsMeta d) :
    jsonContains a d = metaContains (metaOfJV a) (metaOfJV d) := jsonContains_meta a d ha hd

theorem upsertAccounts_refines (k : Nat) (env : Env) (b l : String) (id : Nat) (trigs : List TriggerDef) (nr : Nat) (rows : List Ver)
    (s : St) (hst : UpsertState s b trigs nr rows) (henv : env.ctes = [])
    (pm : List (P.AccountRow × DbR)) (hlits : ∀ x ∈ pm, DbLit s.w.types x.1 x.2) (hnd : ((pm.map (·.2)).map (·.address)).Nodup)
    (m : Map String Spec.AccountRow) (habs : AcAbsTo l (acAbs (latestView s.w s.xid) rows) m)
    (hmeta : ∀ a ∈ acAbs (latestView s.w s.xid) rows, IsMeta a.md)
    (hdmeta : ∀ d ∈ pm.map (·.2), IsMeta d.md ∧ d.dm = JV.obj [])
    (date : Int) (hdate : ∀ d ∈ pm.map (·.2), d.ins = date ∧ d.upd = date) :
    ∃ (res : DmlResult) (rows' : List Ver) (n' : Nat),
      ((P.upsertAccounts b l id (pm.map (·.1))).mapM (runStmt (k + 19) env)).exec s =
        (.ok [res], s.withTable ((acT b trigs (nr + n')).withRows rows')) ∧
      AcAbsTo l (acAbs (latestView s.w s.xid) rows')
        ((pm.map (·.2)).foldl (fun acc d => Spec.upsertAccount acc d.address (some d.fu) date (metaOfJV d.md)) m) ∧
      AcInv (latestView s.w s.xid) (nr + n') rows' :=
by
  obtain ⟨res, rows', n', hrun, hperm, hinv⟩ := upsertAccounts_sem k env b l id trigs nr rows s hst henv pm hlits hnd
  exact ⟨res, rows', n', hrun,
    upsert_refines_fold l _ _ (pm.map (·.2)) m date habs (acAbs_keys_nodup _ _ _ hinv) hperm hnd hmeta hdmeta hdate, hinv⟩

theorem commitTransaction_full_refines (k : Nat) (env : Env) (henv : env.ctes = []) (b l : String) (id : Nat)
    (rsA : List Ver) (nrA : Nat) (trigsT : List TriggerDef) (nrT : Nat) (rowsT : List Ver) (fullT : String) (sqT : Seq)
    (trigsM : List TriggerDef) (B1 B2 : List TriggerDef) (trB : TriggerDef) (A1 A2 : List TriggerDef) (trA : TriggerDef)
    (item wher dflt_ : Expr) (fB : PlFunc) (setE whereU : Expr) (fA : PlFunc) (nrM : Nat) (rowsM : List Ver) (sqM : Seq)
    (trigsC : List TriggerDef) (nrC : Nat) (rowsC : List Ver) (s : St)
    (hst : CommitState s b l rsA nrA trigsT nrT rowsT fullT sqT trigsM B1 B2 trB A1 A2 trA item wher dflt_ fB setE whereU fA nrM rowsM sqM)
    (hac : CommitAccounts s b trigsC nrC rowsC)
    -- the Spec store the state abstracts to
    (st st' : Spec.Store) (t : Spec.TxIn) (hup : t.upsertAccounts = true) (happly : Spec.applyTx st t = .ok st')
    (hwf : Map.WF st.accountsVolumes) (habsA : ∀ key, avAbs s b l key = st.accountsVolumes.get? key)
    (habsM : st.moves.Perm (ledgerMoves l (mvAbs (latestView s.w s.xid) rowsM)))
    (habsC : AcAbsTo l (acAbs (latestView s.w s.xid) rowsC) st.accounts)
    (hmetaC : ∀ a ∈ acAbs (latestView s.w s.xid) rowsC, IsMeta a.md)
    (hidT : (st.nextTxId : Int) = sqT.next) (hidM : (st.nextSeq : Int) = sqM.next)
    -- what the Go layer passes
    (vrows : List P.VolumeRow) (hvu : vuOf vrows = volumeUpdates t.postings) (hvne : vrows ≠ []) (hvnd : (vrows.map avKeyOf).Nodup)
    (L : TxLits) (hl : SeqLit (txSeqLit b id) fullT) (x : TxR) (hlit : TxLit s.w.types l L x) (hid : x.id = st.nextTxId)
    (href : ∀ r ∈ rowsT, r.visible (latestView s.w s.xid) = true → ∀ x', r.vals = txVals x' → txConf2 x x' = false)
    (pm : List (P.MoveRow × Spec.MoveRow)) (hne : pm ≠ []) (hlits : ∀ y ∈ pm, MvLit s.w.types y.1 y.2)
    (hpm : ∀ ms, movesOf (Spec.upsertVolumes st.accountsVolumes (volumeUpdates t.postings)).2 t.postings = .ok ms →
      pm.map (·.2) = toRows st.nextSeq st.nextTxId t.insertedAt t.timestamp ms)
    (hrange : sqM.next + pm.length ≤ 9223372036854775808) (hnc : s.nextCid + 4 + 4 * pm.length ≤ 1000000000)
    (am : List (P.AccountRow × DbR)) (halits : ∀ y ∈ am, DbLit s.w.types y.1 y.2) (hand : ((am.map (·.2)).map (·.address)).Nodup)
    (hbatch : (am.map (·.2)).map (fun d => (d.address, metaOfJV d.md)) = acctBatch t)
    (hdmeta : ∀ d ∈ am.map (·.2), IsMeta d.md ∧ d.dm = JV.obj [])
    (hdates : ∀ d ∈ am.map (·.2), d.fu = t.timestamp ∧ d.ins = t.insertedAt ∧ d.upd = t.insertedAt) :
    ∃ (rsA' : List Ver) (nrA' : Nat) (rowsM' : List Ver) (seqs' : List Seq) (rowsC' : List Ver) (nC : Nat) (res : List DmlResult),
      (seqRun (k + 19) env (P.updateVolumes b l id vrows ++
          P.insertTransaction b l id L.postings L.metadata L.timestamp L.reference L.inserted_at L.updated_at L.post_commit_volumes
            L.template L.sources L.destinations L.sources_arrays L.destinations_arrays ++
          P.insertMoves b l id (pm.map (·.1)) ++ P.upsertAccounts b l id (am.map (·.1)))).exec s =
        (.ok res, (((((s.bump (4 + 4 * pm.length)).withSeqs seqs').withTable (avT b rsA' nrA')).withTable
              ((txT b trigsT (nrT + 1)).withRows (newVer s.xid (s.nextCid + 1) nrT (txVals x) :: rowsT))).withTable
              ((mvT b trigsM (nrM + pm.length)).withRows rowsM')).withTable ((acT b trigsC (nrC + nC)).withRows rowsC')) ∧
      (∀ key, avView (latestView s.w s.xid) rsA' l key = st'.accountsVolumes.get? key) ∧
      (∀ l', l' ≠ l → ∀ key, avView (latestView s.w s.xid) rsA' l' key = avView (latestView s.w s.xid) rsA l' key) ∧
      (ledgerMoves l (mvAbs (latestView s.w s.xid) rowsM')).Perm st'.moves ∧
      (∀ l', l' ≠ l → (ledgerMoves l' (mvAbs (latestView s.w s.xid) rowsM')).Perm (ledgerMoves l' (mvAbs (latestView s.w s.xid) rowsM))) ∧
      AcAbsTo l (acAbs (latestView s.w s.xid) rowsC') st'.accounts ∧
      AvInv (latestView s.w s.xid) rsA' nrA' ∧ MvInv (latestView s.w s.xid) (st'.nextSeq : Int) rowsM' ∧
      AcInv (latestView s.w s.xid) (nrC + nC) rowsC' ∧
      (∃ sq', seqs'.find? (·.name == mvSeqFull b) = some sq' ∧ sq'.next = (st'.nextSeq : Int)) ∧
      (∃ sq', seqs'.find? (·.name == fullT) = some sq' ∧ sq'.next = (st'.nextTxId : Int)) :=
by
  obtain ⟨hsf, hspec⟩ := applyTx_of_sql happly (l := l) hvu hpm hidT hidM
  obtain ⟨rsA', nrA', rowsM', seqs', rowsC', nC, resA, _, hrun, rfl, hinvA, hav1, hav2, hmv1, hmv2, hmvInv, hpermC, hinvC, hsM, hsT⟩ :=
    C18e.commitWithAccounts_sem k env henv b l id rsA nrA trigsT nrT rowsT fullT sqT trigsM B1 B2 trB A1 A2 trA item wher dflt_ fB setE
      whereU fA nrM rowsM sqM trigsC nrC rowsC s hst hac vrows hvne hvnd st.accountsVolumes hwf habsA L hl x hlit (by rw [hid]; exact hidT)
      href pm hne hlits hsf hrange hnc st.moves habsM am halits hand
  obtain ⟨hA, hM, hI, hsM', hsT'⟩ := hspec hav1 hmv1 hmvInv hsM hsT
  exact ⟨rsA', nrA', rowsM', seqs', rowsC', nC, _, hrun, hA, hav2, hM, hmv2,
    applyTx_accounts_of_sql happly hup habsC (acAbs_keys_nodup _ _ _ hinvC) hpermC hand hmetaC hbatch hdmeta hdates,
    hinvA, hI, hinvC, hsM', hsT'⟩

end Ledger.C18f
