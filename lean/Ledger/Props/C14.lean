import Ledger.Proofs.CtrlStep
import Ledger.Proofs.CtrlExamples

/-!
# C14 — Transaction references are unique per ledger (controller layer, sequential)

One ledger's tables; the per-ledger scoping of the index and the concurrent form
are the SQL layer's concern.
-/
namespace Ledger.C14
open Ledger.Ctrl Ledger.Core Ledger.Ctrl.Examples

/-- After any history no two transactions carry the same non-empty reference. -/
theorem reference_unique (strict : Bool) (ops : List Op) :
    (runHist strict {} ops).db.txs.Pairwise (fun a b => b.reference = "" ∨ a.reference ≠ b.reference) :=
  (runHist_inv strict {} ops Inv.empty).refUnique

/-- The store refuses a transaction whose non-empty reference is taken
    (`transactions_reference` → ErrTransactionReferenceConflict) … -/
theorem store_refuses_duplicate_reference (now : Time) (t : TxIn) (d : Db) (sq : Seqs)
    (hr : t.reference ≠ "") (hdup : ∃ x ∈ d.txs, x.reference = t.reference)
    (hid : ∀ x ∈ d.txs, x.id ≠ (match t.id with | some i => i | none => sq.tx + 1)) :
    (commitTransaction now t d sq).2 = .error .referenceConflict :=
  commitTransaction_dup_ref hr hdup hid

/-- … and whatever the controller does around it, a failed write changes nothing
    (C07), so the conflicting create leaves no trace. -/
theorem conflicting_create_no_effect (strict : Bool) (s : State) (op : Op)
    (h : (step strict s op).2.err = some (.store .referenceConflict)) : (step strict s op).1.db = s.db :=
  (forgeLog_ending strict op [] false s).1.db_eq (Or.inl (by unfold step Resp.isError at *; rw [h]; rfl))

/-! non-vacuity -/
example : (step false s1 payRef).2.isError = false := by decide
example : (step false (step false s1 payRef).1 { payRef with now := 40 }).2.err = some (.store .referenceConflict) := by
  decide +kernel

end Ledger.C14
