import Ledger.Proofs.SqlCommit

/-!
C01h — `CommitTransaction` in the DEFAULT feature set for transactions (TRANSACTION_METADATA_HISTORY = SYNC): `C01e` with the ledger's
AFTER INSERT ROW trigger `insert_transaction_metadata_history` on `transactions`.

* `insertTransactionMetadataHistory_body`: the trigger function of `Ledger.Generated.Schema` (migration 11, regenerated by `t2_schema`) IS
  `INSERT INTO transactions_metadata (ledger, transactions_id, revision, date, metadata) VALUES (new.ledger, new.id, 1, new.timestamp,
  new.metadata); RETURN new`.
* `insertTransactionMetadataHistory_sem`: run by LeanPG's PL/pgSQL interpreter (`runTrigger`) for ANY NEW row of `transactions`, on ANY
  `transactions_metadata` table whose stored sequence numbers are below the table's sequence: exactly one row `tmOf x` (ledger, id,
  revision 1, the transaction's timestamp and metadata), numbered by the sequence, under a fresh command id; two command ids consumed.
* `commitTransaction_hist_sem` / `commitTransaction_hist_refines`: the statements UpdateVolumes; InsertTransaction; InsertMoves as in
  C01e, on a `transactions` table that carries this trigger for the ledger (other ledgers' triggers skipped by their WHEN clause): same
  outcome and refinement of `Spec.applyTx` (`upsertAccounts = false`), plus the history row and the advanced history sequence in the final
  state (the Spec store does not model `transactions_metadata`; the read side's use of it is C17).

Hypotheses: those of C01e with `CommitStateH` instead of `CommitState` (exactly one AFTER INSERT ROW trigger applies to the ledger, with
the generated body; `transactions_metadata` typed with sequence numbers below its sequence; the transaction id fits bigint).
-/
namespace Ledger.C01h
open Ledger Ledger.Sql Ledger.Generated Ledger.Core Ledger.Base
open Ledger.Generated.WriteSql
open Ledger.Spec

theorem insertTransactionMetadataHistory_body :
    Schema.fn_insert_transaction_metadata_history.body = [PlStmt.exec tmInsertStmt [], PlStmt.ret (some (Expr.col "" "new"))] ∧
    Schema.fn_insert_transaction_metadata_history.decls = [] := ⟨rfl, rfl⟩

theorem insertTransactionMetadataHistory_sem (k : Nat) (b fname : String) (x : TxR) (f : PlFunc) (hdecls : f.decls = [])
    (hbody : f.body = [PlStmt.exec tmInsertStmt [], PlStmt.ret (some (Expr.col "" "new"))])
    (s : St) (hs : TxState s) (hf : s.w.funcs.lookup fname = some f) (hschema : schemaOf fname = b) (hsch : schemaOf (tmFull b) = b)
    (hnc : s.nextCid + 2 ≤ 1000000000) (t : Table) (htc : t.cols = Schema.tbl_transactions.cols)
    (nr : Nat) (rows : List Ver) (sq : Seq) (hst : TmState s b nr rows sq)
    (hi1 : -9223372036854775808 ≤ x.id) (hi2 : x.id ≤ 9223372036854775807) :
    (runTrigger (k + 10) fname t (some (txVals x)) none).exec s =
      (.ok (some (txVals x)), ((s.withSeqs (seqsSet (tmSeqFull b) sq.next s.w.seqs)).bump 2).withTable
        ((tmT b (nr + 1)).withRows (newVer s.xid s.nextCid nr (tmVals (tmOf x sq.next)) :: rows))) :=
  exec_runTrigger_insTxMeta k b fname x f hdecls hbody s hs hf hschema hsch hnc t htc nr rows sq hst hi1 hi2

theorem commitTransaction_hist_sem (p : Nat) (env : Env) (b l : String) (id : Nat)
    (rsA : List Ver) (nrA : Nat) (trigsT : List TriggerDef) (nrT : Nat) (rowsT : List Ver) (fullT : String) (sqT : Seq)
    (AT1 AT2 : List TriggerDef) (trAT : TriggerDef) (fAT : PlFunc) (nrH : Nat) (rowsH : List Ver) (sqH : Seq)
    (trigsM : List TriggerDef) (B1 B2 : List TriggerDef) (trB : TriggerDef) (A1 A2 : List TriggerDef) (trA : TriggerDef)
    (item wher dflt_ : Expr) (fB : PlFunc) (setE whereU : Expr) (fA : PlFunc) (nrM : Nat) (rowsM : List Ver) (sqM : Seq) (s : St)
    (hst : CommitStateH s b l rsA nrA trigsT nrT rowsT fullT sqT AT1 AT2 trAT fAT nrH rowsH sqH trigsM B1 B2 trB A1 A2 trA item wher dflt_ fB
      setE whereU fA nrM rowsM sqM)
    -- UpdateVolumes
    (vrows : List P.VolumeRow) (hvne : vrows ≠ []) (hvnd : (vrows.map avKeyOf).Nodup)
    (av : PCV) (hwf : Map.WF av) (habs : ∀ k, avAbs s b l k = av.get? k)
    -- InsertTransaction
    (L : TxLits) (hl : SeqLit (txSeqLit b id) fullT) (x : TxR) (hlit : TxLit s.w.types l L x) (hid : x.id = sqT.next)
    (hi1 : -9223372036854775808 ≤ x.id) (hi2 : x.id ≤ 9223372036854775807)
    (href : ∀ r ∈ rowsT, r.visible (latestView s.w s.xid) = true → ∀ x', r.vals = txVals x' → txConf2 x x' = false)
    -- InsertMoves
    (pm : List (P.MoveRow × Spec.MoveRow)) (hne : pm ≠ []) (hlits : ∀ y ∈ pm, MvLit s.w.types y.1 y.2)
    (hsf : SeqFrom sqM.next (pm.map (·.2))) (hrange : sqM.next + pm.length ≤ 9223372036854775808)
    (hnc : s.nextCid + 5 + 4 * pm.length ≤ 1000000000)
    (T : List Spec.MoveRow) (hT : T.Perm (ledgerMoves l (mvAbs (latestView s.w s.xid) rowsM))) :
    ∃ (rsA' : List Ver) (nrA' : Nat) (rowsM' : List Ver) (seqs' : List Seq) (s' : St),
      (seqRun (p + 15) env (P.updateVolumes b l id vrows ++
          P.insertTransaction b l id L.postings L.metadata L.timestamp L.reference L.inserted_at L.updated_at L.post_commit_volumes
            L.template L.sources L.destinations L.sources_arrays L.destinations_arrays ++
          P.insertMoves b l id (pm.map (·.1)))).exec s =
        (.ok [{ rel := { cols := ["input", "output"],
                         rows := (Spec.upsertVolumes av (vuOf vrows)).2.map (fun e => [.int e.2.input, .int e.2.output]) },
                affected := vrows.length },
              { rel := { cols := ["id", "timestamp", "inserted_at", "updated_at"],
                         rows := [[.int x.id, .ts x.timestamp, optTs x.insertedAt, .ts x.updatedAt]] }, affected := 1 },
              { rel := { cols := ["post_commit_volumes", "post_commit_effective_volumes"],
                         rows := (Spec.insertedRows T (pm.map (·.2))).map retOf }, affected := pm.length }], s') ∧
      s' = (((((s.bump (5 + 4 * pm.length)).withSeqs seqs').withTable (avT b rsA' nrA')).withTable
              ((txT b trigsT (nrT + 1)).withRows (newVer s.xid (s.nextCid + 1) nrT (txVals x) :: rowsT))).withTable
              ((tmT b (nrH + 1)).withRows (newVer s.xid (s.nextCid + 2) nrH (tmVals (tmOf x sqH.next)) :: rowsH))).withTable
              ((mvT b trigsM (nrM + pm.length)).withRows rowsM') ∧
      -- accounts_volumes
      AvInv (latestView s.w s.xid) rsA' nrA' ∧
      (∀ k, avView (latestView s.w s.xid) rsA' l k = (Spec.upsertVolumes av (vuOf vrows)).1.get? k) ∧
      (∀ l', l' ≠ l → ∀ k, avView (latestView s.w s.xid) rsA' l' k = avView (latestView s.w s.xid) rsA l' k) ∧
      -- moves
      (ledgerMoves l (mvAbs (latestView s.w s.xid) rowsM')).Perm (Spec.insertMoves T (pm.map (·.2))) ∧
      (∀ l', l' ≠ l → (ledgerMoves l' (mvAbs (latestView s.w s.xid) rowsM')).Perm (ledgerMoves l' (mvAbs (latestView s.w s.xid) rowsM))) ∧
      MvInv (latestView s.w s.xid) (sqM.next + pm.length) rowsM' ∧
      -- sequences
      seqs'.find? (·.name == mvSeqFull b) = some { sqM with last := sqM.next + pm.length - 1, called := true } ∧
      seqs'.find? (·.name == fullT) = some { sqT with last := sqT.next, called := true } ∧
      seqs'.find? (·.name == tmSeqFull b) = some { sqH with last := sqH.next, called := true } ∧
      (∀ other, other ≠ mvSeqFull b → other ≠ fullT → other ≠ tmSeqFull b →
        seqs'.find? (·.name == other) = s.w.seqs.find? (·.name == other)) :=
by
  obtain ⟨_, _, hrun, _, _, _, _, ⟨_, _, _, ⟨rsA', nrA', rfl, rfl, hinvA', hav1, hav2⟩, ⟨rfl, rfl⟩, rfl⟩,
      ⟨rowsM', seqs', rfl, rfl, hmv1, hmv2, hmvInv, hseqM, hsq⟩, rfl⟩ :=
    (((step_updateVolumes (p + 8) env id hst.bne hst.avTable hst.avInv hst.avFresh vrows hvne hvnd av hwf habs).seq
        (step_insertTx_hist (p + 3) env id L (hst.txIns (by omega)) hl x hlit hid hi1 hi2 href)).seq
        (step_insertMoves p env id hst.mv pm hne hlits hsf hrange T hT)).run hst.tx hst.q0 (by simp)
      (by simpa using ⟨⟨(bucket_ne b (by simp) : mvSeqFull b ≠ tmSeqFull b), hst.seqNe.symm⟩, hst.seqNeH.symm⟩) (by omega)
  replace hsq : ∀ other, other ≠ mvSeqFull b → seqs'.find? (·.name == other) =
      (seqsSet (tmSeqFull b) sqH.next (seqsSet fullT sqT.next s.w.seqs)).find? (·.name == other) := hsq
  refine ⟨rsA', nrA', rowsM', seqs', _, hrun, ?_, hinvA', hav1, hav2, hmv1, hmv2, hmvInv, hseqM, ?_, ?_, fun other h1 h2 h3 => ?_⟩
  · rw [state_after3H, show 1 + 3 + (1 + 4 * pm.length) = 5 + 4 * pm.length by omega]
    rfl
  · rw [hsq fullT hst.seqNe, find_seqsSet_ne (tmSeqFull b) fullT sqH.next hst.seqNeH]
    exact find_seqsSet _ _ _ _ hst.txSeq
  · rw [hsq (tmSeqFull b) (bucket_ne b (by simp))]
    exact find_seqsSet _ _ _ _ ((find_seqsSet_ne fullT (tmSeqFull b) sqT.next (fun e => hst.seqNeH e.symm) _).trans hst.histSeq)
  · rw [hsq other h1, find_seqsSet_ne (tmSeqFull b) other sqH.next h3, find_seqsSet_ne fullT other sqT.next h2]

theorem commitTransaction_hist_refines (p : Nat) (env : Env) (b l : String) (id : Nat)
    (rsA : List Ver) (nrA : Nat) (trigsT : List TriggerDef) (nrT : Nat) (rowsT : List Ver) (fullT : String) (sqT : Seq)
    (AT1 AT2 : List TriggerDef) (trAT : TriggerDef) (fAT : PlFunc) (nrH : Nat) (rowsH : List Ver) (sqH : Seq)
    (trigsM : List TriggerDef) (B1 B2 : List TriggerDef) (trB : TriggerDef) (A1 A2 : List TriggerDef) (trA : TriggerDef)
    (item wher dflt_ : Expr) (fB : PlFunc) (setE whereU : Expr) (fA : PlFunc) (nrM : Nat) (rowsM : List Ver) (sqM : Seq) (s : St)
    (hst : CommitStateH s b l rsA nrA trigsT nrT rowsT fullT sqT AT1 AT2 trAT fAT nrH rowsH sqH trigsM B1 B2 trB A1 A2 trA item wher dflt_ fB
      setE whereU fA nrM rowsM sqM)
    -- the Spec store the state abstracts to
    (st st' : Spec.Store) (t : Spec.TxIn) (hup : t.upsertAccounts = false) (happly : Spec.applyTx st t = .ok st')
    (hwf : Map.WF st.accountsVolumes) (habsA : ∀ k, avAbs s b l k = st.accountsVolumes.get? k)
    (habsM : st.moves.Perm (ledgerMoves l (mvAbs (latestView s.w s.xid) rowsM)))
    (hidT : (st.nextTxId : Int) = sqT.next) (hidM : (st.nextSeq : Int) = sqM.next)
    -- what the Go layer passes
    (vrows : List P.VolumeRow) (hvu : vuOf vrows = volumeUpdates t.postings) (hvne : vrows ≠ []) (hvnd : (vrows.map avKeyOf).Nodup)
    (L : TxLits) (hl : SeqLit (txSeqLit b id) fullT) (x : TxR) (hlit : TxLit s.w.types l L x) (hid : x.id = st.nextTxId)
    (hidR : (st.nextTxId : Int) ≤ 9223372036854775807)
    (href : ∀ r ∈ rowsT, r.visible (latestView s.w s.xid) = true → ∀ x', r.vals = txVals x' → txConf2 x x' = false)
    (pm : List (P.MoveRow × Spec.MoveRow)) (hne : pm ≠ []) (hlits : ∀ y ∈ pm, MvLit s.w.types y.1 y.2)
    (hpm : ∀ ms, movesOf (Spec.upsertVolumes st.accountsVolumes (volumeUpdates t.postings)).2 t.postings = .ok ms →
      pm.map (·.2) = toRows st.nextSeq st.nextTxId t.insertedAt t.timestamp ms)
    (hrange : sqM.next + pm.length ≤ 9223372036854775808) (hnc : s.nextCid + 5 + 4 * pm.length ≤ 1000000000) :
    ∃ (rsA' : List Ver) (nrA' : Nat) (rowsM' : List Ver) (seqs' : List Seq) (res : List DmlResult),
      (seqRun (p + 15) env (P.updateVolumes b l id vrows ++
          P.insertTransaction b l id L.postings L.metadata L.timestamp L.reference L.inserted_at L.updated_at L.post_commit_volumes
            L.template L.sources L.destinations L.sources_arrays L.destinations_arrays ++
          P.insertMoves b l id (pm.map (·.1)))).exec s =
        (.ok res, (((((s.bump (5 + 4 * pm.length)).withSeqs seqs').withTable (avT b rsA' nrA')).withTable
              ((txT b trigsT (nrT + 1)).withRows (newVer s.xid (s.nextCid + 1) nrT (txVals x) :: rowsT))).withTable
              ((tmT b (nrH + 1)).withRows (newVer s.xid (s.nextCid + 2) nrH (tmVals (tmOf x sqH.next)) :: rowsH))).withTable
              ((mvT b trigsM (nrM + pm.length)).withRows rowsM')) ∧
      (∀ k, avView (latestView s.w s.xid) rsA' l k = st'.accountsVolumes.get? k) ∧
      (∀ l', l' ≠ l → ∀ k, avView (latestView s.w s.xid) rsA' l' k = avView (latestView s.w s.xid) rsA l' k) ∧
      (ledgerMoves l (mvAbs (latestView s.w s.xid) rowsM')).Perm st'.moves ∧
      (∀ l', l' ≠ l → (ledgerMoves l' (mvAbs (latestView s.w s.xid) rowsM')).Perm (ledgerMoves l' (mvAbs (latestView s.w s.xid) rowsM))) ∧
      AvInv (latestView s.w s.xid) rsA' nrA' ∧ MvInv (latestView s.w s.xid) (st'.nextSeq : Int) rowsM' ∧
      (∃ sq', seqs'.find? (·.name == mvSeqFull b) = some sq' ∧ sq'.next = (st'.nextSeq : Int)) ∧
      (∃ sq', seqs'.find? (·.name == fullT) = some sq' ∧ sq'.next = (st'.nextTxId : Int)) ∧
      (∃ sq', seqs'.find? (·.name == tmSeqFull b) = some sq' ∧ sq'.next = sqH.next + 1) :=
by
  obtain ⟨hsf, hspec⟩ := applyTx_of_sql happly (l := l) hvu hpm hidT hidM
  obtain ⟨rsA', nrA', rowsM', seqs', _, hrun, rfl, hinvA, hav1, hav2, hmv1, hmv2, hmvInv, hsM, hsT, hsH, _⟩ :=
    commitTransaction_hist_sem p env b l id rsA nrA trigsT nrT rowsT fullT sqT AT1 AT2 trAT fAT nrH rowsH sqH trigsM B1 B2 trB A1 A2 trA item
      wher dflt_ fB setE whereU fA nrM rowsM sqM s hst vrows hvne hvnd st.accountsVolumes hwf habsA L hl x hlit (by rw [hid]; exact hidT)
      (by rw [hid]; omega) (by rw [hid]; exact hidR) href pm hne hlits hsf hrange hnc st.moves habsM
  obtain ⟨hA, hM, hI, hsM', hsT'⟩ := hspec hav1 hmv1 hmvInv hsM hsT
  exact ⟨rsA', nrA', rowsM', seqs', _, hrun, hA, hav2, hM, hmv2, hinvA, hI, hsM', hsT', _, hsH, Seq.next_set _ _⟩

end Ledger.C01h
