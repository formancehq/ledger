import Ledger.Proofs.MachineAsset
import Ledger.Proofs.MachineBCStmt

/-!
C23 — Numscript never overdraws a bounded source.

`StmtsBound env a c B stmts` is the hypothesis "account `a` is not declared
unbounded anywhere in the script and every `allowing overdraft up to X` clause on
it (in asset `c`) has X ≤ B" — evaluated on the resolved variables `env`, so that
an account reached through a variable counts.  World is excluded.
-/
namespace Ledger.C23
open Ledger.Machine

variable {cfg : Cfg}

/-- In any successful execution, a tracked pair `(a, c)` of a non-world account that
    is never used as an unbounded source ends with
    `initial + postings ≥ min initial (-B)`. -/
theorem bounded_source_floor (s : Script) (inp : Input) (r : Result) (h : sem cfg s inp = .ok r)
    (env : Env) (henv : resolvedEnv cfg s inp = some env)
    (a c : String) (ha : a ≠ "world") (B : Int) (hB : 0 ≤ B)
    (hb : StmtsBound env a c B s.stmts) (v0 : Int) (hv : trackedInit cfg s inp a c = some v0) :
    min (inp.balance a c) (-B) ≤ inp.balance a c + flowIn a c r.postings - flowOut a c r.postings := by
  obtain ⟨env', henv', e0, v', _, e, fl⟩ := sem_tracked h ha hv
  cases henv.symm.trans henv'
  have := fl B hB hb
  omega

/-- `bounded_source_floor` at the byte-code level, for every compiled program (compiler
    correctness `semBytecode_eq_sem_full`): the VM model `exec` running the compiled
    opcodes never takes a bounded tracked balance below `min initial (-B)`. -/
theorem bounded_source_floor_bytecode (s : Script) (p : Program)
    (hc : compile s = .ok p) (inp : Input) (r : Result) (h : semBytecode Cfg.fixed s inp = .ok r)
    (env : Env) (henv : resolvedEnv Cfg.fixed s inp = some env)
    (a c : String) (ha : a ≠ "world") (B : Int) (hB : 0 ≤ B)
    (hb : StmtsBound env a c B s.stmts) (v0 : Int) (hv : trackedInit Cfg.fixed s inp a c = some v0) :
    min (inp.balance a c) (-B) ≤ inp.balance a c + flowIn a c r.postings - flowOut a c r.postings := by
  rw [semBytecode_eq_sem_full hc inp] at h
  exact bounded_source_floor s inp r h env henv a c ha B hB hb v0 hv

/-- Per-send form: one send statement never takes a bounded tracked balance below
    `min (balance before) (-B)`. -/
theorem send_source_floor (env : Env) (s : Stmt) (hs : s.isSend = true) (st st' : State)
    (h : evalStmt cfg env s st = .ok st') (hwf : st.bal.WF)
    (a c : String) (ha : a ≠ "world") (B : Int) (hB : 0 ≤ B) (hb : StmtBound env a c B s)
    (v : Int) (hv : st.bal.get a c = some v) :
    ∃ v', st'.bal.get a c = some v' ∧ min v (-B) ≤ v' := by
  obtain ⟨new, ok⟩ := evalStmt_ok h
  exact ok.floorSend hs a c B ha hB hwf hb v hv

/-- `withdrawAll` (OP_TAKE_ALL) leaves exactly `-overdraft` when it takes anything. -/
theorem withdrawAll_floor (b b' : Balances) (acc asset : String) (od : Option Int) (p : Part)
    (h : withdrawAll b acc asset od = .ok (p, b')) (v : Int) (hv : b.get acc asset = some v) :
    ∃ v', b'.get acc asset = some v' ∧ min v (-(nilAsZero od)) ≤ v' :=
  (Machine.withdrawAll_floor h).2 v hv

/-! Non-vacuity (kernel-evaluated tests): a bounded source with an overdraft
    allowance of 10 ends exactly at -10. -/

def exScript : Script :=
  { vars := [],
    stmts := [.send (.mon (.asset "USD") 35)
      (.src (.account (.acct "b") (.upTo (.mon (.asset "USD") 10)))) (.account (.acct "y"))] }

def exInput : Input :=
  { vars := [], balance := fun a c => if a = "b" ∧ c = "USD" then 25 else 0, accountMeta := fun _ => none }

example : postingsOf (sem Cfg.fixed exScript exInput) = some [⟨"b", "y", "USD", 35⟩] := by decide +kernel
example : trackedInit Cfg.fixed exScript exInput "b" "USD" = some 25 := by decide +kernel
example : StmtsBound [] "b" "USD" 10 exScript.stmts := by
  intro s hs
  simp only [exScript, List.mem_singleton] at hs
  subst hs
  simp only [StmtBound, SrcBound, leafOK]
  intro _ c' ov hm hc
  simp [evalMonetary, evalExpr] at hm
  obtain ⟨_, rfl⟩ := hm
  simp [nilAsZero]

end Ledger.C23
