import Ledger.Proofs.SchedRevert
import Ledger.Proofs.SchedHandles
import Ledger.Proofs.SchedWitnesses
import Ledger.Props.C06

/-!
# C15 (schedule part) — a transaction is reverted at most once

Mechanism: `UPDATE transactions SET reverted_at = … WHERE id = ? AND reverted_at IS NULL`
under row locks: a concurrent revert waits for the in-progress one and then
re-evaluates `reverted_at IS NULL` on the latest committed version (EvalPlanQual).
Proved: the step-level facts for every world (`revert_update_*`) — in particular that
a successful update needs an un-reverted latest version and takes the row for the rest
of the transaction — and `epq_sees_latest` for this statement; and, over ALL schedules,
`revert_at_most_once_any_schedule`: for programs that only issue the guarded UPDATE (the
real writers do: `writers_are_guarded`, and the regenerated statement classification ties
that to the code) a transaction has at most one successful revert, in progress or
committed. The counterexample shows what the `reverted_at IS NULL` conjunct is for.
-/
namespace Ledger.C15s
open Ledger.Sched

/-- a committed reverted transaction is never reverted again (`modified = false`, nothing changes) -/
theorem revert_update_refuses_reverted (w : World) (s : Sid) (l tx : Nat)
    (hex : w.txs.any (fun t => t.l = l && t.id = tx && visTx s t) = true)
    (hrev : (w.rev l tx).com = some true) :
    exec w s (.revertUpdate l tx true) = .done w { flag := false, vals := [1] } := by
  simp [exec, hex, hrev]

/-- a revert in progress in another session makes the statement wait -/
theorem revert_update_waits (w : World) (s t : Sid) (l tx : Nat)
    (hex : w.txs.any (fun t => t.l = l && t.id = tx && visTx s t) = true)
    (hcom : (w.rev l tx).com = some false) (hown : (w.rev l tx).heldByOther s = some t) :
    exec w s (.revertUpdate l tx true) = .blocked t := by
  simp [exec, hex, hcom, hown]

/-- `epq_sees_latest` for the revert UPDATE: whenever the statement completes with `modified = true`,
    the latest version was un-reverted at that moment (whatever its snapshot saw), and the session owns
    the row with the reverted version from then on -/
theorem revert_update_modifies_only_unreverted (w w' : World) (s : Sid) (l tx : Nat) (o : Out)
    (h : exec w s (.revertUpdate l tx true) = .done w' o) (hmod : o.flag = true) :
    (w.rev l tx).latest = some false ∧ (w.rev l tx).heldByOther s = none ∧
    (w'.rev l tx).own = some s ∧ (w'.rev l tx).pen = some true := by
  simp only [exec] at h
  split at h
  · cases h; cases hmod
  · split at h
    · cases h; cases hmod
    · split at h
      · cases h
      · rename_i hheld
        split at h
        · rename_i hlat
          cases h
          have hlat' : (w.rev l tx).latest = some false := by simpa using hlat
          refine ⟨hlat', hheld, ?_, ?_⟩ <;> simp
        · cases h; cases hmod

/-- `revert_at_most_once_any_schedule`: for every schedule and every guarded programs, each
    transaction has at most one revert UPDATE that answered `modified` and was not rolled back —
    committed or still in progress. -/
theorem revert_at_most_once_any_schedule (σ : Schedule) (w₀ : World) (hg : AllGuarded w₀) (h₀ : RevInv w₀)
    (l tx : Nat) :
    ((run σ w₀).revWins.filter (fun e => e.l = l && e.tx = tx)).length ≤ 1 :=
  (revInv_run σ w₀ hg h₀).1.once l tx

/-- and the committed flag it leaves is the reverted one, owned by nobody -/
theorem committed_revert_is_final (σ : Schedule) (w₀ : World) (hg : AllGuarded w₀) (h₀ : RevInv w₀)
    (e : RevWin) (he : e ∈ (run σ w₀).revWins) (hc : e.com = true) :
    ((run σ w₀).rev e.l e.tx).com = some true ∧ ((run σ w₀).rev e.l e.tx).own = none :=
  (revInv_run σ w₀ hg h₀).1.done_ e he hc

/-- the real writers' programs are guarded (for any request, ledger state and result of any statement) -/
theorem writers_are_guarded (q : Revert) (hq : q.guarded = true) (p : Send) (inUse : Bool) :
    Guarded (revertProg q inUse) ∧ Guarded (sendProg p inUse) :=
  ⟨guarded_revertProg q hq inUse, guarded_sendProg p inUse⟩

/-- tie (regenerated): the real revert path issues the guarded UPDATE (a statement without
    `reverted_at is null` is classified `revertUpdateUnguarded`) first, then locks the balances -/
theorem revert_path_follows_generated_handles :
    (revertProg exRevert true).pathK okAnswers 40 = modelledKinds Generated.Handles.revertSync ∧
    (revertProg exRevert true).pathK (fun st => match st with | .revertUpdate _ _ _ => { flag := false, vals := [1] } | _ => {}) 40
      = modelledKinds Generated.Handles.revertAlreadyReverted ∧
    Generated.Handles.revertAlreadyRevertedAnswer = "already-reverted" :=
  ⟨C06.writers_follow_generated_handles.2.2.2.2.1, by decide⟩

example :
    (run exSchedule (exWorld true)).resp 1 = some { tx := 2, log := 1 } ∧
    (run exSchedule (exWorld true)).resp 2 = some { err := "already-reverted" } ∧
    (run exSchedule (exWorld true)).revWins.length = 1 ∧
    ((run exSchedule (exWorld true)).vols 2).com = some 0 := by
  decide

/-- the hypotheses of `revert_at_most_once_any_schedule` hold for the example world -/
example : AllGuarded (exWorld true) ∧ RevInv (exWorld true) := by
  constructor
  · intro s
    simp only [exWorld]
    split
    · exact guarded_revertProg _ rfl true
    · trivial
  · refine ⟨fun _ _ => Nat.zero_le _, ?_, ?_, ?_⟩ <;> (intro e he; cases he)

/-- Without `reverted_at IS NULL` the second UPDATE succeeds after the wait: two revert transactions. -/
theorem unguarded_revert_counterexample :
    (run (exSchedule ++ [2, 2, 2, 2, 2]) (exWorld false)).resp 1 = some { tx := 2, log := 1 } ∧
    (run (exSchedule ++ [2, 2, 2, 2, 2]) (exWorld false)).resp 2 = some { tx := 3, log := 2 } ∧
    ((run (exSchedule ++ [2, 2, 2, 2, 2]) (exWorld false)).revWins.filter (·.com)).length = 2 ∧
    ((run (exSchedule ++ [2, 2, 2, 2, 2]) (exWorld false)).vols 2).com = some (-10) := by
  decide

end Ledger.C15s
