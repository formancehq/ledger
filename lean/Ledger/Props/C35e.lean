import Ledger.Proofs.E2eFeatures
import Ledger.Proofs.LogHashMain

/-!
# C35 (end-to-end leg) — feature flags change only what they are documented to change

Controller-level model parameterised by a feature set (`Ledger.E2e.runHistWith f`): the core
state (transactions, accounts with their current metadata, current volumes / balances, logs,
schemas, sequences) and the answers are those of the unparameterised model
`Ledger.Ctrl.runHist`; the feature set reaches only the DERIVED tables (`moves` and their
effective volumes, log hashes, the two metadata histories).

LEVEL: these theorems are about the controller-level model. That the SQL statements and
triggers of each feature set keep the core tables equal is covered by the `features`
correspondence workload over the MODELLED Postgres (LeanPG) — where it FAILS for one input
class: `features_preserve_core_sql_counterexample`. Theorems, examples and the sample
`exampleOps` / `allOn` / `allOff`.
-/
namespace Ledger.C35e
open Ledger.Ctrl Ledger.E2e

/-- The projection C35 names — transactions, logs (sans hash), current volumes / balances,
    current metadata, and every answer — is the same under any two feature sets, for every
    history from the same core state (whatever the derived tables hold). -/
theorem features_preserve_core (f f' : FeatureSet) (strict : Bool) (s s' : FState) (ops : List Op)
    (h : s.core = s'.core) :
    project (runHistWith f strict s ops) = project (runHistWith f' strict s' ops) := by
  simp only [project, runHistWith_core, runHistWith_resps, h]

/-- Precisely: the core component and the answers are those of the feature-free controller model. -/
theorem core_is_feature_free (f : FeatureSet) (strict : Bool) (s : FState) (ops : List Op) :
    (runHistWith f strict s ops).1.core = runHist strict s.core ops ∧
    (runHistWith f strict s ops).2 = respsHist strict s.core ops :=
  ⟨runHistWith_core f strict s ops, runHistWith_resps f strict s ops⟩

/-- Hashes are present iff HASH_LOGS=SYNC: after any history on a fresh ledger the hashed logs
    are exactly all the logs (SYNC) or none (ASYNC before any block is built, DISABLED). -/
theorem hash_present_iff_sync (f : FeatureSet) (strict : Bool) (ops : List Op) (id : Nat) :
    id ∈ (runHistWith f strict {} ops).1.derived.hashed ↔
      (f.hashLogs = .sync ∧ ∃ l ∈ (runHistWith f strict {} ops).1.core.db.logs, l.id = id) := by
  have h := runHistWith_ind f strict (stepWith_hashInv f strict) {} ops (by simp [HashInv])
  unfold HashInv at h
  rw [h]
  by_cases hs : f.hashLogs = .sync
  · simp [hs]
  · simp [hs]

/-- A feature that is off leaves its derived table empty; every `moves` row carries effective
    volumes iff the set says SYNC. -/
theorem disabled_features_leave_no_rows (f : FeatureSet) (strict : Bool) (ops : List Op) :
    (f.movesHistory = false → (runHistWith f strict {} ops).1.derived.moves = []) ∧
    (f.accMetaHist = false → (runHistWith f strict {} ops).1.derived.accHist = []) ∧
    (f.txMetaHist = false → (runHistWith f strict {} ops).1.derived.txHist = []) ∧
    (∀ m ∈ (runHistWith f strict {} ops).1.derived.moves, m.hasPcev = f.pcev) :=
  runHistWith_ind f strict (stepWith_offInv f strict) {} ops ⟨fun _ => rfl, fun _ => rfl, fun _ => rfl, by intro m hm; cases hm⟩

/-- At the level of the SQL statements the property is FALSE on the unchanged tree (root cause:
    C10's `C10:ik-backslash`): the trigger `set_log_hash` — installed only under HASH_LOGS=SYNC,
    here as regenerated from the migrations — casts its hand-built JSON text to `bytea`; for the
    idempotency key `ik4\n2` the cast is invalid, the INSERT of the log fails (SQLSTATE 22P02)
    and the write is refused, while under ASYNC / DISABLED the same write commits. Replay: the
    `features` workload, sig `C35:hash-sync-rejects-idempotency-key-with-backslash`. -/
theorem features_preserve_core_sql_counterexample :
    Ledger.Log.sqlPreimage (Ledger.Log.wLog b!"ik4\\n2" []) none = .error .invalidByteaInput :=
  Ledger.Log.sqlPreimage_lone_backslash (pre := b!"ik4") (c := 0x6e) (post := b!"2") rfl (by decide) (by decide)
    (by decide) (by decide) (by decide) (by decide) (by decide) nofun

/-- What holds at that level for this input class is the controller-level statement above, and the
    SQL side never fails for an idempotency key without backslash (C10's `hash_preimages_agree_safe`
    covers its hypotheses): witness of the success side. -/
theorem features_preserve_core_sql_partial :
    (Ledger.Log.sqlPreimage (Ledger.Log.wLog b!"ík-3/\"q" []) none).toBool = true := by decide +kernel

/-! ### non-vacuity -/

/-- a history with two committed transactions, a revert and a metadata write -/
def exampleOps : List Op :=
  [ { kind := .createP {} [⟨"world", "bank", 100, "USD/2"⟩] false, now := 10 },
    { kind := .createP { reference := "r1" } [⟨"bank", "users:001", 40, "USD/2"⟩, ⟨"bank", "fees", 1, "USD/2"⟩] false, now := 20 },
    { kind := .saveAccMeta "users:001" [("role", "vip")], now := 30 },
    { kind := .revert 2 false false [], now := 40 } ]

def allOn : FeatureSet := ⟨true, true, .sync, true, true⟩
def allOff : FeatureSet := ⟨false, false, .disabled, false, false⟩

/-- the example history commits three transactions and four logs; with everything on the derived
    tables are populated (10 moves, 4 hashes, history revisions), with everything off they are empty,
    and the projections coincide -/
example :
    (runHistWith allOn false {} exampleOps).1.core.db.txs.length = 3 ∧
    (runHistWith allOn false {} exampleOps).1.core.db.logs.length = 4 ∧
    (runHistWith allOn false {} exampleOps).1.derived.moves.length = 10 ∧
    (runHistWith allOn false {} exampleOps).1.derived.hashed = [1, 2, 3, 4] ∧
    (runHistWith allOn false {} exampleOps).1.derived.accHist.length = 5 ∧
    (runHistWith allOn false {} exampleOps).1.derived.txHist = [1, 2, 3, 2] ∧
    (runHistWith allOff false {} exampleOps).1.derived = {} ∧
    project (runHistWith allOn false {} exampleOps) = project (runHistWith allOff false {} exampleOps) := by
  decide +kernel

example : allFeatureSets.length = 48 := by decide

end Ledger.C35e
