import Ledger.Proofs.SchedLocks
import Ledger.Proofs.SchedChain
import Ledger.Proofs.SchedSafeProgs
import Ledger.Proofs.SchedHandles
import Ledger.Proofs.SchedWitnesses

/-!
# C09 (schedule part) — the hash chain stays linear under concurrency (HASH_LOGS=SYNC)

Proved for ALL schedules: `lock_excludes` for advisory locks (the mechanism: the
transaction-scoped `pg_advisory_xact_lock(ledger id)` taken by InsertLog before the
INSERT is held to COMMIT/ROLLBACK and excludes every other session), and the
step-level fact that the `set_log_hash` trigger chains from the last log the
statement can see. The regenerated tie shows the lock precedes the INSERT in the
same transaction in the real code. The all-schedules linearity statement itself
(`chain_linear_any_schedule`) is proved for programs that follow that discipline
(`writers_are_safe`: the real create path on a ledger in use does); it is also covered
by kernel-evaluated examples and by the `chain` correspondence workload (every stored
hash recomputed with the real `Log.ComputeHash` over the previous log by id).
-/
namespace Ledger.C09s
open Ledger.Sched

/-- `lock_excludes` (advisory locks), any schedule: while `s` holds a key and does not move, no
    schedule of other sessions takes the key from it or shares it. -/
theorem lock_excludes (s : Sid) (key : Nat) (σ : Schedule) (w : World)
    (hwf : AdvWf w) (hheld : Holds w s key) (hσ : ∀ t ∈ σ, t ≠ s) :
    Holds (run σ w) s key ∧ ∀ t, t ≠ s → ¬ Holds (run σ w) t key :=
  lock_excludes_run s key σ w hwf hheld hσ

example : AdvWf { adv := [{ key := logKey 1, sid := 1, xact := true }] } ∧
    Holds { adv := [{ key := logKey 1, sid := 1, xact := true }] } 1 (logKey 1) := by
  refine ⟨?_, ⟨_, List.mem_singleton.mpr rfl, rfl, rfl⟩⟩
  intro a ha b hb _
  simp only [List.mem_singleton] at ha hb
  rw [ha, hb]

/-- `chain_linear_any_schedule`: for every schedule, in every world reached from one satisfying the
    discipline (`GInv`) and the chain invariant, the log rows of the ledger — committed or in progress,
    in insertion order — have strictly increasing ids, each chains from the row before it (the first
    from nothing), the committed ones alone do too, and no two rows have the same predecessor. -/
theorem chain_linear_any_schedule (l₀ : Nat) (σ : Schedule) (w₀ : World)
    (hg : GInv ⟨logKey l₀, l₀, true⟩ w₀) (hc : ChainInv ⟨logKey l₀, l₀, true⟩ w₀) :
    let L := (run σ w₀).logs.filter (fun e => e.l = l₀)
    L.Pairwise (fun a b => a.id < b.id) ∧ ChainedFrom 0 L ∧ ChainedFrom 0 (L.filter (·.com)) ∧
    L.Pairwise (fun a b => a.prev ≠ b.prev) := by
  intro L
  have h := (chainInv_run ⟨logKey l₀, l₀, true⟩ rfl σ w₀ hg hc).2
  refine ⟨h.inc, h.chain, ?_, ?_⟩
  · have : L.filter (·.com) = L.takeWhile (·.com) := filter_eq_takeWhile_of_prefix L _ h.pre
    rw [this]
    exact chainedFrom_takeWhile _ 0 L h.chain
  · exact (prevs_increasing 0 L h.chain h.inc h.pos).1.imp (fun hlt => Nat.ne_of_lt hlt)

/-- the real create path on a ledger in use follows the discipline, for every answer of every statement -/
theorem writers_are_safe (l₀ : Nat) (q : Send) (hq : q.l = l₀ → q.sync = true) (m : Mon) :
    Safe ⟨logKey l₀, l₀, true⟩ m (sendProg q true) := by
  apply safe_sendProg_inUse
  intro hl
  exact ⟨hq hl, by rw [hl]⟩

/-- non-vacuity: two concurrent SYNC writers on a ledger in use satisfy the hypotheses -/
example : GInv ⟨logKey 1, 1, true⟩ exWorld ∧ ChainInv ⟨logKey 1, 1, true⟩ exWorld := by
  refine ⟨ginv_init _ _ rfl rfl fun s => ?_, chainInv_init _ _ rfl rfl⟩
  simp only [exWorld]
  split
  · exact writers_are_safe 1 exA (fun _ => rfl) {}
  · split
    · exact writers_are_safe 1 exB (fun _ => rfl) {}
    · trivial

/-- a second session's lock request waits while the key is held -/
theorem advisory_lock_waits (w : World) (s t : Sid) (l : Nat)
    (h : holder? w.adv (logKey l) s = some t) :
    exec w s (.advLockLog l) = .blocked t := by
  simp only [exec, h]

/-- the trigger chains the new log from the last log its statement sees (committed or own) -/
theorem trigger_chains_from_last_visible (w w' : World) (s : Sid) (l ik hash tx : Nat) (o : Out)
    (h : insLog w s l ik hash true none tx = .done w' o) :
    ∃ e, w'.logs = w.logs ++ [e] ∧ e.l = l ∧ e.id = w.logSeq l + 1 ∧
      e.prev = maxId ((w.logs.filter (fun e => e.l = l && visLog s e)).map (·.id)) := by
  obtain ⟨_, _, _, rfl⟩ := (insLog_fine ..).of_done h
  exact ⟨_, rfl, rfl, rfl, rfl⟩

theorem advisory_lock_before_insert_in_generated_handles :
    lockBeforeInsert Generated.Handles.sendSyncBounded = true ∧
    lockBeforeInsert Generated.Handles.sendSyncUnbounded = true ∧
    lockBeforeInsert Generated.Handles.sendFirstWrite = true ∧
    lockBeforeInsert Generated.Handles.revertSync = true ∧
    lockBeforeInsert Generated.Handles.bulkAtomic = true ∧
    lockBeforeInsert Generated.Handles.importTwoLogs = true := by
  decide

/-- B reaches the lock while A holds it: B waits, then chains from A's log -/
example :
    (run [1, 1, 1, 1, 1, 2, 2, 2, 2, 2, 1, 2, 1, 2, 2, 2] exWorld).logs.map (fun e => (e.id, e.prev, e.com)) =
      [(1, 0, true), (2, 1, true)] := by
  decide


example :
    let w : World := { sess := fun s => if s = 1 then { prog := lateLock exA } else if s = 2 then { prog := lateLock exB } else {} }
    (run [1, 1, 1, 1, 2, 2, 2, 2, 1, 1, 2, 2] w).logs.map (fun e => (e.id, e.prev, e.com)) = [(1, 0, true), (2, 0, true)] := by
  decide

end Ledger.C09s
