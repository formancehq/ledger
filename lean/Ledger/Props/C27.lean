import Ledger.Proofs.MachineBCStmt
import Ledger.Proofs.MachineAsset

/-!
C27 — Compiling and running any input never crashes.

What is proved here is about the model `sem` (typecheck + resolve + run) and the
byte-code pipeline `semBytecode` (`compile`, then the VM model `exec`).  The ANTLR
parser is NOT modelled: arbitrary bytes are covered only by the `malformed` workload
(real compiler + VM under recover and a timeout).
The real code used to panic on two kinds of valid programs (repaired by commits
9fd408d and e8d28b8); the pre-fix variant of the model predicts both.
-/
namespace Ledger.C27
open Ledger.Machine

variable {cfg : Cfg}

/-- The error of a run, for `decide`-able statements. -/
def errOf (r : Except Err Result) : Option Err :=
  match r with
  | .ok _ => none
  | .error e => some e

/-- The model `sem` is a total Lean function (every recursion
    is structural on the syntax, accepted by the termination checker, no fuel), so every
    script and input yields a result or an explicit error value.  This says nothing
    about the Go code by itself; the tie is the correspondence run. -/
theorem exec_total (s : Script) (inp : Input) :
    (∃ r, sem cfg s inp = .ok r) ∨ (∃ e, sem cfg s inp = .error e) := by
  cases h : sem cfg s inp with
  | ok r => exact Or.inl ⟨r, rfl⟩
  | error e => exact Or.inr ⟨e, rfl⟩

/-- Byte-code level: the VM model `exec` (the real opcodes, as the instruction list `p.code`,
    no fuel: the VM has no jumps so the recursion is structural on the instruction list)
    is a total function — every program, environment and balances give a final state
    or an explicit error (typed-pop faults of the Go code are `Err.fault`). -/
theorem exec_total_bytecode (p : Program) (env : Env) (bal : Balances) :
    (∃ st, exec p env bal = .ok st) ∨ (∃ e, exec p env bal = .error e) := by
  cases h : exec p env bal with
  | ok st => exact Or.inl ⟨st, rfl⟩
  | error e => exact Or.inr ⟨e, rfl⟩

/-- Same for compilation: `compile` is total on the syntax. -/
theorem compile_total (s : Script) :
    (∃ p, compile s = .ok p) ∨ (∃ e, compile s = .error e) := by
  cases h : compile s with
  | ok p => exact Or.inl ⟨p, rfl⟩
  | error e => exact Or.inr ⟨e, rfl⟩

/-- A failing byte-code run returns no result either. -/
theorem error_leaves_no_postings_bytecode (s : Script) (inp : Input) (e : Err)
    (h : semBytecode cfg s inp = .error e) : postingsOf (semBytecode cfg s inp) = none := by
  rw [h]; rfl

/-- Compiler correctness, full statement: the byte-code pipeline (`compile`, then the VM model `exec`
    over the real opcodes) computes exactly what the big-step semantics `sem` computes —
    result (postings, metadata, final tracked balances) or error. -/
def exec_compile_eq_sem : Prop :=
  ∀ (s : Script) (p : Program) (inp : Input), compile s = .ok p →
    semBytecode Cfg.fixed s inp = sem Cfg.fixed s inp

/-- Compiler correctness is PROVED for every program, every input: all statements (`print`, `fail`,
    `set_tx_meta`, `set_account_meta`, `save`, `send`, `send [A *]`), all sources (account —
    plain, bounded / unbounded overdraft, `@world` —, `max … from`, in-order lists, source
    allotments), all destinations (account, in-order with `max … to/kept` and `remaining`,
    allotments, `kept`), all declarations (plain, `meta()`, `balance()`), all expressions. -/
theorem exec_compile_eq_sem_holds : exec_compile_eq_sem :=
  fun _ _ inp hc => semBytecode_eq_sem_full hc inp

/-- Transfer to the byte-code level: a compiled program never hits a typed-pop / stack
    fault nor a panic of the VM model `exec`, whatever the variables, balances, metadata. -/
theorem welltyped_no_stack_fault_bytecode (s : Script) (p : Program)
    (hc : compile s = .ok p) (inp : Input) (w : String) :
    semBytecode Cfg.fixed s inp ≠ .error (.fault w) ∧ semBytecode Cfg.fixed s inp ≠ .error (.panic w) := by
  obtain ⟨ds, htc⟩ := compile_typechecks hc
  rw [semBytecode_eq_sem_full hc inp]
  exact sem_nf htc inp w

/-- A failing run returns no result at all: no postings, no metadata (the adapter
    returns `nil, err`; `resultNil` is checked on the real code for every failing case). -/
theorem error_leaves_no_postings (s : Script) (inp : Input) (e : Err) (h : sem cfg s inp = .error e) :
    postingsOf (sem cfg s inp) = none := by
  rw [h]; rfl

/-- Expression level: an expression the compiler typed evaluates to a value of that
    type, or stops with one of the VM's own runtime errors (asset mismatch of `+` / `-`);
    it never hits a typed-pop fault. -/
theorem welltyped_expr_no_fault (ds : Decls) (env : Env) (henv : EnvTyped ds env) (e : Expr) (t : Ty)
    (h : typeExpr ds e = .ok t) :
    (∃ v, evalExpr env e = .ok v ∧ valueTy v = t) ∨ (∃ k, evalExpr env e = .error (.run "exec" k)) := by
  rcases evalExpr_typed ds env henv e t h with ⟨v, hv, hty, _⟩ | ⟨k, hk⟩
  · exact Or.inl ⟨v, hv, hty⟩
  · exact Or.inr ⟨k, hk⟩

/-- The full claim "a compiled program never panics / faults", for a variant `cfg` of
    the code. -/
def welltyped_no_stack_fault (cfg : Cfg) : Prop :=
  ∀ (s : Script) (inp : Input) (ds : Decls), typecheck s = .ok ds →
    ∀ w, sem cfg s inp ≠ .error (.panic w) ∧ sem cfg s inp ≠ .error (.fault w)

/-- `welltyped_no_stack_fault` holds in full for the current code (`Cfg.fixed`): whatever the
    variables, balances and metadata, a program the compiler's checks accept never hits a
    typed-pop / stack fault nor a panic in `sem` — variable resolution, balance resolution
    and every statement included.  (Induction over declarations, sources, destinations.) -/
theorem welltyped_no_stack_fault_holds : welltyped_no_stack_fault Cfg.fixed := by
  intro s inp ds htc w
  exact ⟨(sem_nf htc inp w).2, (sem_nf htc inp w).1⟩

/-- Defect 1 (confirmed on the real code: nil-pointer dereference in OP_TAKE): two
    `balance()` variables on one account leave the first one with a nil amount. -/
def nilAmountScript : Script :=
  { vars := [⟨.monetary, "x", .balance (.acct "a") (.asset "USD")⟩,
             ⟨.monetary, "y", .balance (.acct "a") (.asset "EUR")⟩],
    stmts := [.send (.var "x") (.src (.account (.acct "world") .none)) (.account (.acct "b"))] }

/-- Defect 2 (confirmed on the real code: "value method MonetaryInt.GetType called
    using nil *MonetaryInt pointer" in ResolveResources): a `number` variable whose
    JSON value is `null`. -/
def nilNumberScript : Script :=
  { vars := [⟨.number, "n", .none⟩], stmts := [.setTxMeta "k" (.var "n")] }

def emptyInput (vars : List (String × String)) : Input :=
  { vars := vars, balance := fun _ _ => 0, accountMeta := fun _ => none }

/-- The two defects, as statements about the PRE-FIX variant of the model (both were
    confirmed on the real code before commits 9fd408d / e8d28b8); the current variant
    runs the first script and rejects the second with an ordinary error. -/
theorem welltyped_no_stack_fault_prefix_counterexample :
    errOf (sem Cfg.preFix nilAmountScript (emptyInput [])) = some (.panic "nil-amount") ∧
    errOf (sem Cfg.preFix nilNumberScript (emptyInput [("n", "null")])) = some (.panic "nil-number") ∧
    errOf (sem Cfg.fixed nilAmountScript (emptyInput [])) = none ∧
    errOf (sem Cfg.fixed nilNumberScript (emptyInput [("n", "null")])) = some (.run "vars" "invalid") := by
  refine ⟨?_, ?_, ?_, ?_⟩ <;> decide +kernel

theorem welltyped_no_stack_fault_prefix_false : ¬ welltyped_no_stack_fault Cfg.preFix := by
  intro h
  have hp := welltyped_no_stack_fault_prefix_counterexample.2.1
  have htc : ∃ ds, typecheck nilNumberScript = .ok ds := by
    cases ht : typecheck nilNumberScript with
    | ok ds => exact ⟨ds, rfl⟩
    | error e =>
      exfalso
      have : errOf (sem Cfg.preFix nilNumberScript (emptyInput [("n", "null")])) = some (.compile e) := by
        simp [sem, ht, errOf]
      rw [this] at hp; cases hp
  obtain ⟨ds, hds⟩ := htc
  have := (h nilNumberScript (emptyInput [("n", "null")]) ds hds "nil-number").1
  apply this
  cases hs : sem Cfg.preFix nilNumberScript (emptyInput [("n", "null")]) with
  | ok r => rw [hs] at hp; cases hp
  | error e => rw [hs] at hp; simp [errOf] at hp; rw [hp]

/-! Non-vacuity (kernel-evaluated tests). -/
def covScript : Script :=
  { vars := [⟨.monetary, "m", .none⟩, ⟨.monetary, "b", .balance (.acct "a") (.asset "USD")⟩],
    stmts := [.setTxMeta "k" (.add (.var "m") (.var "b")), .save (.var "m") (.acct "a"),
      .setAccountMeta (.acct "a") "n" (.sub (.num 7) (.num 9)),
      .send (.var "m") (.src (.account (.acct "a") (.upTo (.mon (.asset "USD") 5)))) (.account (.acct "x")),
      .sendAll (.asset "USD") (.src (.account (.acct "x") .none)) (.account (.acct "world"))] }
example : (compile covScript).toOption.isSome = true := by decide +kernel

def bcScript : Script :=
  { vars := [⟨.monetary, "m", .none⟩],
    stmts := [.send (.var "m")
      (.src (.inorder (.cons (.account (.acct "a") .none) (.cons (.account (.acct "world") .none) .nil))))
      (.inorder (.cons (.mon (.asset "USD") 10) (.to (.account (.acct "x"))) .nil) .kept)] }
def bcInput : Input :=
  { vars := [("m", "USD 30")], balance := fun a _ => if a = "a" then 7 else 0, accountMeta := fun _ => none }
example : postingsOf (semBytecode Cfg.fixed bcScript bcInput) = postingsOf (sem Cfg.fixed bcScript bcInput) ∧
    postingsOf (sem Cfg.fixed bcScript bcInput) = some [⟨"a", "x", "USD", 7⟩, ⟨"world", "x", "USD", 3⟩] := by
  constructor <;> decide +kernel
example : errOf (sem Cfg.fixed nilNumberScript (emptyInput [("n", "12")])) = none := by decide +kernel
example : typeExpr [("m", .monetary)] (.add (.var "m") (.mon (.asset "USD") 3)) = .ok .monetary := by
  decide +kernel

end Ledger.C27
