import Ledger.Proofs.CoreInsPcv

/-!
C03 — Post-commit volumes describe the state right after each transaction.

`Core.movesOf` is the unwinding loop of `CommitTransaction` as written (reversed postings,
destination then source, subtract, reverse the result); `PCV.subtractPostings` is
`PostCommitVolumes.SubtractPostings` (behind `preCommitVolumes` of `MarshalJSON`); both are
tied to the real code by the `pcv` differential workload.  `Spec.runningMoves` /
`Spec.applyPostings` are the forward reference semantics.
-/
namespace Ledger.C03
open Ledger.Base Ledger.Core Ledger.Spec

/-- preCommitVolumes = postCommitVolumes − the transaction's own postings: if applying
    the postings in order to `pre` gives `post`, `SubtractPostings` gives back `pre`. -/
theorem pre_eq_post_minus_own (pre post : PCV) (ps : List Posting) (h : applyPostings pre ps = .ok post) :
    PCV.subtractPostings post ps = .ok pre := by
  have hk := hasKeys_of_applyPostings h
  rw [applyPostings_eq hk] at h
  cases h
  exact subtractPostings_applyFwd pre ps hk

example : applyPostings [(("a", "USD"), ⟨5, 1⟩), (("b", "USD"), ⟨0, 0⟩)] [⟨"a", "b", 3, "USD"⟩, ⟨"b", "b", 2, "USD"⟩, ⟨"b", "a", 1, "USD"⟩]
    = .ok [(("a", "USD"), ⟨6, 4⟩), (("b", "USD"), ⟨5, 3⟩)] := by decide

/-- The reverse-unwinding loop equals the forward running fold: the moves computed from
    the post-commit volumes are, posting by posting, the source's volumes right after its
    output was added and the destination's volumes right after its input was added —
    including repeated accounts and `source = destination`. -/
theorem moves_pcv_running (pre post : PCV) (ps : List Posting) (h : applyPostings pre ps = .ok post) :
    movesOf post ps = runningMoves pre ps := by
  have hk := hasKeys_of_applyPostings h
  rw [applyPostings_eq hk] at h
  cases h
  rw [movesOf_applyFwd pre ps hk, runningMoves_eq hk]

example : (movesOf [(("a", "USD"), ⟨6, 4⟩), (("b", "USD"), ⟨5, 3⟩)] [⟨"a", "b", 3, "USD"⟩, ⟨"b", "b", 2, "USD"⟩, ⟨"b", "a", 1, "USD"⟩]).toOption.map
    (fun ms => ms.map (fun m => (m.account, m.isSource, m.pcv.input, m.pcv.output))) =
    some [("a", true, 5, 4), ("b", false, 3, 0), ("b", true, 3, 2), ("b", false, 5, 2), ("b", true, 5, 3), ("a", false, 6, 4)] := by
  decide

/-- The stored post-commit volumes of the `i`-th committed transaction hold, for exactly the
    (account, asset) pairs it touches, the fold of transactions `0..i` (commit order). -/
theorem pcv_is_state_after (ops : List StoreOp) (st : Store) (h : runOps ops = .ok st)
    (i : Nat) (hi : i < st.txs.length) (k : Key) :
    (st.txs[i]).pcv.get? k =
      if touches k (st.txs[i]).tx.postings then some (volumesOf (st.txRecs.take (i + 1)) k) else none :=
  (StoreInv_runOps h).pcv i hi k

/-- A commit: the returned post-commit volumes are the pre-volumes of the touched pairs with
    the postings applied in order, and exactly the running moves are appended to `moves`. -/
theorem commit_pcv_and_moves (st st' : Store) (t : TxIn) (h : applyTx st t = .ok st') :
    let pre := preVolumes st.accountsVolumes (volumeUpdates t.postings)
    ∃ post ms, applyPostings pre t.postings = .ok post ∧ runningMoves pre t.postings = .ok ms ∧
      st'.txs.map (·.pcv) = st.txs.map (·.pcv) ++ [post] ∧
      st'.moves.map MoveRow.toMove = st.moves.map MoveRow.toMove ++ ms := by
  intro pre
  have hk := hasKeys_preVolumes st.accountsVolumes t.postings
  rw [applyTx_eq] at h
  cases h
  exact ⟨applyFwd pre t.postings, fwdMoves pre t.postings, applyPostings_eq hk, runningMoves_eq hk,
    by simp [commitStore, returned_eq_applyFwd, pre], commitStore_moves st t⟩

/-- Nothing ever changes stored post-commit volumes: after any further operations the
    transactions' `post_commit_volumes` and the Go-computed columns of `moves` of the
    earlier state are a prefix of the later ones. -/
theorem pcv_never_changes (ops more : List StoreOp) (st st' : Store)
    (h : runOps ops = .ok st) (h' : runOps (ops ++ more) = .ok st') :
    (st.txs.map (·.pcv)) <+: (st'.txs.map (·.pcv)) ∧
    (st.moves.map MoveRow.toMove) <+: (st'.moves.map MoveRow.toMove) := by
  unfold runOps at h h'
  rw [runOpsFrom_append, h] at h'
  exact runOpsFrom_prefix more h'

example : (runOps [.commit { postings := [⟨"world", "a", 10, "USD"⟩], timestamp := 5, insertedAt := 7 },
                   .commit { postings := [⟨"a", "b", 4, "USD"⟩, ⟨"a", "a", 1, "USD"⟩], timestamp := 1, insertedAt := 8 }]).toOption.map
            (fun st => st.txs.map (fun r => r.pcv)) =
          some [[(("a", "USD"), ⟨10, 0⟩), (("world", "USD"), ⟨0, 10⟩)], [(("a", "USD"), ⟨11, 5⟩), (("b", "USD"), ⟨4, 0⟩)]] := by
  decide

/-- Move level, in every reachable store: a move's post-commit volumes are the sum of the
    deltas of all moves of its account/asset up to and including itself in `seq` order — i.e.
    the running volumes over the whole history, not only within its transaction. -/
theorem moves_pcv_running_all_histories (ops : List StoreOp) (st : Store) (h : runOps ops = .ok st) :
    PCV_Inv st.moves := (BigInv_runOps h).pcvInv

end Ledger.C03
