import Ledger.Proofs.ApiDecode

/-!
C36 — Amounts are exact at any magnitude (API decoding part).

Amounts are unbounded `Int`s in every model layer; the content of this property at
the API boundary is that the *decoders* carry them unchanged from the JSON text to
the machine's typed value, for every magnitude.  Models: `Ledger/Api/Vars.lean`,
`Ledger/Api/TxBody.lean`, `Ledger/Api/Float.lean`, tied to the real v1 / v2
decoders, the compiler and `Machine.SetVarsFromJSON` by the `vars36` and
`txbody36` correspondence workloads.

Since `fix:` ba56562 (`ScriptV1.UnmarshalJSON` decodes with `UseNumber()`) a numeric
monetary amount of v2 reaches the machine as its literal text, so
`amount_passthrough_v2_number` holds for every integer (it was false above 2^53).
-/
namespace Ledger.C36
open Ledger.Api

/-- `decimal_roundtrip`: printing an integer of any magnitude and parsing it back
    (`big.Int.SetString`, used for `"ASSET amount"` monetary strings) is the identity. -/
theorem decimal_roundtrip (n : Int) : parseBigInt (showInt n) = some n := parseBigInt_showInt n

/-- The same for JSON integer literals (`big.Int.UnmarshalJSON`, postings amounts
    and `number` variables). -/
theorem decimal_roundtrip_json (n : Int) : parseJsonInt (showInt n) = some n := parseJsonInt_showInt n

/-- Posting amounts: a JSON integer literal of any magnitude decodes to itself. -/
theorem amount_passthrough_posting (n : Int) : decOptBigInt (some (JVal.int n)) = .ok (some n) := by
  simp [decOptBigInt, JVal.int, JNum.isIntLit_ofInt, JNum.intVal_ofInt]

/-- v1, monetary variable `{"asset": a, "amount": n}` with `n` a JSON number: the
    string handed to the machine is `a ++ " " ++ decimal n`, for every `n`. -/
theorem amount_passthrough_v1 (a : String) (n : Int) :
    varV1 (.obj [("asset", .str a), ("amount", JVal.int n)]) = .ok (a ++ " " ++ showIntS n) := by
  obtain ⟨h1, h2⟩ := lookup_amount_asset (.str a) (JVal.int n)
  rw [varV1, v1Monetary, h1, h2, decBigIntRaw_int]
  rfl

/-- …and the machine reads that string back as exactly `(a, n)` (`NewValueFromString`),
    whatever the magnitude of `n`. -/
theorem amount_passthrough_machine (a : String) (n : Int) (hsp : ' ' ∉ a.toList)
    (ha : validAsset a.toList = true) (hn : 0 ≤ n) :
    parseTyped .monetary (a ++ " " ++ showIntS n) = .ok (.monetary a n) := by
  have hl : (a ++ " " ++ showIntS n).toList = a.toList ++ ' ' :: showInt n := by
    simp [String.toList_append, showIntS, String.toList_ofList]
  simp only [parseTyped, parseMonetaryVar, hl, splitFirstSpace_append _ _ hsp, parseBigInt_showInt, ha]
  have : ¬ n < 0 := by omega
  simp [this, Except.map]

/-- v2, amount given as a decimal string: passed through untouched, any magnitude. -/
theorem amount_passthrough_v2_string (a : String) (n : Int) :
    varV2 (.obj [("asset", .str a), ("amount", .str (showIntS n))]) = some (a ++ " " ++ showIntS n) :=
  varV2_monetary_string a (showIntS n)

/-- v2, amount given as a JSON number of any magnitude: passed through untouched. -/
theorem amount_passthrough_v2_number (a : String) (n : Int) :
    varV2 (.obj [("asset", .str a), ("amount", JVal.int n)]) = some (a ++ " " ++ showIntS n) := by
  rw [showIntS, ← JNum.text_ofInt]
  exact varV2_monetary_number a (JNum.ofInt n)

/-- A fractional or exponent literal is handed over as written (`"USD 1.5"`), which
    the machine then refuses (`parseBigInt` fails): no silent truncation. -/
theorem amount_v2_fraction_refused :
    (match parseTyped .monetary "USD 1.5" with | .error _ => true | .ok _ => false) = true := by
  decide +kernel

/-- Non-vacuity of the hypotheses of `amount_passthrough_machine`. -/
example : ' ' ∉ "USD/2".toList ∧ validAsset "USD/2".toList = true := by decide

example : parseTyped .monetary ("USD/2" ++ " " ++ showIntS 18446744073709551617) =
    .ok (.monetary "USD/2" 18446744073709551617) :=
  amount_passthrough_machine "USD/2" 18446744073709551617 (by decide) (by decide) (by decide)

end Ledger.C36
