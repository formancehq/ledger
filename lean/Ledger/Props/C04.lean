import Ledger.Proofs.CoreTxPcev

/-!
C04 — Effective volumes honour back-dated inserts (Spec / algebra part).

`Spec.setEffective`, `Spec.updateEffective`, `Spec.insertMoves` are hand-written pure images
of the triggers `set_effective_volumes` (BEFORE INSERT FOR EACH ROW) and
`update_effective_volumes` (AFTER INSERT FOR EACH ROW) of migration 11 and of the multi-row
`INSERT INTO moves` (BEFORE-ROW triggers see the rows of the same statement already inserted;
AFTER-ROW triggers fire once all rows are in).  `Ledger.C04b.insertMoves_refines` ties them to the
migration text: the generated `INSERT INTO moves` with the generated bodies of the two triggers
computes `Spec.insertMoves`, under the hypotheses listed at the head of `Props/C04b.lean`.
-/
namespace Ledger.C04
open Ledger.Base Ledger.Core Ledger.Spec

/-- Inserting the moves of one transaction — whatever its effective date: back-dated, tied
    with existing moves, or in the future — preserves `PCEV_Inv`: every move's effective
    volumes are the sum of the deltas of the moves of its account/asset that are not after it
    in (effective_date, seq) order.  Hypothesis `FreshBatch`: the rows of one statement share
    one effective date and get increasing sequence numbers above all existing ones. -/
theorem insert_preserves_PCEV_Inv (table news : List MoveRow) (e : Int) (hinv : PCEV_Inv table)
    (hb : FreshBatch table news e) : PCEV_Inv (insertMoves table news) :=
  PCEV_Inv_insertMoves hinv hb

/-- Hence the invariant holds in every reachable store (any sequence of commits with arbitrary
    timestamps, balance locks, reverted marks). -/
theorem PCEV_Inv_all_histories (ops : List StoreOp) (st : Store) (h : runOps ops = .ok st) :
    PCEV_Inv st.moves :=
  PCEV_Inv_runOps h

/-- The property at transaction level: in every reachable store, the post-commit effective
    volumes a read of transaction `T` reports (`ComputePostCommitEffectiveVolumes` over the
    moves of `T`: the last move per account/asset) hold, for exactly the (account, asset)
    pairs `T` touches, the fold of all postings of the transactions whose effective timestamp is
    earlier than `T`'s, or equal and inserted before `T` (smaller id), plus `T`'s own — whatever
    was inserted later in the past. -/
theorem tx_effective_volumes_eq_fold (ops : List StoreOp) (st : Store) (h : runOps ops = .ok st)
    (T : TxRec) (hT : T ∈ st.txRecs) :
    ∃ R, txEffectiveVolumes st.moves T.id = .ok R ∧
      ∀ k, R.get? k = if touches k T.postings then some (volumesOf (st.txRecs.filter (notAfterTx T)) k) else none :=
  txEffectiveVolumes_fold h T hT

example : (runOps [.commit { postings := [⟨"world", "a", 10, "USD"⟩], timestamp := 5, insertedAt := 7 },
                   .commit { postings := [⟨"a", "b", 4, "USD"⟩], timestamp := 1, insertedAt := 8 }]).toOption.map
            (fun st => [(txEffectiveVolumes st.moves 1).toOption, (txEffectiveVolumes st.moves 2).toOption]) =
          some [some [(("a", "USD"), ⟨10, 4⟩), (("world", "USD"), ⟨0, 10⟩)],
                some [(("a", "USD"), ⟨0, 4⟩), (("b", "USD"), ⟨4, 0⟩)]] := by decide

/-- Non-vacuity / test: a back-dated transaction shifts the effective volumes of the later
    moves (tx 2 at t=1 is inserted after tx 1 at t=5; tx 3 ties with tx 1): the move of tx 1
    crediting `a` ends with effective volumes (11, 5) although its post-commit volumes are (10, 0). -/
example : (runOps [.commit { postings := [⟨"world", "a", 10, "USD"⟩], timestamp := 5, insertedAt := 7 },
                   .commit { postings := [⟨"a", "b", 4, "USD"⟩, ⟨"a", "a", 1, "USD"⟩], timestamp := 1, insertedAt := 8 },
                   .commit { postings := [⟨"world", "a", 2, "USD"⟩], timestamp := 5, insertedAt := 9 }]).toOption.map
            (fun st => (st.moves.length, (st.moves.find? (fun m => m.seq == 2)).map (fun m => (m.pcv, m.pcev)),
                        pcevInvCheck st.moves)) =
          some (8, some (⟨10, 0⟩, ⟨11, 5⟩), true) := by
  decide

/-- The statement without the single-effective-date hypothesis is false for this trigger pair:
    two rows of one statement with different effective dates double-count (kept type-checked;
    unreachable from the ledger, where a statement inserts the moves of one transaction). -/
def insert_preserves_PCEV_Inv_any_batch : Prop :=
  ∀ (table news : List MoveRow), PCEV_Inv table →
    (∀ m ∈ table, ∀ r ∈ news, m.seq < r.seq) → news.Pairwise (fun a b => a.seq < b.seq) →
    PCEV_Inv (insertMoves table news)

theorem insert_preserves_PCEV_Inv_any_batch_counterexample : ¬ insert_preserves_PCEV_Inv_any_batch := by
  intro h
  have h1 := h [] mixedBatch (by intro m hm; simp at hm) (by intro m hm; simp at hm) (by decide)
  have h2 : pcevInvCheck (insertMoves [] mixedBatch) = false := by decide
  rw [(pcevInvCheck_iff _).mpr h1] at h2
  exact absurd h2 (by simp)

end Ledger.C04
