import Ledger.Proofs.SqlVolumesSpec
import Ledger.Proofs.CoreStore

/-!
C01b — bridge: what `UpdateVolumes` (the SQL, under LeanPG) does to the conserved quantity.

Built on `Ledger.Sql.exec_updateVolumes_fn` / `Ledger.Sql.updateVolumes_bridge` (see C02b): the
generated statement `Ledger.Generated.WriteSql.P.updateVolumes`, evaluated by LeanPG on the
generated schema, never fails on a state satisfying the storage invariants, writes nothing but
`accounts_volumes`, and changes the per-asset sum of balances of the ledger by exactly the
per-asset sum of its rows — which is 0 for the rows `VolumeUpdates` produces
(`Ledger.C01.sum_volumeUpdates`).
-/
namespace Ledger.C01b
open Ledger.Sql Ledger.Base Ledger.Core Ledger.Spec Ledger.Generated.WriteSql
open Ledger.Generated.WriteSql.P (VolumeRow)

/-- The statement cannot fail (no constraint violation, no "row affected a second time", no wait)
    on any state satisfying the storage invariants, for any rows with distinct keys. -/
theorem updateVolumes_total (n : Nat) (env : Env) (b l : String) (id : Nat) (hb : b.isEmpty = false)
    (s : St) (rs : List Ver) (nr : Nat) (hs : AvState s b l rs nr)
    (rows : List VolumeRow) (hne : rows ≠ []) (hnodup : (rows.map avKeyOf).Nodup) :
    ∃ r s', ((P.updateVolumes b l id rows).mapM (runStmt (n + 7) env)).exec s = (.ok r, s') :=
  let ⟨_, _, h, _⟩ := exec_updateVolumes_fn n env b l id hb s rs nr hs rows hne hnodup
  ⟨_, _, h⟩

/-- Frame: every other table, every sequence, the transaction's identity and its queue of AFTER
    triggers are as before; so are the rows of the other ledgers of the bucket. -/
theorem updateVolumes_frame (n : Nat) (env : Env) (b l : String) (id : Nat) (hb : b.isEmpty = false)
    (s : St) (rs : List Ver) (nr : Nat) (hs : AvState s b l rs nr)
    (rows : List VolumeRow) (hne : rows ≠ []) (hnodup : (rows.map avKeyOf).Nodup) :
    ∃ r s', ((P.updateVolumes b l id rows).mapM (runStmt (n + 7) env)).exec s = (.ok r, s') ∧
      (∀ name, name ≠ avFull b → s'.w.table? name = s.w.table? name) ∧
      s'.w.seqs = s.w.seqs ∧ s'.xid = s.xid ∧ s'.cid = s.cid ∧ s'.afterQ = s.afterQ ∧
      (∀ l', l' ≠ l → ∀ k, avAbs s' b l' k = avAbs s b l' k) := by
  obtain ⟨rs', nr', h, _, _, hoth⟩ := exec_updateVolumes_fn n env b l id hb s rs nr hs rows hne hnodup
  refine ⟨_, _, h, fun name hname => table?_setTable_ne s.w _ name hname, rfl, rfl, rfl, rfl, fun l' hl k => ?_⟩
  rw [avAbs_of_table (withTable_av_table? s b rs rs' nr nr' hs.table), avAbs_of_table hs.table]
  exact hoth l' hl k

/-- Conservation through the SQL: if the table abstracts to the (well-formed) map `av` before and to
    `av'` after, then per asset the sum of balances moves by the sum over the statement's rows. -/
theorem updateVolumes_netIn (n : Nat) (env : Env) (b l : String) (id : Nat) (hb : b.isEmpty = false)
    (s : St) (rs : List Ver) (nr : Nat) (hs : AvState s b l rs nr)
    (rows : List VolumeRow) (hne : rows ≠ []) (hnodup : (rows.map avKeyOf).Nodup)
    (av : PCV) (hwf : Map.WF av) (habs : ∀ k, avAbs s b l k = av.get? k) :
    ∃ r s', ((P.updateVolumes b l id rows).mapM (runStmt (n + 7) env)).exec s = (.ok r, s') ∧
      ∀ av' : PCV, Map.WF av' → (∀ k, avAbs s' b l k = av'.get? k) →
        ∀ asset, netIn asset av' = netIn asset av + netIn asset (vuOf rows) := by
  obtain ⟨s', h1, h2, _, _⟩ := updateVolumes_bridge n env b l id hb s rs nr hs rows hne hnodup av hwf habs
  refine ⟨_, s', h1, ?_⟩
  intro av' hwf' habs' asset
  have e : av' = upsertAll av (vuOf rows) := by
    apply Map.ext_of_WF hwf' (WF_upsertAll hwf _)
    intro k
    rw [← habs' k, h2 k]
    rfl
  rw [e, netIn_upsertAll]

end Ledger.C01b
